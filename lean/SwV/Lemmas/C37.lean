/- C37 — the loop invariant of the binary search, the shape of a never-compacted source volume (one .idx entry per
   record, increasing AppendAtNs: `SrcOK`) and what the search sees of such a volume. -/
import SwV.Lemmas.C04
import SwV.Model.C37
namespace SwV.Lemmas.C37
open SwV.Model.C01 SwV.Model.C04 SwV.Model.C37 SwV.Lemmas.C04
open SwV.Lemmas.C01 (pred_lt)

/-- loop invariant of `BinarySearchByAppendAtNs`: everything left of `l` is old, everything from `h` on is newer -/
theorem bsearch_spec (ns : Nat → Nat) (since n : Nat) (hmono : ∀ i j, i ≤ j → j < n → ns i ≤ ns j) :
    ∀ fuel l h, l ≤ h → h ≤ n → h - l ≤ fuel →
      (∀ i, i < l → ns i ≤ since) → (∀ i, h ≤ i → i < n → since < ns i) →
      (∀ i, i < bsearch ns since fuel l h → ns i ≤ since) ∧
      (∀ i, bsearch ns since fuel l h ≤ i → i < n → since < ns i) ∧ bsearch ns since fuel l h ≤ n := by
  intro fuel
  induction fuel with
  | zero =>
    intro l h hlh hhn hf hlo hhi
    have : l = h := Nat.le_antisymm hlh (Nat.sub_eq_zero_iff_le.1 (Nat.le_zero.1 hf))
    exact ⟨hlo, this ▸ hhi, this ▸ hhn⟩
  | succ f ih =>
    intro l h hlh hhn hf hlo hhi
    unfold bsearch
    by_cases hlt : l < h
    · -- the midpoint lies in [l, h): both halves are shorter than the interval
      have hm1 : l ≤ (l + h) / 2 :=
        (Nat.le_div_iff_mul_le Nat.two_pos).2 (by rw [Nat.mul_two]; exact Nat.add_le_add_left (Nat.le_of_lt hlt) l)
      have hm2 : (l + h) / 2 < h :=
        (Nat.div_lt_iff_lt_mul Nat.two_pos).2 (by rw [Nat.mul_two]; exact Nat.add_lt_add_right hlt h)
      rw [if_pos hlt]
      generalize (l + h) / 2 = m at hm1 hm2 ⊢
      by_cases hc : ns m ≤ since
      · rw [if_pos hc]
        refine ih _ _ hm2 hhn ?_ (fun i hi => Nat.le_trans (hmono i m (Nat.le_of_lt_succ hi) (Nat.lt_of_lt_of_le hm2 hhn)) hc) hhi
        exact Nat.le_trans (Nat.sub_le_sub_left (Nat.succ_le_succ hm1) h) (Nat.pred_le_pred hf)
      · rw [if_neg hc]
        refine ih _ _ hm1 (Nat.le_trans (Nat.le_of_lt hm2) hhn) ?_ hlo
          fun i hi hin => Nat.lt_of_lt_of_le (Nat.lt_of_not_le hc) (hmono m i hi hin)
        exact Nat.le_of_lt_succ (Nat.lt_of_lt_of_le (Nat.sub_lt_sub_right hm1 hm2) hf)
    · rw [if_neg hlt]
      have : l = h := Nat.le_antisymm hlh (Nat.not_lt.1 hlt)
      exact ⟨hlo, this ▸ hhi, this ▸ hhn⟩

/-- a source volume that was never compacted: one .idx entry per record, in the order of the .dat; AppendAtNs
    strictly increasing, and positive because an empty backup asks for everything newer than 0 (`sinceOf`) -/
structure SrcOK (s : CVol) : Prop where
  ilen : s.ilog.length = s.v.log.length
  alen : s.ats.length = s.v.log.length
  ioff : ∀ (i : Nat) (e : IEnt), s.ilog[i]? = some e → e.off = i + 1
  ient : ∀ (i : Nat) (e : IEnt) (r : Rec), s.ilog[i]? = some e → s.v.log[i]? = some r →
           e.key = r.id ∧ ((0 ≤ r.size ∧ e.size = r.size) ∨ (r.size = 0 ∧ e.size = -1))
  mono : s.ats.Pairwise (· < ·)
  pos  : ∀ a ∈ s.ats, 0 < a

theorem getElem?_concat {α : Type} {l : List α} {x a : α} {i : Nat} (h : (l ++ [x])[i]? = some a) :
    l[i]? = some a ∨ (i = l.length ∧ a = x) := by
  by_cases hi : i < l.length
  · exact Or.inl (List.getElem?_append_left hi ▸ h)
  · have hlt := (List.getElem?_eq_some_iff.1 h).1
    rw [List.length_append, List.length_singleton] at hlt
    have hi : i = l.length := Nat.le_antisymm (Nat.le_of_lt_succ hlt) (Nat.not_lt.1 hi)
    rw [hi, List.getElem?_concat_length] at h
    exact Or.inr ⟨hi, (Option.some.inj h).symm⟩

theorem srcok_append {s : CVol} (hok : SrcOK s) (t : Nat) {x : Rec} (e : Ent) {ent : IEnt}
    (ho : ent.off = s.v.log.length + 1) (hk : ent.key = x.id)
    (hsz : (0 ≤ x.size ∧ ent.size = x.size) ∨ (x.size = 0 ∧ ent.size = -1))
    (hlt : ∀ a ∈ s.ats, a < t) (ht : 0 < t) : SrcOK (appended s t x e ent) := by
  refine ⟨?_, ?_, ?_, ?_, ?_, ?_⟩
  · show (s.ilog ++ [ent]).length = (s.v.log ++ [x]).length
    rw [List.length_append, List.length_append, hok.ilen]; rfl
  · show (s.ats ++ [t]).length = (s.v.log ++ [x]).length
    rw [List.length_append, List.length_append, hok.alen]; rfl
  · intro i e' (he : (s.ilog ++ [ent])[i]? = some e')
    rcases getElem?_concat he with he | ⟨hi, rfl⟩
    · exact hok.ioff i e' he
    · rw [ho, hi, hok.ilen]
  · intro i e' r (he : (s.ilog ++ [ent])[i]? = some e') (hr : (s.v.log ++ [x])[i]? = some r)
    rcases getElem?_concat he with he | ⟨hi, rfl⟩
    · have hi := (List.getElem?_eq_some_iff.1 he).1
      rw [List.getElem?_append_left (hok.ilen ▸ hi)] at hr
      exact hok.ient i e' r he hr
    · rw [hi, hok.ilen, List.getElem?_concat_length] at hr
      cases hr; exact ⟨hk, hsz⟩
  · exact List.pairwise_append.2 ⟨hok.mono, List.pairwise_singleton _ _, fun a ha b hb => List.mem_singleton.1 hb ▸ hlt a ha⟩
  · intro a ha
    rcases List.mem_append.1 ha with h | h
    · exact hok.pos a h
    · exact List.mem_singleton.1 h ▸ ht

theorem srcok_step {s : CVol} (hok : SrcOK s) (t : Nat) (op : Op) (hlt : ∀ a ∈ s.ats, a < t) (ht : 0 < t) :
    SrcOK (opStep s t op).1 ∧ ∀ a ∈ (opStep s t op).1.ats, a ≤ t := by
  rcases opStep_cases s t op with ⟨b, h⟩ | ⟨x, e, ent, h, hk, ho, hsz⟩
  · rw [h]
    exact ⟨⟨hok.ilen, hok.alen, hok.ioff, hok.ient, hok.mono, hok.pos⟩, fun a ha => Nat.le_of_lt (hlt a ha)⟩
  · rw [h]
    refine ⟨srcok_append hok t e ho hk (hsz.imp (fun h => ⟨h.1, h.2.1⟩) fun h => ⟨h.1, h.2.1⟩) hlt ht, fun a ha => ?_⟩
    rcases List.mem_append.1 ha with h | h
    · exact Nat.le_of_lt (hlt a h)
    · exact Nat.le_of_eq (List.mem_singleton.1 h)

/-- timestamps strictly increasing, all above `lo` -/
def Incr : Nat → List (Nat × Op) → Prop
  | _, [] => True
  | lo, (t, _) :: rest => lo < t ∧ Incr t rest

theorem srcok_run {s : CVol} (hok : SrcOK s) (lo : Nat) (ops : List (Nat × Op))
    (hlo : ∀ a ∈ s.ats, a ≤ lo) (hinc : Incr lo ops) : SrcOK (runOps s ops) := by
  induction ops generalizing s lo with
  | nil => exact hok
  | cons o ops ih =>
    obtain ⟨t, op⟩ := o
    obtain ⟨h1, h2⟩ := hinc
    have := srcok_step hok t op (fun a ha => Nat.lt_of_le_of_lt (hlo a ha) h1) (Nat.lt_of_le_of_lt (Nat.zero_le _) h1)
    exact ih this.1 t this.2 h2

theorem srcok_init (kind : Kind) (ttl : Nat × Nat) : SrcOK (CVol.init kind ttl) :=
  ⟨rfl, rfl, (fun _ _ h => nomatch h), (fun _ _ _ h => nomatch h), List.Pairwise.nil, (fun _ h => nomatch h)⟩

theorem srcok_reachable (kind : Kind) (ttl : Nat × Nat) (ops : List (Nat × Op)) (hinc : Incr 0 ops) :
    SrcOK (runOps (CVol.init kind ttl) ops) :=
  srcok_run (srcok_init kind ttl) 0 ops (fun _ h => nomatch h) hinc

theorem srcok_getD_lt {s : CVol} (hok : SrcOK s) {i j : Nat} (hij : i < j) (hj : j < s.v.log.length) :
    s.ats.getD i 0 < s.ats.getD j 0 := by
  have hj' : j < s.ats.length := hok.alen ▸ hj
  rw [List.getD_eq_getElem?_getD, List.getD_eq_getElem?_getD, List.getElem?_eq_getElem (Nat.lt_trans hij hj'),
    List.getElem?_eq_getElem hj']
  exact List.pairwise_iff_getElem.1 hok.mono i j _ _ hij

theorem srcok_getD_le {s : CVol} (hok : SrcOK s) {i j : Nat} (hij : i ≤ j) (hj : j < s.v.log.length) :
    s.ats.getD i 0 ≤ s.ats.getD j 0 := by
  rcases Nat.eq_or_lt_of_le hij with h | h
  · rw [h]; exact Nat.le_refl _
  · exact Nat.le_of_lt (srcok_getD_lt hok h hj)

theorem srcok_getD_pos {s : CVol} (hok : SrcOK s) {i : Nat} (hi : i < s.v.log.length) : 0 < s.ats.getD i 0 := by
  have hi' : i < s.ats.length := hok.alen ▸ hi
  rw [List.getD_eq_getElem?_getD, List.getElem?_eq_getElem hi']
  exact hok.pos _ (List.getElem_mem _)

theorem srcok_entOff {s : CVol} (hok : SrcOK s) {i : Nat} (hi : i < s.v.log.length) : entOff s.ilog i = i + 1 := by
  have hie : s.ilog[i]? = some (s.ilog[i]'(hok.ilen ▸ hi)) := List.getElem?_eq_getElem _
  rw [SwV.Model.C37.entOff, hie]
  exact hok.ioff i _ hie

theorem srcok_getLast_take {s : CVol} (hok : SrcOK s) {n : Nat} (h0 : n ≠ 0) (hn : n ≤ s.v.log.length) :
    ∃ e, (s.ilog.take n).getLast? = some e ∧ e.off = n := by
  have hie : s.ilog[n - 1]? = some (s.ilog[n - 1]'(hok.ilen ▸ pred_lt h0 hn)) := List.getElem?_eq_getElem _
  refine ⟨_, by rw [List.getLast?_take, if_neg h0, hie]; rfl, ?_⟩
  rw [hok.ioff (n - 1) _ hie]; exact Nat.sub_add_cancel (Nat.pos_of_ne_zero h0)

end SwV.Lemmas.C37
