/-
C16 — the bookkeeping of ec.balance read shard by shard.  `findEcVolumeShards` after `addEcVolumeShards` /
`deleteEcVolumeShards` (`bits_add`, `bits_del`) gives which shards a server holds (`holds_add`, `holds_del`);
`copies st vid s` counts the servers holding a shard, and updating ONE server of a list with unique ids changes the
count by that server's contribution (`copies_upd`): the laws of a planned move and of a pick are instances.  A
deduplication step touches every holder but one and is read server by server (`holds_dedupNode`).  At the end: the
shard `doBalanceEcRack` picks is held by the full server and not by the empty one (`rackPick_guard`), and `ceilDiv`
against multiplication (`ceilDiv_le_iff`).
-/
import SwV.Model.C16
import SwV.Spec.C16
namespace SwV.Lemmas.C16
open SwV.Model.C16 SwV.Spec.C16

theorem hasBit_addBit (b i j : Nat) : hasBit (addBit b i) j = (hasBit b j || decide (i = j)) := by
  simp [hasBit, addBit, Nat.testBit_or, Nat.testBit_two_pow]

theorem hasBit_delBit (b i j : Nat) : hasBit (delBit b i) j = (hasBit b j && !decide (i = j)) := by
  unfold hasBit delBit
  by_cases hij : i = j
  · subst hij; cases h : b.testBit i <;> simp [h, Nat.testBit_xor]
  · split <;> simp [hij, Nat.testBit_xor]

theorem find_setFirst_same (vid : Nat) (f : Nat → Nat) (l : List (Nat × Nat)) :
    (setFirst vid f l).find? (·.1 == vid) = (l.find? (·.1 == vid)).map fun e => (e.1, f e.2) := by
  induction l with
  | nil => rfl
  | cons e rest ih =>
    obtain ⟨v, b⟩ := e
    by_cases h : v = vid <;> simp [setFirst, h, ih]

theorem find_setFirst_other (vid vid' : Nat) (hne : vid' ≠ vid) (f : Nat → Nat) (l : List (Nat × Nat)) :
    (setFirst vid f l).find? (·.1 == vid') = l.find? (·.1 == vid') := by
  induction l with
  | nil => rfl
  | cons e rest ih =>
    obtain ⟨v, b⟩ := e
    by_cases h : v = vid
    · subst h; simp [setFirst, Ne.symm hne]
    · simp [setFirst, h, List.find?_cons, ih]

theorem find_map_key (g : Nat × Nat → Nat × Nat) (hg : ∀ e, (g e).1 = e.1) (l : List (Nat × Nat)) (vid : Nat) :
    (l.map g).find? (·.1 == vid) = (l.find? (·.1 == vid)).map g := by
  rw [List.find?_map]
  congr 2
  funext e
  simp only [Function.comp, hg]

theorem entry_of_hasEntry {n : ENode} {vid : Nat} (h : n.hasEntry vid = true) :
    n.hdd = true ∧ ∃ e, n.shards.find? (·.1 == vid) = some e := by
  simp only [ENode.hasEntry, Bool.and_eq_true, List.any_eq_true] at h
  obtain ⟨hh, x, hx, hp⟩ := h
  exact ⟨hh, Option.isSome_iff_exists.mp (List.find?_isSome.mpr ⟨x, hx, hp⟩)⟩

theorem find_none_of_no_entry {n : ENode} {vid : Nat} (h : n.hasEntry vid = false) (hh : n.hdd = true) :
    n.shards.find? (·.1 == vid) = none := by
  simp only [ENode.hasEntry, hh, Bool.true_and, List.any_eq_false] at h
  exact List.find?_eq_none.mpr h

theorem bits_of_no_entry {n : ENode} {vid : Nat} (h : n.hasEntry vid = false) : n.bits vid = 0 := by
  unfold ENode.bits
  split
  next hh => rw [find_none_of_no_entry h hh]
  next => rfl

theorem bits_add (n : ENode) (vid s vid' : Nat) :
    (n.add vid s).bits vid' = if vid' = vid then addBit (n.bits vid) s else n.bits vid' := by
  unfold ENode.add
  by_cases he : n.hasEntry vid = true
  · obtain ⟨hh, e, hf⟩ := entry_of_hasEntry he
    rw [if_pos he]
    by_cases hv : vid' = vid
    · subst hv; simp [ENode.bits, hh, find_setFirst_same, hf]
    · simp [ENode.bits, hh, find_setFirst_other vid vid' hv, hv]
  · rw [if_neg he]
    have he : n.hasEntry vid = false := eq_false_of_ne_true he
    rw [bits_of_no_entry he]
    by_cases hv : vid' = vid
    · subst hv
      by_cases hh : n.hdd = true
      · simp [ENode.bits, hh, List.find?_append, find_none_of_no_entry he hh, addBit]
      · simp [ENode.bits, hh, addBit]
    · have hv' : ¬ vid = vid' := Ne.symm hv
      by_cases hh : n.hdd = true
      · cases hf : n.shards.find? (·.1 == vid') <;> simp [ENode.bits, hh, List.find?_append, hf, hv, hv']
      · simp [ENode.bits, hh, hv, hv']

theorem bits_del (n : ENode) (vid s vid' : Nat) :
    (n.del vid s).bits vid' = if vid' = vid then delBit (n.bits vid) s else n.bits vid' := by
  unfold ENode.del
  by_cases hh : n.hdd = true
  · simp only [hh, Bool.not_true, Bool.false_eq_true, if_false, ENode.bits, if_true]
    rw [find_map_key _ (fun e => by split <;> rfl)]
    by_cases hv : vid' = vid
    · subst hv
      rw [if_pos rfl]
      cases hf : n.shards.find? (·.1 == vid') with
      | none => simp [delBit]
      | some e =>
        have h1 : e.1 = vid' := by simpa using List.find?_some hf
        simp [h1]
    · rw [if_neg hv]
      cases hf : n.shards.find? (·.1 == vid') with
      | none => rfl
      | some e =>
        have h1 : e.1 = vid' := by simpa using List.find?_some hf
        simp [h1, hv]
  · simp [hh, ENode.bits, delBit]

theorem holds_eq (n : ENode) (vid s : Nat) : holdsShard n vid s = hasBit (n.bits vid) s := by
  unfold holdsShard
  cases he : n.hasEntry vid
  · simp [bits_of_no_entry he, hasBit]
  · rfl

theorem holds_add (n : ENode) (vid s vid' j : Nat) :
    holdsShard (n.add vid s) vid' j = (holdsShard n vid' j || (vid' == vid && j == s)) := by
  rw [holds_eq, holds_eq, bits_add]
  split
  next hv =>
    subst hv
    by_cases hj : s = j
    · simp [hasBit_addBit, hj]
    · simp [hasBit_addBit, hj, Ne.symm hj]
  next hv => simp [hv]

theorem holds_del (n : ENode) (vid s vid' j : Nat) :
    holdsShard (n.del vid s) vid' j = (holdsShard n vid' j && !(vid' == vid && j == s)) := by
  rw [holds_eq, holds_eq, bits_del]
  split
  next hv =>
    subst hv
    by_cases hj : s = j
    · simp [hasBit_delBit, hj]
    · simp [hasBit_delBit, hj, Ne.symm hj]
  next hv => simp [hv]

/-- what one server contributes to the number of holders of (vid', j), before and after losing (vid, s) -/
theorem ind_del (n : ENode) (vid s vid' j : Nat) :
    (if holdsShard (n.del vid s) vid' j then 1 else 0) + (if vid' = vid ∧ j = s ∧ holdsShard n vid s = true then 1 else 0)
      = if holdsShard n vid' j then 1 else 0 := by
  by_cases hk : vid' = vid ∧ j = s
  · obtain ⟨rfl, rfl⟩ := hk
    cases h : holdsShard n vid' j <;> simp [holds_del, h]
  · have hb : (vid' == vid && j == s) = false := by simpa using hk
    have hn : ¬ (vid' = vid ∧ j = s ∧ holdsShard n vid s = true) := fun h => hk ⟨h.1, h.2.1⟩
    simp [holds_del, hb, hn]

/-- the same for gaining (vid, s) -/
theorem ind_add (n : ENode) (vid s vid' j : Nat) :
    (if holdsShard (n.add vid s) vid' j then 1 else 0)
      = (if holdsShard n vid' j then 1 else 0) + (if vid' = vid ∧ j = s ∧ holdsShard n vid s = false then 1 else 0) := by
  by_cases hk : vid' = vid ∧ j = s
  · obtain ⟨rfl, rfl⟩ := hk
    cases h : holdsShard n vid' j <;> simp [holds_add, h]
  · have hb : (vid' == vid && j == s) = false := by simpa using hk
    have hn : ¬ (vid' = vid ∧ j = s ∧ holdsShard n vid s = false) := fun h => hk ⟨h.1, h.2.1⟩
    simp [holds_add, hb, hn]

theorem add_id (vid s : Nat) (n : ENode) : (n.add vid s).id = n.id := by
  unfold ENode.add; split <;> rfl
theorem del_id (vid s : Nat) (n : ENode) : (n.del vid s).id = n.id := by
  unfold ENode.del; split <;> rfl

theorem map_ids {L : List ENode} {g : ENode → ENode} (hg : ∀ n, (g n).id = n.id) :
    (L.map g).map (·.id) = L.map (·.id) := by
  rw [List.map_map]
  exact List.map_congr_left fun n _ => hg n

theorem upd_ids {st : ESt} {id : Nat} {f : ENode → ENode} (hf : ∀ n, (f n).id = n.id) :
    (st.upd id f).nodes.map (·.id) = st.nodes.map (·.id) :=
  map_ids fun n => by split <;> simp [hf]

theorem move_ids (st : ESt) (src dst vid s : Nat) :
    (st.move src dst vid s).nodes.map (·.id) = st.nodes.map (·.id) := by
  unfold ESt.move
  rw [upd_ids (del_id vid s), upd_ids (add_id vid s)]

theorem node?_upd (st : ESt) (id : Nat) (f : ENode → ENode) (hf : ∀ n, (f n).id = n.id) (x : Nat) :
    (st.upd id f).node? x = (st.node? x).map fun n => if n.id == id then f n else n := by
  unfold ESt.node? ESt.upd
  rw [List.find?_map]
  congr 2
  funext n
  simp only [Function.comp]
  split <;> simp [hf]

theorem node_id {L : List ENode} {x : Nat} {n : ENode} (h : L.find? (·.id == x) = some n) : n.id = x := by
  simpa using List.find?_some h

theorem node?_upd_same {st : ESt} {x : Nat} {f : ENode → ENode} (hf : ∀ n, (f n).id = n.id) {n : ENode}
    (h : st.node? x = some n) : (st.upd x f).node? x = some (f n) := by
  rw [node?_upd st x f hf, h, Option.map_some, node_id h, if_pos (by simp)]

theorem node?_upd_other {st : ESt} {x y : Nat} {f : ENode → ENode} (hf : ∀ n, (f n).id = n.id) (hne : y ≠ x) {n : ENode}
    (h : st.node? y = some n) : (st.upd x f).node? y = some n := by
  rw [node?_upd st x f hf, h, Option.map_some, node_id h, if_neg (mt eq_of_beq hne)]

/-- how many servers hold shard `s` of volume `vid` according to the bookkeeping:
    the multiset of (vid, shard) over all nodes, as a counting function -/
def copies (st : ESt) (vid s : Nat) : Nat := (st.nodes.filter (holdsShard · vid s)).length

theorem copies_eq_holders (st : ESt) (vid s : Nat) : copies st vid s = (holders st vid s).length := rfl

theorem copies_eq_countP (st : ESt) (vid s : Nat) : copies st vid s = st.nodes.countP (holdsShard · vid s) :=
  List.countP_eq_length_filter.symm

/-- among servers with unique ids, `sn` is counted apart from those with another id -/
theorem countP_unique {L : List ENode} (hu : (L.map (·.id)).Nodup) {sn : ENode} (hs : sn ∈ L) (q : ENode → Bool) :
    L.countP q = L.countP (fun n => n.id != sn.id && q n) + (if q sn then 1 else 0) := by
  obtain ⟨a, b, rfl⟩ := List.append_of_mem hs
  rw [List.map_append, List.map_cons] at hu
  have hne : ∀ n ∈ a ++ b, n.id ≠ sn.id := fun n hn e =>
    (List.nodup_cons.mp (List.perm_middle.nodup_iff.mp hu)).1
      (by rw [← List.map_append, ← e]; exact List.mem_map_of_mem hn)
  have hrest : (a ++ b).countP (fun n => n.id != sn.id && q n) = (a ++ b).countP q :=
    List.countP_congr fun n hn => by simp [hne n hn]
  rw [List.countP_append, List.countP_append, List.countP_cons, List.countP_cons] at *
  simp only [bne_self_eq_false, Bool.false_and, Bool.false_eq_true, if_false, Nat.add_zero]
  omega

theorem countP_id {L : List ENode} (hu : (L.map (·.id)).Nodup) {sn : ENode} (hs : sn ∈ L) (q : ENode → Bool) :
    L.countP (fun n => n.id == sn.id && q n) = if q sn then 1 else 0 := by
  rw [countP_unique hu hs, List.countP_eq_zero.mpr fun n _ => by by_cases h : n.id = sn.id <;> simp [h]]
  simp

theorem countP_upd (L : List ENode) (hu : (L.map (·.id)).Nodup) (x : Nat) (f : ENode → ENode) (sn : ENode)
    (hs : L.find? (·.id == x) = some sn) (q : ENode → Bool) :
    (L.map fun n => if n.id == x then f n else n).countP q + (if q sn then 1 else 0)
      = L.countP q + (if q (f sn) then 1 else 0) := by
  have hm := List.mem_of_find?_eq_some hs
  obtain rfl : sn.id = x := node_id hs
  rw [List.countP_map, countP_unique hu hm q, countP_unique hu hm (q ∘ _)]
  have : L.countP (fun n => n.id != sn.id && (q ∘ fun n => if n.id == sn.id then f n else n) n)
      = L.countP (fun n => n.id != sn.id && q n) :=
    List.countP_congr fun n _ => by
      by_cases h : n.id = sn.id <;> simp [h]
  rw [this]
  simp only [Function.comp, beq_self_eq_true, if_true]
  omega

theorem copies_upd (st : ESt) (hu : (st.nodes.map (·.id)).Nodup) (x : Nat) (f : ENode → ENode) (sn : ENode)
    (hs : st.node? x = some sn) (vid j : Nat) :
    copies (st.upd x f) vid j + (if holdsShard sn vid j then 1 else 0)
      = copies st vid j + (if holdsShard (f sn) vid j then 1 else 0) := by
  rw [copies_eq_countP, copies_eq_countP]
  exact countP_upd st.nodes hu x f sn hs (holdsShard · vid j)

/-- a pick of `pickNEcShardsToMoveFrom`: the shard is deleted from the source at once -/
theorem copies_pick (st : ESt) (id vid s : Nat) (sn : ENode)
    (hu : (st.nodes.map (·.id)).Nodup) (hs : st.node? id = some sn) (vid' j : Nat) :
    copies (st.upd id (·.del vid s)) vid' j + (if vid' = vid ∧ j = s ∧ holdsShard sn vid s = true then 1 else 0)
      = copies st vid' j := by
  have h1 := copies_upd st hu id (·.del vid s) sn hs vid' j
  have h2 := ind_del sn vid s vid' j
  omega

/-- the bookkeeping law of one planned move (server ids unique, both servers known, different):
    per (volume, shard) the number of holders changes by −1 if the source held the moved shard
    and by +1 if the destination lacked it; every other (volume, shard) is untouched -/
theorem copies_move (st : ESt) (src dst vid s : Nat) (sn dn : ENode)
    (hu : (st.nodes.map (·.id)).Nodup) (hs : st.node? src = some sn) (hd : st.node? dst = some dn) (hne : src ≠ dst)
    (vid' j : Nat) :
    copies (st.move src dst vid s) vid' j + (if vid' = vid ∧ j = s ∧ holdsShard sn vid s = true then 1 else 0)
      = copies st vid' j + (if vid' = vid ∧ j = s ∧ holdsShard dn vid s = false then 1 else 0) := by
  have hadd := copies_upd st hu dst (·.add vid s) dn hd vid' j
  have hdel := copies_upd _ (by rwa [upd_ids (add_id vid s)]) src (·.del vid s) sn
    (node?_upd_other (add_id vid s) hne hs) vid' j
  have h1 := ind_add dn vid s vid' j
  have h2 := ind_del sn vid s vid' j
  unfold ESt.move
  omega

theorem dedup_ids (st : ESt) (vid s keep : Nat) : (st.dedupShard vid s keep).nodes.map (·.id) = st.nodes.map (·.id) := by
  unfold ESt.dedupShard
  split
  · rfl
  · exact map_ids fun n => by split <;> simp [del_id]

/-- node-wise: a deduplication step changes nothing but shard (vid, s), which only `keep` retains -/
theorem holds_dedupNode (vid s keep : Nat) (n : ENode) (vid' j : Nat) :
    holdsShard (if n.id != keep && (n.hasEntry vid && hasBit (n.bits vid) s) then n.del vid s else n) vid' j
      = (holdsShard n vid' j && (!(vid' == vid && j == s) || n.id == keep)) := by
  have hh : (n.hasEntry vid && hasBit (n.bits vid) s) = holdsShard n vid s := rfl
  rw [hh]
  by_cases hk : n.id = keep
  · simp [hk]
  · by_cases hkey : vid' = vid ∧ j = s
    · obtain ⟨rfl, rfl⟩ := hkey
      cases hb : holdsShard n vid' j <;> simp [hk, hb, holds_del]
    · have hk' : (vid' == vid && j == s) = false := by simpa using hkey
      cases hb : holdsShard n vid s <;> simp [hk, holds_del, hk']

theorem copies_dedupShard_other (st : ESt) (vid s keep vid' j : Nat) (hk : ¬ (vid' = vid ∧ j = s)) :
    copies (st.dedupShard vid s keep) vid' j = copies st vid' j := by
  unfold ESt.dedupShard
  split
  · rfl
  · rw [copies_eq_countP, copies_eq_countP, List.countP_map]
    apply List.countP_congr
    intro n _
    have hk' : (vid' == vid && j == s) = false := by simpa using hk
    simp only [Function.comp, holds_dedupNode, hk']
    simp

theorem copies_dedupShard_same (st : ESt) (vid s keep : Nat) (kn : ENode)
    (hu : (st.nodes.map (·.id)).Nodup) (hk : kn ∈ st.nodes) (hid : kn.id = keep) (hh : holdsShard kn vid s = true) :
    copies (st.dedupShard vid s keep) vid s = 1 := by
  unfold ESt.dedupShard
  split
  next hle =>
    have hmem : kn ∈ holders st vid s := List.mem_filter.mpr ⟨hk, hh⟩
    exact Nat.le_antisymm hle (List.length_pos_of_mem hmem)
  next =>
    rw [copies_eq_countP, List.countP_map]
    have : st.nodes.countP ((holdsShard · vid s) ∘ fun n =>
        if n.id != keep && (n.hasEntry vid && hasBit (n.bits vid) s) then n.del vid s else n)
        = st.nodes.countP (fun n => n.id == kn.id && holdsShard n vid s) := by
      apply List.countP_congr
      intro n _
      simp only [Function.comp, holds_dedupNode, hid]
      cases holdsShard n vid s <;> simp
    rw [this, countP_id hu hk, hh]
    rfl

theorem keep_is_holder (st : ESt) (vid s keep : Nat)
    (h : dedupKeepOk st vid s keep = true) : ∃ kn ∈ st.nodes, kn.id = keep ∧ holdsShard kn vid s = true := by
  unfold dedupKeepOk at h
  simp only [] at h
  cases hf : (holders st vid s).find? (·.id == keep) with
  | none => simp [hf] at h
  | some k =>
    have hm := List.mem_filter.mp (List.mem_of_find?_eq_some hf)
    exact ⟨k, hm.1, node_id hf, hm.2⟩

/-- a step of `dedupRun` goes on from `dedupShard`, which is the identity on a shard with at most one holder -/
theorem dedupRun_cons {vid s keep : Nat} {st out : ESt} {rest : List (Nat × Nat)}
    (h : dedupRun vid st ((s, keep) :: rest) = some out) :
    ((holders st vid s).length ≤ 1 ∨ dedupKeepOk st vid s keep = true) ∧
      dedupRun vid (st.dedupShard vid s keep) rest = some out := by
  simp only [dedupRun] at h
  split at h
  next hle => exact ⟨Or.inl hle, by rwa [ESt.dedupShard, if_pos hle]⟩
  next =>
    split at h
    next hk => exact ⟨Or.inr hk, h⟩
    next => cases h

theorem find_first_agree {α : Type} (l : List α) (P Q : α → Bool) (x : α) (h : l.find? P = some x) (hq : Q x = true)
    (hqp : ∀ y, Q y = true → P y = true) : l.find? Q = some x := by
  induction l with
  | nil => simp at h
  | cons a l ih =>
    rw [List.find?_cons] at h ⊢
    cases hp : P a with
    | true =>
      simp only [hp] at h
      have : a = x := Option.some.inj h
      subst this
      simp [hq]
    | false =>
      simp only [hp] at h
      have : Q a = false := by
        cases hqa : Q a
        · rfl
        · rw [hqp a hqa] at hp; exact absurd hp (by simp)
      simp only [this]
      exact ih h

theorem rackPick_guard (full empty : ENode) (vid s : Nat) (h : rackPick full empty = some (vid, s)) :
    holdsShard full vid s = true ∧ holdsShard empty vid s = false := by
  unfold rackPick at h
  by_cases hh : full.hdd = true
  · simp only [hh, Bool.not_true, Bool.false_eq_true, if_false] at h
    cases hf : full.shards.find? (fun e => !(empty.hasEntry e.1)) with
    | none => simp [hf] at h
    | some e =>
      obtain ⟨v, b⟩ := e
      simp only [hf] at h
      cases hs : shardIds b with
      | nil => simp [hs] at h
      | cons s0 rest =>
        simp only [hs, Option.some.injEq, Prod.mk.injEq] at h
        obtain ⟨rfl, rfl⟩ := h
        have hne : (!(empty.hasEntry v)) = true := (List.find?_some hf :)
        -- the first entry of a volume `empty` lacks is also the first entry of ITS volume, the one `bits` reads
        have hfirst : full.shards.find? (·.1 == v) = some (v, b) :=
          find_first_agree full.shards _ (·.1 == v) (v, b) hf (beq_self_eq_true v)
            (fun y hy => by rw [eq_of_beq hy]; exact hne)
        have hbit : hasBit b s0 = true := by
          have : s0 ∈ shardIds b := hs ▸ List.mem_cons_self
          exact (List.mem_filter.mp this).2
        constructor
        · rw [holds_eq]; simp [ENode.bits, hh, hfirst, hbit]
        · unfold holdsShard
          have : empty.hasEntry v = false := Bool.not_eq_eq_eq_not.mp hne
          simp [this]
  · have hh' : full.hdd = false := eq_false_of_ne_true hh
    simp [hh'] at h

theorem ceilDiv_le_iff {a b q : Nat} (hb : b > 0) : ceilDiv a b ≤ q ↔ a ≤ q * b :=
  (Nat.le_mul_iff_le_left hb).symm

end SwV.Lemmas.C16
