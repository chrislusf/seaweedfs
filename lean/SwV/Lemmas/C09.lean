/-
C09 — helper lemmas and the invariants of the storage and filer side.
The seconds→TTL conversion (regenerated `SwV.Gen.C09.SecondsToTTL`) is read back through the C08 model of
`ReadTTL`/`Minutes`: every answer but "" is `s / K` units of `K` seconds, and such a string promises at least `s`
seconds exactly when `K` divides `s` (`covered_unit`).
-/
import SwV.Model.C09
import SwV.Spec.C09
import SwV.Gen.C09
import SwV.Lemmas.C08
import SwV.Spec.C08
namespace SwV.Lemmas.C09
open SwV.Model.C08 SwV.Model.C09 SwV.Go SwV.Lemmas.C08

theorem fmtD_toList (n : Nat) : (fmtD (n : Int)).toList = natToDec n := Nat.toList_repr

/-- minutes promised by the volume TTL chosen for a filer TTL of `s` seconds -/
def volMinutes (s : Int) : Nat := minutesOfTtlString (SwV.Gen.C09.SecondsToTTL s).toList

/-- `s` is an exact multiple (count ≤ 255) of one of the six units -/
def exactUnit (s : Int) : Prop :=
  (s % 31536000 = 0 ∧ s / 31536000 < 256) ∨ (s % 2592000 = 0 ∧ s / 2592000 < 256) ∨
  (s % 604800 = 0 ∧ s / 604800 < 256) ∨ (s % 86400 = 0 ∧ s / 86400 < 256) ∨
  (s % 3600 = 0 ∧ s / 3600 < 256) ∨ (s % 60 = 0 ∧ s / 60 < 256)

theorem minutes_render (c : Int) (h0 : 0 ≤ c) (h1 : c < 256) (us : String) (uc : Char) (hus : us.toList = [uc])
    (hu : ¬('0' ≤ uc ∧ uc ≤ '9')) :
    minutesOfTtlString (fmtD c ++ us).toList = ttlMinutes ⟨c.toNat, toStoredByte uc⟩ := by
  obtain ⟨n, rfl⟩ := Int.eq_ofNat_of_zero_le h0
  simp only [minutesOfTtlString, String.toList_append, fmtD_toList, hus]
  rw [readTTL_render n (by omega) uc hu]
  simp

theorem minutes_empty : minutesOfTtlString ("" : String).toList = 0 := by decide

/-- `us` is the letter `uc` of the unit that lasts `K` seconds; closed, so `decide +kernel` proves it -/
abbrev UnitOf (K : Int) (us : String) (uc : Char) : Prop :=
  us.toList = [uc] ∧ ¬('0' ≤ uc ∧ uc ≤ '9') ∧ 0 < K ∧ K = 60 * (ttlMinutes ⟨1, toStoredByte uc⟩ : Int)

/-- the heart of `SecondsToTTL`: the string for `s / K` units of `K` seconds (`K` = 60 · the unit's minutes) promises
    `(s / K) · K` seconds, which reaches `s` exactly when `K` divides `s` -/
theorem covered_unit (s K : Int) (us : String) (uc : Char) (h0 : 0 ≤ s) (hc : s / K < 256) (hU : UnitOf K us uc) :
    s ≤ 60 * (minutesOfTtlString (fmtD (s / K) ++ us).toList : Int) ↔ s % K = 0 := by
  obtain ⟨hus, hu, hK0, hK⟩ := hU
  have hq : 0 ≤ s / K := Int.ediv_nonneg h0 (Int.le_of_lt hK0)
  rw [minutes_render (s / K) hq hc us uc hus hu, ttlMinutes_mul, Int.natCast_mul, Int.toNat_of_nonneg hq,
    ← Int.mul_assoc, Int.mul_comm 60, Int.mul_assoc, ← hK, Int.mul_comm]
  -- the goal is `s ≤ K * (s / K) ↔ s % K = 0`; with `s = s % K + K * (s / K)` the product is an atom for `omega`
  have := Int.emod_add_mul_ediv s K
  have := Int.emod_nonneg s (Int.ne_of_gt hK0)
  omega

/-- one exact test of `SecondsToTTL`: a unit that divides `s` with a count that fits covers `s`; otherwise the
    answer is that of the tests that follow -/
theorem exact_step {s K : Int} (h0 : 0 ≤ s) (us : String) (uc : Char) (hU : UnitOf K us uc) {rest : String} {Q : Prop}
    (h : ¬(s % K = 0 ∧ s / K < 256) → (s ≤ 60 * (minutesOfTtlString rest.toList : Int) ↔ Q)) :
    s ≤ 60 * (minutesOfTtlString (if s % K = 0 ∧ s / K < 256 then fmtD (s / K) ++ us else rest).toList : Int) ↔
      (s % K = 0 ∧ s / K < 256) ∨ Q := by
  by_cases c : s % K = 0 ∧ s / K < 256
  · rw [if_pos c]
    exact iff_of_true ((covered_unit s K us uc h0 c.2 hU).2 c.1) (Or.inl c)
  · rw [if_neg c, or_iff_right c]
    exact h c

/-- one truncating test: a unit whose count fits but which failed its exact test does not divide `s`, so it falls
    short of `s`, as do the tests that follow if they do -/
theorem trunc_step {s K : Int} (h0 : 0 ≤ s) (us : String) (uc : Char) (hU : UnitOf K us uc)
    {rest : String} (hx : ¬(s % K = 0 ∧ s / K < 256)) (h : ¬ s ≤ 60 * (minutesOfTtlString rest.toList : Int)) :
    ¬ s ≤ 60 * (minutesOfTtlString (if s / K < 256 then fmtD (s / K) ++ us else rest).toList : Int) := by
  by_cases c : s / K < 256
  · rw [if_pos c]
    exact fun hcov => hx ⟨(covered_unit s K us uc h0 c hU).1 hcov, c⟩
  · rw [if_neg c]
    exact h

theorem u32_of_lt (x : Nat) (h : x < 4294967296) : u32 x = x := Nat.mod_eq_of_lt h

/-- `expiredLongEnough` implies that the TTL has passed since the last modification (the removal delay only adds) -/
theorem expiredLongEnough_lt {d : Nat} {vt : TTL} {lm now : Nat} (h : volExpiredLongEnough d vt lm now = true) :
    ttlMinutes vt * 60 + lm < now := by
  unfold volExpiredLongEnough at h
  split at h; · cases h
  simp only [decide_eq_true_eq] at h
  generalize (if ttlMinutes vt / 10 > d then d else ttlMinutes vt / 10) = delay at h
  omega

theorem hbDecision_deleted (v : Vol) (nowSec : Nat) (h : hbDecision v nowSec = .deleted) :
    volExpiredLongEnough maxRemovalDelay v.ttl v.lm nowSec = true := by
  by_cases hl : volExpiredLongEnough maxRemovalDelay v.ttl v.lm nowSec = true
  · exact hl
  · unfold hbDecision at h
    rw [if_neg hl] at h
    split at h; · cases h
    split at h <;> cases h

theorem find_filter {α : Type} (l : List α) (p q : α → Bool) (a : α) (h : l.find? q = some a) (hp : p a = true) :
    (l.filter p).find? q = some a := by
  induction l with
  | nil => cases h
  | cons b l ih =>
    by_cases hq : q b = true
    · have hb : b = a := Option.some.inj (List.find?_cons_of_pos hq ▸ h)
      subst hb
      simp [hp, hq]
    · have hl : l.find? q = some a := List.find?_cons_of_neg hq ▸ h
      by_cases hpb : p b = true
      · simp [hpb, hq, ih hl]
      · simp [hpb, ih hl]

/-- a record is "honest": its TTL (if any) is positive, not longer than the volume's and comes with LastModified,
    LastModified is not earlier than the second of the append (server-stamped), the volume's lastModified is not older,
    and a record without TTL only lives on a volume without TTL -/
def Good (volTtl : TTL) (volLm : Nat) (n : Needle) : Prop :=
  (n.hasTtl = true → n.hasLM = true ∧ 0 < ttlMinutes n.ttl ∧ ttlMinutes n.ttl ≤ ttlMinutes volTtl) ∧
  n.appendNs < (n.lm + 1) * nsPerSec ∧ n.lm ≤ volLm ∧ (n.hasTtl = false → ttlMinutes volTtl = 0)

def Inv (v : Vol) : Prop := ∀ kn ∈ v.needles, Good v.ttl v.lm kn.2

theorem good_mono {vt : TTL} {a b : Nat} {n : Needle} (h : Good vt a n) (hab : a ≤ b) : Good vt b n :=
  ⟨h.1, h.2.1, Nat.le_trans h.2.2.1 hab, h.2.2.2⟩

theorem Inv.mono {v v' : Vol} (hinv : Inv v) (httl : v'.ttl = v.ttl) (hlm : v.lm ≤ v'.lm)
    (hsub : v'.needles ⊆ v.needles) : Inv v' := by
  intro kn hkn
  rw [httl]
  exact good_mono (hinv kn (hsub hkn)) hlm

/-- an operation as an honest server performs it at clock `nowNs` -/
def HonestOp (v : Vol) (nowNs : Nat) : Op → Prop
  | .put _ t hasLM lm => hasLM = true ∧ lm = nowNs / nsPerSec ∧
      (t = emptyTTL ∨ (0 < ttlMinutes t ∧ ttlMinutes t ≤ ttlMinutes v.ttl))
  | .compact => True
  | .heartbeat => True
  | .reload mtime => v.lm ≤ mtime

/-- the chunk's volume TTL covers an entry TTL of `s` seconds (0 minutes = never expires) -/
def Covers (s : Nat) (c : Chunk) : Prop :=
  (s = 0 → ttlMinutes c.ttl = 0) ∧ (ttlMinutes c.ttl = 0 ∨ s ≤ 60 * ttlMinutes c.ttl)

/-- every chunk of the entry is covered and was written less than `δ` seconds before the entry's Crtime (or later) -/
def FGood (δ : Nat) (e : FEntry) : Prop :=
  ∀ c ∈ e.chunks, Covers e.ttlSec c ∧ e.crtime * nsPerSec < c.appendNs + δ * nsPerSec

def FInv (δ : Nat) (st : FStore) (nowNs : Nat) : Prop :=
  ∀ ke ∈ st, FGood δ ke.2 ∧ ke.2.crtime * nsPerSec ≤ nowNs

theorem ffind_some (st : FStore) (nowNs k : Nat) (o : FEntry) (h : (ffind st nowNs k).1 = some o) :
    (∃ kn ∈ st, kn.2 = o) ∧ entryVisible o nowNs = true := by
  unfold ffind flookup at h
  cases hf : st.find? (fun x => decide (x.1 = k)) with
  | none => simp [hf] at h
  | some kn =>
    simp only [hf, Option.map_some] at h
    by_cases hv : entryVisible kn.2 nowNs = true
    · simp only [hv, if_true] at h
      have : kn.2 = o := Option.some.inj h
      exact ⟨⟨kn, List.mem_of_find?_eq_some hf, this⟩, this ▸ hv⟩
    · simp [hv] at h

theorem ffind_store_subset (st : FStore) (nowNs k : Nat) : (ffind st nowNs k).2 ⊆ st := by
  intro x hx
  unfold ffind at hx
  split at hx
  · exact hx
  · split at hx
    · exact hx
    · exact (List.mem_filter.1 hx).1

/-- `TTL.Minutes` as regenerated for this check.  Stated on C09's own regenerated function (not on C08's), so that a
    change to the Go function is reported by this check too; the two regenerated copies unfold to the same term, so
    C08's proof applies. -/
theorem bridge_minutes (c u : Nat) (hc : c < 256) :
    SwV.Gen.C09.TTL_Minutes c u = (ttlMinutes ⟨c, u⟩ : Nat) :=
  SwV.Lemmas.C08.bridge_minutes c u hc

end SwV.Lemmas.C09
