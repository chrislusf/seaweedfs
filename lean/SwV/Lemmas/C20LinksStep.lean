/-
C20 — the model's operations in the link world, each shown to be an instance of the transition `gcS_tr` of C20Links:
CreateEntry with a plain entry (with implicit parents; through `gcS_put`), a write through a linked name, Dir.Link, and
the removal of one file name (client unlink / DeleteEntryMetaAndData of a file). Each proof names the touched names `T`,
those that remain `A`, their identity `k` and the list `new` they show, and says who else could show those chunks.
-/
import SwV.Model.C18
import SwV.Lemmas.C18
import SwV.Lemmas.C20
import SwV.Lemmas.C21
import SwV.Lemmas.C20Links
namespace SwV.Lemmas.C20Links
open SwV.Model.C18 SwV.Lemmas.C18 SwV.Lemmas.C20 SwV.Lemmas.C21

/-- implicit parent creation only adds names that show nothing (plain directories without chunks) -/
theorem shows_ensureParent (e : Entry) (q : RPath) (s : St) :
    (∀ a k cs, Shows s a k cs → Shows (ensureParent e q s).1 a k cs) ∧
    (∀ a k cs, Shows (ensureParent e q s).1 a k cs → Shows s a k cs ∨ cs = []) := by
  have M := ensureParent_keeps e q s
  have N := ensureParent_new_chunkless_plain e q s
  have hkv : ∀ k, kvGet (ensureParent e q s).1 k = kvGet s k := (ensureParent_frame e q s).1
  constructor
  · rintro a k cs ⟨e', hm, hk, hc⟩
    exact ⟨e', M _ hm, hk, by simpa only [hkv] using hc⟩
  · rintro a k cs ⟨e', hm, hk, hc⟩
    rcases N _ hm with h | h
    · exact Or.inl ⟨e', h, hk, by simpa only [hkv] using hc⟩
    · right
      simp only at h
      rcases hc with ⟨_, rfl⟩ | ⟨h0, _⟩
      · exact h.1
      · exact absurd (hk.symm.trans h.2) h0

theorem gcS_of_grow {s s1 s' : St} {E : List Nat} {req : Bool}
    (bwd : ∀ a k cs, Shows s a k cs → Shows s1 a k cs) (h : GcS s1 s' E req) : GcS s s' E req := by
  refine ⟨h.1, h.2.1, fun hr c hc hn => h.2.2 hr c ?_ hn⟩
  rcases hc with ⟨p, k, cs, hs, hcs⟩
  exact ⟨p, k, cs, bwd p k cs hs, hcs⟩

theorem exclL_of_grow {s s1 : St} (ex : ExclL s) (fwd : ∀ a k cs, Shows s1 a k cs → Shows s a k cs ∨ cs = []) : ExclL s1 := by
  intro a b k k' cs cs' ha hb hne hown c hc
  rcases fwd a k cs ha with ha0 | rfl
  · rcases fwd b k' cs' hb with hb0 | rfl
    · exact ex a b k k' cs cs' ha0 hb0 hne hown c hc
    · simp
  · simp at hc

theorem gcS_createEntry_plain {s : St} (inv : TreeInv s) (ex : ExclL s) (p : RPath) (e : Entry) (x : Bool)
    (he : e.hl = 0) (hp : ∀ a, (p, a) ∈ s.ents → a.hl = 0) (fr : FreshL s p e.chunks) (req : Bool) :
    GcS s (createEntry s p e x).1 (createEntry s p e x).2.2 req := by
  rcases createEntry_cases s p e x with ⟨h1, h2⟩ | ⟨n, par, rfl, hf, _, hce⟩ | ⟨old, hf, _, hce⟩
  · rw [h1, h2]
    exact gcS_refl ex req
  · rw [hce]
    have habs : ∀ y, (n :: par, y) ∉ s.ents := not_mem_of_find_none hf
    have SH := shows_ensureParent e par s
    have habs1 : ∀ k cs, ¬ Shows (ensureParent e par s).1 (n :: par) k cs := by
      rintro k cs ⟨y, hy, _⟩
      exact not_mem_ensureParent_of_find_none e hf y hy
    have habs0 : ∀ k cs, ¬ Shows s (n :: par) k cs := by
      rintro k cs ⟨y, hy, _⟩
      exact habs y hy
    -- the entry is put into the store that has the implicit parents already; that store shows what `s` shows and,
    -- for the new directories, empty lists, so ownership and the obligations carry over from `s`
    refine gcS_of_grow SH.1 (gcS_put (exclL_of_grow ex SH.2) (shows_wInsert_plain he) (fun k cs h => absurd h (habs1 k cs)) ?_ ?_ req)
    · intro q k' cs' hq hqp _ c hc
      rcases SH.2 q k' cs' hq with h | rfl
      · exact fr q k' cs' h hqp (fun kp csp hh => absurd hh (habs0 kp csp)) c hc
      · exact List.not_mem_nil
    · intro c
      constructor
      · intro h
        cases h
      · rintro ⟨cs, h, _⟩
        exact absurd h (habs1 0 cs)
  · rw [hce]
    rcases find_stored inv hf with ⟨a, hm, _⟩
    have ha0 : a.hl = 0 := hp a hm
    have hoa : old = a := Option.some.inj (hf.symm.trans (find_plain_of_mem inv hm ha0))
    subst hoa
    have hold : Shows s p 0 old.chunks := ⟨old, hm, ha0, Or.inl ⟨rfl, rfl⟩⟩
    refine gcS_put ex (shows_wInsert_plain he) (fun k cs h => (shows_fun inv h hold).1) fr ?_ req
    intro c
    rw [mem_notNew]
    constructor
    · rintro ⟨h1, h2⟩
      exact ⟨old.chunks, hold, h1, h2⟩
    · rintro ⟨cs, h, h1, h2⟩
      rw [(shows_fun inv h hold).2] at h1
      exact ⟨h1, h2⟩

theorem gcS_linkOp {s : St} (inv : TreeInv s) (c : ConsAll s) (ex : ExclL s) (src dst : RPath) (h : Nat)
    (fresh : LinkFresh s src h) (req : Bool) : GcS s (linkOp s src dst h).1 (linkOp s src dst h).2.2 req := by
  rcases linkOp_cases inv c src dst h fresh with ⟨h1, h2⟩ | ⟨L, a, o, k, heq, H⟩
  · rw [h1, h2]
    exact gcS_refl ex req
  · rw [heq]
    have hsrc : Shows s src a.hl L.chunks := H.chunks ▸ shows_of_find inv H.mem_src (c _) H.find_src
    -- source and new name become names of k and show what the source showed; nothing is handed over
    refine gcS_tr ex (T := fun q => q = dst ∨ q = src) (A := fun q => q = dst ∨ q = src) (k := k) (new := L.chunks)
      (shows_link H) (fun _ _ _ _ _ => H.id_ne) ?_ (fun _ h => nomatch h) ?_
    · -- the other names of k aside, nobody shows what the source shows
      intro b kb cs' hb hs hown
      refine ex src b a.hl kb _ cs' hsrc hs (fun h => hb (Or.inr h.symm)) ?_
      rintro ⟨h1, h2⟩
      exact H.src_id.elim (fun h => hown ⟨H.id_ne, h.1.symm.trans h2⟩) (fun h => h1 h.1)
    · rintro _ q k' cs hT hq ch hcq
      rcases hT with rfl | rfl
      · rcases hq with ⟨y, hy, _⟩
        exact absurd hy (H.dst_new y)
      · cases (shows_fun inv hq hsrc).2
        exact Or.inl ⟨hcq, q, Or.inr rfl⟩

theorem gcS_deleteFile {s : St} (inv : TreeInv s) (ex : ExclL s) {n : String} {par : RPath} {a o : Entry}
    (hm : (n :: par, a) ∈ s.ents) (c : a.hl ≠ 0 → Cons s a.hl) (hf : find s (n :: par) = some o) (hd : o.isDir = false)
    (r dc : Bool) (hlast : dc = true → a.hl ≠ 0 → nameCount s.ents a.hl ≤ 1) :
    GcS s (deleteEntry s (n :: par) r dc).1 (deleteEntry s (n :: par) r dc).2.2 dc := by
  rw [deleteEntry_file hf hd]
  have hp : Shows s (n :: par) a.hl o.chunks := shows_of_find inv hm c hf
  -- the name goes and none of the touched names remains; what it showed is handed over when `dc` says so
  refine gcS_tr ex (T := (· = n :: par)) (A := fun _ => False) (k := 0) (new := [])
    (fun q k' cs => (shows_deleteOne inv hm c hf q k' cs).trans ⟨Or.inr, fun h => h.elim (fun h => h.1.elim) id⟩)
    (fun _ _ h => h.elim) (fun _ _ _ _ _ _ _ h => nomatch h) ?_ ?_
  · intro ch hc
    cases dc with
    | false => cases hc
    | true =>
      refine ⟨nofun, fun b k' cs' hb hs => ex _ b _ k' _ cs' hp hs (Ne.symm hb) ?_ ch hc⟩
      -- a linked name whose chunks are handed over is the last name of its identity
      rintro ⟨h1, rfl⟩
      rcases hs with ⟨y, hy, hyk, _⟩
      have := two_names inv.nodup hm hy hb rfl hyk
      have := hlast rfl h1
      omega
  · rintro rfl q k' cs rfl hq ch hcq
    cases (shows_fun inv hq hp).2
    exact Or.inr hcq

/-- DeleteEntryMetaAndData on whatever p names, directories excluded: nothing happens, or one file name goes -/
theorem gcS_deleteEntry {s : St} (inv : TreeInv s) (c : ConsAll s) (ex : ExclL s) (p : RPath) (r dc : Bool)
    (hfile : ∀ o, find s p = some o → o.isDir = false)
    (hlast : dc = true → ∀ a, (p, a) ∈ s.ents → a.hl ≠ 0 → nameCount s.ents a.hl ≤ 1) :
    GcS s (deleteEntry s p r dc).1 (deleteEntry s p r dc).2.2 dc := by
  cases p with
  | nil => exact gcS_refl ex _
  | cons n par =>
    cases hf : find s (n :: par) with
    | none =>
      rw [deleteEntry_notfound r dc hf]
      exact gcS_refl ex _
    | some o =>
      rcases find_stored inv hf with ⟨a, hm, _⟩
      exact gcS_deleteFile inv ex hm (c _) hf (hfile o hf) r dc fun hdc => hlast hdc a hm

/-- a file entry that carries the identity FindEntry shows for p (none when p is absent) is written at p: a plain file is
    put there, or the record of p's identity is replaced -/
theorem gcS_write {s : St} (inv : TreeInv s) (c : ConsAll s) (ex : ExclL s) (p : RPath) {e : Entry}
    (hed : e.isDir = false) (hid : e.hl = (find s p).elim 0 (·.hl)) (fr : FreshL s p e.chunks) (req : Bool) :
    GcS s (createEntry s p e false).1 (createEntry s p e false).2.2 req := by
  cases hf : find s p with
  | none => exact gcS_createEntry_plain inv ex p e false (hid.trans (by rw [hf]; rfl)) (fun a ha => absurd ha (not_mem_of_find_none hf a)) fr req
  | some o =>
    have hl : e.hl = o.hl := hid.trans (by rw [hf]; rfl)
    rcases find_stored inv hf with ⟨a, hm, _⟩
    rcases find_cases inv hm (c _) hf with ⟨h0, rfl⟩ | ⟨h0, hg, hrl, hrf, _⟩
    · exact gcS_createEntry_plain inv ex p e false (hl.trans h0) (fun a' ha' => mem_unique inv.nodup ha' hm ▸ h0) fr req
    · rw [createEntry_over (inv.parent _ hm).1 hf (hrf.trans hed.symm)]
      have hea : a.hl = e.hl := (hl.trans hrl).symm
      have hek : e.hl ≠ 0 := hea ▸ h0
      rw [hea] at hg
      have hp : Shows s p e.hl o.chunks := hea ▸ shows_of_find inv hm (c _) hf
      -- a name that is not a name of the identity shows another identity, and is not p
      have other : ∀ {q k' cs}, ¬ (∃ cs0, Shows s q e.hl cs0) → Shows s q k' cs → k' ≠ e.hl ∧ q ≠ p :=
        fun hq hs => ⟨fun h => hq ⟨_, h ▸ hs⟩, fun h => hq ⟨_, h ▸ hp⟩⟩
      -- the record of the identity is replaced: every name of it shows the chunks of `e`, the old version's
      -- chunks that `e` no longer lists are queued
      refine gcS_tr ex (T := fun q => ∃ cs0, Shows s q e.hl cs0) (A := fun q => ∃ cs0, Shows s q e.hl cs0)
        (k := e.hl) (new := e.chunks) (shows_wInsert_linked inv hek hm hea hg) (fun _ _ _ _ _ => hek) ?_ ?_ ?_
      · intro b k' cs' hb hs _
        exact fr b k' cs' hs (other hb hs).2 fun kp csp hp' h =>
          (other hb hs).1 (h.2.symm.trans (shows_fun inv hp' hp).1)
      · intro ch hc
        rcases mem_notNew.mp hc with ⟨hco, hcn⟩
        exact ⟨fun h => absurd h hcn, fun b k' cs' hb hs =>
          ex _ b _ k' _ cs' hp hs (other hb hs).2.symm (fun h => (other hb hs).1 h.2.symm) ch hco⟩
      · rintro _ q k' cs ⟨cs0, h0'⟩ hq ch hcq
        cases (shows_fun inv hq h0').1
        -- every name of the identity showed the record
        rcases hq with ⟨_, _, hv⟩
        cases ((view_linked hv.1 hek hg _ _).mp hv).2
        by_cases hcn : ch ∈ e.chunks
        · exact Or.inl ⟨hcn, q, cs0, h0'⟩
        · exact Or.inr (mem_notNew.mpr ⟨hcq, hcn⟩)

end SwV.Lemmas.C20Links
