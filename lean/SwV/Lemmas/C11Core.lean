/- C11 / C12, DataNode side: which components of `Core` the DataNode operations of the volume heartbeats,
   DeltaUpdateEcShards and AdjustMaxVolumeCounts leave alone (the full EC heartbeat is read off its closed form by
   `adjEc_spec` of Lemmas/C12Ec), and what a first connect does to those components. -/
import SwV.Model.C11
import SwV.Lemmas.C12
namespace SwV.Lemmas.C11
open SwV.Model.C11

/-- counters aside, a DataNode operation writes at most one of the registered volumes and the registered EC shards:
    `Same π c' c` says that the other component `π`, the connection flags and the id range are untouched -/
def Same {α : Type} (π : Core → α) (c' c : Core) : Prop := π c' = π c ∧ c'.conn = c.conn ∧ c'.nVid = c.nVid

theorem Same.trans {α : Type} {π : Core → α} {a b c : Core} (h1 : Same π a b) (h2 : Same π b c) : Same π a c :=
  ⟨h1.1.trans h2.1, h1.2.1.trans h2.2.1, h1.2.2.trans h2.2.2⟩

theorem same_foldl {α β : Type} (π : Core → β) (f : Core → α → Core) (hf : ∀ c a, Same π (f c a) c)
    (l : List α) (c : Core) : Same π (l.foldl f c) c :=
  SwV.Lemmas.C12.foldl_rel (Same π) (fun _ => ⟨rfl, rfl, rfl⟩) Same.trans f hf l c

theorem same_adjustMax {α : Type} (π : Core → α) (hπ : ∀ (c : Core) s t d, π (c.upAdj s t d) = π c) (c : Core) (s mh ms : Nat) :
    Same π (c.adjustMax s mh ms) c := by
  have h1 : ∀ (c : Core) t m, Same π (c.adjustMax1 s t m) c := by
    intro c t m; unfold Core.adjustMax1; split
    · exact ⟨rfl, rfl, rfl⟩
    · split
      · exact ⟨rfl, rfl, rfl⟩
      · exact ⟨hπ _ _ _ _, rfl, rfl⟩
  unfold Core.adjustMax
  split
  · exact (h1 _ _ _).trans (h1 _ _ _)
  · exact ⟨rfl, rfl, rfl⟩

theorem same_addOrUpdate (c : Core) (s : Nat) (v : VInfo) : Same Core.ecs (c.addOrUpdate s v).1 c := by
  cases h : c.vols s v.key.disk v.id with
  | none => simp only [Core.addOrUpdate, h]; exact ⟨rfl, rfl, rfl⟩
  | some old => simp only [Core.addOrUpdate, h]; split <;> exact ⟨rfl, rfl, rfl⟩

theorem addAll_fst (s : Nat) (vs : List VInfo) (c : Core) :
    (c.addAll s vs).1 = vs.foldl (fun c v => (c.addOrUpdate s v).1) c := by
  induction vs generalizing c with
  | nil => rfl
  | cons a vs ih => simp only [Core.addAll, List.foldl_cons]; exact ih _

theorem same_addAll (c : Core) (s : Nat) (vs : List VInfo) : Same Core.ecs (c.addAll s vs).1 c := by
  rw [addAll_fst]; exact same_foldl Core.ecs _ (fun c v => same_addOrUpdate c s v) vs c

theorem same_sweepGone (c : Core) (s : Nat) (actual : List VInfo) (t n : Nat) :
    Same Core.ecs (c.sweepGone s actual t n).1 c := by
  induction n with
  | zero => exact ⟨rfl, rfl, rfl⟩
  | succ n ih =>
    simp only [Core.sweepGone]
    split
    · split
      · exact ih
      · exact Same.trans ⟨rfl, rfl, rfl⟩ ih
    · exact ih

theorem same_updateVolumes (c : Core) (s : Nat) (vs : List VInfo) : Same Core.ecs (c.updateVolumes s vs).1 c :=
  (same_addAll _ s vs).trans ((same_sweepGone _ s vs 1 _).trans (same_sweepGone c s vs 0 _))

theorem same_delReg (c : Core) (s : Nat) (v : VInfo) : Same Core.ecs (c.delReg s v) c := by
  unfold Core.delReg
  split <;> exact ⟨rfl, rfl, rfl⟩

theorem same_deltaUpdateVolumes (c : Core) (s : Nat) (news dels : List VInfo) :
    Same Core.ecs (c.deltaUpdateVolumes s news dels) c :=
  (same_foldl Core.ecs (fun c v => (c.addOrUpdate s v).1) (fun c v => same_addOrUpdate c s v) news _).trans
    (same_foldl Core.ecs (fun c v => c.delReg s v) (fun c v => same_delReg c s v) dels c)

theorem same_deltaUpdateEcShards (c : Core) (s : Nat) (news dels : List EcInfo) :
    Same Core.vols (c.deltaUpdateEcShards s news dels) c := by
  unfold Core.deltaUpdateEcShards
  refine (same_foldl Core.vols _ ?_ dels _).trans (same_foldl Core.vols _ ?_ news c)
  · intro c e; simp only [Core.delEc]; split <;> exact ⟨rfl, rfl, rfl⟩
  · intro c e; exact ⟨rfl, rfl, rfl⟩

theorem connect_fields (c : Core) (s dc rack mh ms : Nat) (hc : c.conn s = false) :
    (c.connect s dc rack mh ms).conn = upd1 c.conn s true ∧
    (c.connect s dc rack mh ms).vols = (fun x => if x = s then fun _ _ => none else c.vols x) ∧
    (c.connect s dc rack mh ms).nVid = c.nVid ∧
    (c.connect s dc rack mh ms).ecs = (fun x => if x = s then fun _ _ => 0 else c.ecs x) := by
  unfold Core.connect
  simp only [hc, Bool.false_eq_true, if_false]
  split <;> exact ⟨rfl, rfl, rfl, rfl⟩

end SwV.Lemmas.C11
