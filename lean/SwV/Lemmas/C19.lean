/-
C19 — the listing, layer by layer. The model's byte order and prefix test are core's `<` on `List Nat` and
`<+:`. Keys with a given prefix are a convex range of that order, so on a
sorted database with well-formed keys (`KeysWF`) the store loop (seek, scan while the prefix holds, skip, count),
started at a name that is empty or not before the prefix, returns `take limit` of a
filter of the directory's children (`selected`), and listing again after a page's last name gives the rest
of that filter. The filer's loops ("list n, count what was dropped, list that many more after the last
name") are the abstract `refill`, which is `take n` of a filter as well. `DirListLive` is what these loops
need from one call of `doListDirectoryEntries` in a directory without expired entries; the native stores and
the generic path both provide it. On the patterns `splitPattern` cuts correctly (`GoodPattern`), given without a
name prefix (`GoodReq`), the prefix
test together with the filer's per-entry test is the specification's `matchesReq` (`passes_iff_matches`).
With expired entries, those a page deletes lie at or before its last name, so resuming behind the page is
not disturbed and `doListValidEntries` over a native store is `refill` keeping the live entries
(`listValid_exact`). `pages` is pagination on the specification.
-/
import SwV.Model.C19
import SwV.Spec.C19

namespace SwV.Props.C19
open SwV.Model.C19

/-- well-formed directory keys: every key under the directory's prefix is prefix ++ name
    (leveldb: names without 0x00; leveldb2/3: always, md5 has 16 bytes) -/
def KeysWF (nameOf : Bytes → Bytes) (dk : Bytes) (db : Db) : Prop :=
  ∀ e ∈ db, isPrefix dk e.key = true → e.key = dk ++ nameOf e.key

end SwV.Props.C19

namespace SwV.Lemmas.C19
open SwV.Model.C19 SwV.Spec.C19 SwV.Props.C19

theorem ltB_iff_lt : ∀ a b : Bytes, ltB a b = true ↔ a < b
  | [], [] => by simp [ltB]
  | [], _ :: _ => by simp [ltB]
  | _ :: _, [] => by simp [ltB]
  | x :: xs, y :: ys => by
    rw [List.cons_lt_cons_iff, ← ltB_iff_lt xs ys]
    rcases Nat.lt_trichotomy x y with h | h | h
    · simp [ltB, h]
    · simp [ltB, h]
    · simp [ltB, Nat.lt_asymm h, Nat.ne_of_gt h, h]

theorem ltB_eq_false_iff (a b : Bytes) : ltB a b = false ↔ b ≤ a := by
  rw [← Bool.not_eq_true, ltB_iff_lt]; exact List.not_lt

theorem ltB_irrefl (a : Bytes) : ltB a a = false := (ltB_eq_false_iff a a).2 (List.le_refl a)

theorem ltB_nil (n : Bytes) : ltB [] n = true ↔ n ≠ [] := by
  cases n <;> simp [ltB]

theorem ltB_nil_right (s : Bytes) : ltB s [] = false := (ltB_eq_false_iff s []).2 (List.nil_le s)

theorem ltB_trans (a b c : Bytes) (h1 : ltB a b = true) (h2 : ltB b c = true) : ltB a c = true :=
  (ltB_iff_lt a c).2 (List.lt_trans ((ltB_iff_lt a b).1 h1) ((ltB_iff_lt b c).1 h2))

theorem ltB_asymm (a b : Bytes) (h : ltB a b = true) : ltB b a = false :=
  (ltB_eq_false_iff b a).2 (List.le_of_lt ((ltB_iff_lt a b).1 h))

theorem ltB_total (a b : Bytes) (h1 : ltB a b = false) (h2 : ltB b a = false) : a = b :=
  List.le_antisymm ((ltB_eq_false_iff b a).1 h2) ((ltB_eq_false_iff a b).1 h1)

/-- `ltB b a = false` reads `a ≤ b`: from `a ≤ b < c` -/
theorem ltB_of_le_of_lt (a b c : Bytes) (h1 : ltB b a = false) (h2 : ltB b c = true) : ltB a c = true :=
  (ltB_iff_lt a c).2 (List.lt_of_le_of_lt ((ltB_eq_false_iff b a).1 h1) ((ltB_iff_lt b c).1 h2))

theorem ltB_le_trans (a b c : Bytes) (h1 : ltB b a = false) (h2 : ltB c b = false) : ltB c a = false :=
  (ltB_eq_false_iff c a).2 (List.le_trans ((ltB_eq_false_iff b a).1 h1) ((ltB_eq_false_iff c b).1 h2))

theorem ltB_append_left (d a b : Bytes) : ltB (d ++ a) (d ++ b) = ltB a b := by
  induction d with
  | nil => rfl
  | cons x xs ih => simp [ltB, ih]

theorem isPrefix_iff_prefix : ∀ p k : Bytes, isPrefix p k = true ↔ p <+: k
  | [], _ => by simp [isPrefix]
  | _ :: _, [] => by simp [isPrefix]
  | x :: xs, y :: ys => by
    rw [List.cons_prefix_cons, ← isPrefix_iff_prefix xs ys]
    by_cases h : x = y <;> simp [isPrefix, h]

theorem isPrefix_append_left (d p n : Bytes) : isPrefix (d ++ p) (d ++ n) = isPrefix p n :=
  Bool.eq_iff_iff.2 (by rw [isPrefix_iff_prefix, isPrefix_iff_prefix]; exact List.prefix_append_right_inj d)

theorem isPrefix_nil (k : Bytes) : isPrefix [] k = true := by
  cases k <;> rfl

theorem isPrefix_refl (p : Bytes) : isPrefix p p = true := (isPrefix_iff_prefix p p).2 List.prefix_rfl

theorem isPrefix_append (p q k : Bytes) (h : isPrefix (p ++ q) k = true) : isPrefix p k = true :=
  (isPrefix_iff_prefix p k).2 ((List.prefix_append p q).trans ((isPrefix_iff_prefix _ k).1 h))

theorem not_lt_of_isPrefix (p k : Bytes) (h : isPrefix p k = true) : ltB k p = false :=
  (ltB_eq_false_iff k p).2 ((isPrefix_iff_prefix p k).1 h).le

theorem prefix_convex (p : Bytes) {a b c : Bytes} (ha : p <+: a) (hc : p <+: c) (hab : a ≤ b) (hbc : b ≤ c) :
    p <+: b := by
  obtain ⟨ra, rfl⟩ := ha
  obtain ⟨rc, rfl⟩ := hc
  induction p generalizing b with
  | nil => exact List.nil_prefix
  | cons x xs ih =>
    cases b with
    | nil => cases List.le_nil.1 hab
    | cons y ys =>
      rw [List.cons_append, List.cons_le_cons_iff] at hab hbc
      rcases hab with h | ⟨rfl, hab⟩
      · rcases hbc with h' | ⟨rfl, _⟩
        · exact absurd h (Nat.lt_asymm h')
        · exact absurd h (Nat.lt_irrefl _)
      · rcases hbc with h' | ⟨_, hbc⟩
        · exact absurd h' (Nat.lt_irrefl _)
        · exact List.cons_prefix_cons.2 ⟨rfl, ih hab hbc⟩

theorem isPrefix_convex (p a b c : Bytes) (ha : isPrefix p a = true) (hc : isPrefix p c = true)
    (hab : ltB b a = false) (hbc : ltB c b = false) : isPrefix p b = true :=
  (isPrefix_iff_prefix p b).2 (prefix_convex p ((isPrefix_iff_prefix p a).1 ha) ((isPrefix_iff_prefix p c).1 hc)
    ((ltB_eq_false_iff b a).1 hab) ((ltB_eq_false_iff c b).1 hbc))

def SortedBy {α : Type} (key : α → Bytes) (l : List α) : Prop := l.Pairwise (fun a b => ltB (key a) (key b) = true)

def SortedNames (l : List Bytes) : Prop := SortedBy id l

theorem not_lt_last {α : Type} (key : α → Bytes) {L : List α} {l : α} (hs : SortedBy key L) (hl : L.getLast? = some l) :
    ∀ p ∈ L, ltB (key l) (key p) = false := by
  obtain ⟨A, rfl⟩ := List.getLast?_eq_some_iff.1 hl
  intro p hp
  rcases List.mem_append.1 hp with hp | hp
  · exact ltB_asymm _ _ ((List.pairwise_append.1 hs).2.2 p hp l (List.mem_singleton_self l))
  · rw [List.mem_singleton.1 hp]; exact ltB_irrefl _

theorem filter_after_last_by {α : Type} (key : α → Bytes) {T A B : List α} {l : α} (hT : T = A ++ l :: B)
    (hs : SortedBy key T) : T.filter (fun x => ltB (key l) (key x)) = B := by
  rw [hT, List.append_cons] at hs ⊢
  have h1 := List.pairwise_append.1 hs
  have hA : (A ++ [l]).filter (fun x => ltB (key l) (key x)) = [] :=
    List.filter_eq_nil_iff.2 fun a ha => ne_true_of_eq_false (not_lt_last key h1.1 List.getLast?_concat a ha)
  rw [List.filter_append, hA, List.filter_eq_self.2 fun b hb => h1.2.2 l List.mem_concat_self b hb, List.nil_append]

theorem filter_after_page_by {α : Type} (key : α → Bytes) (T : List α) (n : Nat) (l : α) (hs : SortedBy key T)
    (hl : (T.take n).getLast? = some l) : T.filter (fun x => ltB (key l) (key x)) = T.drop n := by
  obtain ⟨A, hA⟩ : ∃ A, T.take n = A ++ [l] := List.getLast?_eq_some_iff.1 hl
  have hT : T = A ++ l :: T.drop n := by rw [List.append_cons, ← hA, List.take_append_drop]
  exact filter_after_last_by key hT hs

theorem afterStart_excl (l x : Bytes) : afterStart l false x = ltB l x := by simp [afterStart]

theorem afterStart_of_lt {s l x : Bytes} {i : Bool} (h : afterStart s i l = true) (hlx : ltB l x = true) :
    afterStart s i x = true := by
  unfold afterStart at h ⊢
  rcases Bool.or_eq_true_iff.1 h with h | h
  · rw [ltB_trans s l x h hlx]; rfl
  · rw [← of_decide_eq_true (Bool.and_eq_true_iff.1 h).2, hlx]; rfl

/-- the resume fact of every listing loop: among the items `q` of a key-sorted list, listing again (exclusively)
    from the last item of a non-empty page gives what lay behind the page -/
theorem filter_after_resume {α : Type} (key : α → Bytes) (q : α → Bool) {E : List α} (hs : SortedBy key E) (s : Bytes)
    (i : Bool) {n : Nat} {l : α} (hl : ((E.filter fun x => q x && afterStart s i (key x)).take n).getLast? = some l) :
    E.filter (fun x => q x && afterStart (key l) false (key x)) =
      (E.filter fun x => q x && afterStart s i (key x)).drop n := by
  rw [← filter_after_page_by key _ n l (List.Pairwise.filter _ hs) hl, List.filter_filter]
  have hsl := (Bool.and_eq_true_iff.1 (List.mem_filter.1 (List.mem_of_mem_take (List.mem_of_getLast? hl))).2).2
  apply List.filter_congr
  intro x _
  rw [afterStart_excl]
  cases hlx : ltB (key l) (key x) with
  | false => exact Bool.and_false _
  | true => rw [afterStart_of_lt hsl hlx]; rfl

theorem getLast?_of_ne_nil {α : Type} {l : List α} (h : l ≠ []) : ∃ x, l.getLast? = some x :=
  ⟨_, List.getLast?_eq_some_getLast h⟩

theorem filter_take_append_drop {α : Type} (p : α → Bool) (R : List α) (n : Nat) :
    (R.take n).filter p ++ (R.drop n).filter p = R.filter p := by
  rw [← List.filter_append, List.take_append_drop]

/-- a non-empty page leaves strictly less behind: the measure of all the refill loops -/
theorem length_drop_lt {α : Type} {S T : List α} {n f : Nat} (hT : T = S.drop n) (hne : S.take n ≠ [])
    (hlen : S.length < f + 1) : T.length < f := by
  have h := mt List.take_eq_nil_iff.2 hne
  rw [hT, List.length_drop]
  exact Nat.lt_of_lt_of_le
    (Nat.sub_lt (List.length_pos_iff.2 fun h0 => h (Or.inr h0)) (Nat.pos_of_ne_zero fun h0 => h (Or.inl h0)))
    (Nat.le_of_lt_succ hlen)

def SortedDb (db : Db) : Prop := db.Pairwise (fun a b => ltB a.key b.key = true)

theorem scan_eq (nameOf : Bytes → Bytes) (dp start : Bytes) (incl : Bool) (S : Db) (limit : Nat) :
    scan nameOf dp start incl S limit =
      (((S.takeWhile fun e => isPrefix dp e.key).filter fun e =>
          decide (nameOf e.key ≠ []) && !decide (nameOf e.key = start ∧ incl = false)).map
        fun e => (nameOf e.key, e.expired)).take limit := by
  induction S generalizing limit with
  | nil => simp [scan]
  | cons e rest ih =>
    unfold scan
    by_cases hp : isPrefix dp e.key = true
    · rw [if_pos hp, List.takeWhile_cons_of_pos (p := fun e : Ent => isPrefix dp e.key) hp]
      by_cases h1 : nameOf e.key = []
      · rw [if_pos h1, List.filter_cons_of_neg (by rw [decide_eq_false (not_not_intro h1)]; exact Bool.false_ne_true)]
        exact ih limit
      · rw [if_neg h1]
        by_cases h2 : nameOf e.key = start ∧ incl = false
        · rw [if_pos h2,
            List.filter_cons_of_neg (by rw [decide_eq_true h2, Bool.not_true, Bool.and_false]; exact Bool.false_ne_true)]
          exact ih limit
        · rw [if_neg h2, List.filter_cons_of_pos (by rw [decide_eq_true h1, decide_eq_false h2]; rfl), List.map_cons]
          cases limit with
          | zero => rfl
          | succ l => rw [List.take_succ_cons]; exact congrArg _ (ih l)
    · rw [if_neg hp, List.takeWhile_cons_of_neg (p := fun e : Ent => isPrefix dp e.key) hp, List.filter_nil, List.map_nil,
        List.take_nil]

theorem span_of_closed {α : Type} (P : α → Bool) {L : List α} (h : L.Pairwise fun a b => P b = true → P a = true) :
    L.takeWhile P = L.filter P ∧ L.dropWhile P = L.filter fun a => !P a := by
  induction L with
  | nil => exact ⟨rfl, rfl⟩
  | cons x L ih =>
    obtain ⟨hx, hL⟩ := List.pairwise_cons.1 h
    cases hp : P x with
    | true =>
      rw [List.takeWhile_cons_of_pos hp, List.dropWhile_cons_of_pos hp, List.filter_cons_of_pos hp,
        List.filter_cons_of_neg (by exact Bool.not_not_eq.2 hp), (ih hL).1, (ih hL).2]
      exact ⟨rfl, rfl⟩
    | false =>
      have hn : ¬ P x = true := ne_true_of_eq_false hp
      have hall : ∀ y ∈ L, P y = false := fun y hy => Bool.eq_false_iff.2 (mt (hx y hy) hn)
      rw [List.takeWhile_cons_of_neg hn, List.dropWhile_cons_of_neg hn, List.filter_cons_of_neg hn,
        List.filter_cons_of_pos (by exact Bool.not_eq_true' _ ▸ hp),
        List.filter_eq_nil_iff.2 fun y hy => ne_true_of_eq_false (hall y hy),
        List.filter_eq_self.2 fun y hy => Bool.not_eq_true' _ ▸ hall y hy]
      exact ⟨rfl, rfl⟩

theorem seek_takeWhile (db : Db) (hs : SortedDb db) (frm K : Bytes) (hfrom : ltB frm K = false) :
    (seek frm db).takeWhile (fun e => isPrefix K e.key) =
      db.filter (fun e => !ltB e.key frm && isPrefix K e.key) := by
  unfold seek
  rw [(span_of_closed (fun e : Ent => ltB e.key frm) (hs.imp fun hab hb => ltB_trans _ _ _ hab hb)).2,
    (span_of_closed (fun e : Ent => isPrefix K e.key) ?_).1, List.filter_filter]
  · congr 1; funext e; exact Bool.and_comm ..
  · -- behind the seek position every key is at least `K`, and the keys with prefix `K` are convex
    refine (List.Pairwise.filter _ hs).imp_of_mem fun {a b} ha _ hab hb => ?_
    have hge : ltB a.key frm = false := Bool.not_eq_true' _ ▸ (List.mem_filter.1 ha).2
    exact isPrefix_convex K K a.key b.key (isPrefix_refl K) hb (ltB_le_trans K frm a.key hfrom hge) (ltB_asymm _ _ hab)

/-- the directory's children as the store holds them: (name, expired) in key order -/
def children (nameOf : Bytes → Bytes) (dk : Bytes) (db : Db) : List (Bytes × Bool) :=
  (db.filter fun e => isPrefix dk e.key).map fun e => (nameOf e.key, e.expired)

/-- what a store listing must select: non-empty names with the prefix, from the start position on -/
def sel (start : Bytes) (incl : Bool) (pfx : Bytes) (p : Bytes × Bool) : Bool :=
  decide (p.1 ≠ []) && isPrefix pfx p.1 && afterStart start incl p.1

def selected (nameOf : Bytes → Bytes) (dk : Bytes) (db : Db) (start : Bytes) (incl : Bool) (pfx : Bytes) : List (Bytes × Bool) :=
  (children nameOf dk db).filter (sel start incl pfx)

theorem sel_iff {start : Bytes} {incl : Bool} {pfx : Bytes} {p : Bytes × Bool} :
    sel start incl pfx p = true ↔ p.1 ≠ [] ∧ isPrefix pfx p.1 = true ∧ afterStart start incl p.1 = true := by
  simp only [sel, Bool.and_eq_true, decide_eq_true_eq, and_assoc]

/-- the loop's two start tests (seek position, exclusive-start skip) are the specification's `afterStart`,
    on non-empty names with the prefix -/
theorem afterStart_eq_scan (start pfx n : Bytes) (incl : Bool) (hp : isPrefix pfx n = true) (hn : n ≠ []) :
    afterStart start incl n = (!ltB n (if start = [] then pfx else start) && !decide (n = start ∧ incl = false)) := by
  unfold afterStart
  by_cases hs : start = []
  · subst hs
    simp [not_lt_of_isPrefix pfx n hp, (ltB_nil n).2 hn, hn]
  · rw [if_neg hs]
    cases h1 : ltB n start with
    | true =>
      have h3 : n ≠ start := Std.ne_of_lt ((ltB_iff_lt n start).1 h1)
      simp [ltB_asymm _ _ h1, h3]
    | false =>
      cases h2 : ltB start n with
      | true =>
        have h3 : n ≠ start := (Std.ne_of_lt ((ltB_iff_lt start n).1 h2)).symm
        simp [h3]
      | false =>
        have := ltB_total _ _ h1 h2
        subst this
        cases incl <;> simp

/-- one entry: the seek position, the stop test and the skips of the loop body select what `sel` selects -/
theorem scan_tests_eq_sel (nameOf : Bytes → Bytes) (dk start pfx : Bytes) (incl : Bool) (e : Ent)
    (hwf : isPrefix dk e.key = true → e.key = dk ++ nameOf e.key) :
    ((decide (nameOf e.key ≠ []) && !decide (nameOf e.key = start ∧ incl = false)) &&
        (!ltB e.key (dk ++ if start = [] then pfx else start) && isPrefix (dk ++ pfx) e.key)) =
      (sel start incl pfx (nameOf e.key, e.expired) && isPrefix dk e.key) := by
  cases hd : isPrefix dk e.key with
  | false =>
    have : isPrefix (dk ++ pfx) e.key = false :=
      Bool.eq_false_iff.2 (mt (isPrefix_append dk pfx e.key) (ne_true_of_eq_false hd))
    rw [this, Bool.and_false, Bool.and_false, Bool.and_false]
  | true =>
    have hk := hwf hd
    unfold sel
    dsimp only
    generalize nameOf e.key = n at hk ⊢
    rw [hk, ltB_append_left, isPrefix_append_left]
    cases hp : isPrefix pfx n with
    | false => rw [Bool.and_false, Bool.and_false, Bool.and_false, Bool.false_and, Bool.false_and]
    | true =>
      by_cases hn : n = []
      · rw [decide_eq_false (not_not_intro hn)]; rfl
      · rw [afterStart_eq_scan start pfx n incl hp hn, decide_eq_true hn, Bool.true_and, Bool.true_and, Bool.and_true,
          Bool.and_true, Bool.and_comm]
        rfl

/-- on every sorted database with well-formed keys (`KeysWF`) a store's `ListDirectoryPrefixedEntries` returns exactly the
    first `limit` children selected by (prefix, start, inclusive), in name order — provided the
    start name is empty or not before the prefix -/
theorem storeList_exact (nameOf : Bytes → Bytes) (dk : Bytes) (db : Db) (start : Bytes) (incl : Bool) (limit : Nat)
    (pfx : Bytes) (hs : SortedDb db) (hwf : KeysWF nameOf dk db)
    (hstart : start = [] ∨ ltB start pfx = false) :
    storeList nameOf dk db start incl limit pfx = (selected nameOf dk db start incl pfx).take limit := by
  have hfrom : ltB (if start = [] then pfx else start) pfx = false := by
    by_cases h0 : start = []
    · rw [if_pos h0]; exact ltB_irrefl pfx
    · rw [if_neg h0]; exact hstart.resolve_left h0
  unfold storeList selected children
  rw [← apply_ite (dk ++ ·), scan_eq, seek_takeWhile db hs _ (dk ++ pfx) (by rw [ltB_append_left]; exact hfrom),
    List.filter_filter, List.filter_map, List.filter_filter]
  exact congrArg (List.take limit) (congrArg (List.map _)
    (List.filter_congr fun e he => scan_tests_eq_sel nameOf dk start pfx incl e (hwf e he)))

theorem storeList_noprefix (nameOf : Bytes → Bytes) (dk : Bytes) (db : Db) (s : Bytes) (i : Bool) (limit : Nat) (hs : SortedDb db)
    (hwf : KeysWF nameOf dk db) :
    storeList nameOf dk db s i limit [] = (selected nameOf dk db s i []).take limit :=
  storeList_exact nameOf dk db s i limit [] hs hwf (Or.inr (ltB_nil_right s))

theorem children_sorted (nameOf : Bytes → Bytes) (dk : Bytes) (db : Db) (hs : SortedDb db)
    (hwf : KeysWF nameOf dk db) :
    SortedBy (fun p : Bytes × Bool => p.1) (children nameOf dk db) := by
  unfold children SortedBy
  rw [List.pairwise_map]
  have h1 : (db.filter fun e => isPrefix dk e.key).Pairwise (fun a b => ltB a.key b.key = true) :=
    List.Pairwise.filter _ hs
  refine List.Pairwise.imp_of_mem ?_ h1
  intro a b ha hb hab
  have ha' := List.mem_filter.1 ha
  have hb' := List.mem_filter.1 hb
  rw [hwf a ha'.1 ha'.2, hwf b hb'.1 hb'.2, ltB_append_left] at hab
  exact hab

theorem selected_length_le (nameOf : Bytes → Bytes) (dk : Bytes) (db : Db) (start : Bytes) (incl : Bool) (pfx : Bytes) :
    (selected nameOf dk db start incl pfx).length ≤ db.length := by
  unfold selected children
  refine Nat.le_trans (List.length_filter_le _ _) ?_
  rw [List.length_map]
  exact List.length_filter_le _ _

theorem lastName_eq {page : List (Bytes × Bool)} {l : Bytes × Bool} (h : page.getLast? = some l) : lastName page = l.1 := by
  unfold lastName; rw [h]

/-- a page's last name carries the prefix, so it is a start name the native stores resume from correctly -/
theorem last_not_before_prefix {nameOf : Bytes → Bytes} {dk : Bytes} {db : Db} {start : Bytes} {incl : Bool} {pfx : Bytes} {n : Nat}
    (hne : (selected nameOf dk db start incl pfx).take n ≠ []) :
    ltB (lastName ((selected nameOf dk db start incl pfx).take n)) pfx = false := by
  obtain ⟨l, hl⟩ := getLast?_of_ne_nil hne
  rw [lastName_eq hl]
  exact not_lt_of_isPrefix pfx l.1 (sel_iff.1 (List.mem_filter.1 (List.mem_of_mem_take (List.mem_of_getLast? hl))).2).2.1

theorem selected_filter_prefix (nameOf : Bytes → Bytes) (dk : Bytes) (db : Db) (s : Bytes) (i : Bool) (pfx : Bytes) :
    (selected nameOf dk db s i []).filter (fun p => isPrefix pfx p.1) = selected nameOf dk db s i pfx := by
  unfold selected
  rw [List.filter_filter]
  apply List.filter_congr
  intro x _
  simp only [sel, isPrefix_nil]
  cases decide (x.1 ≠ []) <;> cases isPrefix pfx x.1 <;> cases afterStart s i x.1 <;> rfl

/-- the names of a selection are the specification's filters of the names -/
theorem map_fst_filter_sel (start : Bytes) (incl : Bool) (pfx : Bytes) (C : List (Bytes × Bool)) :
    (C.filter (sel start incl pfx)).map (·.1) =
      (((C.map (·.1)).filter fun n => decide (n ≠ [])).filter (afterStart start incl)).filter (isPrefix pfx) := by
  rw [List.filter_filter, List.filter_filter, List.filter_map]
  congr 2
  funext x
  simp only [Function.comp, sel]
  cases decide (x.1 ≠ []) <;> cases isPrefix pfx x.1 <;> cases afterStart start incl x.1 <;> rfl

/-- listing again from a non-empty page's `lastFileName` (exclusive) resumes exactly behind the page -/
theorem selected_after {nameOf : Bytes → Bytes} {dk : Bytes} {db : Db} {start : Bytes} {incl : Bool} {pfx : Bytes} {n : Nat}
    (hs : SortedDb db) (hwf : KeysWF nameOf dk db)
    (hne : (selected nameOf dk db start incl pfx).take n ≠ []) :
    selected nameOf dk db (lastName ((selected nameOf dk db start incl pfx).take n)) false pfx =
      (selected nameOf dk db start incl pfx).drop n := by
  obtain ⟨l, hl⟩ := getLast?_of_ne_nil hne
  rw [lastName_eq hl]
  -- `sel start incl pfx p` unfolds to `q p && afterStart start incl p.1` for this `q`
  exact filter_after_resume (fun p : Bytes × Bool => p.1) (fun p => decide (p.1 ≠ []) && isPrefix pfx p.1)
    (children_sorted nameOf dk db hs hwf) start incl hl

/-- abstract form of `doListValidEntries` / the loop in `StreamListDirectoryEntries` over the list `R`
    of items still ahead: take a page of `n`, keep some, refill with the number skipped -/
def refill {α : Type} (keep : α → Bool) : Nat → List α → Nat → List α
  | 0, _, _ => []
  | fuel + 1, R, n =>
    let page := R.take n
    let out := page.filter keep
    let missed := page.length - out.length
    if missed = 0 then out else out ++ refill keep fuel (R.drop n) missed

theorem refill_exact {α : Type} {keep : α → Bool} {fuel : Nat} {R : List α} {n : Nat} (hlen : R.length < fuel) :
    refill keep fuel R n = (R.filter keep).take n := by
  induction fuel generalizing R n with
  | zero => exact absurd hlen (Nat.not_lt_zero _)
  | succ f ih =>
    unfold refill
    simp only
    have hout : ((R.take n).filter keep).length ≤ n :=
      Nat.le_trans (List.length_filter_le _ _) (List.length_take_le n R)
    -- the number still wanted and the number missed differ only on a short page, and nothing lies behind that
    have hrest : ((R.drop n).filter keep).take (n - ((R.take n).filter keep).length) =
        ((R.drop n).filter keep).take ((R.take n).length - ((R.take n).filter keep).length) := by
      by_cases hfull : n ≤ R.length
      · rw [List.length_take, Nat.min_eq_left hfull]
      · rw [List.drop_eq_nil_of_le (Nat.le_of_not_le hfull), List.filter_nil, List.take_nil, List.take_nil]
    have hsplit : (R.filter keep).take n = (R.take n).filter keep ++
        ((R.drop n).filter keep).take ((R.take n).length - ((R.take n).filter keep).length) := by
      rw [← filter_take_append_drop keep R n, List.take_append, List.take_of_length_le hout, hrest]
    rw [hsplit]
    by_cases hm : (R.take n).length - ((R.take n).filter keep).length = 0
    · rw [if_pos hm, hm, List.take_zero, List.append_nil]
    · rw [if_neg hm, ih (length_drop_lt rfl (fun h => hm (by rw [h]; rfl)) hlen)]

/-- neither `*` (42) nor `?` (63) occurs -/
def Literal (lit : Bytes) : Prop := ∀ c ∈ lit, c ≠ 42 ∧ c ≠ 63

theorem glob_literal (lit rest : Bytes) (h : Literal lit) : ∀ n : Bytes,
    glob (lit ++ rest) n = (isPrefix lit n && glob rest (n.drop lit.length)) := by
  induction lit with
  | nil => intro n; simp [isPrefix_nil]
  | cons c lit ih =>
    intro n
    have hc := h c List.mem_cons_self
    have ih' := ih (fun d hd => h d (List.mem_cons_of_mem _ hd))
    cases n with
    | nil => simp [glob, isPrefix, hc.1]
    | cons x n' =>
      simp only [List.cons_append, glob, hc.1, if_false, hc.2, false_or, isPrefix, List.length_cons, List.drop_succ_cons]
      rw [ih' n']
      by_cases hcx : c = x <;> simp [hcx]

theorem findIdx?_some_split (p : Nat → Bool) (l : Bytes) (i : Nat) (h : l.findIdx? p = some i) :
    (∀ x ∈ l.take i, p x = false) ∧ l.drop i ≠ [] := by
  obtain ⟨hi, _, hlt⟩ := List.findIdx?_eq_some_iff_getElem.1 h
  refine ⟨fun x hx => ?_, fun h0 => Nat.not_le_of_lt hi (List.drop_eq_nil_iff.1 h0)⟩
  obtain ⟨j, hj, rfl⟩ := List.mem_take_iff_getElem.1 hx
  exact Bool.eq_false_iff.2 (hlt j (Nat.lt_of_lt_of_le hj (Nat.min_le_left _ _)))

/-- patterns the filer splits correctly: a wildcard exists and no `?` precedes the first `*` -/
def GoodPattern (p : Bytes) : Prop := hasWildcard p = true ∧ questionBeforeStar p = false

theorem splitPattern_good (p : Bytes) (h : GoodPattern p) :
    (splitPattern p).1 ++ (splitPattern p).2 = p ∧ Literal (splitPattern p).1 ∧ (splitPattern p).2 ≠ [] := by
  unfold splitPattern
  cases h42 : p.findIdx? (· = 42) with
  | some i =>
    simp only
    obtain ⟨h1, h2⟩ := findIdx?_some_split _ p i h42
    refine ⟨List.take_append_drop i p, ?_, h2⟩
    intro c hc
    have hq := h.2
    unfold questionBeforeStar at hq
    rw [h42] at hq
    simp only [List.any_eq_false, decide_eq_true_eq] at hq
    exact ⟨of_decide_eq_false (h1 c hc), hq c hc⟩
  | none =>
    simp only
    have hno42 : ∀ x ∈ p, ¬ x = 42 := fun x hx => of_decide_eq_false (List.findIdx?_eq_none_iff.1 h42 x hx)
    cases h63 : p.findIdx? (· = 63) with
    | some i =>
      simp only
      obtain ⟨h1, h2⟩ := findIdx?_some_split _ p i h63
      refine ⟨List.take_append_drop i p, ?_, h2⟩
      intro c hc
      exact ⟨hno42 c (List.mem_of_mem_take hc), of_decide_eq_false (h1 c hc)⟩
    | none =>
      have hno63 : ∀ x ∈ p, ¬ x = 63 := fun x hx => of_decide_eq_false (List.findIdx?_eq_none_iff.1 h63 x hx)
      have := h.1
      unfold hasWildcard at this
      simp only [List.any_eq_true, Bool.or_eq_true, decide_eq_true_eq] at this
      obtain ⟨x, hx, h' | h'⟩ := this
      · exact absurd h' (hno42 x hx)
      · exact absurd h' (hno63 x hx)

theorem splitPattern_nil : splitPattern [] = ([], []) := by decide

/-- requests inside the property's domain and outside the recorded `splitPattern` defects -/
def GoodReq (r : Req) : Prop := (r.pattern = [] ∨ (r.pfx = [] ∧ GoodPattern r.pattern))

theorem effPrefix_of_pattern_nil (r : Req) (h : r.pattern = []) : effPrefix r = r.pfx := by
  unfold effPrefix; rw [h, splitPattern_nil]; simp

theorem passes_eq (pfx rest excl n : Bytes) :
    passes pfx rest excl n =
      (!(decide (excl ≠ []) && glob excl n) && (decide (rest = []) || glob rest (n.drop pfx.length))) := by
  simp only [passes, Bool.if_false_left, Bool.decide_and, Bool.decide_eq_true]
  congr 1
  by_cases h : rest = [] <;> cases glob rest (n.drop pfx.length) <;> simp [h]

theorem passes_nil (pfx n : Bytes) : passes pfx [] [] n = true := by
  unfold passes; simp

/-- for a `GoodReq` request the filer's per-entry test, taken together with the store's test for the effective
    prefix, is the specification's `matchesReq`, on every name -/
theorem passes_iff_matches (r : Req) (h : GoodReq r) (n : Bytes) :
    (passes (effPrefix r) (splitPattern r.pattern).2 r.excl n && isPrefix (effPrefix r) n) = matchesReq r n := by
  rw [passes_eq]
  unfold matchesReq
  generalize (decide (r.excl ≠ []) && glob r.excl n) = e
  rcases h with h | ⟨hp, hg⟩
  · rw [effPrefix_of_pattern_nil r h, h, splitPattern_nil]
    cases isPrefix r.pfx n <;> cases e <;> rfl
  · obtain ⟨hcat, hlit, hrest⟩ := splitPattern_good r.pattern hg
    have heff : effPrefix r = (splitPattern r.pattern).1 := by
      unfold effPrefix
      by_cases h1 : (splitPattern r.pattern).1 = []
      · rw [if_neg (not_not_intro h1), hp, h1]
      · rw [if_pos h1]
    have hpne : r.pattern ≠ [] := by
      intro h0; rw [h0, splitPattern_nil] at hrest; exact hrest rfl
    -- the literal part is compared as a prefix, the rest is matched behind it
    have hglob := glob_literal _ (splitPattern r.pattern).2 hlit n
    rw [hcat] at hglob
    rw [heff, hp, hglob, decide_eq_false hrest, decide_eq_false hpne]
    cases isPrefix (splitPattern r.pattern).1 n <;>
      cases glob (splitPattern r.pattern).2 (n.drop (splitPattern r.pattern).1.length) <;> cases e <;> rfl

theorem delExpired_eq_filter (dk : Bytes) (page : List (Bytes × Bool)) (db : Db) :
    delExpired dk page db = db.filter (fun e => !(page.any fun p => p.2 && decide (e.key = dk ++ p.1))) := by
  unfold delExpired
  induction page generalizing db with
  | nil => simp only [List.foldl_nil, List.any_nil, Bool.not_false]; exact (List.filter_eq_self.2 (fun _ _ => rfl)).symm
  | cons p ps ih =>
    simp only [List.foldl_cons]
    rw [ih]
    by_cases hp : p.2 = true
    · simp only [hp, if_true, dbDel, List.filter_filter]
      apply List.filter_congr
      intro e _
      by_cases hk : e.key = dk ++ p.1 <;> simp [hp, hk]
    · have hp' : p.2 = false := eq_false_of_ne_true hp
      simp only [hp', Bool.false_eq_true, if_false]
      apply List.filter_congr
      intro e _
      simp [hp']

theorem delExpired_sorted (dk : Bytes) (page : List (Bytes × Bool)) {db : Db} (hs : SortedDb db) :
    SortedDb (delExpired dk page db) := by
  rw [delExpired_eq_filter]; exact List.Pairwise.filter _ hs

theorem delExpired_mem {dk : Bytes} {page : List (Bytes × Bool)} {db : Db} {e : Ent} (h : e ∈ delExpired dk page db) : e ∈ db := by
  rw [delExpired_eq_filter] at h; exact (List.mem_filter.1 h).1

theorem delExpired_length_le (dk : Bytes) (page : List (Bytes × Bool)) (db : Db) : (delExpired dk page db).length ≤ db.length := by
  rw [delExpired_eq_filter]; exact List.length_filter_le _ _

theorem delExpired_live {dk : Bytes} {page : List (Bytes × Bool)} {db : Db} (h : ∀ p ∈ page, p.2 = false) :
    delExpired dk page db = db := by
  rw [delExpired_eq_filter]
  refine List.filter_eq_self.2 fun e _ => ?_
  rw [Bool.not_eq_eq_eq_not, Bool.not_true, List.any_eq_false]
  intro p hp
  rw [h p hp, Bool.false_and]
  exact Bool.false_ne_true

theorem page_live {nameOf : Bytes → Bytes} {dk : Bytes} {db : Db} (hlive : ∀ p ∈ children nameOf dk db, p.2 = false)
    (start : Bytes) (incl : Bool) (pfx : Bytes) (n : Nat) : ∀ p ∈ (selected nameOf dk db start incl pfx).take n, p.2 = false :=
  fun p hp => hlive p (List.mem_filter.1 (List.mem_of_mem_take hp)).1

/-- what the refill loops need from `doListDirectoryEntries` (directory without expired entries):
    the page is the first `limit` selected children, the database is unchanged, and after a non-empty page
    listing again from the returned `lastFileName` (exclusive) resumes exactly after the page.
    `Ok` = the start names for which this holds (native stores: empty or not before the prefix). -/
def DirListLive (k : Kind) (dk pfx : Bytes) (db : Db) (Ok : Bytes → Prop) : Prop :=
  ∀ (start : Bytes) (incl : Bool) (limit : Nat), Ok start →
    ∃ last, dirList k dk db start incl limit pfx = ((selected k.nameOf dk db start incl pfx).take limit, last, db) ∧
      ((selected k.nameOf dk db start incl pfx).take limit ≠ [] →
        selected k.nameOf dk db last false pfx = (selected k.nameOf dk db start incl pfx).drop limit ∧ Ok last)

/-- native stores (and any store when no name prefix is asked for) -/
theorem dirListLive_native (k : Kind) (dk pfx : Bytes) (db : Db) (hnat : k.native = true ∨ pfx = []) (hs : SortedDb db)
    (hwf : KeysWF k.nameOf dk db)
    (hlive : ∀ p ∈ children k.nameOf dk db, p.2 = false) :
    DirListLive k dk pfx db (fun s => s = [] ∨ ltB s pfx = false) := by
  intro start incl limit hstart
  refine ⟨lastName ((selected k.nameOf dk db start incl pfx).take limit), ?_,
    fun hne => ⟨selected_after hs hwf hne, Or.inr (last_not_before_prefix hne)⟩⟩
  unfold dirList
  rw [if_pos hnat]
  simp only
  rw [storeList_exact k.nameOf dk db start incl limit pfx hs hwf hstart, delExpired_live (page_live hlive start incl pfx limit)]

/-- without expired entries `doListValidEntries` is a single call of `doListDirectoryEntries` -/
theorem listValid_live (k : Kind) (dk pfx : Bytes) (db : Db) {Ok : Bytes → Prop} (hdl : DirListLive k dk pfx db Ok)
    (hlive : ∀ p ∈ children k.nameOf dk db, p.2 = false) (fuel : Nat) (start : Bytes) (incl : Bool) (limit : Nat)
    (hok : Ok start) :
    ∃ last, listValid k dk pfx (fuel + 1) db start incl limit =
        (((selected k.nameOf dk db start incl pfx).take limit).map (·.1), last, db) ∧
      ((selected k.nameOf dk db start incl pfx).take limit ≠ [] →
        selected k.nameOf dk db last false pfx = (selected k.nameOf dk db start incl pfx).drop limit ∧ Ok last) := by
  obtain ⟨last, hd, hres⟩ := hdl start incl limit hok
  refine ⟨last, ?_, hres⟩
  have hl := page_live hlive start incl pfx limit
  have h0 : ((selected k.nameOf dk db start incl pfx).take limit).countP (·.2) = 0 :=
    List.countP_eq_zero.2 fun p hp => ne_true_of_eq_false (hl p hp)
  have hf : ((selected k.nameOf dk db start incl pfx).take limit).filter (fun p => !p.2) =
      (selected k.nameOf dk db start incl pfx).take limit :=
    List.filter_eq_self.2 fun p hp => Bool.not_eq_true' _ ▸ hl p hp
  unfold listValid
  rw [hd]
  simp only
  rw [if_pos h0, hf]

/-- without expired entries the missed-count loop of `StreamListDirectoryEntries` over any store path
    that satisfies `DirListLive`, started at an `Ok` name, is `refill` over the selected names, hence (`refill_exact`) delivers the first
    `limit` of them that pass the pattern tests -/
theorem streamLoop_of_dirListLive (k : Kind) (dk pfx rest excl : Bytes) (db : Db) {Ok : Bytes → Prop}
    (hdl : DirListLive k dk pfx db Ok) (hlive : ∀ p ∈ children k.nameOf dk db, p.2 = false) :
    ∀ (fuel : Nat) (start : Bytes) (incl : Bool) (limit : Nat), Ok start →
      (selected k.nameOf dk db start incl pfx).length < fuel →
      (streamLoop k dk pfx rest excl fuel db start incl limit).map (·.1) =
        some (refill (passes pfx rest excl) fuel ((selected k.nameOf dk db start incl pfx).map (·.1)) limit) := by
  intro fuel
  induction fuel with
  | zero => intro _ _ _ _ h; exact absurd h (Nat.not_lt_zero _)
  | succ f ih =>
    intro start incl limit hstart hlen
    obtain ⟨last, hv, hres⟩ := listValid_live k dk pfx db hdl hlive (db.length + 1) start incl limit hstart
    unfold streamLoop refill
    rw [show db.length + 2 = db.length + 1 + 1 from rfl, hv]
    simp only [List.map_take]
    generalize hS : selected k.nameOf dk db start incl pfx = S at hlen hres ⊢
    by_cases hm : ((S.map (·.1)).take limit).length - (((S.map (·.1)).take limit).filter (passes pfx rest excl)).length = 0
    · rw [if_pos hm, if_pos hm]; rfl
    · rw [if_neg hm, if_neg hm]
      have hne : S.take limit ≠ [] := by
        intro h; rw [← List.map_take, h] at hm; exact hm rfl
      obtain ⟨hnext, hok⟩ := hres hne
      have := ih last false (((S.map (·.1)).take limit).length - (((S.map (·.1)).take limit).filter (passes pfx rest excl)).length)
        hok (length_drop_lt hnext hne hlen)
      rw [hnext, List.map_drop] at this
      generalize streamLoop k dk pfx rest excl f db last false _ = t at this ⊢
      cases t with
      | none => cases this
      | some t =>
        simp only [Option.map_some, Option.some.injEq] at this
        simp only [Option.map_some, this]

/-- the same over a native store (or without a name prefix) -/
theorem streamLoop_live (k : Kind) (dk pfx rest excl : Bytes) (db : Db)
    (hnat : k.native = true ∨ pfx = []) (hs : SortedDb db)
    (hwf : ∀ e ∈ db, isPrefix dk e.key = true → e.key = dk ++ k.nameOf e.key)
    (hlive : ∀ p ∈ children k.nameOf dk db, p.2 = false) :
    ∀ (fuel : Nat) (start : Bytes) (incl : Bool) (limit : Nat), (start = [] ∨ ltB start pfx = false) →
      (selected k.nameOf dk db start incl pfx).length < fuel →
      (streamLoop k dk pfx rest excl fuel db start incl limit).map (·.1) =
        some (refill (passes pfx rest excl) fuel ((selected k.nameOf dk db start incl pfx).map (·.1)) limit) :=
  streamLoop_of_dirListLive k dk pfx rest excl db (dirListLive_native k dk pfx db hnat hs hwf hlive) hlive

theorem drop_of_take_eq_nil {α : Type} {L : List α} {n : Nat} (h : L.take n = []) : L.drop n = L := by
  rcases List.take_eq_nil_iff.1 h with h | h
  · rw [h]; rfl
  · rw [h, List.drop_nil]

theorem length_take_lt {α : Type} {A : List α} {n : Nat} : (A.take n).length < n ↔ A.length < n := by
  constructor
  · intro h
    exact Nat.lt_of_not_le fun hle => Nat.lt_irrefl _ (by rwa [List.length_take_of_le hle] at h)
  · intro h
    rwa [List.take_of_length_le (Nat.le_of_lt h)]

/-- The loop of `prefixFilterEntries` (the generic path, with the `lastFileName` repair as the model has it) over a
    directory without expired entries. Entered with the unfiltered page `take limit (selected s i [])`, `need`
    entries still wanted (none if `limit` is 0) and `last` the lastFileName so far, it emits the first `need` selected children with the prefix.
    The lastFileName it returns resumes right behind them when something was emitted or a page was examined to
    its end. A call that stops at once (nothing wanted, or an empty page) returns `last` itself, which resumes
    correctly only if `last` (exclusive) selects what `(s, i)` selects: the first disjunct, and what the
    recursive call, entered at the last name of the page just examined, provides. -/
theorem prefixFilterLoop_live (nameOf : Bytes → Bytes) (dk pfx : Bytes) (limit : Nat) (db : Db) (hs : SortedDb db)
    (hwf : KeysWF nameOf dk db)
    (hlive : ∀ p ∈ children nameOf dk db, p.2 = false) :
    ∀ (fuel : Nat) (s : Bytes) (i : Bool) (need : Nat) (last : Bytes), (selected nameOf dk db s i []).length < fuel →
      (0 < limit ∨ need = 0) →
      ∃ last', prefixFilterLoop nameOf dk pfx limit fuel db ((selected nameOf dk db s i []).take limit) need last =
          ((selected nameOf dk db s i pfx).take need, last', db) ∧
        ((selected nameOf dk db last false pfx = selected nameOf dk db s i pfx ∨ (selected nameOf dk db s i pfx).take need ≠ []) →
          selected nameOf dk db last' false pfx = (selected nameOf dk db s i pfx).drop need) := by
  intro fuel
  induction fuel with
  | zero => intro _ _ _ _ h; exact absurd h (Nat.not_lt_zero _)
  | succ f ih =>
    intro s i need last hlen hlim
    unfold prefixFilterLoop
    by_cases hbase : need = 0 ∨ (selected nameOf dk db s i []).take limit = []
    · rw [if_pos hbase]
      have hnil : (selected nameOf dk db s i pfx).take need = [] := by
        rcases hbase with h | h
        · exact List.take_eq_nil_iff.2 (Or.inl h)
        · rcases List.take_eq_nil_iff.1 h with h0 | h0
          · rw [hlim.resolve_left (Nat.not_lt.2 (Nat.le_of_eq h0))]; rfl
          · rw [← selected_filter_prefix, h0, List.filter_nil, List.take_nil]
      exact ⟨last, by rw [hnil], fun hinv => by rw [drop_of_take_eq_nil hnil]; exact hinv.resolve_right fun h => h hnil⟩
    · rw [if_neg hbase]
      have hpne := fun h => hbase (Or.inr h)
      have hdel : delExpired dk ((((selected nameOf dk db s i []).take limit).filter fun p => isPrefix pfx p.1).take need) db = db :=
        delExpired_live fun p hp => page_live hlive s i [] limit p (List.mem_filter.1 (List.mem_of_mem_take hp)).1
      simp only [hdel]
      -- the prefixed selection, cut where the page ends
      have hsplit := (filter_take_append_drop (fun p => isPrefix pfx p.1) (selected nameOf dk db s i []) limit).trans
        (selected_filter_prefix nameOf dk db s i pfx)
      generalize ((selected nameOf dk db s i []).take limit).filter (fun p => isPrefix pfx p.1) = A at hsplit ⊢
      by_cases hshort : (A.take need).length < need
      · -- the page holds too few: refill after its last name, where the rest of the selection resumes
        rw [if_pos hshort]
        have hAl : A.length ≤ need := Nat.le_of_lt (length_take_lt.1 hshort)
        rw [← hsplit, List.take_append, List.drop_append, List.take_of_length_le hAl, List.drop_of_length_le hAl, List.nil_append]
        have hnext := selected_after hs hwf hpne
        obtain ⟨last', heq, hres⟩ := ih (lastName ((selected nameOf dk db s i []).take limit)) false (need - A.length) _
          (length_drop_lt hnext hpne hlen)
          (Or.inl (Nat.pos_of_ne_zero fun h0 => hpne (List.take_eq_nil_iff.2 (Or.inl h0))))
        rw [← selected_filter_prefix nameOf dk db _ false pfx, hnext] at heq hres
        rw [storeList_noprefix nameOf dk db _ false limit hs hwf, hnext, heq]
        exact ⟨last', rfl, fun _ => hres (Or.inl rfl)⟩
      · -- the page holds enough: the last entry handed out is where the selection resumes
        rw [if_neg hshort]
        have hAl : need ≤ A.length := Nat.le_of_not_lt (mt length_take_lt.2 hshort)
        have htake : (selected nameOf dk db s i pfx).take need = A.take need := by
          rw [← hsplit, List.take_append_of_le_length hAl]
        have hne : A.take need ≠ [] := fun h => hbase (Or.inl (by rw [← List.length_take_of_le hAl, h]; rfl))
        rw [← htake] at hne ⊢
        exact ⟨_, rfl, fun _ => selected_after hs hwf hne⟩

/-- the generic path (stores answering `ErrUnsupportedListDirectoryPrefixed`) is a correct
    `doListDirectoryEntries` too, for every start name -/
theorem dirListLive_generic (k : Kind) (dk pfx : Bytes) (db : Db) (hgen : k.native = false) (hpfx : pfx ≠ []) (hs : SortedDb db)
    (hwf : KeysWF k.nameOf dk db)
    (hlive : ∀ p ∈ children k.nameOf dk db, p.2 = false) :
    DirListLive k dk pfx db (fun _ => True) := by
  intro start incl limit _
  have hcond : ¬ (k.native = true ∨ pfx = []) := not_or_intro (ne_true_of_eq_false hgen) hpfx
  unfold dirList
  rw [if_neg hcond]
  simp only
  rw [storeList_noprefix k.nameOf dk db start incl limit hs hwf]
  obtain ⟨last', heq, hres⟩ := prefixFilterLoop_live k.nameOf dk pfx limit db hs hwf hlive (db.length + 2) start incl limit
    (lastName ((selected k.nameOf dk db start incl []).take limit))
    (Nat.lt_succ_of_le (Nat.le_succ_of_le (selected_length_le ..))) (Nat.eq_zero_or_pos limit).symm
  exact ⟨last', heq, fun hne => ⟨hres (Or.inr hne), trivial⟩⟩

theorem selected_delExpired {nameOf : Bytes → Bytes} {dk : Bytes} {db : Db} {start : Bytes} (pfx : Bytes)
    {page : List (Bytes × Bool)} (hwf : KeysWF nameOf dk db)
    (hout : ∀ p ∈ page, ltB start p.1 = false) :
    selected nameOf dk (delExpired dk page db) start false pfx = selected nameOf dk db start false pfx := by
  unfold selected children
  rw [delExpired_eq_filter, List.filter_filter, List.filter_map, List.filter_map, List.filter_filter, List.filter_filter]
  congr 1
  apply List.filter_congr
  intro e he
  simp only [Function.comp]
  cases hP : isPrefix dk e.key with
  | false => simp
  | true =>
    cases hS : sel start false pfx (nameOf e.key, e.expired) with
    | false => simp
    | true =>
      -- a selected entry is after the start, so its key is none of the deleted ones
      have hq : (page.any fun p => p.2 && decide (e.key = dk ++ p.1)) = false := by
        rw [List.any_eq_false]
        intro p hp hcon
        simp only [Bool.and_eq_true, decide_eq_true_eq] at hcon
        have hn : nameOf e.key = p.1 := List.append_cancel_left ((hwf e he hP).symm.trans hcon.2)
        have := (sel_iff.1 hS).2.2
        rw [show (nameOf e.key, e.expired).1 = p.1 from hn, afterStart_excl, hout p hp] at this
        cases this
      simp [hq]

/-- the expired entries of a page lie at or before its last name, so deleting them does not touch what is
    selected after it -/
theorem selected_after_del {nameOf : Bytes → Bytes} {dk : Bytes} {db : Db} {start : Bytes} {incl : Bool} {pfx : Bytes} {n : Nat}
    (hs : SortedDb db) (hwf : KeysWF nameOf dk db)
    (hne : (selected nameOf dk db start incl pfx).take n ≠ []) :
    selected nameOf dk (delExpired dk ((selected nameOf dk db start incl pfx).take n) db)
        (lastName ((selected nameOf dk db start incl pfx).take n)) false pfx =
      (selected nameOf dk db start incl pfx).drop n := by
  obtain ⟨l, hl⟩ := getLast?_of_ne_nil hne
  have hsorted : SortedBy (fun p : Bytes × Bool => p.1) ((selected nameOf dk db start incl pfx).take n) :=
    List.Pairwise.take (List.Pairwise.filter _ (children_sorted nameOf dk db hs hwf))
  rw [← selected_after hs hwf hne, lastName_eq hl]
  exact selected_delExpired pfx hwf (not_lt_last _ hsorted hl)

theorem countP_expired (page : List (Bytes × Bool)) :
    page.countP (·.2) = page.length - (page.filter fun p => !p.2).length := by
  have h : (fun a : Bytes × Bool => decide ¬a.2 = true) = fun p => !p.2 := by
    funext a; cases a.2 <;> rfl
  rw [← List.countP_eq_length_filter, List.length_eq_countP_add_countP (·.2) (l := page), h, Nat.add_sub_cancel]

/-- `doListValidEntries` over a native store (start name empty or not before the prefix), with expired entries being deleted on the way, is
    `refill` keeping the live ones: the names handed on are the first `limit` LIVE selected children -/
theorem listValid_exact (k : Kind) (dk pfx : Bytes) (hnat : k.native = true ∨ pfx = []) :
    ∀ (fuel : Nat) (db : Db) (start : Bytes) (incl : Bool) (limit : Nat), SortedDb db →
      KeysWF k.nameOf dk db → (start = [] ∨ ltB start pfx = false) →
      (selected k.nameOf dk db start incl pfx).length < fuel →
      (listValid k dk pfx fuel db start incl limit).1 =
        (refill (fun p : Bytes × Bool => !p.2) fuel (selected k.nameOf dk db start incl pfx) limit).map (·.1) := by
  intro fuel
  induction fuel with
  | zero => intro _ _ _ _ _ _ _ h; exact absurd h (Nat.not_lt_zero _)
  | succ f ih =>
    intro db start incl limit hs hwf hstart hlen
    unfold listValid refill dirList
    rw [if_pos hnat]
    simp only
    rw [storeList_exact k.nameOf dk db start incl limit pfx hs hwf hstart]
    generalize hS : selected k.nameOf dk db start incl pfx = S at hlen ⊢
    rw [countP_expired]
    by_cases hm : (S.take limit).length - ((S.take limit).filter fun p => !p.2).length = 0
    · rw [if_pos hm, if_pos hm]
    · rw [if_neg hm, if_neg hm]
      have hne : S.take limit ≠ [] := by intro h; rw [h] at hm; exact hm rfl
      subst hS
      have hnext := selected_after_del hs hwf hne
      rw [List.map_append, ← hnext]
      exact congrArg (_ ++ ·) (ih _ _ _ _ (delExpired_sorted dk _ hs) (fun e he => hwf e (delExpired_mem he))
        (Or.inr (last_not_before_prefix hne)) (length_drop_lt hnext hne hlen))

/-- without pattern and exclusion nothing is missed: `StreamListDirectoryEntries` is one call of `doListValidEntries` -/
theorem streamLoop_nofilter {k : Kind} {dk pfx : Bytes} {fuel : Nat} (hfuel : fuel ≠ 0) (db : Db) (start : Bytes) (incl : Bool)
    (limit : Nat) :
    streamLoop k dk pfx [] [] fuel db start incl limit = some (listValid k dk pfx (db.length + 2) db start incl limit) := by
  obtain ⟨f, rfl⟩ := Nat.exists_eq_succ_of_ne_zero hfuel
  unfold streamLoop
  simp only
  rw [List.filter_eq_self.2 fun n _ => passes_nil pfx n, Nat.sub_self, if_pos rfl]

/-- follow the last returned name, page after page (each page is `specList` with an exclusive start) -/
def pages (sorted : List Bytes) (r : Req) : Nat → Bytes → List Bytes
  | 0, _ => []
  | fuel + 1, start =>
    let p := specList sorted { r with start := start, incl := false }
    match p.getLast? with
    | none => []
    | some l => p ++ pages sorted r fuel l

theorem matchesReq_start (r : Req) (s : Bytes) (i : Bool) : matchesReq { r with start := s, incl := i } = matchesReq r := by
  funext n; simp [matchesReq]

theorem specList_excl (sorted : List Bytes) (r : Req) (s : Bytes) :
    specList sorted { r with start := s, incl := false } = ((specAll sorted r).filter (afterStart s false)).take r.limit := by
  unfold specList specAll
  rw [matchesReq_start, List.filter_filter, List.filter_filter]
  congr 2; funext x; exact Bool.and_comm _ _

theorem pages_eq (sorted : List Bytes) (r : Req) (hs : SortedNames sorted) (hlim : 0 < r.limit) :
    ∀ (fuel : Nat) (s : Bytes), ((specAll sorted r).filter (afterStart s false)).length < fuel →
      pages sorted r fuel s = (specAll sorted r).filter (afterStart s false) := by
  have hM : SortedNames (specAll sorted r) := List.Pairwise.filter _ hs
  intro fuel
  induction fuel with
  | zero => intro s h; exact absurd h (Nat.not_lt_zero _)
  | succ f ih =>
    intro s hlen
    unfold pages
    simp only
    rw [specList_excl]
    cases hl : (((specAll sorted r).filter (afterStart s false)).take r.limit).getLast? with
    | none =>
      rcases List.take_eq_nil_iff.1 (List.getLast?_eq_none_iff.1 hl) with h | h
      · exact absurd h (Nat.ne_of_gt hlim)
      · exact h.symm
    | some l =>
      simp only
      have hnext : (specAll sorted r).filter (afterStart l false) = ((specAll sorted r).filter (afterStart s false)).drop r.limit :=
        filter_after_resume id (fun _ => true) hM s false hl
      have hne : ((specAll sorted r).filter (afterStart s false)).take r.limit ≠ [] := List.ne_nil_of_mem (List.mem_of_getLast? hl)
      rw [ih l (length_drop_lt hnext hne hlen), hnext, List.take_append_drop]

end SwV.Lemmas.C19
