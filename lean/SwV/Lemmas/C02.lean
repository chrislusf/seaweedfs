/-
C02 — lemmas for the needle encoding theorems (core Lean only): what every parser stage does on the section the
encoder wrote for it, hence what `parseBody`, `readBytes`, `readData` and the scanner do on encoded records.
The record may carry ANY checksum (`WF crcW` only ties the stored checksum to some function `crcW`), so the same
statements serve the round trip (reader checks with `crcW`) and the corruption theorems (reader checks with
another function).
The file starts with the big-endian fields and the record sizes, where Go's int32 arithmetic agrees with the `Nat`
functions on every size a needle can have. `visitOf`, `visitsOf` and `concatEnc` are what the scan theorems are
stated with.
-/
import SwV.Model.C02
import SwV.Spec.C02
import SwV.Lemmas.GoInt
namespace SwV.Lemmas.C02
open SwV.Model.C02 SwV.Spec.C02

@[simp] theorem length_be (k n : Nat) : (be k n).length = k := by
  induction k with
  | zero => rfl
  | succ k ih => simp [be, ih]

theorem foldl_be (k n acc : Nat) :
    (be k n).foldl (fun a (b : UInt8) => a * 256 + b.toNat) acc = acc * 256 ^ k + n % 256 ^ k := by
  induction k generalizing acc with
  | zero => simp [be, Nat.mod_one]
  | succ k ih =>
    simp only [be, List.foldl_cons, ih]
    rw [UInt8.toNat_ofNat_of_lt' (Nat.mod_lt _ (by decide)), Nat.mod_pow_succ (x := n) (b := 256) (k := k), Nat.pow_succ]
    generalize 256 ^ k = P
    generalize n / P % 256 = B
    generalize n % P = R
    rw [Nat.add_mul, Nat.mul_assoc, Nat.mul_comm 256 P, Nat.mul_comm P B]
    omega

theorem beNat_be (k n : Nat) : beNat (be k n) = n % 256 ^ k := by
  unfold beNat; rw [foldl_be]; simp

theorem beNat_be_of_lt (k : Nat) {n : Nat} (h : n < 256 ^ k) : beNat (be k n) = n := by
  rw [beNat_be, Nat.mod_eq_of_lt h]

@[simp] theorem take_be_append (k n : Nat) (l : Bytes) : (be k n ++ l).take k = be k n :=
  List.take_left' (length_be k n)

@[simp] theorem drop_be_append (k n : Nat) (l : Bytes) : (be k n ++ l).drop k = l :=
  List.drop_left' (length_be k n)

theorem toInt32_of_lt (n : Nat) (h : n < 2 ^ 31) : toInt32 n = (n : Int) :=
  if_pos h

theorem padding_range (size v : Nat) : 1 ≤ paddingLength size v ∧ paddingLength size v ≤ 8 := by
  unfold paddingLength; omega

theorem actualSize_mod8 (size v : Nat) : actualSize size v % 8 = 0 := by
  unfold actualSize bodyLength paddingLength
  omega

/-- the model's `wrap32` is the translator's `wrapS 32` -/
theorem wrap32_id (x : Int) (h1 : -(2 ^ 31) ≤ x) (h2 : x < 2 ^ 31) : wrap32 x = x :=
  SwV.Go.wrapS_id h1 h2

theorem tsLen_le (v : Nat) : tsLen v ≤ 8 := by
  unfold tsLen; split <;> omega

/-- on the sizes a needle can have, Go's int32 arithmetic does not wrap and agrees with the model's `Nat` version -/
theorem paddingLengthI_eq (size v : Nat) (h : size + 28 < 2 ^ 31) :
    paddingLengthI (size : Int) v = (paddingLength size v : Nat) := by
  have ht := tsLen_le v
  unfold paddingLengthI paddingLength
  rw [wrap32_id (16 + (size : Int) + 4 + tsLen v) (by omega) (by omega), Int.tmod_eq_emod_of_nonneg (by omega),
    wrap32_id _ (by omega) (by omega)]
  omega

theorem bodyLengthI_eq (size v : Nat) (h : size + 28 < 2 ^ 31) :
    bodyLengthI (size : Int) v = (bodyLength size v : Nat) := by
  unfold bodyLengthI bodyLength
  rw [paddingLengthI_eq size v h]; omega

theorem actualSizeI_eq (size v : Nat) (h : size + 28 < 2 ^ 31) :
    actualSizeI (size : Int) v = (actualSize size v : Nat) := by
  unfold actualSizeI actualSize
  rw [bodyLengthI_eq size v h]; omega

/-! Parser stages on the sections written by the encoder.
Each stage, started on its own section followed by anything, with the remaining-length counter covering the
section, consumes exactly the section and stores its fields; with the flag unset the section is empty and the
stage does nothing. -/

theorem nameSize_of_lt (n : Needle) (h : n.name.length < 256) : nameSize n = n.name.length := by
  unfold nameSize; split <;> omega

theorem mimeSize_of_lt (n : Needle) (h : n.mime.length < 256) : mimeSize n = n.mime.length :=
  Nat.mod_eq_of_lt h

theorem stData_ok (data : Bytes) (flags : UInt8) {tail : Bytes} {r : Nat} (hl : data.length < 2 ^ 32) :
    stData ⟨be 4 data.length ++ (data ++ (flags :: tail)), 4 + data.length + 1 + r⟩ {} =
      .ok (⟨tail, r⟩, { dataSize := data.length, data := data, flags := flags }) := by
  have h4 : beNat (be 4 data.length) = data.length := beNat_be_of_lt 4 (by omega)
  unfold stData
  simp only [take_be_append, drop_be_append, h4, List.length_append, length_be, List.take_left, List.drop_left]
  have e1 : ¬ (4 + data.length + 1 + r = 0) := by omega
  have e2 : ¬ (4 + (data.length + (flags :: tail).length) < 4) := by omega
  have e3 : ¬ (data.length + 4 > 4 + data.length + 1 + r) := by omega
  have e4 : ¬ (data.length + 4 ≥ 4 + data.length + 1 + r) := by omega
  have e5 : 4 + data.length + 1 + r - (data.length + 5) = r := by omega
  simp only [e1, e2, e3, e4, if_false, e5]

theorem stName_ok (n : Needle) {b : Body} {tail : Bytes} {r : Nat} (hf : b.flags = n.flags)
    (hl : n.name.length < 256) :
    stName ⟨nameSec n ++ tail, (nameSec n).length + r⟩ b =
      .ok (⟨tail, r⟩, { b with nameSize := if hasName n.flags then n.name.length else b.nameSize,
                               name := if hasName n.flags then n.name else b.name }) := by
  unfold stName nameSec
  by_cases h : hasName n.flags = true
  · have e1 : ¬ (n.name.length + 1 + r = 0 ∨ true = false) := by simp
    have e2 : ¬ (n.name.length + 1 > n.name.length + 1 + r) := by omega
    have e3 : n.name.length + 1 + r - 1 - n.name.length = r := by omega
    simp only [h, hf, nameSize_of_lt n hl, if_true, List.take_length, List.cons_append, List.length_cons, e1, if_false,
      UInt8.toNat_ofNat_of_lt' hl, e2, List.take_left, List.drop_left, e3]
  · have h' : hasName n.flags = false := eq_false_of_ne_true h
    simp [h', show hasName b.flags = false from hf ▸ h']

theorem stMime_ok (n : Needle) {b : Body} {tail : Bytes} {r : Nat} (hf : b.flags = n.flags)
    (hl : n.mime.length < 256) :
    stMime ⟨mimeSec n ++ tail, (mimeSec n).length + r⟩ b =
      .ok (⟨tail, r⟩, { b with mimeSize := if hasMime n.flags then n.mime.length else b.mimeSize,
                               mime := if hasMime n.flags then n.mime else b.mime }) := by
  unfold stMime mimeSec
  by_cases h : hasMime n.flags = true
  · have e1 : ¬ (n.mime.length + 1 + r = 0 ∨ true = false) := by simp
    have e2 : ¬ (n.mime.length + 1 > n.mime.length + 1 + r) := by omega
    have e3 : n.mime.length + 1 + r - 1 - n.mime.length = r := by omega
    simp only [h, hf, mimeSize_of_lt n hl, if_true, List.cons_append, List.length_cons, e1, if_false,
      UInt8.toNat_ofNat_of_lt' hl, e2, List.take_left, List.drop_left, e3]
  · have h' : hasMime n.flags = false := eq_false_of_ne_true h
    simp [h', show hasMime b.flags = false from hf ▸ h']

theorem stLm_ok (n : Needle) {b : Body} {tail : Bytes} {r : Nat} (hf : b.flags = n.flags)
    (hl : n.lastModified < 2 ^ 40) :
    stLm ⟨lmSec n ++ tail, (lmSec n).length + r⟩ b =
      .ok (⟨tail, r⟩, { b with lastModified := if hasLastModified n.flags then n.lastModified else b.lastModified }) := by
  unfold stLm lmSec
  by_cases h : hasLastModified n.flags = true
  · have h5 : beNat (be 5 n.lastModified) = n.lastModified := beNat_be_of_lt 5 (by omega)
    have e1 : ¬ (5 + r = 0 ∨ true = false) := by simp
    have e2 : ¬ (5 > 5 + r) := by omega
    simp only [h, hf, if_true, length_be, take_be_append, drop_be_append, h5, e1, e2, if_false, Nat.add_sub_cancel_left]
  · have h' : hasLastModified n.flags = false := eq_false_of_ne_true h
    simp [h', show hasLastModified b.flags = false from hf ▸ h']

theorem stTtl_ok (n : Needle) {b : Body} {tail : Bytes} {r : Nat} (hf : b.flags = n.flags)
    (ht : hasTtl n.flags = true → n.ttl.isSome = true) :
    stTtl ⟨ttlSec n ++ tail, (ttlSec n).length + r⟩ b =
      .ok (⟨tail, r⟩, { b with ttl := if hasTtl n.flags then n.ttl else b.ttl }) := by
  unfold stTtl ttlSec
  by_cases h : hasTtl n.flags = true
  · have hs := ht h
    cases ht' : n.ttl with
    | none => simp [ht'] at hs
    | some cu =>
      obtain ⟨c, u⟩ := cu
      have e1 : ¬ (0 + 1 + 1 + r = 0 ∨ true = false) := by simp
      have e2 : ¬ (2 > 0 + 1 + 1 + r) := by omega
      have e3 : 0 + 1 + 1 + r - 2 = r := by omega
      simp only [h, hf, if_true, List.cons_append, List.length_cons, List.length_nil, List.nil_append, e1, e2,
        if_false, e3]
  · have h' : hasTtl n.flags = false := eq_false_of_ne_true h
    simp [h', show hasTtl b.flags = false from hf ▸ h']

theorem stPairs_ok (n : Needle) {b : Body} {tail : Bytes} {r : Nat} (hf : b.flags = n.flags)
    (hp : n.pairsSize = n.pairs.length) (hl : n.pairs.length < 65536) :
    stPairs ⟨pairsSec n ++ tail, (pairsSec n).length + r⟩ b =
      .ok (⟨tail, r⟩, { b with pairsSize := if hasPairs n.flags then n.pairs.length else b.pairsSize,
                               pairs := if hasPairs n.flags then n.pairs else b.pairs }) := by
  unfold stPairs pairsSec
  by_cases h : hasPairs n.flags = true
  · have h2 : beNat (be 2 n.pairs.length) = n.pairs.length := beNat_be_of_lt 2 (by omega)
    have e1 : ¬ (2 + n.pairs.length + r = 0 ∨ true = false) := by simp
    have e2 : ¬ (2 > 2 + n.pairs.length + r) := by omega
    have e3 : ¬ (n.pairs.length + 2 > 2 + n.pairs.length + r) := by omega
    have e4 : 2 + n.pairs.length + r - 2 - n.pairs.length = r := by omega
    simp only [h, hf, hp, if_true, List.append_assoc, List.length_append, length_be, take_be_append, drop_be_append, h2,
      List.take_left, List.drop_left, e1, e2, e3, if_false, e4]
  · have h' : hasPairs n.flags = false := eq_false_of_ne_true h
    simp [h', show hasPairs b.flags = false from hf ▸ h']

/-- the metadata sections have the lengths `recSize` counts for them -/
theorem metaBytes_length (n : Needle) (hn : n.name.length < 256) (hm : n.mime.length < 256)
    (ht : hasTtl n.flags = true → n.ttl.isSome = true) (hp : n.pairsSize = n.pairs.length) :
    (metaBytes n).length =
      (if hasName n.flags then 1 + nameSize n else 0) + (if hasMime n.flags then 1 + mimeSize n else 0)
      + (if hasLastModified n.flags then 5 else 0) + (if hasTtl n.flags then 2 else 0)
      + (if hasPairs n.flags then 2 + n.pairsSize else 0) := by
  have h1 : (nameSec n).length = if hasName n.flags then 1 + nameSize n else 0 := by
    unfold nameSec; split
    · simp [nameSize_of_lt n hn]; omega
    · rfl
  have h2 : (mimeSec n).length = if hasMime n.flags then 1 + mimeSize n else 0 := by
    unfold mimeSec; split
    · simp [mimeSize_of_lt n hm]; omega
    · rfl
  have h3 : (lmSec n).length = if hasLastModified n.flags then 5 else 0 := by
    unfold lmSec; split <;> simp
  have h4 : (ttlSec n).length = if hasTtl n.flags then 2 else 0 := by
    unfold ttlSec; split
    · rename_i h
      have := ht h
      cases h' : n.ttl with
      | none => simp [h'] at this
      | some cu => rfl
    · rfl
  have h5 : (pairsSec n).length = if hasPairs n.flags then 2 + n.pairsSize else 0 := by
    unfold pairsSec; split
    · simp [hp]
    · rfl
  unfold metaBytes
  simp only [List.length_append, h1, h2, h3, h4, h5]
  omega

theorem bodyBytes_length (crc : Bytes → UInt32) (n : Needle) (h : WF crc n) : (bodyBytes n).length = recSize n := by
  obtain ⟨_, _, hn, hm, _, ht, hp, _, _, _, _⟩ := h
  unfold bodyBytes recSize
  split
  · simp only [List.length_append, length_be, List.length_cons, metaBytes_length n hn hm ht hp]
    omega
  · rfl

theorem recSize_pos (n : Needle) (h : 0 < n.data.length) : 0 < recSize n := by
  unfold recSize; simp only [h, if_true]; omega

theorem ite_le (c : Bool) (a : Nat) : (if c then a else 0) ≤ a := by
  cases c <;> simp

/-- a record fits an int32 size with room for the 28 bytes of header, checksum and timestamp, which is what
    `paddingLengthI_eq` asks for: every optional section is at most as long as if its flag were set -/
theorem recSize_lt (crc : Bytes → UInt32) (n : Needle) (h : WF crc n) : recSize n + 28 < 2 ^ 31 := by
  obtain ⟨_, _, hn, hm, _, _, hp, hpl, _, _, hd⟩ := h
  have h1 := nameSize_of_lt n hn
  have h2 := mimeSize_of_lt n hm
  have s1 := ite_le (hasName n.flags) (1 + nameSize n)
  have s2 := ite_le (hasMime n.flags) (1 + mimeSize n)
  have s3 := ite_le (hasLastModified n.flags) 5
  have s4 := ite_le (hasTtl n.flags) 2
  have s5 := ite_le (hasPairs n.flags) (2 + n.pairsSize)
  unfold recSize
  split <;> omega

/-- `readNeedleDataVersion2` on the bytes written by `prepareWriteBuffer` (whatever follows them) returns every
    stored field -/
theorem parseBody_encode (crc : Bytes → UInt32) (n : Needle) (h : WF crc n) (hd : 0 < n.data.length) (tail : Bytes) :
    parseBody (bodyBytes n ++ tail) (recSize n) = .ok (storedBody n) := by
  have hlen := bodyBytes_length crc n h
  obtain ⟨_, _, hn, hm, hlm, ht, hp, hpl, _, _, hdl⟩ := h
  have hrec : recSize n = 4 + n.data.length + 1 +
      ((nameSec n).length + ((mimeSec n).length + ((lmSec n).length + ((ttlSec n).length + ((pairsSec n).length + 0))))) := by
    rw [← hlen]; unfold bodyBytes metaBytes
    simp only [hd, if_true, List.length_append, length_be, List.length_cons]
    omega
  have hb : bodyBytes n ++ tail = be 4 n.data.length ++ (n.data ++ (n.flags ::
      (nameSec n ++ (mimeSec n ++ (lmSec n ++ (ttlSec n ++ (pairsSec n ++ tail))))))) := by
    unfold bodyBytes metaBytes
    simp only [hd, if_true, List.append_assoc, List.cons_append]
  unfold parseBody
  rw [hb, hrec, stData_ok n.data n.flags (by omega)]
  -- `simp only []` reduces the `match` on the stage's `.ok` result, exposing the next stage
  simp only []
  rw [stName_ok n rfl hn]
  simp only []
  rw [stMime_ok n rfl hm]
  simp only []
  rw [stLm_ok n rfl hlm]
  simp only []
  rw [stTtl_ok n rfl ht]
  simp only []
  rw [stPairs_ok n rfl hp hpl]
  rfl

theorem parseBody_zero (rest : Bytes) : parseBody rest 0 = .ok {} := by
  simp [parseBody, stData, stName, stMime, stLm, stTtl, stPairs]

theorem parseBody_record (crc : Bytes → UInt32) (n : Needle) (h : WF crc n) (tail : Bytes) :
    parseBody (bodyBytes n ++ tail) (recSize n) = .ok (if n.data.length > 0 then storedBody n else {}) := by
  by_cases hd : 0 < n.data.length
  · simp only [hd, if_true]; exact parseBody_encode crc n h hd tail
  · have : recSize n = 0 := if_neg hd
    rw [this]; simp only [hd, if_false]; exact parseBody_zero _

theorem stored_data (n : Needle) : (if n.data.length > 0 then storedBody n else ({} : Body)).data = n.data := by
  split
  · rfl
  · exact (List.eq_nil_of_length_eq_zero (by omega)).symm

theorem wf_checksum {crc : Bytes → UInt32} {n : Needle} (h : WF crc n) : n.checksum = (crc n.data).toNat :=
  h.2.2.2.2.2.2.2.2.1

theorem wf_appendAtNs {crc : Bytes → UInt32} {n : Needle} (h : WF crc n) : n.appendAtNs < 2 ^ 64 :=
  h.2.2.2.2.2.2.2.2.2.1

theorem crcValue_lt (c : Nat) : crcValue c < 2 ^ 32 := by
  unfold crcValue; exact Nat.mod_lt _ (Nat.two_pow_pos 32)

theorem padSource_length (v : Nat) (n : Needle) : 8 ≤ (padSource v n).length := by
  unfold padSource; split
  · simp
  · simp only [List.length_append, length_be]; split <;> simp

theorem tailBytes_length (v : Nat) (n : Needle) :
    (tailBytes v n).length = 4 + tsLen v + paddingLength (recSize n) v := by
  unfold tailBytes tsLen
  have hp := padding_range (recSize n) v
  have hs := padSource_length v n
  simp only [List.length_append, length_be, List.length_take]
  split <;> simp <;> omega

theorem tailBytes_take4 (v : Nat) (n : Needle) : beNat ((tailBytes v n).take 4) = crcValue n.checksum := by
  unfold tailBytes; rw [take_be_append, beNat_be_of_lt 4 (crcValue_lt _)]

theorem tailBytes_drop4 (n : Needle) :
    (tailBytes 3 n).drop 4 = be 8 n.appendAtNs ++ (padSource 3 n).take (paddingLength (recSize n) 3) := by
  unfold tailBytes; rw [drop_be_append]; rfl

theorem encode_length (crc : Bytes → UInt32) (v : Nat) (n : Needle) (h : WF crc n) :
    (encode v n).length = actualSize (recSize n) v := by
  unfold encode headerBytes actualSize bodyLength
  simp only [List.length_append, length_be, bodyBytes_length crc n h, tailBytes_length]
  omega

theorem header_encode (crc : Bytes → UInt32) (v : Nat) (n : Needle) (h : WF crc n) (more : Bytes) :
    ¬ (encode v n ++ more).length < 16 ∧ parseHeader (encode v n ++ more) = (n.cookie, n.id, (recSize n : Int)) := by
  have hs := recSize_lt crc n h
  refine ⟨by rw [List.length_append, encode_length crc v n h]; unfold actualSize; omega, ?_⟩
  obtain ⟨hc, hi, _⟩ := h
  unfold parseHeader encode headerBytes
  simp only [List.append_assoc, take_be_append, drop_be_append]
  rw [show (12 : Nat) = 4 + 8 from rfl, ← List.drop_drop, drop_be_append, drop_be_append, take_be_append,
    beNat_be_of_lt 4 (by omega), beNat_be_of_lt 8 (by omega), beNat_be_of_lt 4 (by omega),
    toInt32_of_lt _ (by omega)]

theorem header_take16 (x : Bytes) :
    ((x.take 16).length < 16 ↔ x.length < 16) ∧ parseHeader (x.take 16) = parseHeader x := by
  refine ⟨by rw [List.length_take]; omega, ?_⟩
  unfold parseHeader
  simp only [List.take_take, List.drop_take]
  rfl

theorem drop16_encode (v : Nat) (n : Needle) (more : Bytes) :
    (encode v n ++ more).drop 16 = bodyBytes n ++ (tailBytes v n ++ more) := by
  unfold encode headerBytes
  simp only [List.append_assoc]
  rw [show (16 : Nat) = 4 + (8 + 4) from rfl, ← List.drop_drop, drop_be_append, ← List.drop_drop, drop_be_append,
    drop_be_append]

/-- `ReadBytes` (checking with `crcR`) on a record written from a needle that is well-formed w.r.t. ANY
    checksum function `crcW` — i.e. whose stored checksum is arbitrary: the CRC error iff the record has a body and
    the stored value differs from `crcR` of the stored data, else the stored fields -/
theorem readBytes_encode_any (crcW crcR : Bytes → UInt32) (v : Nat) (n : Needle) (h : WF crcW n) :
    readBytes crcR v (encode v n) (recSize n) =
      if recSize n > 0 ∧ crcValue n.checksum ≠ crcValue (crcR n.data).toNat then .error .crc
      else .ok (expectedDecode v n) := by
  have hlen := encode_length crcW v n h
  have hhdr := header_encode crcW v n h []
  have hdrop := drop16_encode v n []
  have hbody := parseBody_record crcW n h (tailBytes v n ++ [])
  have htl := tailBytes_length v n
  have hts := wf_appendAtNs h
  simp only [List.append_nil] at hhdr hdrop hbody
  unfold readBytes
  have e4 : ¬ ((encode v n).length < 16 + recSize n) := by rw [hlen]; unfold actualSize bodyLength; omega
  have e5 : ¬ (recSize n > 0 ∧ (tailBytes v n).length < 4) := by omega
  simp only [hhdr, ne_eq, not_true_eq_false, Int.not_ofNat_neg, Int.toNat_natCast, e4, if_false, hdrop, hbody,
    List.drop_left' (bodyBytes_length crcW n h), e5, tailBytes_take4, stored_data]
  split
  · rfl
  · unfold expectedDecode
    by_cases hv : v = 3
    · subst hv
      have e6 : ¬ (((tailBytes 3 n).drop 4).length < 8) := by rw [tailBytes_drop4]; simp
      simp only [if_true, e6, if_false]
      rw [tailBytes_drop4, take_be_append, beNat_be_of_lt 8 (by omega)]
    · simp only [hv, if_false]

/-- `ReadBytes` on the bytes of one record, checked with the function its checksum was computed with -/
theorem readBytes_encode (crc : Bytes → UInt32) (v : Nat) (n : Needle) (h : WF crc n) :
    readBytes crc v (encode v n) (recSize n) = .ok (expectedDecode v n) := by
  rw [readBytes_encode_any crc crc v n h, if_neg]
  rw [wf_checksum h]
  exact fun hc => hc.2 rfl

/-- `ReadData` at the record's offset in a file = `ReadBytes` on the record (stored checksum arbitrary) -/
theorem readData_at_any (crcW crcR : Bytes → UInt32) (v : Nat) (n : Needle) (h : WF crcW n) (pre post : Bytes) :
    readData crcR v (pre ++ (encode v n ++ post)) pre.length (recSize n) = readBytes crcR v (encode v n) (recSize n) := by
  have hlen := encode_length crcW v n h
  unfold readData
  rw [actualSizeI_eq _ v (recSize_lt crcW n h)]
  have e3 : ¬ ((encode v n).length < actualSize (recSize n) v) := by omega
  simp only [Int.not_ofNat_neg, if_false, Int.toNat_natCast, List.drop_left, List.take_left' hlen, e3]

theorem readData_at (crc : Bytes → UInt32) (v : Nat) (n : Needle) (h : WF crc n) (pre post : Bytes) :
    readData crc v (pre ++ (encode v n ++ post)) pre.length (recSize n) = .ok (expectedDecode v n) := by
  rw [readData_at_any crc crc v n h, readBytes_encode crc v n h]

/-- what the scanner reports for one well-formed record at `offset` -/
def visitOf (v : Nat) (offset : Nat) (n : Needle) : Visit :=
  { offset := offset, cookie := n.cookie, id := n.id, size := recSize n, bodyLen := bodyLength (recSize n) v,
    status := "ok", body := if n.data.length > 0 then storedBody n else {},
    appendAtNs := if v = 3 then n.appendAtNs else 0 }

def visitsOf (v : Nat) : Nat → List Needle → List Visit
  | _, [] => []
  | offset, n :: rest => visitOf v offset n :: visitsOf v (offset + actualSize (recSize n) v) rest

def concatEnc (v : Nat) (ns : List Needle) : Bytes := ns.flatMap (encode v)

theorem scanStep_record (crc : Bytes → UInt32) (v : Nat) (n : Needle) (h : WF crc n) (pre post : Bytes) :
    scanStep v (pre ++ (encode v n ++ post)) pre.length true =
      some (Except.ok (visitOf v pre.length n), ((bodyLength (recSize n) v : Nat) : Int)) := by
  have hs := recSize_lt crc n h
  have hbl := bodyBytes_length crc n h
  have htl := tailBytes_length v n
  have hts := wf_appendAtNs h
  unfold scanStep
  simp only [List.drop_left]
  simp only [header_take16, header_encode crc v n h post, if_false, bodyLengthI_eq _ v hs]
  have e1 : ¬ (((bodyLength (recSize n) v : Nat) : Int) ≤ 0) := by unfold bodyLength; omega
  have e3 : (pre ++ (encode v n ++ post)).drop (pre.length + 16) = bodyBytes n ++ (tailBytes v n ++ post) := by
    rw [← List.drop_drop, List.drop_left, drop16_encode]
  have hbt : (bodyBytes n ++ tailBytes v n).length = bodyLength (recSize n) v := by
    simp only [List.length_append, hbl, htl]; unfold bodyLength; omega
  have e4 : (bodyBytes n ++ (tailBytes v n ++ post)).take (bodyLength (recSize n) v) = bodyBytes n ++ tailBytes v n := by
    rw [← List.append_assoc]; exact List.take_left' hbt
  simp only [Bool.not_true, Bool.false_eq_true, if_false, e1, Int.toNat_natCast, e3, e4, hbt, Nat.lt_irrefl, Int.not_ofNat_neg,
    parseBody_record crc n h (tailBytes v n)]
  unfold visitOf
  by_cases hv : v = 3
  · subst hv
    simp only [if_true, ← List.drop_drop, List.drop_left' hbl, tailBytes_drop4, take_be_append,
      beNat_be_of_lt 8 (show n.appendAtNs < 256 ^ 8 by omega)]
  · simp only [hv, if_false]

theorem ite_eq_left_of_imp {α : Type} {c : Bool} {a d : α} (h : c = false → a = d) : (if c then a else d) = a := by
  cases c
  · exact (h rfl).symm
  · rfl

/-- a guard that returned `ok` was passed; applied repeatedly this reads a chain of guards backwards -/
theorem ok_of_guard {ε α : Type} {c : Prop} [Decidable c] {e : ε} {x : Except ε α} {a : α}
    (h : (if c then .error e else x) = .ok a) : ¬ c ∧ x = .ok a := by
  by_cases hc : c
  · rw [if_pos hc] at h; cases h
  · rw [if_neg hc] at h; exact ⟨hc, h⟩

end SwV.Lemmas.C02
