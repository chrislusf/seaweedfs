/-
C06 — from the kernel-checked certificates to the MDS property of the concrete Reed–Solomon code:
every erasure pattern losing at most 4 of 14 shards has a decoding matrix (a left inverse of the ten selected
generator rows), and the model decoder (`gfRecon` with the certified matrix) returns the whole codeword.
`MDSBytes` and `IsByteCodewordAt`, in which SwV/Props/C06.lean states `rs_codec_mds` and `ec_rebuild_concrete`, are
defined here: the Spec's `MDS` and `IsCodewordAt` with the data part of the columns restricted to bytes.
-/
import SwV.Model.C06
import SwV.Model.C06RS
import SwV.Spec.C06
import SwV.Lemmas.C06RS
import SwV.Lemmas.C06Certs
namespace SwV.Lemmas.C06
open SwV.Model.C06 SwV.Spec.C06

theorem mem_masksUpTo : ∀ (n l : Nat) (mask : List Bool), mask.length = n →
    (mask.filter (· == false)).length ≤ l → mask ∈ masksUpTo n l := by
  intro n
  induction n with
  | zero =>
    intro l mask hn _
    have : mask = [] := List.eq_nil_of_length_eq_zero hn
    cases l <;> simp [masksUpTo, this]
  | succ n ih =>
    intro l mask hn hl
    cases mask with
    | nil => simp at hn
    | cons b m =>
      have hm : m.length = n := Nat.succ.inj hn
      cases b with
      | true =>
        have hl' : (m.filter (· == false)).length ≤ l := by simpa using hl
        cases l with
        | zero => simp only [masksUpTo]; exact List.mem_map.mpr ⟨m, ih 0 m hm hl', rfl⟩
        | succ l =>
          simp only [masksUpTo]
          exact List.mem_append_left _ (List.mem_map.mpr ⟨m, ih (l + 1) m hm hl', rfl⟩)
      | false =>
        have hl' : (m.filter (· == false)).length + 1 ≤ l := by simpa using hl
        cases l with
        | zero => omega
        | succ l =>
          simp only [masksUpTo]
          exact List.mem_append_right _ (List.mem_map.mpr ⟨m, ih l m hm (Nat.le_of_succ_le_succ hl'), rfl⟩)

theorem exists_zip_of_mem {α β : Type} (a : α) : ∀ (l1 : List α) (l2 : List β), a ∈ l1 → l1.length ≤ l2.length →
    ∃ b, (a, b) ∈ l1.zip l2 := by
  intro l1
  induction l1 with
  | nil => intro l2 h; simp at h
  | cons x l1 ih =>
    intro l2 h hl
    cases l2 with
    | nil => simp at hl
    | cons y l2 =>
      rcases List.mem_cons.mp h with rfl | h'
      · exact ⟨y, List.mem_cons_self⟩
      · obtain ⟨b, hb⟩ := ih l2 h' (Nat.le_of_succ_le_succ hl)
        exact ⟨b, List.mem_cons_of_mem _ hb⟩

/-- how many masks `masksUpTo n l` lists, by the recursion of `masksUpTo` on numbers instead of lists -/
def masksCount : Nat → Nat → Nat
  | 0, _ => 1
  | n + 1, 0 => masksCount n 0
  | n + 1, l + 1 => masksCount n (l + 1) + masksCount n l

theorem masksUpTo_length : ∀ n l, (masksUpTo n l).length = masksCount n l
  | 0, _ => rfl
  | n + 1, 0 => by rw [masksUpTo, List.length_map, masksUpTo_length n 0, masksCount]
  | n + 1, l + 1 => by
    rw [masksUpTo, List.length_append, List.length_map, List.length_map, masksUpTo_length, masksUpTo_length, masksCount]

/-- there is a certificate for every pattern (counted without building the 1471 masks) -/
theorem masks_certs_length : (masksUpTo 14 4).length ≤ rsCerts.length := by
  rw [masksUpTo_length]; decide +kernel

theorem certDM_spec (mask : List Bool) (hm : mask.length = 14) (hl : (mask.filter (· == false)).length ≤ 4) :
    ∃ c, certDM mask = some (firstPresent 10 mask, unpackInv c) ∧ checkCert mask c = true := by
  have hmem := mem_masksUpTo 14 4 mask hm hl
  obtain ⟨c0, hc0⟩ := exists_zip_of_mem mask _ rsCerts hmem masks_certs_length
  have hall := List.all_eq_true.mp certs_ok
  unfold certDM
  cases hf : certTable.find? (fun mc => mc.1 == mask) with
  | none =>
    have := List.find?_eq_none.mp hf (mask, c0) hc0
    simp at this
  | some mc =>
    have h1 := List.find?_some hf
    have h2 := List.mem_of_find?_eq_some hf
    have h3 : mc.1 = mask := eq_of_beq h1
    refine ⟨mc.2, rfl, ?_⟩
    have := hall mc h2
    unfold certOk at this
    rw [h3] at this; exact this

theorem unpackInv_bytes (c : Nat) : ∀ row ∈ unpackInv c, IsBytes row := by
  intro row hr
  obtain ⟨r, _, rfl⟩ := List.mem_map.mp hr
  intro x hx
  obtain ⟨j, _, rfl⟩ := List.mem_map.mp hx
  exact Nat.mod_lt _ (by decide)

theorem matVec_identity {k : Nat} (d : List Nat) (hd : d.length = k) (hb : IsBytes d) :
    matVec ((List.range k).map (identityRow k)) d = d := by
  subst hd
  unfold matVec identityRow
  rw [List.map_map]
  apply List.ext_getElem (by simp)
  intro i h1 h2
  simp only [List.getElem_map, List.getElem_range, Function.comp_apply]
  rw [List.range_eq_range', gfDot_unit i d 0 hb, if_pos (Nat.zero_le i), Nat.sub_zero, List.getElem_eq_getD 0]

theorem matVec_append (A B : List (List Nat)) (d : List Nat) : matVec (A ++ B) d = matVec A d ++ matVec B d :=
  List.map_append

theorem matVec_generator {k : Nat} (P : List (List Nat)) (d : List Nat) (hd : d.length = k) (hb : IsBytes d) :
    matVec (generator k P) d = d ++ matVec P d := by
  unfold generator
  rw [matVec_append, matVec_identity d hd hb]

theorem getD_matVec (M : List (List Nat)) (d : List Nat) (i : Nat) :
    (matVec M d).getD i 0 = gfDot (M.getD i []) d := by
  unfold matVec
  rw [List.getD_eq_getElem?_getD, List.getD_eq_getElem?_getD, List.getElem?_map]
  cases M[i]? <;> simp

/-- a valid certificate is a left inverse of the selected rows: `inv · (rows · d) = d` on byte columns -/
theorem certInverse_cancel (mask : List Bool) (c : Nat) (hc : checkCert mask c = true) (d : List Nat)
    (hd : d.length = 10) (hb : IsBytes d) : matVec (unpackInv c) (matVec (selectedRows mask) d) = d := by
  obtain ⟨_, hrows, hinv⟩ := (checkCert_iff mask c).mp hc
  have e1 : matVec (unpackInv c) (matVec (selectedRows mask) d)
      = ((unpackInv c).map (fun row => vecMat 10 row (selectedRows mask))).map (fun r => gfDot r d) := by
    unfold matVec
    rw [List.map_map]
    apply List.map_congr_left
    intro row hrow
    exact gfDot_matVec 10 d row (selectedRows mask) (unpackInv_bytes c row hrow) hrows
  rw [e1, hinv]
  exact matVec_identity d hd hb

/-- the column `cw` with the shards outside `mask` erased, as `MDS` and `MDSBytes` hand it to `recon` -/
def eraseCol (cw : List Nat) (mask : List Bool) : List (Option Nat) :=
  (cw.zip mask).map fun xb => if xb.2 then some xb.1 else none

theorem eraseCol_getD : ∀ (cw : List Nat) (mask : List Bool), cw.length = mask.length → ∀ i,
    (eraseCol cw mask).getD i none = if mask.getD i false then some (cw.getD i 0) else none := by
  intro cw
  induction cw with
  | nil => intro mask h i; cases mask <;> simp_all [eraseCol]
  | cons x cw ih =>
    intro mask h i
    cases mask with
    | nil => simp at h
    | cons b m =>
      cases i with
      | zero => cases b <;> simp [eraseCol]
      | succ i =>
        have := ih m (Nat.succ.inj h) i
        simpa [eraseCol] using this

theorem eraseCol_isSome : ∀ (cw : List Nat) (mask : List Bool), cw.length = mask.length →
    (eraseCol cw mask).map Option.isSome = mask := by
  intro cw
  induction cw with
  | nil => intro mask h; cases mask <;> simp_all [eraseCol]
  | cons x cw ih =>
    intro mask h
    cases mask with
    | nil => simp at h
    | cons b m =>
      have := ih m (Nat.succ.inj h)
      cases b <;> simpa [eraseCol] using this

theorem eraseCol_length (cw : List Nat) (mask : List Bool) (h : cw.length = mask.length) :
    (eraseCol cw mask).length = cw.length := by
  simp [eraseCol, h]

theorem fill_erased (cw : List Nat) (mask : List Bool) (h : cw.length = mask.length) :
    ((List.range (eraseCol cw mask).length).map fun i =>
      match (eraseCol cw mask).getD i none with
      | some x => x
      | none => cw.getD i 0) = cw := by
  rw [eraseCol_length cw mask h]
  apply List.ext_getElem
  · simp
  · intro i h1 h2
    simp only [List.getElem_map, List.getElem_range]
    rw [eraseCol_getD cw mask h i]
    have : cw.getD i 0 = cw[i] := (List.getElem_eq_getD 0).symm
    cases mask.getD i false <;> exact this

theorem mem_firstPresent (k : Nat) (mask : List Bool) (i : Nat) (h : i ∈ firstPresent k mask) :
    mask.getD i false = true := by
  unfold firstPresent at h
  have := List.mem_of_mem_take h
  exact (List.mem_filter.mp this).2

theorem selectedRows_apply (d : List Nat) (hd : d.length = 10) (hb : IsBytes d) (mask : List Bool) :
    matVec (selectedRows mask) d = (firstPresent 10 mask).map fun i => (d ++ matVec rsParity d).getD i 0 := by
  rw [← matVec_generator rsParity d hd hb, selectedRows, matVec, List.map_map]
  exact List.map_congr_left fun i _ => (getD_matVec _ d i).symm

theorem gfRecon_codeword (d : List Nat) (hd : d.length = 10) (hb : IsBytes d) (mask : List Bool)
    (hcwlen : (d ++ matVec rsParity d).length = mask.length) (c : Nat) (hc : checkCert mask c = true) :
    gfRecon 10 rsParity (some (firstPresent 10 mask, unpackInv c)) (eraseCol (d ++ matVec rsParity d) mask)
      = some (d ++ matVec rsParity d) := by
  -- the surviving bytes at the selected positions are the selected rows applied to the data
  have hv : (firstPresent 10 mask).map (fun i => ((eraseCol (d ++ matVec rsParity d) mask).getD i none).getD 0)
      = matVec (selectedRows mask) d := by
    rw [selectedRows_apply d hd hb]
    apply List.map_congr_left
    intro i hi
    rw [eraseCol_getD _ _ hcwlen, mem_firstPresent 10 mask i hi]
    rfl
  unfold gfRecon
  simp only [Option.some.injEq]
  rw [hv, certInverse_cancel mask c hc d hd hb]
  exact fill_erased _ mask hcwlen

/-- `MDS` of the Spec restricted to data columns of BYTES (the model keeps bytes as `Nat`; GF(2^8) arithmetic is only
    meaningful below 256) -/
def MDSBytes (cd : Codec) (k m : Nat) : Prop :=
  ∀ (data : List Nat) (mask : List Bool), data.length = k → IsBytes data → (cd.parity data).length = m →
    mask.length = k + m → (mask.filter (· == false)).length ≤ m →
    cd.recon (((data ++ cd.parity data).zip mask).map fun xb => if xb.2 then some xb.1 else none)
      = some (data ++ cd.parity data)

theorem rsCodec_mdsBytes : MDSBytes rsCodec 10 4 := by
  intro data mask hd hb _ hm hl
  obtain ⟨c, hc1, hc2⟩ := certDM_spec mask hm hl
  have hlen : (data ++ matVec rsParity data).length = mask.length := by
    rw [List.length_append, hd, hm]
    rfl
  show gfRecon 10 rsParity (certDM ((eraseCol (data ++ matVec rsParity data) mask).map Option.isSome))
      (eraseCol (data ++ matVec rsParity data) mask) = some (data ++ matVec rsParity data)
  rw [eraseCol_isSome _ _ hlen, hc1]
  exact gfRecon_codeword data hd hb mask hlen c hc2

/-- column `p` is the codeword of a data column of BYTES -/
def IsByteCodewordAt (cd : Codec) (k m : Nat) (shards : List (List Nat)) (p : Nat) : Prop :=
  ∃ data, data.length = k ∧ IsBytes data ∧ (cd.parity data).length = m ∧ columnAt shards p = data ++ cd.parity data

end SwV.Lemmas.C06
