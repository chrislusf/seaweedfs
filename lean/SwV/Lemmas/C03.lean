/-
C03 — the loader on a crash state whose index ends with a put (core Lean only): index entries round-trip and an index
splits at entry boundaries; the integrity check accepts the last indexed record, whatever follows it, and cuts the
data file behind it; the loaded needle map answers a key with the last entry of that key; `readNeedle` through such
a map entry returns the record's data and `writeNeedle` of a fresh key appends; the batched walker hands over every
entry.
-/
import SwV.Model.C03
import SwV.Lemmas.C02
namespace SwV.Lemmas.C03
open SwV.Model.C02 SwV.Model.C03 SwV.Lemmas.C02

/-- entries the code can write: 64-bit key, 32-bit offset, int32 size -/
def EntryWF (e : Entry) : Prop := e.key < 2 ^ 64 ∧ e.off < 2 ^ 32 ∧ -(2 ^ 31) ≤ e.size ∧ e.size < 2 ^ 31

@[simp] theorem entryBytes_length (e : Entry) : (entryBytes e).length = 16 := by
  simp [entryBytes]

theorem parseEntry_entryBytes (e : Entry) (h : EntryWF e) : parseEntry (entryBytes e) = e := by
  obtain ⟨hk, ho, hs1, hs2⟩ := h
  have hs : toInt32 (e.size % 2 ^ 32).toNat = e.size := by
    unfold toInt32; split <;> omega
  unfold parseEntry entryBytes
  rw [take_be_append, drop_be_append, take_be_append, show (12 : Nat) = 8 + 4 from rfl, ← List.drop_drop,
    drop_be_append, drop_be_append, List.take_of_length_le (by simp), beNat_be_of_lt 8 (by omega),
    beNat_be_of_lt 4 (by omega), beNat_be_of_lt 4 (by omega), hs]

theorem idxEntries_entryBytes (e : Entry) (h : EntryWF e) : idxEntries (entryBytes e) = [e] := by
  simp [idxEntries, List.take_of_length_le, parseEntry_entryBytes e h]

theorem idxEntries_split {a b : Bytes} (ha : a.length % 16 = 0) : idxEntries (a ++ b) = idxEntries a ++ idxEntries b := by
  unfold idxEntries
  have hk : (a ++ b).length / 16 = a.length / 16 + b.length / 16 := by rw [List.length_append]; omega
  rw [hk, List.range_add, List.map_append, List.map_map]
  congr 1
  · apply List.map_congr_left
    intro i hi
    rw [List.mem_range] at hi
    rw [List.drop_append_of_le_length (by omega), List.take_append_of_le_length (by rw [List.length_drop]; omega)]
  · apply List.map_congr_left
    intro i _
    simp only [Function.comp]
    have h1 : 16 * (a.length / 16 + i) = a.length + 16 * i := by omega
    rw [h1, ← List.drop_drop, List.drop_left]

theorem openDat_size_roundup (bytes : Bytes) : bytes.length ≤ (openDat bytes).size ∧ (openDat bytes).size < bytes.length + 8 ∧
    (openDat bytes).size % 8 = 0 := by
  unfold openDat; simp only []; omega

/-- `verifyNeedleIntegrity` on the record the entry points to, whatever follows it in the file: the record is
    accepted and everything behind it is cut off -/
theorem verifyNeedle_record (crc : Bytes → UInt32) (n : Needle) (h : WF crc n) (pre tail : Bytes) (size : Nat)
    (hoff : pre.length % 8 = 0) (hsz : (pre ++ (encode 3 n ++ tail)).length ≤ size) :
    verifyNeedle ⟨pre ++ (encode 3 n ++ tail), size⟩ ⟨n.id, pre.length / 8, recSize n⟩ =
      (.ok, ⟨pre ++ encode 3 n, pre.length + actualSize (recSize n) 3⟩) := by
  have hlen := encode_length crc 3 n h
  have hoff8 : pre.length / 8 * 8 = pre.length := by omega
  unfold verifyNeedle
  simp only [hoff8, List.drop_left]
  simp only [header_take16, header_encode crc 3 n h tail, if_false, ne_eq, not_true_eq_false]
  rw [Int.toNat_natCast]
  have e2 : ¬ ((((pre ++ (encode 3 n ++ tail)).drop (pre.length + 16 + recSize n + 4)).take 8).length < 8) := by
    simp only [List.length_take, List.length_drop, List.length_append, hlen]
    unfold actualSize bodyLength tsLen; simp only [if_true]; omega
  simp only [e2, if_false]
  have hlen2 : (pre ++ (encode 3 n ++ tail)).length = pre.length + actualSize (recSize n) 3 + tail.length := by
    simp only [List.length_append, hlen]; omega
  have etake : (pre ++ (encode 3 n ++ tail)).take (pre.length + actualSize (recSize n) 3) = pre ++ encode 3 n := by
    rw [← List.append_assoc]
    exact List.take_left' (by rw [List.length_append, hlen])
  by_cases heq : size = pre.length + actualSize (recSize n) 3
  · have ht : tail = [] := by
      have : tail.length = 0 := by omega
      exact List.eq_nil_of_length_eq_zero this
    simp only [heq, if_true, ht, List.append_nil]
  · have hgt : size > pre.length + actualSize (recSize n) 3 := by omega
    simp only [heq, if_false, hgt, if_true, etake]

/-- `doCheckAndFixVolumeData` for a put entry whose record is in the file -/
theorem checkEntry_record (crc : Bytes → UInt32) (n : Needle) (h : WF crc n) (pre tail : Bytes) (size : Nat)
    (hoff : pre.length % 8 = 0) (hpre : 8 ≤ pre.length) (hsz : (pre ++ (encode 3 n ++ tail)).length ≤ size) :
    checkEntry crc ⟨pre ++ (encode 3 n ++ tail), size⟩ ⟨n.id, pre.length / 8, recSize n⟩ =
      (.ok, ⟨pre ++ encode 3 n, pre.length + actualSize (recSize n) 3⟩) := by
  unfold checkEntry
  have e1 : ¬ (pre.length / 8 = 0) := by omega
  simp only [e1, Int.not_ofNat_neg, if_false]
  exact verifyNeedle_record crc n h pre tail size hoff hsz

/-- `CheckAndFixVolumeDataIntegrity`: the last index entry is a put whose record is completely in the data file;
    ANY bytes may follow it (a torn record, complete records that were not indexed yet). The check succeeds, keeps
    the whole index and cuts the data file back to the end of that record. -/
theorem checkAndFix_last_put (crc : Bytes → UInt32) (n : Needle) (h : WF crc n) (pre tail idxPre : Bytes)
    (hoff : pre.length % 8 = 0) (hpre : 8 ≤ pre.length) (hoffr : pre.length / 8 < 2 ^ 32)
    (hidx : idxPre.length % 16 = 0) :
    checkAndFix crc (openDat (pre ++ (encode 3 n ++ tail))) (idxPre ++ entryBytes ⟨n.id, pre.length / 8, recSize n⟩) =
      (⟨pre ++ encode 3 n, pre.length + actualSize (recSize n) 3⟩,
       idxPre ++ entryBytes ⟨n.id, pre.length / 8, recSize n⟩, false) := by
  have hs := recSize_lt crc n h
  have hwf : EntryWF ⟨n.id, pre.length / 8, recSize n⟩ := ⟨h.2.1, hoffr, by simp only []; omega, by simp only []; omega⟩
  unfold checkAndFix
  simp only [idxEntries_split hidx, idxEntries_entryBytes _ hwf]
  have hne : ¬ ((idxEntries idxPre ++ [(⟨n.id, pre.length / 8, recSize n⟩ : Entry)]).length = 0) := by simp
  simp only [hne, if_false, List.reverse_append, List.reverse_cons, List.reverse_nil, List.nil_append, List.cons_append]
  rw [List.take_succ_cons]
  unfold checkLoop
  have hd : openDat (pre ++ (encode 3 n ++ tail)) = ⟨pre ++ (encode 3 n ++ tail), (openDat (pre ++ (encode 3 n ++ tail))).size⟩ := rfl
  rw [hd, checkEntry_record crc n h pre tail _ hoff hpre (openDat_size_roundup _).1]
  simp

theorem mget_cons (x : Nat × Nat × Int) (m : NMap) (k : Nat) :
    mget (x :: m) k = if x.1 == k then some x.2 else mget m k := by
  unfold mget; simp only [List.find?_cons]; split <;> simp_all

theorem mget_map {m : NMap} {f : Nat × Nat × Int → Nat × Nat × Int} (hf : ∀ x, (f x).1 = x.1) (k : Nat) :
    mget (m.map f) k = (m.find? fun e => e.1 == k).map fun x => (f x).2 := by
  unfold mget
  rw [List.find?_map, show ((fun e => e.1 == k) ∘ f) = fun e => e.1 == k from funext fun x => by simp [hf],
    Option.map_map]
  rfl

theorem any_key (m : NMap) (k : Nat) : (m.any fun e => e.1 == k) = (mget m k).isSome := by
  induction m with
  | nil => rfl
  | cons x m ih => rw [List.any_cons, mget_cons, ih]; cases x.1 == k <;> rfl

theorem mget_mset (m : NMap) (k off : Nat) (size : Int) (k' : Nat) :
    mget (mset m k off size) k' = if k' = k then some (off, size) else mget m k' := by
  unfold mset
  rw [any_key]
  cases hk : mget m k with
  | some v =>
    -- the key is present: its entry is replaced in place
    rw [Option.isSome_some, if_pos rfl, mget_map (fun x => by split <;> simp_all)]
    unfold mget at hk ⊢
    cases hf : m.find? (fun e => e.1 == k') with
    | none =>
      by_cases h : k' = k
      · subst h; simp [hf] at hk
      · simp [h]
    | some x =>
      have hx : x.1 = k' := by simpa using List.find?_some hf
      subst hx
      by_cases h : x.1 = k <;> simp [h]
  | none =>
    -- the key is absent: a new entry is appended
    rw [Option.isSome_none, if_neg Bool.false_ne_true]
    unfold mget at hk ⊢
    rw [List.find?_append]
    by_cases h : k' = k
    · subst h
      rw [Option.map_eq_none_iff] at hk
      simp [hk]
    · have : ¬ k = k' := Ne.symm h
      cases m.find? (fun e => e.1 == k') <;> simp [h, this]

theorem mget_mflip (m : NMap) (k k' : Nat) :
    mget (mflip m k) k' = (mget m k').map fun os => if k' = k ∧ os.2 > 0 then (os.1, -os.2) else os := by
  unfold mflip
  rw [mget_map (fun x => by split <;> rfl)]
  unfold mget
  cases hf : m.find? (fun e => e.1 == k') with
  | none => rfl
  | some x =>
    have hx : x.1 = k' := by simpa using List.find?_some hf
    simp only [Option.map_some, beq_iff_eq, hx]
    congr 1
    split <;> rfl

/-- what `doLoading` does with one index entry: the function `loadCompact` folds -/
def stepC (m : NMap) (e : Entry) : NMap :=
  if e.off ≠ 0 ∧ e.size > 0 then mset m e.key e.off e.size else mflip m e.key

theorem loadCompact_eq (es : List Entry) : loadCompact es = es.foldl stepC [] := rfl

theorem mget_stepC_other (m : NMap) (e : Entry) (k : Nat) (hk : k ≠ e.key) : mget (stepC m e) k = mget m k := by
  unfold stepC
  split
  · rw [mget_mset, if_neg hk]
  · rw [mget_mflip]; cases mget m k <;> simp [hk]

theorem foldl_stepC_other (es : List Entry) (k : Nat) (hk : ∀ x ∈ es, x.key ≠ k) (m : NMap) :
    mget (es.foldl stepC m) k = mget m k := by
  induction es generalizing m with
  | nil => rfl
  | cons e es ih =>
    rw [List.foldl_cons, ih (fun x hx => hk x (List.mem_cons_of_mem _ hx)),
      mget_stepC_other m e k (hk e List.mem_cons_self).symm]

/-- the map loaded from the index gives, for a key, the LAST entry of that key when it is a put -/
theorem mget_loadCompact_put (es1 es2 : List Entry) (e : Entry) (ho : e.off ≠ 0) (hs : e.size > 0)
    (hlast : ∀ x ∈ es2, x.key ≠ e.key) : mget (loadCompact (es1 ++ e :: es2)) e.key = some (e.off, e.size) := by
  rw [loadCompact_eq, List.foldl_append, List.foldl_cons, foldl_stepC_other es2 e.key hlast]
  unfold stepC
  rw [if_pos ⟨ho, hs⟩, mget_mset, if_pos rfl]

/-- … and no positive size when the last entry of the key is a tombstone (or an empty blob) -/
theorem mget_loadCompact_del (es1 es2 : List Entry) (e : Entry) (hs : ¬ (e.off ≠ 0 ∧ e.size > 0))
    (hlast : ∀ x ∈ es2, x.key ≠ e.key) (o : Nat) (s : Int)
    (h : mget (loadCompact (es1 ++ e :: es2)) e.key = some (o, s)) : ¬ (s > 0) := by
  rw [loadCompact_eq, List.foldl_append, List.foldl_cons, foldl_stepC_other es2 e.key hlast] at h
  generalize es1.foldl stepC [] = m at h
  unfold stepC at h
  rw [if_neg hs, mget_mflip] at h
  cases hg : mget m e.key with
  | none => rw [hg] at h; cases h
  | some os =>
    rw [hg, Option.map_some] at h
    split at h <;> cases h <;> omega

/-- sizes in the loaded map are never 0 (an empty blob's entry is treated as a deletion) -/
theorem loadCompact_nonzero {es : List Entry} {k o : Nat} {s : Int} (h : mget (loadCompact es) k = some (o, s)) :
    s ≠ 0 := by
  suffices hinv : ∀ (m : NMap), (∀ k o s, mget m k = some (o, s) → s ≠ 0) →
      ∀ k o s, mget (es.foldl stepC m) k = some (o, s) → s ≠ 0 from
    hinv [] (fun _ _ _ h => by simp [mget] at h) k o s h
  clear h
  induction es with
  | nil => exact fun m hm => hm
  | cons e es ih =>
    intro m hm
    rw [List.foldl_cons]
    apply ih
    intro k o s h
    unfold stepC at h
    split at h
    · rename_i hc
      rw [mget_mset] at h
      split at h
      · cases h; omega
      · exact hm k o s h
    · rw [mget_mflip] at h
      cases hg : mget m k with
      | none => rw [hg] at h; cases h
      | some os =>
        have := hm k os.1 os.2 hg
        rw [hg, Option.map_some] at h
        split at h <;> cases h <;> omega

theorem readNeedle_record (crc : Bytes → UInt32) (v : Vol) (m : Needle) (hm : WF crc m) (hd : 0 < m.data.length)
    (p post : Bytes) (hp : v.panicked = false) (hf : v.failed = false) (hoff : p.length % 8 = 0) (hp8 : 8 ≤ p.length)
    (hdat : v.dat.bytes = p ++ (encode 3 m ++ post)) (hg : mget v.map m.id = some (p.length / 8, (recSize m : Int))) :
    readNeedle crc v m.id = .data m.data := by
  have hpos := recSize_pos m hd
  have e1 : ¬ (p.length / 8 = 0) := by omega
  have e3 : ¬ ((recSize m : Int) = 0) := by omega
  have e4 : p.length / 8 * 8 = p.length := by omega
  unfold readNeedle
  simp only [hp, hf, Bool.false_eq_true, or_self, if_false, hg, e1, Int.not_ofNat_neg, e3, e4, hdat, readData_at crc 3 m hm p post]
  exact congrArg ReadRes.data (stored_data m)

theorem writeNeedle_fresh (crc : Bytes → UInt32) (v : Vol) (x : Needle)
    (hp : v.panicked = false) (hf : v.failed = false) (hro : v.readOnly = false) (hfresh : mget v.map x.id = none) :
    writeNeedle crc v x =
      ({ v with dat := appendRec v.dat (encode 3 x), map := mset v.map x.id (v.dat.size / 8) (recSize x),
                idx := v.idx ++ entryBytes ⟨x.id, v.dat.size / 8, recSize x⟩ }, .ok) := by
  unfold writeNeedle
  simp only [hp, hf, hro, hfresh, Bool.false_eq_true, or_self, if_false, Bool.not_true, if_true]

theorem walkFrom_all (rows : Nat) (hr : 0 < rows) (f : Bytes) :
    ∀ (fuel start : Nat) (acc : List Entry), f.length - start < fuel →
      walkFrom rows f fuel (start + ((f.drop start).take (16 * rows)).length) ((f.drop start).take (16 * rows))
        (decide (((f.drop start).take (16 * rows)).length < 16 * rows)) acc = (acc ++ idxEntries (f.drop start), false) := by
  intro fuel
  induction fuel with
  | zero => intro start acc h; omega
  | succ fuel ih =>
    intro start acc hfuel
    unfold walkFrom
    by_cases heof : ((f.drop start).take (16 * rows)).length < 16 * rows
    · -- last (short) read: it carries io.EOF, the loop body returns nil
      have hall : (f.drop start).take (16 * rows) = f.drop start := by
        apply List.take_of_length_le
        rw [List.length_take] at heof; omega
      rw [hall] at heof
      simp only [hall, heof, decide_true, or_true, if_true]
    · -- a full batch: more may follow (possibly nothing: then the next read returns 0 bytes and io.EOF)
      have hlen : ((f.drop start).take (16 * rows)).length = 16 * rows := by
        have := List.length_take_le (16 * rows) (f.drop start); omega
      have hpos : ((f.drop start).take (16 * rows)).length > 0 := by omega
      simp only [heof, decide_false, hpos, and_self, Bool.false_eq_true, or_false, if_true, if_false, readAt]
      have hle : start + 16 * rows ≤ f.length := by
        rw [List.length_take, List.length_drop] at hlen; omega
      have hnext := ih (start + 16 * rows) (acc ++ idxEntries ((f.drop start).take (16 * rows))) (by omega)
      rw [hlen]
      have hsplit : idxEntries (f.drop start) =
          idxEntries ((f.drop start).take (16 * rows)) ++ idxEntries (f.drop (start + 16 * rows)) := by
        have h1 : f.drop start = (f.drop start).take (16 * rows) ++ f.drop (start + 16 * rows) := by
          rw [← List.drop_drop, List.take_append_drop]
        rw [h1, idxEntries_split (by rw [hlen]; omega), ← h1]
      rw [hsplit, ← List.append_assoc]
      exact hnext

end SwV.Lemmas.C03
