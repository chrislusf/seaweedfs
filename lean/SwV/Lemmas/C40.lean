/-
C40 — a codec-free, decidable characterisation of `StableForward` (the replica rebuilds exactly the primary's needle
from the request `ReplicatedWrite` forwards through `operation.UploadData`).
-/
import SwV.Model.C40
namespace SwV.Lemmas.C40
open SwV.Model.C33 SwV.Model.C40

/-- the media type `doUploadData` ends up with on the forwarding path for the primary's needle `n`: the stored one, or
    (nothing stored, bytes not pre-compressed) what `http.DetectContentType` says unless that is octet-stream -/
def fwdType (s : Sniff) (n : Rec) : List Char :=
  if n.compressed then n.mime
  else if n.mime = [] then (if s.detected = octet then [] else s.detected) else n.mime

/-- does the forwarding upload gzip the bytes (sure-compressible type, or the 128-byte sample of an untyped blob > 16 KiB) -/
def fwdGzips (s : Sniff) (n : Rec) : Bool :=
  if n.compressed then false else
  let base := if n.name = [] then ['.'] else n.name
  let (sbc, sure) := isCompressable base (fwdType s n)
  if sure && sbc then true
  else if !sure && fwdType s n = [] && n.data.length > 16 * 1024 then s.gz128
  else false

/-- the mime type the REPLICA derives from the forwarded request -/
def replicaMime (s : Sniff) (n : Rec) : List Char :=
  let ext := if n.name = [] then [] else s.extMime
  let srvExt := if dotIndexPositive n.name then ext else []
  let ctype := if fwdType s n = [] then ext else fwdType s n
  let m := if !n.cm ∧ ctype ≠ [] ∧ ctype ≠ octet ∧ srvExt ≠ ctype then ctype else []
  if m.length < 256 then m else []

/-- SYNTACTIC stability: the forwarding upload does not re-compress, and the replica derives the mime type the primary
    stored.  No codec, no Store: a decidable property of the request and of the three sniffing oracles. -/
def stableSyntactic (s : Sniff) (q : Req) : Bool :=
  !fwdGzips s (createNeedle q) && decide (replicaMime s (createNeedle q) = (createNeedle q).mime)

theorem decide1_forward (s : Sniff) (n : Rec) :
    decide1 { name := n.name, mime := n.mime, cipher := false, inputCompressed := n.compressed, data := n.data,
              detected := s.detected, extMime := (if n.name = [] then [] else s.extMime), gz128 := s.gz128 } =
      (fwdType s n, fwdGzips s n) := by
  unfold decide1 fwdGzips fwdType
  cases hc : n.compressed
  · simp only [Bool.false_eq_true, if_false]
    generalize (if n.name = [] then ['.'] else n.name) = base
    generalize (if n.mime = [] then (if s.detected = octet then [] else s.detected) else n.mime) = mtype
    rcases isCompressable base mtype with ⟨sbc, sure⟩
    simp only [apply_ite (Prod.mk mtype)]
  · rfl

theorem createNeedle_name_short (q : Req) : (createNeedle q).name.length < 256 := by
  unfold createNeedle
  dsimp only
  split
  · assumption
  · simp

theorem replica_needle_of_no_gzip (c : Codec) (s : Sniff) (n : Rec) (hname : n.name.length < 256)
    (hg : fwdGzips s n = false) :
    createNeedle (forward c s n) = { n with mime := replicaMime s n } := by
  unfold forward
  simp only [decide1_forward, hg]
  unfold createNeedle replicaMime
  simp [hname]

theorem fwdGzips_not_compressed (s : Sniff) (n : Rec) (h : fwdGzips s n = true) : n.compressed = false := by
  cases hc : n.compressed
  · rfl
  · simp [fwdGzips, hc] at h

/-- syntactic stability is `StableForward`, whatever gzip is: when the forwarding upload gzips, the replica's needle is
    flagged compressed and the primary's is not; otherwise the only field that can differ is the mime type -/
theorem stable_iff_syntactic (c : Codec) (s : Sniff) (q : Req) :
    createNeedle (forward c s (createNeedle q)) = createNeedle q ↔ stableSyntactic s q = true := by
  simp only [stableSyntactic, Bool.and_eq_true, Bool.not_eq_true', decide_eq_true_eq]
  cases hg : fwdGzips s (createNeedle q)
  · rw [replica_needle_of_no_gzip c s _ (createNeedle_name_short q) hg]
    exact ⟨fun h => ⟨rfl, congrArg Rec.mime h⟩, fun h => by rw [h.2]⟩
  · refine ⟨fun h => ?_, fun h => nomatch h.1⟩
    have h2 := congrArg Rec.compressed h
    rw [fwdGzips_not_compressed s _ hg] at h2
    unfold forward at h2
    simp only [decide1_forward, hg] at h2
    simp [createNeedle] at h2

/-- a stored media type (it is the client's Content-Type) was stored for a request that is not a chunk manifest (`cm`) and
    is not octet-stream, short, and not the type the extension of the STORED name gives (a name too long to store is
    dropped, and the empty name has no extension) -/
theorem createNeedle_mime_stored (q : Req) (hm : (createNeedle q).mime ≠ []) :
    (createNeedle q).cm = false ∧ (createNeedle q).mime ≠ octet ∧
      (if dotIndexPositive (createNeedle q).name then q.extMime else []) ≠ (createNeedle q).mime ∧
      (createNeedle q).mime.length < 256 := by
  by_cases hc : (!q.cm) = true ∧ q.ctype ≠ [] ∧ q.ctype ≠ octet ∧ (if dotIndexPositive q.name then q.extMime else []) ≠ q.ctype
  · by_cases hl : q.ctype.length < 256
    · have e : (createNeedle q).mime = q.ctype := by simp only [createNeedle, if_pos hc, if_pos hl]
      rw [e]
      refine ⟨(Bool.not_eq_true' _ ▸ hc.1 : q.cm = false), hc.2.2.1, ?_, hl⟩
      show (if dotIndexPositive (if q.name.length < 256 then q.name else []) then q.extMime else []) ≠ q.ctype
      by_cases hn : q.name.length < 256
      · rw [if_pos hn]; exact hc.2.2.2
      · rw [if_neg hn]; exact Ne.symm hc.2.1
    · exact absurd (by simp only [createNeedle, if_pos hc, if_neg hl]) hm
  · exact absurd (by simp only [createNeedle, if_neg hc]; rfl) hm

theorem fwdType_of_mime (s : Sniff) (n : Rec) (hm : n.mime ≠ []) : fwdType s n = n.mime := by
  simp only [fwdType, if_neg hm, ite_self]

/-- a stored type is forwarded as it is, so the upload gzips only what `IsCompressableFileType` is sure to compress -/
theorem fwdGzips_of_mime (s : Sniff) (n : Rec) (hm : n.mime ≠ [])
    (hz : n.compressed = true ∨
      (isCompressable (if n.name = [] then ['.'] else n.name) n.mime).1 = false ∨
      (isCompressable (if n.name = [] then ['.'] else n.name) n.mime).2 = false) :
    fwdGzips s n = false := by
  unfold fwdGzips
  rw [fwdType_of_mime s n hm]
  cases hc : n.compressed
  · have hz := hz.resolve_left (ne_true_of_eq_false hc)
    simp only [Bool.false_eq_true, if_false]
    generalize isCompressable _ n.mime = p at hz ⊢
    obtain ⟨sbc, sure⟩ := p
    rcases hz with rfl | rfl <;> simp [hm]
  · rfl

/-- a name with a dot after its first character is not empty -/
theorem ext_of_dotIndexPositive (n e : List Char) :
    (if dotIndexPositive n then (if n = [] then [] else e) else []) = if dotIndexPositive n then e else [] := by
  cases n with
  | nil => rfl
  | cons c r => simp only [reduceCtorEq, if_false]

/-- the replica runs `CreateNeedleFromRequest`'s test on the forwarded type and the stored name: a type that passed it
    once passes it again -/
theorem replicaMime_of_mime (s : Sniff) (n : Rec) (hm : n.mime ≠ []) (hcm : n.cm = false) (ho : n.mime ≠ octet)
    (hsrv : (if dotIndexPositive n.name then s.extMime else []) ≠ n.mime) (hl : n.mime.length < 256) :
    replicaMime s n = n.mime := by
  unfold replicaMime
  dsimp only
  rw [fwdType_of_mime s n hm, ext_of_dotIndexPositive]
  simp [hm, hcm, ho, hsrv, hl]

/-- a readable sufficient class: the primary STORED a media type (client-supplied, not octet-stream, not the one the
    extension gives), the extension oracle of the forwarding step is the one of the request, and the bytes are not
    re-compressed (already compressed, or the type is not one `IsCompressableFileType` is sure to compress) -/
theorem syntactic_of_typed (s : Sniff) (q : Req) (hm : (createNeedle q).mime ≠ []) (hext : s.extMime = q.extMime)
    (hz : q.gz = true ∨
      (isCompressable (if (createNeedle q).name = [] then ['.'] else (createNeedle q).name) (createNeedle q).mime).1 = false ∨
      (isCompressable (if (createNeedle q).name = [] then ['.'] else (createNeedle q).name) (createNeedle q).mime).2 = false) :
    stableSyntactic s q = true := by
  obtain ⟨hcm, ho, hsrv, hl⟩ := createNeedle_mime_stored q hm
  simp only [stableSyntactic, Bool.and_eq_true, Bool.not_eq_true', decide_eq_true_eq]
  exact ⟨fwdGzips_of_mime s _ hm hz, replicaMime_of_mime s _ hm hcm ho (hext ▸ hsrv) hl⟩

end SwV.Lemmas.C40
