/-
C22 — lemmas about the persisted-log path (Model/C22Disk): which segment files
`ReadPersistedLogBuffer` reads, the conditions under which that loses nothing, the order argument behind the
`lastTsNs` it returns, and the invariant tying the segment files written by the production flush function to the flat
`disk` of the log-buffer model.  Core Lean only.
-/
import SwV.Model.C22Disk
import SwV.Lemmas.C22
namespace SwV.Lemmas.C22
open SwV.Model.C22 SwV.Spec.C22

/-- the file's name sorts before the name computed from the start time `T` -/
def skippedByName (T : Int) (F : Seg) : Bool := keyLt F.day F.hm (dayOf T.toNat) (hmOf T.toNat)

/-- the hypothesis of the disk theorems (the inputs it excludes are the finding
    ReadPersistedLogBuffer/skips-segment-file-by-name): every file whose name sorts before `T`'s minute holds no
    entry later than `T` -/
def NoStraddle (files : List Seg) (T : Int) : Prop :=
  ∀ F ∈ files, skippedByName T F = true → ∀ t ∈ F.ents, (t : Int) ≤ T

/-- at most 366 day directories from the start date on (one call lists no more) -/
def FewDays (files : List Seg) (T : Int) : Prop :=
  (((files.map (·.day)).filter (fun d => decide (dayOf T.toNat ≤ d))).eraseDups).length ≤ 366

instance (files : List Seg) (T : Int) : Decidable (NoStraddle files T) := by unfold NoStraddle; infer_instance
instance (files : List Seg) (T : Int) : Decidable (FewDays files T) := by unfold FewDays; infer_instance

theorem selected_eq (files : List Seg) (T : Int) (h : FewDays files T) :
    selected files T = files.filter (fun F => !skippedByName T F) := by
  unfold selected listDays
  simp only
  rw [List.take_of_length_le h]
  apply List.filter_congr
  intro F hF
  have hc : ((((files.map (·.day)).filter (fun d => decide (dayOf T.toNat ≤ d))).eraseDups).contains F.day)
      = decide (dayOf T.toNat ≤ F.day) := by
    rw [Bool.eq_iff_iff]
    simp only [List.contains_iff_mem, List.mem_eraseDups, List.mem_filter, List.mem_map, decide_eq_true_eq]
    exact and_iff_right ⟨F, hF, rfl⟩
  rw [hc]
  rw [Bool.eq_iff_iff]
  simp only [skippedByName, keyLt, Bool.and_eq_true, Bool.not_eq_true', decide_eq_true_eq, decide_eq_false_iff_not,
    Bool.and_eq_false_iff]
  omega

theorem flatMap_filter_skip {α β : Type} {p : α → Bool} {g : α → List β} :
    ∀ (l : List α), (∀ a ∈ l, p a = false → g a = []) → (l.filter p).flatMap g = l.flatMap g := by
  intro l
  induction l with
  | nil => intro _; rfl
  | cons a rest ih =>
    intro h
    have ih' := ih (fun b hb => h b (List.mem_cons_of_mem _ hb))
    by_cases hp : p a = true
    · simp [hp, ih']
    · have hp' : p a = false := eq_false_of_ne_true hp
      simp [hp', ih', h a List.mem_cons_self hp']

theorem keyLt_eq_false_of_le (x y : Nat) (h : x ≤ y) : keyLt (dayOf y) (hmOf y) (dayOf x) (hmOf x) = false := by
  unfold keyLt dayOf hmOf nsPerMinute minutesPerDay
  have : x / 60000000000 ≤ y / 60000000000 := Nat.div_le_div_right h
  simp; omega

/-- every entry lies in the minute its file is named after -/
def WithinMinute (files : List Seg) : Prop := ∀ F ∈ files, ∀ t ∈ F.ents, dayOf t = F.day ∧ hmOf t = F.hm

instance (files : List Seg) : Decidable (WithinMinute files) := by unfold WithinMinute; infer_instance

/-- a sufficient condition for `NoStraddle` at EVERY start time: no flushed buffer crosses a minute boundary -/
theorem withinMinute_noStraddle (files : List Seg) (h : WithinMinute files) (T : Int) : NoStraddle files T := by
  intro F hF hs t ht
  obtain ⟨hd, hm⟩ := h F hF t ht
  unfold skippedByName at hs
  rw [← hd, ← hm] at hs
  by_cases hle : (t : Int) ≤ T
  · exact hle
  · have : T.toNat ≤ t := by omega
    have := keyLt_eq_false_of_le T.toNat t this
    rw [this] at hs; cases hs

theorem filter_flatMap_sublist {α β : Type} {p : α → Bool} {g : α → List β} :
    ∀ (l : List α), List.Sublist ((l.filter p).flatMap g) (l.flatMap g) := by
  intro l
  induction l with
  | nil => simp
  | cons a rest ih =>
    by_cases hp : p a = true
    · simp only [List.filter_cons, hp, if_true, List.flatMap_cons]
      exact ih.append_left _
    · have hp' : p a = false := eq_false_of_ne_true hp
      simp only [List.filter_cons, hp', List.flatMap_cons]
      exact List.sublist_append_of_sublist_right ih

/-- in a sorted list, entries later than `T` in an earlier part force such entries in every later non-empty part -/
theorem expected_later_ne_nil {A B : List Nat} {T : Int} (hs : Sorted (A ++ B)) (hB : B ≠ [])
    (hA : expected A T ≠ []) : expected B T ≠ [] := by
  obtain ⟨x, hx⟩ := List.exists_mem_of_ne_nil _ hA
  obtain ⟨hxA, hxT⟩ := mem_expected.mp hx
  obtain ⟨y, hy⟩ := List.exists_mem_of_ne_nil _ hB
  have hxy : x < y := (List.pairwise_append.mp hs).2.2 x hxA y hy
  exact List.ne_nil_of_mem (mem_expected.mpr ⟨hy, by omega⟩)

def KeyLt (F G : Seg) : Prop := keyLt F.day F.hm G.day G.hm = true

theorem persisted_append (a b : List Seg) : persisted (a ++ b) = persisted a ++ persisted b :=
  List.flatMap_append

theorem persisted_cons (F : Seg) (files : List Seg) : persisted (F :: files) = F.ents ++ persisted files :=
  List.flatMap_cons

theorem mem_appendSeg (d h : Nat) (ents : List Nat) (G : Seg) : ∀ (files : List Seg), G ∈ appendSeg files d h ents →
    G ∈ files ∨ (G.day = d ∧ G.hm = h ∧ ∃ pre, G.ents = pre ++ ents) := by
  intro files
  induction files with
  | nil => intro hG; rw [appendSeg, List.mem_singleton] at hG; subst hG; exact Or.inr ⟨rfl, rfl, [], rfl⟩
  | cons F rest ih =>
    intro hG
    unfold appendSeg at hG
    split at hG
    next hk =>
      rcases List.mem_cons.mp hG with rfl | hG
      · exact Or.inr ⟨hk.1, hk.2, F.ents, rfl⟩
      · exact Or.inl (List.mem_cons_of_mem _ hG)
    next =>
      split at hG
      · rcases List.mem_cons.mp hG with rfl | hG
        · exact Or.inr ⟨rfl, rfl, [], rfl⟩
        · exact Or.inl hG
      · rcases List.mem_cons.mp hG with rfl | hG
        · exact Or.inl (List.mem_cons_self ..)
        · exact (ih hG).imp_left (List.mem_cons_of_mem _)

theorem appendSeg_cons_after {F : Seg} {d h : Nat} (hk : ¬(F.day = d ∧ F.hm = h)) (hle : keyLt d h F.day F.hm = false)
    (rest : List Seg) (ents : List Nat) : appendSeg (F :: rest) d h ents = F :: appendSeg rest d h ents := by
  rw [appendSeg, if_neg hk, if_neg (ne_true_of_eq_false hle)]

theorem appendSeg_keys {d h : Nat} {ents : List Nat} : ∀ (files : List Seg), files.Pairwise KeyLt →
    (∀ F ∈ files, keyLt d h F.day F.hm = false) → (appendSeg files d h ents).Pairwise KeyLt := by
  intro files
  induction files with
  | nil => intro _ _; exact List.pairwise_singleton ..
  | cons F rest ih =>
    intro hp hle
    obtain ⟨hF, hrest⟩ := List.pairwise_cons.mp hp
    have hFle := hle F (List.mem_cons_self ..)
    by_cases hk : F.day = d ∧ F.hm = h
    · rw [appendSeg, if_pos hk]; exact List.pairwise_cons.mpr ⟨hF, hrest⟩
    · rw [appendSeg_cons_after hk hFle]
      refine List.pairwise_cons.mpr ⟨fun G hG => ?_, ih hrest (fun G hG => hle G (List.mem_cons_of_mem _ hG))⟩
      -- a file of the tail is an old one, after `F` as before, or the one named `d`, `h`, which is neither `F` nor before it
      rcases mem_appendSeg d h ents G rest hG with hm | ⟨hd, hh, _⟩
      · exact hF G hm
      · simp only [KeyLt, keyLt, decide_eq_true_eq, decide_eq_false_iff_not] at hFle ⊢
        omega

theorem persisted_appendSeg {d h : Nat} {ents : List Nat} : ∀ (files : List Seg), files.Pairwise KeyLt →
    (∀ F ∈ files, keyLt d h F.day F.hm = false) → persisted (appendSeg files d h ents) = persisted files ++ ents := by
  intro files
  induction files with
  | nil => intro _ _; simp [appendSeg, persisted]
  | cons F rest ih =>
    intro hp hle
    obtain ⟨hF, hrest⟩ := List.pairwise_cons.mp hp
    by_cases hk : F.day = d ∧ F.hm = h
    · -- a file named `d`, `h` is the last one: a later file would sort after it and not after it
      have hrest : rest = [] := by
        cases rest with
        | nil => rfl
        | cons G r2 =>
          have h1 : KeyLt F G := hF G (List.mem_cons_self ..)
          rw [KeyLt, hk.1, hk.2, hle G (List.mem_cons_of_mem _ (List.mem_cons_self ..))] at h1; cases h1
      subst hrest
      simp [appendSeg, hk, persisted]
    · rw [appendSeg_cons_after hk (hle F (List.mem_cons_self ..)), persisted_cons, persisted_cons,
        ih hrest (fun G hG => hle G (List.mem_cons_of_mem _ hG)), List.append_assoc]

/-- `logFlushFunc` for a buffer that starts at its entry `x`, later than everything persisted: the entries land at
    the end of the listing, the names stay ascending, and each file is still named after one of its entries -/
theorem logFlush_spec (files : List Seg) (f : Flush) (x : Nat) (hx : x ∈ f.ents) (hxs : f.start = (x : Int))
    (hk : files.Pairwise KeyLt) (hn : ∀ F ∈ files, ∃ y ∈ F.ents, F.day = dayOf y ∧ F.hm = hmOf y)
    (hlt : ∀ y ∈ persisted files, y < x) :
    persisted (logFlush files f) = persisted files ++ f.ents ∧ (logFlush files f).Pairwise KeyLt ∧
    ∀ F ∈ logFlush files f, ∃ y ∈ F.ents, F.day = dayOf y ∧ F.hm = hmOf y := by
  have hle : ∀ F ∈ files, keyLt (dayOf x) (hmOf x) F.day F.hm = false := by
    intro F hF
    obtain ⟨y, hy, hd, hm⟩ := hn F hF
    rw [hd, hm]
    exact keyLt_eq_false_of_le y x (Nat.le_of_lt (hlt y (List.mem_flatMap_of_mem hF hy)))
  have hsx : f.start.toNat = x := by omega
  have hfiles : logFlush files f = appendSeg files (dayOf x) (hmOf x) f.ents := by
    unfold logFlush; rw [if_neg (List.ne_nil_of_mem hx), hsx]
  rw [hfiles]
  refine ⟨persisted_appendSeg _ hk hle, appendSeg_keys _ hk hle, fun G hG => ?_⟩
  rcases mem_appendSeg _ _ _ G _ hG with hm | ⟨hd', hh', pre, hpre⟩
  · exact hn G hm
  · exact ⟨x, by rw [hpre]; exact List.mem_append_right _ hx, hd', hh'⟩

/-- every sealed buffer waiting for its flush is non-empty and starts at one of its entries
    (`startTime` is the timestamp of the first entry) -/
def QStart (lb : LB) : Prop := ∀ f ∈ lb.queue, ∃ x ∈ f.ents, f.start = (x : Int)

theorem QStart_copyToFlush {s : LB} (hi : LInv s) (hq : QStart s) : QStart (copyToFlush s) := by
  unfold copyToFlush
  by_cases hp : s.cur.pos > 0
  · rw [if_pos hp]
    cases hprev : s.prev with
    | nil => exact hq
    | cons old rest =>
      simp only
      refine List.forall_mem_append.mpr ⟨hq, List.forall_mem_singleton.mpr ?_⟩
      have hne : s.cur.ents ≠ [] := mt hi.curPos.mpr (Nat.ne_of_gt hp)
      obtain ⟨x, hx, hxs⟩ := hi.curWF.hasStart hne
      exact ⟨x, hx, Int.le_antisymm (hi.curWF.range x hx).1 hxs⟩
  · rw [if_neg hp]; exact hq

theorem QStart_add {s : LB} {ets dlen : Nat} (hi : LInv s) (hq : QStart s) : QStart (add s ets dlen) := by
  have h1 : LInv (stamp s (fixTs s ets)) := LInv_stamp hi (fixTs_gt s ets)
  have hq1 : QStart (stamp s (fixTs s ets)) := by unfold stamp QStart; exact hq
  unfold add
  simp only
  split
  · have : QStart (copyToFlush (stamp s (fixTs s ets))) := QStart_copyToFlush h1 hq1
    unfold put rotate QStart; exact this
  · unfold put QStart; exact hq1

/-- the invariant tying the segment files to the log-buffer model -/
structure DInv (d : DLB) : Prop where
  linv : LInv d.lb
  qstart : QStart d.lb
  files_eq_disk : persisted d.files = d.lb.disk
  keys : d.files.Pairwise KeyLt
  named : ∀ F ∈ d.files, ∃ x ∈ F.ents, F.day = dayOf x ∧ F.hm = hmOf x
  idle : d.lb.inflight = none

theorem DInv.nonempty {d : DLB} (h : DInv d) : ∀ F ∈ d.files, F.ents ≠ [] := by
  intro F hF
  obtain ⟨x, hx, _⟩ := h.named F hF
  exact List.ne_nil_of_mem hx

theorem flushOne_frame (d : DLB) : (flushOne d).lb.log = d.lb.log ∧ (flushOne d).lb.lastTs = d.lb.lastTs := by
  unfold flushOne
  split
  · exact ⟨(fack_frame _).1.trans (fwrite_frame _).1, (fack_frame _).2.trans (fwrite_frame _).2⟩
  · exact ⟨rfl, rfl⟩

theorem DInv_flushOne {d : DLB} (h : DInv d) : DInv (flushOne d) ∧ (flushOne d).lb.queue.length = d.lb.queue.length - 1 := by
  unfold flushOne
  cases hq : d.lb.queue with
  | nil => rw [h.idle]; simp only; exact ⟨h, by simp [hq]⟩
  | cons f q =>
    rw [h.idle]
    simp only
    have hfa : fack (fwrite d.lb) = { d.lb with queue := q, inflight := none, disk := d.lb.disk ++ f.ents, lastFlush := f.stop } := by
      unfold fwrite; rw [h.idle, hq]; rfl
    obtain ⟨x, hx, hxs⟩ := h.qstart f (by rw [hq]; exact List.mem_cons_self ..)
    -- the log is the disk, then the queue, then the current buffer, in order: what is persisted precedes `x`
    have hlt : ∀ y ∈ persisted d.files, y < x := by
      intro y hy
      have hs := h.linv.sorted
      rw [h.linv.dseg, hq, List.append_assoc] at hs
      exact (List.pairwise_append.mp hs).2.2 y (h.files_eq_disk ▸ hy) x (by simp [qflat, List.flatMap_cons, hx])
    obtain ⟨a1, a2, a3⟩ := logFlush_spec d.files f x hx hxs h.keys h.named hlt
    refine ⟨⟨LInv_fack (LInv_fwrite h.linv), ?_, ?_, a2, a3, ?_⟩, ?_⟩
    · rw [hfa]; intro g hg; exact h.qstart g (by rw [hq]; exact List.mem_cons_of_mem _ hg)
    · simp only; rw [a1, h.files_eq_disk, hfa]
    · rw [hfa]
    · rw [hfa]; simp

theorem DInv_drain : ∀ (n : Nat) (d : DLB), DInv d → d.lb.queue.length ≤ n → DInv (drain n d) ∧ (drain n d).lb.queue = [] := by
  intro n
  induction n with
  | zero => exact fun d h hn => ⟨h, List.eq_nil_of_length_eq_zero (Nat.eq_zero_of_le_zero hn)⟩
  | succ n ih =>
    intro d h hn
    obtain ⟨h1, h2⟩ := DInv_flushOne h
    exact ih (flushOne d) h1 (by omega)

theorem drain_frame : ∀ (n : Nat) (d : DLB), (drain n d).lb.log = d.lb.log ∧ (drain n d).lb.lastTs = d.lb.lastTs := by
  intro n
  induction n with
  | zero => exact fun d => ⟨rfl, rfl⟩
  | succ n ih => exact fun d => ⟨(ih _).1.trans (flushOne_frame d).1, (ih _).2.trans (flushOne_frame d).2⟩

theorem DInv_settle {d : DLB} (h : DInv d) : DInv (settle d) ∧ (settle d).lb.queue = [] :=
  DInv_drain _ d h (Nat.le_refl _)

theorem settle_frame (d : DLB) : (settle d).lb.log = d.lb.log ∧ (settle d).lb.lastTs = d.lb.lastTs :=
  drain_frame _ d

theorem DInv_add {d : DLB} (ets dlen : Nat) (h : DInv d) : DInv { d with lb := add d.lb ets dlen } :=
  ⟨LInv_add h.linv, QStart_add h.linv h.qstart, h.files_eq_disk.trans (add_frame _ _ _).2.1.symm, h.keys, h.named,
    (add_frame _ _ _).2.2.trans h.idle⟩

theorem DInv_seal {d : DLB} (h : DInv d) : DInv { d with lb := sealNow d.lb } :=
  ⟨LInv_copyToFlush h.linv, QStart_copyToFlush h.linv h.qstart, h.files_eq_disk.trans (copyToFlush_frame _).2.1.symm, h.keys, h.named,
    (copyToFlush_frame _).2.2.trans h.idle⟩

theorem DInv_init (cfg : Cfg) (h : 0 < cfg.prevCount) : DInv { lb := init cfg } :=
  ⟨LInv_init cfg h, List.forall_mem_nil _, rfl, List.Pairwise.nil, List.forall_mem_nil _, rfl⟩

end SwV.Lemmas.C22
