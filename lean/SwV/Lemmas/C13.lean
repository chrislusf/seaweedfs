/-
C13 — the machines of SwV/Model/C13.lean driven by event lists; each run records, newest first, what was handed out
(key ranges with the max keys reported, or volume ids).  Per machine, the invariant that every run keeps: `MInv` (one memory
sequencer, as long as no uint64 addition wraps), `VInv` (volume ids under the growth lock), `EInv` (any
interleaving of etcd sequencer instances over one etcd value, unbounded arithmetic).
-/
import SwV.Model.C13
import SwV.Spec.C13

namespace SwV.Lemmas.C13
open SwV.Model.C13 SwV.Spec.C13

theorem overlap_false_of {a c a' c' : Nat} (h : c = 0 ∨ c' = 0 ∨ a + c ≤ a' ∨ a' + c' ≤ a) :
    overlap a c a' c' = false := by
  unfold overlap
  simp only [decide_eq_false_iff_not]
  omega

theorem overlap_true_of {a c a' c' : Nat} (h : c ≠ 0 ∧ c' ≠ 0 ∧ a < a' + c' ∧ a' < a + c) :
    overlap a c a' c' = true := by
  unfold overlap
  simp only [decide_eq_true_eq]
  omega

/-- the properties are decidable through their executable forms (`goodLog_cons_issue`), so a concrete log
    that violates one is a matter of evaluation -/
instance decGoodLog : (l : List Obs) → Decidable (GoodLog l)
  | [] => isTrue trivial
  | .report _ _ :: rest => decGoodLog rest
  | .issue i s c :: rest =>
    have := decGoodLog rest
    decidable_of_iff _ (goodLog_cons_issue rest i s c).symm

theorem disjLog_cons_issue (log : List Obs) (i s c : Nat) :
    DisjLog (.issue i s c :: log) ↔ clash log s c = none ∧ DisjLog log := by
  simp only [DisjLog, clash_none_iff]

instance decDisjLog : (l : List Obs) → Decidable (DisjLog l)
  | [] => isTrue trivial
  | .report _ _ :: rest => decDisjLog rest
  | .issue i s c :: rest =>
    have := decDisjLog rest
    decidable_of_iff _ (disjLog_cons_issue rest i s c).symm

instance (ids : List Nat) : Decidable (Distinct ids) := decidable_of_iff _ (vidJudgeAll_iff ids)

inductive MEv where
  | next (count : Nat)
  | setMax (seen : Nat)
deriving Repr, DecidableEq

/-- run instance `i` (one MemorySequencer) over the events, recording what it hands out / is told -/
def mrun (i : Nat) : Mem → List MEv → List Obs → Mem × List Obs
  | m, [], log => (m, log)
  | m, .next c :: evs, log => mrun i (m.next c).2 evs (.issue i m.counter c :: log)
  | m, .setMax s :: evs, log => mrun i (m.setMax s) evs (.report i s :: log)

/-- along the run no uint64 addition wraps: every `next c` has counter + c < 2^64 and every
    `setMax s` has s + 1 < 2^64 -/
def NoWrap : Mem → List MEv → Prop
  | _, [] => True
  | m, .next c :: evs => m.counter + c < W ∧ NoWrap (m.next c).2 evs
  | m, .setMax s :: evs => s + 1 < W ∧ NoWrap (m.setMax s) evs

instance decNoWrap : (evs : List MEv) → (m : Mem) → Decidable (NoWrap m evs)
  | [], _ => isTrue trivial
  | .next c :: evs, m => @instDecidableAnd _ _ _ (decNoWrap evs (m.next c).2)
  | .setMax s :: evs, m => @instDecidableAnd _ _ _ (decNoWrap evs (m.setMax s))

/-- the counter is past every range handed out so far, by whatever instance (a new leader takes over the old one's
    log), and past every max key reported to `i` -/
def MInv (i : Nat) (m : Mem) (log : List Obs) : Prop :=
  GoodLog log ∧ (∀ j s c, Obs.issue j s c ∈ log → s + c ≤ m.counter) ∧
  (∀ seen, Obs.report i seen ∈ log → seen < m.counter)

/-- without wrap the counter is what the Go statements say -/
theorem next_counter (m : Mem) (c : Nat) (h : m.counter + c < W) : (m.next c).2.counter = m.counter + c :=
  Nat.mod_eq_of_lt h

theorem setMax_counter (m : Mem) (seen : Nat) (h : seen + 1 < W) :
    (m.setMax seen).counter = max m.counter (seen + 1) := by
  unfold Mem.setMax
  split
  · show (seen + 1) % W = _
    rw [Nat.mod_eq_of_lt h]; omega
  · omega

theorem mem_setMax_gt (m : Mem) (seen : Nat) (h : seen + 1 < W) : seen < (m.setMax seen).counter := by
  rw [setMax_counter m seen h]; omega

theorem mrun_inv (i : Nat) : ∀ (evs : List MEv) (m : Mem) (log : List Obs),
    MInv i m log → NoWrap m evs → MInv i (mrun i m evs log).1 (mrun i m evs log).2 := by
  intro evs
  induction evs with
  | nil => intro m log h _; exact h
  | cons ev evs ih =>
    intro m log ⟨hg, hi, hr⟩ hw
    cases ev with
    | next c =>
      refine ih _ _ ⟨⟨?_, hr, hg⟩, ?_, ?_⟩ hw.2
      · intro j s' c' hm
        have := hi j s' c' hm
        exact overlap_false_of (by omega)
      · intro j s' c' hm
        rw [next_counter m c hw.1]
        rcases List.mem_cons.mp hm with hm | hm
        · cases hm; omega
        · exact Nat.le_add_right_of_le (hi j s' c' hm)
      · intro seen hm
        rw [next_counter m c hw.1]
        exact Nat.lt_add_right c (hr seen (List.mem_of_ne_of_mem Obs.noConfusion hm))
    | setMax s =>
      refine ih _ _ ⟨hg, ?_, ?_⟩ hw.2
      · intro j s' c' hm
        rw [setMax_counter m s hw.1]
        have := hi j s' c' (List.mem_of_ne_of_mem Obs.noConfusion hm); omega
      · intro seen hm
        rw [setMax_counter m s hw.1]
        rcases List.mem_cons.mp hm with hm | hm
        · cases hm; omega
        · have := hr seen hm; omega

inductive VEv where
  | start (t : Nat)
  | apply (t : Nat) (fault : Bool)
  | hb (m : Nat)
deriving Repr, DecidableEq

def vnext (s : VSt) : VEv → VSt
  | .start t => (vStart s t).1
  | .apply t f => (vApply s t f).1
  | .hb m => vHb s m

/-- the volume id returned to the caller by this step, if any -/
def vout (s : VSt) : VEv → Option Nat
  | .apply t f => (vApply s t f).2.join
  | _ => none

def vstep (st : VSt × List Nat) (ev : VEv) : VSt × List Nat :=
  (vnext st.1 ev, match vout st.1 ev with | some id => id :: st.2 | none => st.2)

/-- run the events; the second component is the list of returned volume ids, newest first -/
def vrun (st : VSt × List Nat) (evs : List VEv) : VSt × List Nat := evs.foldl vstep st

/-- a `start` happens only when no thread is in flight (the volume growth lock) -/
def startOk (s : VSt) : VEv → Prop
  | .start _ => ∀ k, s.pend k = none
  | _ => True

def Serial : VSt → List VEv → Prop
  | _, [] => True
  | s, ev :: evs => startOk s ev ∧ Serial (vnext s ev) evs

/-- returned ids are distinct and at most `max`; a thread in flight carries an id above all of them and is the
    only one in flight -/
def VInv (s : VSt) (ids : List Nat) : Prop :=
  Distinct ids ∧ (∀ id, id ∈ ids → id ≤ s.max) ∧
  ∀ t nx, s.pend t = some nx → (∀ id, id ∈ ids → id < nx) ∧ ∀ k, k ≠ t → s.pend k = none

/-- `UpAdjustMaxVolumeId` and a heartbeat leave the larger of the max and the id they carry -/
theorem le_bump (a b : Nat) : a ≤ (if a < b then b else a) ∧ b ≤ (if a < b then b else a) := by
  split <;> omega

namespace VInv
variable {s : VSt} {ids : List Nat} {t nx : Nat}

theorem of_idle (hp : ∀ k, s.pend k = none) (hd : Distinct ids) (hm : ∀ id, id ∈ ids → id ≤ s.max) :
    VInv s ids :=
  ⟨hd, hm, fun t nx h => by rw [hp t] at h; cases h⟩

theorem raise {s' : VSt} (h : VInv s ids) (hp : s'.pend = s.pend) (hmax : s.max ≤ s'.max) : VInv s' ids :=
  ⟨h.1, fun id hid => Nat.le_trans (h.2.1 id hid) hmax, hp ▸ h.2.2⟩

/-- the thread in flight is the only one: once it is done none is -/
theorem idle_after (h : VInv s ids) (hpt : s.pend t = some nx) (k : Nat) :
    (if k = t then none else s.pend k) = none := by
  split
  · rfl
  · next hne => exact (h.2.2 t nx hpt).2 k hne

/-- `NextVolumeId` with no thread in flight proposes an id above everything returned -/
theorem started (h : VInv s ids) (hn : ∀ k, s.pend k = none) : VInv (vStart s t).1 ids := by
  simp only [vStart, hn t]
  refine ⟨h.1, h.2.1, fun k nx hk => ?_⟩
  simp only [hn] at hk ⊢
  split at hk
  · next hkt =>
    cases hk
    exact ⟨fun id hid => Nat.lt_succ_of_le (h.2.1 id hid), fun k' hne => if_neg (hkt ▸ hne)⟩
  · cases hk

end VInv

theorem vstep_inv (s : VSt) (ids : List Nat) (ev : VEv) (h : VInv s ids) (hs : startOk s ev) :
    VInv (vstep (s, ids) ev).1 (vstep (s, ids) ev).2 := by
  cases ev with
  | start t => exact h.started hs
  | apply t f =>
    simp only [vstep, vnext, vout, vApply]
    cases hpt : s.pend t with
    | none => exact h
    | some nx =>
      cases f with
      | true => exact .of_idle (h.idle_after hpt) h.1 h.2.1
      | false =>
        -- the id of the thread in flight is returned: it was above everything returned before
        refine .of_idle (h.idle_after hpt) ⟨fun hmem => Nat.lt_irrefl _ ((h.2.2 t nx hpt).1 nx hmem), h.1⟩
          fun id hid => ?_
        rcases List.mem_cons.mp hid with rfl | hid
        · exact (le_bump s.max id).2
        · exact Nat.le_trans (h.2.1 id hid) (le_bump s.max nx).1
  | hb m => exact h.raise (s' := vHb s m) rfl (le_bump s.max m).1

theorem vstep_fst (s : VSt) (ids : List Nat) (ev : VEv) : (vstep (s, ids) ev).1 = vnext s ev := rfl

theorem vrun_inv : ∀ (evs : List VEv) (s : VSt) (ids : List Nat),
    VInv s ids → Serial s evs → VInv (vrun (s, ids) evs).1 (vrun (s, ids) evs).2
  | [], _, _, h, _ => h
  | ev :: evs, s, ids, h, hs => vrun_inv evs _ _ (vstep_inv s ids ev h hs.1) hs.2

inductive EEv where
  | start (i : Nat) (op : Op)
  | kv (i : Nat) (fault : Bool)
deriving Repr, DecidableEq

/-- a finished `NextFileId` that returned a real range is logged; a failed reservation (`failKey`,
    which the real code returns as key 0) and everything else is not -/
def logOut (i : Nat) (log : List Obs) : Out → List Obs
  | .done (.key k c) => .issue i k c :: log
  | _ => log

/-- an accepted `SetMax seen` call is logged as a report to that instance -/
def logReport (i : Nat) (log : List Obs) : Op → Out → List Obs
  | .setMax _, .invalid => log
  | .setMax seen, _ => .report i seen :: log
  | _, _ => log

def estep (st : ESt × List Obs) : EEv → ESt × List Obs
  | .start i op =>
    ((start st.1 i op).1, logOut i (logReport i st.2 op (start st.1 i op).2) (start st.1 i op).2)
  | .kv i f => ((kvStep st.1 i f).1, logOut i st.2 (kvStep st.1 i f).2.2)

def erun (st : ESt × List Obs) (evs : List EEv) : ESt × List Obs := evs.foldl estep st

/-- what the program counter remembers is consistent -/
def PcOk : Pc → Prop
  | .sSet _ m p => p < m
  | .bGet count req => count ≤ req
  | .bSet count req _ => count ≤ req
  | _ => True

/-- invariant of all interleavings (E = the etcd value, 0 when absent; window of i = [cur, max)) -/
structure EInv (s : ESt) (log : List Obs) : Prop where
  /-- every window is well formed and below E -/
  win : ∀ i, (s.inst i).cur ≤ (s.inst i).max ∧ (s.inst i).max ≤ s.kv.getD 0
  /-- every issued range is below E -/
  below : ∀ j a c, Obs.issue j a c ∈ log → a + c ≤ s.kv.getD 0
  /-- every issued range is outside every window -/
  used : ∀ i j a c, Obs.issue j a c ∈ log →
    c = 0 ∨ (s.inst i).cur = (s.inst i).max ∨ a + c ≤ (s.inst i).cur ∨ (s.inst i).max ≤ a
  /-- windows of different instances are disjoint -/
  apart : ∀ i j, i ≠ j → (s.inst i).cur = (s.inst i).max ∨ (s.inst j).cur = (s.inst j).max ∨
    (s.inst i).max ≤ (s.inst j).cur ∨ (s.inst j).max ≤ (s.inst i).cur
  disj : DisjLog log
  pcs : ∀ i, PcOk (s.inst i).pc

theorem einv_init : EInv {} [] where
  win := fun _ => ⟨Nat.le_refl _, Nat.le_refl _⟩
  below := fun _ _ _ hm => by cases hm
  used := fun _ _ _ _ hm => by cases hm
  apart := fun _ _ _ => Or.inl rfl
  disj := trivial
  pcs := fun _ => trivial

/-- An interval [a, b) below the etcd value `E` that shares no point with the window [cur, max) shares none with a
    window [cur', max') that is empty, part of [cur, max), or above `E`.  `P` says that [a, b) is empty. -/
theorem clear_of_move {P : Prop} {a b cur max cur' max' E : Nat} (hb : b ≤ E) (hw : cur' ≤ max')
    (hc : cur' = max' ∨ (cur ≤ cur' ∧ max' ≤ max) ∨ E ≤ cur') (h : P ∨ cur = max ∨ b ≤ cur ∨ max ≤ a) :
    P ∨ cur' = max' ∨ b ≤ cur' ∨ max' ≤ a :=
  h.imp_right fun h => by omega

namespace EInv
variable {s s' : ESt} {log : List Obs} {i : Nat} {x' : Inst}

theorem report {j seen : Nat} (h : EInv s log) : EInv s (.report j seen :: log) where
  win := h.win
  below := fun j a c hm => h.below j a c (List.mem_of_ne_of_mem Obs.noConfusion hm)
  used := fun i j a c hm => h.used i j a c (List.mem_of_ne_of_mem Obs.noConfusion hm)
  apart := h.apart
  disj := h.disj
  pcs := h.pcs

/-- a step of instance `i` that issues nothing: the etcd value does not decrease, and the new window of `i` is
    empty, or part of its old one, or above the old etcd value -/
theorem move (h : EInv s log)
    (hinst : ∀ k, s'.inst k = if k = i then x' else s.inst k)
    (hE : s.kv.getD 0 ≤ s'.kv.getD 0)
    (hw : x'.cur ≤ x'.max ∧ x'.max ≤ s'.kv.getD 0)
    (hc : x'.cur = x'.max ∨ ((s.inst i).cur ≤ x'.cur ∧ x'.max ≤ (s.inst i).max) ∨ s.kv.getD 0 ≤ x'.cur)
    (hpc : PcOk x'.pc) : EInv s' log where
  win := by
    intro k
    rw [hinst k]
    split
    · exact hw
    · exact ⟨(h.win k).1, Nat.le_trans (h.win k).2 hE⟩
  below := fun j a c hm => Nat.le_trans (h.below j a c hm) hE
  used := by
    intro k j a c hm
    rw [hinst k]
    split
    · exact clear_of_move (h.below j a c hm) hw.1 hc (h.used i j a c hm)
    · exact h.used k j a c hm
  apart := by
    -- the window of another instance `j` lies below the etcd value and was clear of the window of `i`
    have key : ∀ j, j ≠ i → (s.inst j).cur = (s.inst j).max ∨ x'.cur = x'.max ∨
        (s.inst j).max ≤ x'.cur ∨ x'.max ≤ (s.inst j).cur :=
      fun j hj => clear_of_move (h.win j).2 hw.1 hc (h.apart j i hj)
    intro k j hne
    rw [hinst k, hinst j]
    by_cases hk : k = i
    · have hj : j ≠ i := fun e => hne (hk.trans e.symm)
      rw [if_pos hk, if_neg hj]
      rcases key j hj with e | e | e | e
      · exact .inr (.inl e)
      · exact .inl e
      · exact .inr (.inr (.inr e))
      · exact .inr (.inr (.inl e))
    · rw [if_neg hk]
      by_cases hj : j = i
      · rw [if_pos hj]; exact key k hk
      · rw [if_neg hj]; exact h.apart k j hne
  disj := h.disj
  pcs := by
    intro k
    rw [hinst k]
    split
    · exact hpc
    · exact h.pcs k

/-- … in particular when the window of `i` stays as it is -/
theorem raise {alive : Bool} {pc : Pc} (h : EInv s log)
    (hinst : ∀ k, s'.inst k = if k = i then { s.inst i with alive := alive, pc := pc } else s.inst k)
    (hE : s.kv.getD 0 ≤ s'.kv.getD 0) (hpc : PcOk pc) : EInv s' log :=
  h.move hinst hE ⟨(h.win i).1, Nat.le_trans (h.win i).2 hE⟩
    (.inr (.inl ⟨Nat.le_refl _, Nat.le_refl _⟩)) hpc

/-- … and the etcd value as well -/
theorem stay {alive : Bool} {pc : Pc} (h : EInv s log) (hpc : PcOk pc) :
    EInv (setInst s i { s.inst i with alive := alive, pc := pc }) log :=
  h.raise (fun _ => rfl) (Nat.le_refl _) hpc

/-- `NextFileId` served from the local window: the first `count` keys of the window of `i` are issued -/
theorem issue {a count : Nat} (h : EInv s log)
    (hinst : ∀ k, s'.inst k = if k = i then x' else s.inst k)
    (hE : s.kv.getD 0 ≤ s'.kv.getD 0)
    (ha : (s.inst i).cur = a) (hle : a + count ≤ (s.inst i).max)
    (hcur : x'.cur = a + count) (hmax : x'.max = (s.inst i).max)
    (hpc : PcOk x'.pc) : EInv s' (.issue i a count :: log) := by
  have hwi := h.win i
  have hx : x'.cur ≤ x'.max := by rw [hcur, hmax]; exact hle
  have h' : EInv s' log := h.move hinst hE ⟨hx, by rw [hmax]; exact Nat.le_trans hwi.2 hE⟩
    (.inr (.inl ⟨by rw [hcur, ha]; exact Nat.le_add_right _ _, Nat.le_of_eq hmax⟩)) hpc
  refine { win := h'.win, apart := h'.apart, pcs := h'.pcs, below := ?_, used := ?_, disj := ⟨?_, h.disj⟩ }
  · intro j b c hm
    rcases List.mem_cons.mp hm with hm | hm
    · cases hm; exact Nat.le_trans hle (Nat.le_trans hwi.2 hE)
    · exact h'.below j b c hm
  · intro k j b c hm
    rcases List.mem_cons.mp hm with hm | hm
    · cases hm
      rw [hinst k]
      split
      · exact .inr (.inr (.inl (Nat.le_of_eq hcur.symm)))
      · next hk =>
        -- the issued range is the beginning of the old window of `i`, which was clear of the window of `k`
        rcases h.apart i k (Ne.symm hk) with u | u | u | u
        · exact .inl (by omega)
        · exact .inr (.inl u)
        · exact .inr (.inr (.inl (Nat.le_trans hle u)))
        · exact .inr (.inr (.inr (ha ▸ u)))
    · exact h'.used k j b c hm
  · intro j b c hm
    refine overlap_false_of ?_
    rcases h.used i j b c hm with u | u | u | u
    · exact .inr (.inl u)
    · exact .inl (by omega)
    · exact .inr (.inr (.inr (ha ▸ u)))
    · exact .inr (.inr (.inl (Nat.le_trans hle u)))

/-- `NextFileId` after a successful compare-and-swap prev → prev + req in etcd: the window of `i` becomes the
    reserved block, then `count` keys are issued from it -/
theorem refill {prev count req : Nat} (h : EInv s log)
    (hinst : ∀ k, s'.inst k = if k = i then x' else s.inst k)
    (hkv : s.kv = some prev) (hkv' : s'.kv = some (prev + req)) (hcr : count ≤ req)
    (hcur : x'.cur = prev + count) (hmax : x'.max = prev + req)
    (hpc : PcOk x'.pc) : EInv s' (.issue i prev count :: log) := by
  have mid : EInv { s' with inst := fun k => if k = i then { x' with cur := prev } else s.inst k } log :=
    h.move (fun _ => rfl) (by rw [hkv, hkv']; exact Nat.le_add_right _ _)
      ⟨by rw [hmax]; exact Nat.le_add_right _ _, by rw [hkv', hmax]; exact Nat.le_refl _⟩
      (.inr (.inr (by rw [hkv]; exact Nat.le_refl _))) hpc
  have hi : (if i = i then { x' with cur := prev } else s.inst i) = { x' with cur := prev } := if_pos rfl
  refine mid.issue (fun k => ?_) (Nat.le_refl _) (congrArg Inst.cur hi) ?_ hcur (congrArg Inst.max hi).symm hpc
  · rw [hinst k]
    split
    · rfl
    · exact (if_neg ‹_›).symm
  · exact Nat.le_trans (hmax ▸ Nat.add_le_add_left hcr prev) (Nat.le_of_eq (congrArg Inst.max hi).symm)

end EInv

theorem logReport_inv {s : ESt} {log : List Obs} (i : Nat) (op : Op) (o : Out) (h : EInv s log) :
    EInv s (logReport i log op o) := by
  cases op with
  | setMax seen =>
    cases o with
    | invalid => exact h
    | _ => exact h.report
  | _ => exact h

theorem start_inv (s : ESt) (log : List Obs) (i : Nat) (op : Op) (h : EInv s log) :
    EInv (start s i op).1 (logOut i log (start s i op).2) := by
  by_cases hidle : (s.inst i).pc = .idle
  · cases op with
    | new slot =>
      -- the constructor forgets the window
      simp only [start, hidle, ne_eq, not_true_eq_false, if_false, logOut]
      split <;> exact h.move (fun _ => rfl) (Nat.le_refl _) ⟨Nat.le_refl _, Nat.zero_le _⟩ (.inl rfl) trivial
    | next count =>
      simp only [start, hidle, ne_eq, not_true_eq_false, if_false]
      split
      · exact h
      · split
        · refine h.stay ?_
          simp only [PcOk]
          split <;> omega
        · exact h.issue (fun _ => rfl) (Nat.le_refl _) rfl (by omega) rfl rfl trivial
    | setMax seen =>
      simp only [start, hidle, ne_eq, not_true_eq_false, if_false]
      split
      · exact h
      · split
        · exact h.stay trivial
        · exact h
  · simp only [start, ne_eq, hidle, not_false_eq_true, if_true, logOut]
    exact h

/-- the `setMaxSequenceToEtcd` loop returns with an error -/
theorem finish_none_inv (s : ESt) (log : List Obs) (i : Nat) (c : Ctx) (h : EInv s log) :
    EInv (finishSet s i (s.inst i) c none).1 (logOut i log (finishSet s i (s.inst i) c none).2) := by
  cases c <;> exact h.stay trivial

/-- the `setMaxSequenceToEtcd` loop returns with a value: only when that value is the etcd value -/
theorem finish_some_inv (s : ESt) (log : List Obs) (i : Nat) (c : Ctx) (v : Nat) (h : EInv s log)
    (hkv : s.kv = some v) :
    EInv (finishSet s i (s.inst i) c (some v)).1 (logOut i log (finishSet s i (s.inst i) c (some v)).2) := by
  have hE : v ≤ s.kv.getD 0 := by rw [hkv]; exact Nat.le_refl _
  cases c <;> exact h.move (fun _ => rfl) (Nat.le_refl _) ⟨Nat.le_refl _, hE⟩ (.inl rfl) trivial

theorem kv_inv (s : ESt) (log : List Obs) (i : Nat) (f : Bool) (h : EInv s log) :
    EInv (kvStep s i f).1 (logOut i log (kvStep s i f).2.2) := by
  have hpi := h.pcs i
  -- by program counter: an idle instance changes nothing; any other branch only moves the pc (`stay`), raises the
  -- etcd value (`raise`), reserves a block and issues from it (`refill`), or returns from the
  -- `setMaxSequenceToEtcd` loop (`finish_none_inv`, `finish_some_inv`)
  unfold kvStep
  simp only
  split
  · exact h
  · next count req hpc =>
    rw [hpc] at hpi
    split
    · exact h.stay trivial
    · split
      · exact h.stay trivial
      · exact h.stay hpi
  · next count req prev hpc =>
    rw [hpc] at hpi
    split
    · exact h.stay hpi
    · split
      · next hkv => exact h.refill (fun _ => rfl) hkv rfl hpi rfl rfl trivial
      · exact h.stay hpi
  · next c m hpc =>
    split
    · exact finish_none_inv s log i c h
    · split
      · exact h.stay trivial
      · next p hkv =>
        split
        · exact finish_some_inv s log i c p h hkv
        · exact h.stay (Nat.lt_of_not_le ‹_›)
  · next c m hpc =>
    split
    · exact finish_none_inv s log i c h
    · split
      · next hkv =>
        -- the key is created: the etcd value rises from 0 to m
        exact h.raise (fun _ => rfl) (by rw [hkv]; exact Nat.zero_le _) trivial
      · exact h.stay trivial
  · next c m p hpc =>
    rw [hpc] at hpi
    split
    · exact finish_none_inv s log i c h
    · split
      · next hkv =>
        -- compare-and-swap p → m with p < m: the etcd value rises
        exact h.raise (fun _ => rfl) (by rw [hkv]; exact Nat.le_of_lt hpi) trivial
      · exact finish_none_inv s log i c h

theorem estep_inv (s : ESt) (log : List Obs) (ev : EEv) (h : EInv s log) :
    EInv (estep (s, log) ev).1 (estep (s, log) ev).2 := by
  cases ev with
  | start i op => exact start_inv s _ i op (logReport_inv i op _ h)
  | kv i f => exact kv_inv s log i f h

theorem erun_inv : ∀ (evs : List EEv) (s : ESt) (log : List Obs),
    EInv s log → EInv (erun (s, log) evs).1 (erun (s, log) evs).2
  | [], _, _, h => h
  | ev :: evs, s, log, h => erun_inv evs _ _ (estep_inv s log ev h)

end SwV.Lemmas.C13
