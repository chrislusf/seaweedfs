/- C39 — `find t q`, what the FsNode tree holds at each path, after each tree operation: `setNode`, `remove` and `move`
   act on it as the reference operations of the specification (`refSet`, `refDel`, `refMove`) act on a reference tree;
   `putSub`, the second half of `move`, has no reference operation and is given in closed form. -/
import SwV.Model.C39
import SwV.Spec.C39

namespace SwV.Lemmas.C39
open SwV.Model.C39 SwV.Spec.C39

/-- what the tree holds at a path: `none` = no FsNode, `some none` = placeholder -/
def find (t : Node) (q : Path) : Option (Option Nat) := (sub t q).map (·.1)

theorem child_setChild (f : Forest) (x y : Name) (c : Node) :
    (f.setChild x c).child y = if y = x then some c else f.child y := by
  induction f with
  | nil =>
    simp only [Forest.setChild, Forest.child]
    by_cases h : y = x
    · subst h; simp
    · have : ¬ x = y := Ne.symm h
      simp [h, this]
  | cons n v k r _ ih =>
    simp only [Forest.setChild]
    by_cases hn : n = x
    · subst hn
      simp only [if_true, Forest.child]
      by_cases h : y = n
      · subst h; simp
      · have : ¬ n = y := Ne.symm h
        simp [h, this]
    · simp only [hn, if_false, Forest.child, ih]
      by_cases h : y = x
      · subst h; simp [hn]
      · simp [h]

theorem child_delChild (f : Forest) (x y : Name) :
    (f.delChild x).child y = if y = x then none else f.child y := by
  induction f with
  | nil => simp [Forest.delChild, Forest.child]
  | cons n v k r _ ih =>
    simp only [Forest.delChild]
    by_cases hn : n = x
    · subst hn
      simp only [if_true, ih, Forest.child]
      by_cases h : y = n
      · simp [h]
      · have : ¬ n = y := Ne.symm h
        simp [h, this]
    · simp only [hn, if_false, Forest.child, ih]
      by_cases h : y = x
      · subst h; simp [hn]
      · simp [h]

theorem find_nil (t : Node) : find t [] = some t.1 := by simp [find, sub]

theorem find_cons (t : Node) (y : Name) (q : Path) :
    find t (y :: q) = (t.2.child y).bind (fun c => find c q) := by
  simp only [find, sub]
  cases t.2.child y <;> simp

theorem find_empty : find emptyNode = refEmpty := by
  funext q
  cases q with
  | nil => simp [find_nil, emptyNode, refEmpty]
  | cons y q => simp [find_cons, emptyNode, Forest.child, refEmpty]

/-- below a child that `ensureChild` had to create there are placeholders down to the end of the path, and nothing else -/
theorem find_ensured_empty (p q : Path) :
    (if q <+: p then some ((find emptyNode q).getD none) else find emptyNode q) = if q <+: p then some none else none := by
  simp only [find_empty, refEmpty]
  by_cases h : q <+: p
  · by_cases hq : q = [] <;> simp [h, hq]
  · have : q ≠ [] := fun e => h (e ▸ List.nil_prefix)
    simp [h, this]

theorem get_eq (t : Node) (q : Path) : get t q = (find t q).getD none := by
  simp only [SwV.Model.C39.get, find]
  cases sub t q <;> simp

theorem sub_append (t : Node) (p r : Path) : sub t (p ++ r) = (sub t p).bind (fun s => sub s r) := by
  induction p generalizing t with
  | nil => simp [sub]
  | cons x p ih =>
    simp only [List.cons_append, sub]
    cases t.2.child x with
    | none => simp
    | some c => simp [ih]

theorem find_append (t s : Node) (p r : Path) (h : sub t p = some s) : find t (p ++ r) = find s r := by
  simp [find, sub_append, h]

/-- after `putSub t p s`: `s` at and below `p`; every proper prefix of `p` exists (a placeholder where there was nothing,
    as `ensureChild` makes one); the rest as before -/
theorem find_putSub (t : Node) (p : Path) (s : Node) (q : Path) :
    find (putSub t p s) q =
      if p <+: q then find s (q.drop p.length)
      else if q <+: p then some ((find t q).getD none)
      else find t q := by
  induction p generalizing t q with
  | nil => simp [putSub]
  | cons x p ih =>
    cases q with
    | nil => simp [putSub, find_nil]
    | cons y q =>
      simp only [putSub, find_cons, child_setChild, List.cons_prefix_cons, List.length_cons, List.drop_succ_cons]
      by_cases hy : y = x
      · subst hy
        simp only [if_true, Option.bind_some, ih, true_and]
        cases hc : t.2.child y with
        | none => simp only [Option.getD_none, Option.bind_none, find_ensured_empty]
        | some c => simp
      · have hxy : ¬ x = y := Ne.symm hy
        simp [hy, hxy]

theorem find_setNode (t : Node) (p : Path) (v : Nat) : find (setNode t p v) = refSet (find t) p v := by
  funext q
  induction p generalizing t q with
  | nil =>
    cases q with
    | nil => simp [setNode, refSet, find_nil]
    | cons y q => simp [setNode, refSet, find_cons]
  | cons x p ih =>
    cases q with
    | nil => simp [setNode, refSet, find_nil]
    | cons y q =>
      simp only [setNode, find_cons, child_setChild, refSet, List.cons_prefix_cons, List.cons.injEq]
      by_cases hy : y = x
      · subst hy
        simp only [if_true, Option.bind_some, ih, refSet, true_and]
        cases hc : t.2.child y with
        | none => simp only [Option.getD_none, Option.bind_none, find_ensured_empty]
        | some c => simp
      · simp [hy]

theorem remove_cons_cons (t : Node) (x y : Name) (p : Path) :
    remove t (x :: y :: p) =
      match t.2.child x with
      | none => t
      | some c => (t.1, t.2.setChild x (remove c (y :: p))) := by
  rw [remove]
  cases t.2.child x <;> rfl

theorem find_remove_cons (t : Node) (x : Name) (p : Path) (q : Path) :
    find (remove t (x :: p)) q = if (x :: p) <+: q then none else find t q := by
  induction p generalizing t x q with
  | nil =>
    cases q with
    | nil => simp [remove, find_nil]
    | cons y q =>
      simp only [remove, find_cons, child_delChild, List.cons_prefix_cons, List.nil_prefix, and_true]
      by_cases hy : y = x
      · simp [hy]
      · have hxy : ¬ x = y := Ne.symm hy
        simp [hy, hxy]
  | cons x' p ih =>
    rw [remove_cons_cons]
    cases hc : t.2.child x with
    | none =>
      simp only
      cases q with
      | nil => simp
      | cons y q =>
        by_cases hy : x = y
        · subst hy
          simp [find_cons, hc]
        · simp [List.cons_prefix_cons, hy]
    | some c =>
      simp only
      cases q with
      | nil => simp [find_nil]
      | cons y q =>
        simp only [find_cons, child_setChild, List.cons_prefix_cons]
        by_cases hy : y = x
        · subst hy
          simp [ih, hc]
        · have hxy : ¬ x = y := Ne.symm hy
          simp [hy, hxy]

theorem find_remove (t : Node) (p : Path) : find (remove t p) = refDel (find t) p := by
  funext q
  cases p with
  | nil => simp [remove, refDel, find_empty]
  | cons x p => simp [refDel, find_remove_cons]

theorem find_move (t : Node) (old new : Path) (ho : old ≠ []) (hn : new ≠ []) (hex : (sub t old).isSome) :
    find (move t old new).1 = refMove (find t) old new := by
  obtain ⟨s, hs⟩ := Option.isSome_iff_exists.1 hex
  funext q
  simp only [move, ho, hn, or_self, if_false, hs, refMove, find_putSub]
  by_cases h1 : new <+: q
  · simp only [h1, if_true]
    exact (find_append t s old _ hs).symm
  · by_cases h2 : q <+: new <;> simp [h1, h2, find_remove]

end SwV.Lemmas.C39
