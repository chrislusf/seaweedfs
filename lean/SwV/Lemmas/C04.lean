/- C04 — everything is said key by key.  The `MemDb` is a list sorted by key (`KeysLt`): `mget` after `mset`/`mdel` is
   the lookup in a map, and on such a list it is `lastFor`.  What a read sees of the index `doLoading` builds depends, for
   one key, only on the last .idx entry of that key (`reloadIdx_char`, `viewOf_reloadIdx`).  `WF` says how online index,
   .dat, .idx and AppendAtNs of a volume hang together; every volume that operations alone reach from a fresh one has it
   (`wf_reachable`).  Both copy phases
   keep the live records of positive size that pass the TTL filter (`KeepOK`).  A read sees a key only through its index entry (`viewOf`).  An operation leaves the files
   alone or appends one record and one .idx entry (`OneStep`), so the operations that run while a copy is in flight
   only let the files grow and keep the index value of a key at the last .idx entry written for it (`Suf`);
   `makeupDiff` replays exactly those last entries (`MkOK`). -/
import SwV.Lemmas.C01
import SwV.Model.C04
namespace SwV.Lemmas.C04
open SwV.Model.C01 SwV.Model.C04
open SwV.Lemmas.C01 (recAt_some_le recAt_new recAt_eq pred_lt recAt_of_bound recAt_append_of_le recAt_take setIdx_same setIdx_ne
  appendSet writeStep_state deleteStep_state httpDelete_state newRec tomb)

theorem mget_cons (x : IEnt) (xs : List IEnt) (k : Nat) :
    mget (x :: xs) k = if x.key = k then some x else mget xs k := rfl

theorem mget_mset (m : List IEnt) (e : IEnt) (k : Nat) :
    mget (mset m e) k = if e.key = k then some e else mget m k := by
  fun_induction mset m e with
  | case1 e => rfl
  | case2 x xs e h => rfl
  | case3 x xs e h1 h2 => rw [mget_cons, mget_cons, ← h2]; split <;> rfl
  | case4 x xs e h1 h2 ih =>
    rw [mget_cons, mget_cons, ih]
    by_cases h3 : x.key = k
    · simp [h3, show ¬ e.key = k from fun h => h2 (h.trans h3.symm)]
    · simp [h3]

theorem mget_mdel (m : List IEnt) (j k : Nat) :
    mget (mdel m j) k = if j = k then none else mget m k := by
  fun_induction mdel m j with
  | case1 j => exact (ite_self _).symm
  | case2 x xs ih => rw [ih, mget_cons]; split <;> rfl
  | case3 x xs j h ih =>
    rw [mget_cons, mget_cons, ih]
    by_cases h2 : j = k
    · simp [h2, show ¬ x.key = k from fun h3 => h (h3.trans h2.symm)]
    · simp [h2]

theorem mget_some {m : List IEnt} {k : Nat} {e : IEnt} (h : mget m k = some e) : e ∈ m ∧ e.key = k := by
  induction m with
  | nil => cases h
  | cons x xs ih =>
    rw [mget_cons] at h
    by_cases h1 : x.key = k
    · rw [if_pos h1] at h; cases h; exact ⟨List.mem_cons_self, h1⟩
    · rw [if_neg h1] at h; exact ⟨List.mem_cons_of_mem _ (ih h).1, (ih h).2⟩

/-- `MemDb` is a LevelDB over memory storage: `AscendingVisit` and `SaveToIdx` go through it in ascending key order -/
def KeysLt (m : List IEnt) : Prop := m.Pairwise (fun a b => a.key < b.key)

theorem mget_of_mem {l : List IEnt} (h : KeysLt l) {e : IEnt} (he : e ∈ l) : mget l e.key = some e := by
  induction l with
  | nil => cases he
  | cons x xs ih =>
    have h := List.pairwise_cons.1 h
    rw [mget_cons]
    rcases List.mem_cons.1 he with he | he
    · rw [he, if_pos rfl]
    · rw [if_neg (Nat.ne_of_lt (h.1 e he)), ih h.2 he]

theorem mem_mset {m : List IEnt} {e x : IEnt} (h : x ∈ mset m e) : x = e ∨ x ∈ m := by
  fun_induction mset m e with
  | case1 e => exact Or.inl (List.mem_singleton.1 h)
  | case2 y ys e h1 => exact List.mem_cons.1 h
  | case3 y ys e h1 h2 => exact (List.mem_cons.1 h).imp_right (List.mem_cons_of_mem _)
  | case4 y ys e h1 h2 ih =>
    rcases List.mem_cons.1 h with h | h
    · exact Or.inr (h ▸ List.mem_cons_self)
    · exact (ih h).imp_right (List.mem_cons_of_mem _)

theorem keysLt_mset {m : List IEnt} (e : IEnt) (h : KeysLt m) : KeysLt (mset m e) := by
  fun_induction mset m e with
  | case1 e => exact List.pairwise_singleton _ _
  | case2 y ys e h1 =>
    refine List.pairwise_cons.2 ⟨fun b hb => ?_, h⟩
    rcases List.mem_cons.1 hb with hb | hb
    · exact hb ▸ h1
    · exact Nat.lt_trans h1 ((List.pairwise_cons.1 h).1 b hb)
  | case3 y ys e h1 h2 =>
    have h' := List.pairwise_cons.1 h
    exact List.pairwise_cons.2 ⟨fun b hb => h2 ▸ h'.1 b hb, h'.2⟩
  | case4 y ys e h1 h2 ih =>
    have h' := List.pairwise_cons.1 h
    refine List.pairwise_cons.2 ⟨fun b hb => ?_, ih h'.2⟩
    rcases mem_mset hb with hb | hb
    · exact hb ▸ Nat.lt_of_le_of_ne (Nat.not_lt.1 h1) (Ne.symm h2)
    · exact h'.1 b hb

theorem mem_mdel {m : List IEnt} {j : Nat} {x : IEnt} (h : x ∈ mdel m j) : x ∈ m := by
  fun_induction mdel m j with
  | case1 j => cases h
  | case2 y ys ih => exact List.mem_cons_of_mem _ (ih h)
  | case3 y ys j h1 ih =>
    exact (List.mem_cons.1 h).elim (· ▸ List.mem_cons_self) fun h => List.mem_cons_of_mem _ (ih h)

theorem keysLt_mdel {m : List IEnt} (j : Nat) (h : KeysLt m) : KeysLt (mdel m j) := by
  fun_induction mdel m j with
  | case1 j => exact List.Pairwise.nil
  | case2 y ys ih => exact ih (List.pairwise_cons.1 h).2
  | case3 y ys j h1 ih =>
    have h := List.pairwise_cons.1 h
    exact List.pairwise_cons.2 ⟨fun b hb => h.1 b (mem_mdel hb), ih h.2⟩

theorem lastFor_nil (k : Nat) : lastFor [] k = none := rfl

theorem lastFor_concat (l : List IEnt) (e : IEnt) (k : Nat) :
    lastFor (l ++ [e]) k = if e.key = k then some e else lastFor l k :=
  List.foldl_append

theorem lastFor_foldl (l : List IEnt) (k : Nat) (acc : Option IEnt) :
    l.foldl (fun acc e => if e.key = k then some e else acc) acc = ((l.filter (·.key = k)).getLast?).or acc := by
  induction l generalizing acc with
  | nil => rfl
  | cons x xs ih =>
    rw [List.foldl_cons, ih, List.filter_cons]
    by_cases h : x.key = k
    · simp only [h, decide_true, if_true, List.getLast?_cons]
      cases (List.filter (fun e => decide (e.key = k)) xs).getLast? <;> rfl
    · simp only [h, decide_false, if_false, Bool.false_eq_true]

theorem lastFor_eq (l : List IEnt) (k : Nat) : lastFor l k = (l.filter (·.key = k)).getLast? :=
  (lastFor_foldl l k none).trans Option.or_none

theorem lastFor_cons (x : IEnt) (xs : List IEnt) (k : Nat) :
    lastFor (x :: xs) k = (lastFor xs k).or (if x.key = k then some x else none) := by
  rw [lastFor_eq xs]; exact lastFor_foldl xs k _

theorem lastFor_append (a b : List IEnt) (k : Nat) :
    lastFor (a ++ b) k = (lastFor b k).or (lastFor a k) := by
  rw [lastFor_eq, lastFor_eq, lastFor_eq, List.filter_append, List.getLast?_append]

theorem lastFor_some {l : List IEnt} {k : Nat} {e : IEnt} (h : lastFor l k = some e) : e ∈ l ∧ e.key = k := by
  rw [lastFor_eq] at h
  have := List.mem_filter.1 (List.mem_of_getLast? h)
  exact ⟨this.1, of_decide_eq_true this.2⟩

theorem lastFor_eq_none {l : List IEnt} {k : Nat} : lastFor l k = none ↔ ∀ e ∈ l, e.key ≠ k := by
  rw [lastFor_eq, List.getLast?_eq_none_iff, List.filter_eq_nil_iff]
  exact forall_congr' fun e => imp_congr_right fun _ => not_congr decide_eq_true_iff

theorem lastFor_eq_mget {l : List IEnt} (h : KeysLt l) (k : Nat) : lastFor l k = mget l k := by
  induction l with
  | nil => rfl
  | cons x xs ih =>
    have h := List.pairwise_cons.1 h
    rw [lastFor_cons, ih h.2, mget_cons]
    by_cases h1 : x.key = k
    · have : mget xs k = none := by
        cases hm : mget xs k with
        | none => rfl
        | some e => exact absurd (h1.trans (mget_some hm).2.symm) (Nat.ne_of_lt (h.1 e (mget_some hm).1))
      rw [this, if_pos h1]; rfl
    · rw [if_neg h1, if_neg h1, Option.or_none]

theorem loadFromIdx_concat (l : List IEnt) (e : IEnt) :
    loadFromIdx (l ++ [e]) = if e.off = 0 ∨ e.size < 0 then mdel (loadFromIdx l) e.key else mset (loadFromIdx l) e :=
  List.foldl_append

theorem mget_loadFromIdx_concat (l : List IEnt) (e : IEnt) (k : Nat) :
    mget (loadFromIdx (l ++ [e])) k =
      if e.key = k then (if e.off = 0 ∨ e.size < 0 then none else some e) else mget (loadFromIdx l) k := by
  rw [loadFromIdx_concat]
  by_cases hd : e.off = 0 ∨ e.size < 0
  · simp only [if_pos hd]; exact mget_mdel _ _ _
  · simp only [if_neg hd]; exact mget_mset _ _ _

theorem keysLt_loadFromIdx (l : List IEnt) : KeysLt (loadFromIdx l) :=
  List.foldlRecOn l _ List.Pairwise.nil fun m h x _ => by
    split
    · exact keysLt_mdel _ h
    · exact keysLt_mset _ h

theorem validEnt_iff (e : IEnt) : validEnt e = true ↔ e.off ≠ 0 ∧ 0 < e.size := by
  simp [validEnt]

theorem delIdx_ne {kind : Kind} {m : Nat → Option Ent} {j k : Nat} (h : k ≠ j) : delIdx kind m j k = m k := by
  cases kind with
  | ldb => exact if_neg h
  | mem =>
    unfold delIdx
    simp only
    cases m j with
    | none => rfl
    | some e =>
      simp only
      split
      · exact setIdx_ne h
      · rfl

/-- the index value of key `k` after loading an idx file whose last entry for `k` is `acc`.  That no value has size 0
    is carried along for the in-memory map, which leaves a value that is not positive as it is when the key is deleted. -/
def RelOK (k : Nat) (m : Nat → Option Ent) (acc : Option IEnt) : Prop :=
  (∀ e', m k = some e' → e'.size ≠ 0) ∧
  (match acc with
   | none => m k = none
   | some e => if validEnt e = true then m k = some ⟨e.off, e.size⟩ else (m k = none ∨ ∃ e', m k = some e' ∧ e'.size < 0))

/-- an invalid entry for `k`: the key is gone (LevelDB; in-memory map that did not hold it) or its size is negative
    (in-memory map) -/
theorem relOK_delIdx (kind : Kind) {k : Nat} {m : Nat → Option Ent} (h : ∀ e', m k = some e' → e'.size ≠ 0)
    {x : IEnt} (hv : ¬ validEnt x = true) : RelOK k (delIdx kind m k) (some x) := by
  unfold RelOK
  simp only [hv]
  cases kind with
  | ldb =>
    have : delIdx Kind.ldb m k k = none := if_pos rfl
    rw [this]; exact ⟨(fun _ h => nomatch h), Or.inl rfl⟩
  | mem =>
    cases hm : m k with
    | none =>
      have : delIdx Kind.mem m k = m := by simp only [delIdx, hm]
      rw [this, hm]; exact ⟨(fun _ h => nomatch h), Or.inl rfl⟩
    | some e =>
      by_cases hp : 0 < e.size
      · have : delIdx Kind.mem m k k = some ⟨e.off, -e.size⟩ := by simp only [delIdx, hm, hp, if_true, setIdx_same]
        rw [this]
        exact ⟨fun e' he' => by cases he'; exact Int.neg_ne_zero.2 (Int.ne_of_gt hp), Or.inr ⟨_, rfl, Int.neg_neg_of_pos hp⟩⟩
      · have : delIdx Kind.mem m k = m := by simp only [delIdx, hm, hp, if_false]
        rw [this, hm]
        have := h e hm
        exact ⟨fun e' he' => by cases he'; exact this, Or.inr ⟨e, rfl, Int.lt_iff_le_and_ne.2 ⟨Int.not_lt.1 hp, this⟩⟩⟩

theorem reloadIdx_char (kind : Kind) (l : List IEnt) (k : Nat) : RelOK k (reloadIdx kind l) (lastFor l k) := by
  refine List.foldl_rel (r := RelOK k) ⟨(fun _ h => nomatch h), rfl⟩ fun x _ m acc h => ?_
  by_cases hk : x.key = k
  · rw [if_pos hk, hk]
    by_cases hv : validEnt x = true
    · rw [if_pos hv]
      have := (validEnt_iff x).1 hv
      unfold RelOK
      rw [setIdx_same]
      exact ⟨fun e' he' => by cases he'; exact Int.ne_of_gt this.2, by simp only [hv, if_true]⟩
    · rw [if_neg hv]; exact relOK_delIdx kind h.1 hv
  · have hk' : k ≠ x.key := fun h => hk h.symm
    have hm : (if validEnt x = true then setIdx m x.key ⟨x.off, x.size⟩ else delIdx kind m x.key) k = m k := by
      split
      · exact setIdx_ne hk'
      · exact delIdx_ne hk'
    rw [if_neg hk]
    unfold RelOK
    rw [hm]
    exact h

theorem mget_foldl_mset (l : List IEnt) (k : Nat) : mget (l.foldl mset []) k = lastFor l k :=
  List.foldl_rel (r := fun m' (acc : Option IEnt) => mget m' k = acc) rfl fun x _ m' acc h => by
    rw [mget_mset]
    split
    · rfl
    · exact h

/-- the `nm.Set` calls of a copy phase, in copy order: the i-th copied record at offset i (`cpxOf` is their `MemDb`) -/
def cpxEnts (keep : List (Nat × Rec × Nat)) : List IEnt :=
  (keep.zipIdx 1).map fun p => (⟨p.1.2.1.id, p.2, p.1.2.1.size⟩ : IEnt)

theorem cpxOf_eq (keep : List (Nat × Rec × Nat)) : cpxOf keep = (cpxEnts keep).foldl mset [] :=
  List.foldl_map.symm

theorem keysLt_cpxOf (keep : List (Nat × Rec × Nat)) : KeysLt (cpxOf keep) := by
  rw [cpxOf_eq]; exact List.foldlRecOn _ mset List.Pairwise.nil fun _ h x _ => keysLt_mset x h

theorem lastFor_cpxOf (keep : List (Nat × Rec × Nat)) (k : Nat) : lastFor (cpxOf keep) k = lastFor (cpxEnts keep) k := by
  rw [lastFor_eq_mget (keysLt_cpxOf keep), cpxOf_eq, mget_foldl_mset]

theorem atOf_eq (ats : List Nat) (off : Nat) : atOf ats off = (ats[off - 1]?).getD 0 := List.getD_eq_getElem?_getD

theorem atOf_append_of_le {ats ext : List Nat} {off : Nat} (h0 : off ≠ 0) (h1 : off ≤ ats.length) :
    atOf (ats ++ ext) off = atOf ats off := by
  rw [atOf_eq, atOf_eq, List.getElem?_append_left (pred_lt h0 h1)]

theorem getElem?_append_of_some {α : Type} {l : List α} {i : Nat} {a : α} (h : l[i]? = some a) (ext : List α) :
    (l ++ ext)[i]? = some a := by
  rw [List.getElem?_append_left (List.getElem?_eq_some_iff.1 h).1]; exact h

theorem getElem?_map_append {α β : Type} (f : α → β) {l : List α} {i : Nat} {a : α} (h : l[i]? = some a) (ext : List β) :
    (l.map f ++ ext)[i]? = some (f a) :=
  getElem?_append_of_some (by rw [List.getElem?_map, h]; rfl) ext

theorem atOf_take (ats : List Nat) {n off : Nat} (h0 : off ≠ 0) (h : off ≤ n) : atOf (ats.take n) off = atOf ats off := by
  rw [atOf_eq, atOf_eq, List.getElem?_take, if_pos (pred_lt h0 h)]

/-- How the online index, the .dat, the .idx and the AppendAtNs of a volume hang together: an index entry points into
    the .dat, at a record of its own key and (unless the entry is a deleted one) of its size; the `MemDb` that
    `Compact2` loads from the .idx holds exactly the entries of the online index that are not deleted. -/
structure WF (s : CVol) : Prop where
  bound : ∀ k e, s.v.idx k = some e → e.off ≠ 0 ∧ e.off ≤ s.v.log.length
  own   : ∀ k e r, s.v.idx k = some e → recAt s.v.log e.off = some r → r.id = k ∧ (0 ≤ e.size → r.size = e.size)
  mem   : ∀ k, mget (loadFromIdx s.ilog) k =
            (match s.v.idx k with
             | some e => if 0 ≤ e.size then some ⟨k, e.off, e.size⟩ else none
             | none => none)
  len   : s.ats.length = s.v.log.length

theorem wf_loaded {s : CVol} (hw : WF s) {e : IEnt} (he : e ∈ loadFromIdx s.ilog) :
    s.v.idx e.key = some ⟨e.off, e.size⟩ ∧ 0 ≤ e.size := by
  have hmg := mget_of_mem (keysLt_loadFromIdx s.ilog) he
  rw [hw.mem e.key] at hmg
  cases hi : s.v.idx e.key with
  | none => rw [hi] at hmg; cases hmg
  | some e' =>
    simp only [hi] at hmg
    by_cases hpos : 0 ≤ e'.size
    · rw [if_pos hpos] at hmg
      cases e; cases hmg; exact ⟨rfl, hpos⟩
    · rw [if_neg hpos] at hmg; cases hmg

theorem mem_olog (s : CVol) (p : Nat × Rec × Nat) :
    p ∈ olog s ↔ recAt s.v.log p.1 = some p.2.1 ∧ p.2.2 = atOf s.ats p.1 := by
  unfold olog
  constructor
  · intro h
    obtain ⟨⟨r, o⟩, hq, rfl⟩ := List.mem_map.1 h
    have := List.mk_mem_zipIdx_iff_le_and_getElem?_sub.1 hq
    exact ⟨(recAt_eq _ (Nat.ne_of_gt this.1)).trans this.2, rfl⟩
  · intro ⟨h1, h2⟩
    obtain ⟨o, r, a⟩ := p
    have hb := recAt_some_le h1
    rw [recAt_eq _ hb.1] at h1
    exact List.mem_map.2 ⟨(r, o), List.mk_mem_zipIdx_iff_le_and_getElem?_sub.2 ⟨Nat.pos_of_ne_zero hb.1, h1⟩, by rw [show a = atOf s.ats o from h2]⟩

/-- the records (offset, record, AppendAtNs) a copy phase keeps, against the volume it copies from.  `sound` admits a
    record of size 0 where `complete` asks for a positive size: `Compact2` copies an empty blob, `Compact` does not. -/
structure KeepOK (s : CVol) (nowSec : Nat) (keep : List (Nat × Rec × Nat)) : Prop where
  sound    : ∀ p ∈ keep, recAt s.v.log p.1 = some p.2.1 ∧ p.2.2 = atOf s.ats p.1 ∧
               s.v.idx p.2.1.id = some ⟨p.1, p.2.1.size⟩ ∧ 0 ≤ p.2.1.size
  complete : ∀ k e r, s.v.idx k = some e → 0 < e.size → recAt s.v.log e.off = some r →
               dropsTtl s nowSec r (atOf s.ats e.off) = false → (e.off, r, atOf s.ats e.off) ∈ keep

theorem keepScan_ok {s : CVol} (hw : WF s) (nowSec : Nat) : KeepOK s nowSec (keepScan s nowSec) := by
  refine ⟨fun p hp => ?_, fun k e r hi hs hr hd => ?_⟩
  · obtain ⟨hm, hpred⟩ := List.mem_filter.1 hp
    obtain ⟨h1, h2⟩ := (mem_olog s p).1 hm
    have hidx := (Bool.and_eq_true _ _ ▸ hpred).2
    cases hi : s.v.idx p.2.1.id with
    | none => rw [hi] at hidx; cases hidx
    | some e =>
      simp only [hi, Bool.and_eq_true, beq_iff_eq, decide_eq_true_eq] at hidx
      obtain ⟨heo, hes⟩ := hidx
      have hsz := (hw.own _ e p.2.1 hi (heo ▸ h1)).2 (Int.le_of_lt hes)
      refine ⟨h1, h2, ?_, hsz ▸ Int.le_of_lt hes⟩
      cases e; simp only at heo hsz ⊢; rw [heo, hsz]
  · refine List.mem_filter.2 ⟨(mem_olog s _).2 ⟨hr, rfl⟩, ?_⟩
    simp [hd, (hw.own k e r hi hr).1, hi, hs]

/-- one entry of the loaded .idx through `copyDataBasedOnIndexFile`: what is copied, if anything -/
theorem keepIdx_some {s : CVol} {nowSec : Nat} {e : IEnt} {p : Nat × Rec × Nat}
    (h : (if e.off = 0 ∨ e.size < 0 then none else
          match recAt s.v.log e.off with
          | none => none
          | some r =>
            if ¬ (r.size = e.size) then none
            else if dropsTtl s nowSec r (atOf s.ats e.off) then none
            else some (e.off, r, atOf s.ats e.off)) = some p) :
    recAt s.v.log e.off = some p.2.1 ∧ p.2.1.size = e.size ∧ p.1 = e.off ∧ p.2.2 = atOf s.ats e.off := by
  by_cases hd : e.off = 0 ∨ e.size < 0
  · rw [if_pos hd] at h; cases h
  · rw [if_neg hd] at h
    cases hr : recAt s.v.log e.off with
    | none => rw [hr] at h; cases h
    | some r =>
      simp only [hr] at h
      by_cases hsz : r.size = e.size
      · rw [if_neg (not_not_intro hsz)] at h
        by_cases hdr : dropsTtl s nowSec r (atOf s.ats e.off) = true
        · rw [if_pos hdr] at h; cases h
        · rw [if_neg hdr] at h; cases h; exact ⟨rfl, hsz, rfl, rfl⟩
      · rw [if_pos hsz] at h; cases h

theorem keepIdx_ok {s : CVol} (hw : WF s) (nowSec : Nat) : KeepOK s nowSec (keepIdx s nowSec) := by
  refine ⟨fun p hp => ?_, fun k e r hi hs hr hd => ?_⟩
  · obtain ⟨e, he, hb⟩ := List.mem_filterMap.1 hp
    obtain ⟨hr, hsz, ho, ha⟩ := keepIdx_some hb
    obtain ⟨hi, hpos⟩ := wf_loaded hw he
    rw [ho]
    refine ⟨hr, ha, ?_, hsz ▸ hpos⟩
    rw [(hw.own e.key _ _ hi hr).1, hi, hsz]
  · have hm := hw.mem k
    have hpos : 0 ≤ e.size := Int.le_of_lt hs
    rw [hi] at hm
    simp only [hpos, if_true] at hm
    refine List.mem_filterMap.2 ⟨_, (mget_some hm).1, ?_⟩
    have hb := hw.bound k e hi
    have : ¬ (e.off = 0 ∨ e.size < 0) := fun h => h.elim hb.1 (Int.not_lt.2 hpos)
    simp [this, hr, (hw.own k e r hi hr).2 hpos, hd]

theorem keepOf_ok {s : CVol} (hw : WF s) (alg nowSec : Nat) : KeepOK s nowSec (keepOf s alg nowSec) := by
  unfold keepOf; split
  · exact keepScan_ok hw nowSec
  · exact keepIdx_ok hw nowSec

/-- what a reader gets through the index entry `e` -/
def viewOf (log : List Rec) (ats : List Nat) (t : Nat) (e : Option Ent) : Option (Nat × Content) :=
  match e with
  | none => none
  | some e =>
    if e.off = 0 ∨ e.size < 0 then none
    else if e.size = 0 then some (0, Content.empty)
    else match recAt log e.off with
      | none => none
      | some r =>
        if r.size = e.size ∧ SwV.Model.C09.readable (needleOf r.c (atOf ats e.off)) t = true then some (r.cookie, r.c)
        else none

theorem view_eq (s : CVol) (t k : Nat) : view s t k = viewOf s.v.log s.ats t (s.v.idx k) := by
  unfold view readT readStep viewOf
  cases s.v.idx k with
  | none => rfl
  | some e =>
    by_cases h0 : e.off = 0
    · simp [h0]
    · by_cases hn : e.size < 0
      · simp [h0, hn]
      · by_cases hz : e.size = 0
        · simp [h0, hz]
        · simp only [h0, hn, hz, or_self, if_false]
          cases recAt s.v.log e.off with
          | none => rfl
          | some r =>
            by_cases hrs : r.size = e.size
            · have : 0 < e.size := Int.lt_iff_le_and_ne.2 ⟨Int.not_lt.1 hn, Ne.symm hz⟩
              by_cases hrd : SwV.Model.C09.readable (needleOf r.c (atOf s.ats e.off)) t = true <;>
                simp [hrs, this, hrd]
            · simp [hrs]

theorem viewOf_neg {log : List Rec} {ats : List Nat} {t : Nat} {e : Ent} (hs : e.size < 0) : viewOf log ats t (some e) = none :=
  if_pos (Or.inr hs)

theorem viewOf_congr {log log' : List Rec} {ats ats' : List Nat} {off off' : Nat} (sz : Int) (t : Nat)
    (h0 : off ≠ 0) (h0' : off' ≠ 0) (hr : recAt log off = recAt log' off') (ha : atOf ats off = atOf ats' off') :
    viewOf log ats t (some ⟨off, sz⟩) = viewOf log' ats' t (some ⟨off', sz⟩) := by
  simp only [viewOf, h0, h0', hr, ha]

theorem viewOf_copy {log L : List Rec} {ats A : List Nat} {off j : Nat} {r : Rec} {sz : Int} (t : Nat) (hj : 1 ≤ j)
    (hr : recAt log off = some r) (hL : L[j - 1]? = some r) (hA : A[j - 1]? = some (atOf ats off)) :
    viewOf L A t (some ⟨j, sz⟩) = viewOf log ats t (some ⟨off, sz⟩) :=
  have hj0 : j ≠ 0 := Nat.ne_of_gt hj
  viewOf_congr sz t hj0 (recAt_some_le hr).1 ((recAt_eq _ hj0).trans (hL.trans hr.symm)) (by rw [atOf_eq, hA]; rfl)

theorem view_none_idx {s : CVol} {k : Nat} (t : Nat) (h : s.v.idx k = none) : view s t k = none := by
  rw [view_eq, h]; rfl

theorem view_neg {s : CVol} {k : Nat} {e : Ent} (t : Nat) (h : s.v.idx k = some e) (hs : e.size < 0) : view s t k = none := by
  rw [view_eq, h, viewOf_neg hs]

theorem viewOf_live {log : List Rec} {ats : List Nat} {off : Nat} {sz : Int} {r : Rec} (t : Nat)
    (hsz : 0 < sz) (hr : recAt log off = some r) (hrs : r.size = sz) :
    viewOf log ats t (some ⟨off, sz⟩)
      = if SwV.Model.C09.readable (needleOf r.c (atOf ats off)) t = true then some (r.cookie, r.c) else none := by
  have hoff : off ≠ 0 := (recAt_some_le hr).1
  have h1 : ¬ sz < 0 := Int.not_lt.2 (Int.le_of_lt hsz)
  have h2 : ¬ sz = 0 := Int.ne_of_gt hsz
  simp only [viewOf, hoff, h1, h2, hr, hrs, or_self, if_false, true_and]

theorem view_live {s : CVol} {k off : Nat} {sz : Int} {r : Rec} (t : Nat) (hi : s.v.idx k = some ⟨off, sz⟩)
    (hsz : 0 < sz) (hr : recAt s.v.log off = some r) (hrs : r.size = sz) :
    view s t k = if SwV.Model.C09.readable (needleOf r.c (atOf s.ats off)) t = true then some (r.cookie, r.c) else none := by
  rw [view_eq, hi, viewOf_live t hsz hr hrs]

theorem view_empty {s : CVol} {k off : Nat} (t : Nat) (hi : s.v.idx k = some ⟨off, 0⟩) (hoff : off ≠ 0) :
    view s t k = some (0, Content.empty) := by
  rw [view_eq, hi]
  simp only [viewOf, hoff, Int.lt_irrefl, or_self, if_false, if_true]

theorem viewOf_take (log : List Rec) (ats : List Nat) (n t : Nat) (e : Option Ent) :
    viewOf (log.take n) (ats.take n) t e = viewOf log ats t e ∨ viewOf (log.take n) (ats.take n) t e = none := by
  cases e with
  | none => exact Or.inl rfl
  | some e =>
    by_cases h0 : e.off = 0 ∨ e.size < 0
    · left; simp only [viewOf, h0, if_true]
    · by_cases hle : e.off ≤ n
      · left; simp only [viewOf, recAt_take, if_pos hle, atOf_take ats (fun h => h0 (Or.inl h)) hle]
      · by_cases hz : e.size = 0
        · left; simp only [viewOf, hz, if_true]
        · right; simp only [viewOf, h0, hz, if_false, recAt_take, hle]

theorem wf_recAt {s : CVol} (hw : WF s) {k : Nat} {e : Ent} (hi : s.v.idx k = some e) : ∃ r, recAt s.v.log e.off = some r :=
  recAt_of_bound (hw.bound k e hi)

/-- an entry of the new index is the key's index entry, moved to the copy of its record -/
theorem cpx_entry {s : CVol} {nowSec : Nat} {keep : List (Nat × Rec × Nat)} (hk : KeepOK s nowSec keep) {k : Nat} {c : IEnt}
    (hc : lastFor (cpxEnts keep) k = some c) (mrecs : List Rec) (mats : List Nat) (t : Nat) :
    c.off ≠ 0 ∧ 0 ≤ c.size ∧ ∃ off, s.v.idx k = some ⟨off, c.size⟩ ∧
      viewOf (keep.map (·.2.1) ++ mrecs) (keep.map (·.2.2) ++ mats) t (some ⟨c.off, c.size⟩)
        = viewOf s.v.log s.ats t (some ⟨off, c.size⟩) := by
  obtain ⟨hcm, hck⟩ := lastFor_some hc
  obtain ⟨⟨p, j⟩, hq, rfl⟩ := List.mem_map.1 hcm
  obtain ⟨hj, hp⟩ := List.mk_mem_zipIdx_iff_le_and_getElem?_sub.1 hq
  obtain ⟨hr0, ha0, hi0, hnn⟩ := hk.sound p (List.mem_of_getElem? hp)
  exact ⟨Nat.ne_of_gt hj, hnn, p.1, hck ▸ hi0, viewOf_copy t hj hr0 (getElem?_map_append (·.2.1) hp mrecs)
    ((getElem?_map_append (·.2.2) hp mats).trans (congrArg some ha0))⟩

theorem cpx_missing {s : CVol} (hw : WF s) {nowSec : Nat} {keep : List (Nat × Rec × Nat)} (hk : KeepOK s nowSec keep)
    {k : Nat} {e : Ent} (hc : lastFor (cpxEnts keep) k = none) (hi : s.v.idx k = some e) (hpos : 0 < e.size) :
    ∃ r, recAt s.v.log e.off = some r ∧ dropsTtl s nowSec r (atOf s.ats e.off) = true := by
  obtain ⟨r, hr⟩ := wf_recAt hw hi
  by_cases hd : dropsTtl s nowSec r (atOf s.ats e.off) = true
  · exact ⟨r, hr, hd⟩
  · -- the record passed the filter, so it was copied, and the new index has an entry for its key
    obtain ⟨i, hi'⟩ := List.mem_iff_getElem?.1 (hk.complete k e r hi hpos hr (Bool.not_eq_true _ ▸ hd))
    refine absurd (hw.own k e r hi hr).1 (lastFor_eq_none.1 hc ⟨r.id, i + 1, r.size⟩ (List.mem_map.2 ⟨((e.off, r, atOf s.ats e.off), i + 1), ?_, rfl⟩))
    exact List.mk_mem_zipIdx_iff_le_and_getElem?_sub.2 ⟨Nat.le_add_left 1 i, hi'⟩

/-- the index `doLoading` builds serves a key through its last .idx entry, if that entry is valid -/
theorem viewOf_reloadIdx (kind : Kind) (X : List IEnt) (log : List Rec) (ats : List Nat) (t k : Nat) :
    viewOf log ats t (reloadIdx kind X k) =
      match lastFor X k with
      | some c => if validEnt c = true then viewOf log ats t (some ⟨c.off, c.size⟩) else none
      | none => none := by
  have h := (reloadIdx_char kind X k).2
  cases hl : lastFor X k with
  | none => rw [hl] at h; simp only [h]; rfl
  | some c =>
    simp only [hl] at h
    show _ = if validEnt c = true then _ else none
    by_cases hv : validEnt c = true
    · rw [if_pos hv] at h ⊢; rw [h]
    · rw [if_neg hv] at h ⊢
      rcases h with h | ⟨e', h, hneg⟩
      · rw [h]; rfl
      · rw [h, viewOf_neg hneg]

theorem viewOf_reloadIdx_append {kind : Kind} {X Y : List IEnt} {k : Nat} (h : lastFor Y k = none)
    (log : List Rec) (ats : List Nat) (t : Nat) :
    viewOf log ats t (reloadIdx kind (X ++ Y) k) = viewOf log ats t (reloadIdx kind X k) := by
  rw [viewOf_reloadIdx, viewOf_reloadIdx, lastFor_append, h, Option.none_or]

theorem view_reload_nocut (s : CVol) (h : cutAt s.ilog s.v.log = none) (t k : Nat) :
    view (reload s) t k = viewOf s.v.log s.ats t (reloadIdx s.kind s.ilog k) := by
  rw [view_eq]; simp only [reload, h]

theorem view_reload (s : CVol) (t k : Nat) :
    view (reload s) t k = viewOf s.v.log s.ats t (reloadIdx s.kind s.ilog k) ∨
    (view (reload s) t k = none ∧ (cutAt s.ilog s.v.log).isSome = true) := by
  cases h : cutAt s.ilog s.v.log with
  | none => exact Or.inl (view_reload_nocut s h t k)
  | some n => rw [view_eq]; simp only [reload, h]; exact (viewOf_take _ _ n t _).imp_right fun h' => ⟨h', rfl⟩

theorem opStep_fst (s : CVol) (t : Nat) (op : Op) :
    (opStep s t op).1 =
      if (step s.v op).1.log.length = s.v.log.length then { s with v := (step s.v op).1 }
      else { s with v := (step s.v op).1, ats := s.ats ++ [t],
                    ilog := s.ilog ++ idxAppend (step s.v op).1 (s.v.log.length + 1) op } := by
  unfold opStep
  simp only
  split <;> rfl

/-- `s` after appending the record `x` at time `t`: index value `e` for its key, .idx entry `ent` -/
def appended (s : CVol) (t : Nat) (x : Rec) (e : Ent) (ent : IEnt) : CVol :=
  { s with v := appendSet s.v x x.id e, ats := s.ats ++ [t], ilog := s.ilog ++ [ent] }

/-- index value and .idx entry of an appended record: a write points the key at the new record; a delete negates the
    size of the live entry and logs a tombstone -/
def EntOK (s : CVol) (x : Rec) (e : Ent) (ent : IEnt) : Prop :=
  ent.key = x.id ∧ ent.off = s.v.log.length + 1 ∧
  ((0 ≤ x.size ∧ ent.size = x.size ∧ e = ⟨ent.off, ent.size⟩) ∨
   (x.size = 0 ∧ ent.size = -1 ∧ ∃ e0, s.v.idx x.id = some e0 ∧ 0 < e0.size ∧ e = ⟨e0.off, -e0.size⟩))

theorem opStep_same {s : CVol} {t : Nat} {op : Op} {b : Bool} (h : (step s.v op).1 = { s.v with ro := b }) :
    (opStep s t op).1 = { s with v := { s.v with ro := b } } := by
  rw [opStep_fst, h, if_pos rfl]

theorem opStep_append {s : CVol} {t : Nat} {op : Op} {x : Rec} {e : Ent} {ent : IEnt}
    (h : (step s.v op).1 = appendSet s.v x x.id e)
    (hi : idxAppend (appendSet s.v x x.id e) (s.v.log.length + 1) op = [ent]) :
    (opStep s t op).1 = appended s t x e ent := by
  rw [opStep_fst, h, if_neg (by simp [appendSet]), hi]; rfl

/-- an operation leaves the files alone, or appends one record and one .idx entry -/
def OneStep (s s' : CVol) (t : Nat) : Prop :=
  (∃ b, s' = { s with v := { s.v with ro := b } }) ∨ ∃ x e ent, s' = appended s t x e ent ∧ EntOK s x e ent

theorem opStep_cases (s : CVol) (t : Nat) (op : Op) : OneStep s (opStep s t op).1 t := by
  have hdel : ∀ id ck, (∀ v', idxAppend v' (s.v.log.length + 1) op = [⟨id, s.v.log.length + 1, -1⟩]) →
      ((step s.v op).1 = s.v ∨ (step s.v op).1 = (deleteStep s.v id ck).1) → OneStep s (opStep s t op).1 t := by
    intro id ck hi h
    rcases h with h | h
    · exact Or.inl ⟨s.v.ro, opStep_same h⟩
    · rcases deleteStep_state s.v id ck with h' | h' | ⟨e0, he0, hp, h'⟩
      · exact Or.inl ⟨s.v.ro, opStep_same (h.trans (congrArg Prod.fst h'))⟩
      · exact Or.inl ⟨s.v.ro, opStep_same (h.trans (congrArg Prod.fst h'))⟩
      · exact Or.inr ⟨tomb id ck, _, _, opStep_append (h.trans (congrArg Prod.fst h')) (hi _), rfl, rfl,
          Or.inr ⟨rfl, rfl, e0, he0, hp, rfl⟩⟩
  cases op with
  | write id ck c =>
    rcases writeStep_state s.v id ck c with h | h
    · exact Or.inl ⟨s.v.ro, opStep_same h⟩
    · refine Or.inr ⟨newRec id ck _, _, ⟨id, s.v.log.length + 1, _⟩, opStep_append h ?_, rfl, rfl,
        Or.inl ⟨Int.natCast_nonneg _, rfl, rfl⟩⟩
      simp only [idxAppend, appendSet, show (newRec id ck (inheritTtl s.v.volTtl c)).id = id from rfl, setIdx_same, if_true]; rfl
  | delete id ck => exact hdel id ck (fun _ => rfl) (Or.inr rfl)
  | hdelete id ck => exact hdel id ck (fun _ => rfl) (httpDelete_state s.v id ck)
  | read id ck => exact Or.inl ⟨_, opStep_same rfl⟩
  | setRO b => exact Or.inl ⟨_, opStep_same rfl⟩
  | hread id ck => exact Or.inl ⟨_, opStep_same rfl⟩

/-- `s` is reached from `s0` by operations: the files only grew, and the index value of every key follows the
    last .idx entry written for it since `s0` -/
structure Suf (s0 s : CVol) : Prop where
  log   : s0.v.log <+: s.v.log
  ats   : s0.ats <+: s.ats
  ilog  : s0.ilog <+: s.ilog
  snap  : s.snap = s0.snap
  rev   : s.rev = s0.rev
  vttl  : s.v.volTtl = s0.v.volTtl
  wf    : WF s
  untouched : ∀ {k}, lastFor (s.ilog.drop s0.ilog.length) k = none → s.v.idx k = s0.v.idx k
  touched   : ∀ {k e}, lastFor (s.ilog.drop s0.ilog.length) k = some e →
                e.off ≠ 0 ∧ (0 ≤ e.size → s.v.idx k = some ⟨e.off, e.size⟩) ∧
                (e.size < 0 → ∃ e', s.v.idx k = some e' ∧ e'.size < 0)

theorem suf_refl {s0 : CVol} (hw : WF s0) : Suf s0 s0 :=
  ⟨List.prefix_refl _, List.prefix_refl _, List.prefix_refl _, rfl, rfl, rfl, hw, fun _ => rfl,
    fun h => by rw [List.drop_length] at h; cases h⟩

/-- `EntOK` by the sign of `ent.size`, which is what `loadFromIdx` and `Suf.touched` branch on -/
theorem entOK_val {s : CVol} {x : Rec} {e : Ent} {ent : IEnt} (h : EntOK s x e ent) :
    (0 ≤ ent.size → e = ⟨s.v.log.length + 1, ent.size⟩ ∧ x.size = ent.size) ∧
    (ent.size < 0 → e.size < 0 ∧ ∃ e0, s.v.idx x.id = some e0 ∧ e.off = e0.off) := by
  obtain ⟨_, ho, hsz⟩ := h
  rcases hsz with ⟨h1, h2, h3⟩ | ⟨_, h2, e0, h3, h4, h5⟩
  · exact ⟨fun _ => ⟨ho ▸ h3, h2.symm⟩, fun h => absurd h (Int.not_lt.2 (h2 ▸ h1))⟩
  · exact ⟨fun h => by rw [h2] at h; exact absurd h (by decide),
      fun _ => ⟨by rw [h5]; exact Int.neg_neg_of_pos h4, e0, h3, by rw [h5]⟩⟩

theorem appended_idx_ne (s : CVol) (t : Nat) (x : Rec) (e : Ent) (ent : IEnt) {k : Nat} (h : k ≠ x.id) :
    (appended s t x e ent).v.idx k = s.v.idx k := setIdx_ne h

theorem appended_idx_same (s : CVol) (t : Nat) (x : Rec) (e : Ent) (ent : IEnt) :
    (appended s t x e ent).v.idx x.id = some e := setIdx_same _ _ _

theorem wf_appended_of {s : CVol} (hw : WF s) (t : Nat) {x : Rec} {e : Ent} {ent : IEnt} (hk : ent.key = x.id)
    (hb : e.off ≠ 0 ∧ e.off ≤ s.v.log.length + 1)
    (hown : ∀ r, recAt (s.v.log ++ [x]) e.off = some r → r.id = x.id ∧ (0 ≤ e.size → r.size = e.size))
    (hmem : (if ent.off = 0 ∨ ent.size < 0 then none else some ent) =
      if 0 ≤ e.size then some ⟨x.id, e.off, e.size⟩ else none) :
    WF (appended s t x e ent) := by
  have hidx := @appended_idx_ne s t x e ent
  have hsame := appended_idx_same s t x e ent
  refine ⟨fun k e1 hke => ?_, fun k e1 r hke hr => ?_, fun k => ?_, ?_⟩
  · rw [show (appended s t x e ent).v.log.length = s.v.log.length + 1 from List.length_append]
    by_cases hkid : k = x.id
    · rw [hkid, hsame] at hke; cases hke; exact hb
    · have := hw.bound k e1 (hidx hkid ▸ hke)
      exact ⟨this.1, Nat.le_succ_of_le this.2⟩
  · by_cases hkid : k = x.id
    · rw [hkid, hsame] at hke; cases hke; exact hkid ▸ hown r hr
    · rw [hidx hkid] at hke
      exact hw.own k e1 r hke (recAt_append_of_le [x] (hw.bound k e1 hke).2 ▸ hr)
  · show mget (loadFromIdx (s.ilog ++ [ent])) k = _
    rw [mget_loadFromIdx_concat]
    by_cases hkid : k = x.id
    · rw [if_pos (hk.trans hkid.symm), hkid, hsame]; exact hmem
    · rw [if_neg fun h => hkid (h.symm.trans hk), hidx hkid]; exact hw.mem k
  · show (s.ats ++ [t]).length = (s.v.log ++ [x]).length
    rw [List.length_append, List.length_append, hw.len]; rfl

theorem wf_appended {s : CVol} (hw : WF s) (t : Nat) {x : Rec} {e : Ent} {ent : IEnt} (h : EntOK s x e ent) :
    WF (appended s t x e ent) := by
  obtain ⟨hpos, hneg⟩ := entOK_val h
  obtain ⟨hk, ho, -⟩ := h
  by_cases hp : 0 ≤ ent.size
  · -- a write: the key points at the new record
    obtain ⟨he, hxs⟩ := hpos hp
    refine wf_appended_of hw t hk (he ▸ ⟨Nat.succ_ne_zero _, Nat.le_refl _⟩) (fun r hr => ?_) ?_
    · rw [he, recAt_new] at hr
      cases hr; exact ⟨rfl, fun _ => by rw [hxs, he]⟩
    · rw [if_neg fun h => h.elim (ho ▸ Nat.succ_ne_zero _) (Int.not_lt.2 hp), he, if_pos hp]
      cases ent; simp only at hk ho ⊢; rw [hk, ho]
  · -- a delete: the key keeps its offset and gets a negative size, the MemDb drops it
    obtain ⟨hn, e0, he0, heo⟩ := hneg (Int.not_le.1 hp)
    have hb0 := hw.bound _ e0 he0
    refine wf_appended_of hw t hk (heo ▸ ⟨hb0.1, Nat.le_succ_of_le hb0.2⟩) (fun r hr => ?_) ?_
    · rw [heo, recAt_append_of_le _ hb0.2] at hr
      exact ⟨(hw.own _ e0 r he0 hr).1, fun h => absurd hn (Int.not_lt.2 h)⟩
    · rw [if_pos (Or.inr (Int.not_le.1 hp)), if_neg (Int.not_le.2 hn)]

theorem suf_appended {s0 s : CVol} (hs : Suf s0 s) (t : Nat) {x : Rec} {e : Ent} {ent : IEnt} (h : EntOK s x e ent) :
    Suf s0 (appended s t x e ent) := by
  obtain ⟨hpos, hneg⟩ := entOK_val h
  have hwf := wf_appended hs.wf t h
  obtain ⟨hk, ho, -⟩ := h
  have hl : ∀ k, lastFor ((appended s t x e ent).ilog.drop s0.ilog.length) k =
      if ent.key = k then some ent else lastFor (s.ilog.drop s0.ilog.length) k := fun k => by
    show lastFor ((s.ilog ++ [ent]).drop s0.ilog.length) k = _
    rw [List.drop_append_of_le_length hs.ilog.length_le, lastFor_concat]
  have hidx : ∀ {k}, ¬ ent.key = k → (appended s t x e ent).v.idx k = s.v.idx k := fun hkid =>
    appended_idx_ne _ _ _ _ _ fun h => hkid (hk.trans h.symm)
  refine ⟨hs.log.trans (List.prefix_append _ _), hs.ats.trans (List.prefix_append _ _),
    hs.ilog.trans (List.prefix_append _ _), hs.snap, hs.rev, hs.vttl, hwf, fun {k} h1 => ?_, fun {k e1} h1 => ?_⟩
  · rw [hl] at h1
    by_cases hkid : ent.key = k
    · rw [if_pos hkid] at h1; cases h1
    · rw [if_neg hkid] at h1
      exact (hidx hkid).trans (hs.untouched h1)
  · rw [hl] at h1
    by_cases hkid : ent.key = k
    · rw [if_pos hkid] at h1; cases h1
      rw [← hkid, hk, appended_idx_same]
      exact ⟨ho ▸ Nat.succ_ne_zero _, fun hp => by rw [(hpos hp).1, ho], fun hn => ⟨e, rfl, (hneg hn).1⟩⟩
    · rw [if_neg hkid] at h1
      rw [hidx hkid]
      exact hs.touched h1

theorem suf_step {s0 s : CVol} (hs : Suf s0 s) (t : Nat) (op : Op) : Suf s0 (opStep s t op).1 := by
  rcases opStep_cases s t op with ⟨b, h⟩ | ⟨x, e, ent, h, hent⟩
  · -- only `ro` differs, which no field of `Suf` or `WF` reads: the same proofs, wrapped again for the other state
    rw [h]
    exact ⟨hs.log, hs.ats, hs.ilog, hs.snap, hs.rev, hs.vttl, ⟨hs.wf.bound, hs.wf.own, hs.wf.mem, hs.wf.len⟩,
      hs.untouched, hs.touched⟩
  · rw [h]; exact suf_appended hs t hent

theorem runOps_append (s : CVol) (a b : List (Nat × Op)) : runOps s (a ++ b) = runOps (runOps s a) b := by
  induction a generalizing s with
  | nil => rfl
  | cons o a ih => exact ih _

theorem suf_run {s0 : CVol} (hw : WF s0) (ops : List (Nat × Op)) : Suf s0 (runOps s0 ops) := by
  suffices h : ∀ s, Suf s0 s → Suf s0 (runOps s ops) from h s0 (suf_refl hw)
  induction ops with
  | nil => exact fun _ hs => hs
  | cons o ops ih => exact fun _ hs => ih _ (suf_step hs o.1 o.2)

theorem wf_init (kind : Kind) (ttl : Nat × Nat) : WF (CVol.init kind ttl) :=
  ⟨(fun _ _ h => nomatch h), (fun _ _ _ h => nomatch h), fun _ => rfl, rfl⟩

theorem wf_runOps {s0 : CVol} (hw : WF s0) (ops : List (Nat × Op)) : WF (runOps s0 ops) :=
  (suf_run hw ops).wf

theorem wf_reachable (kind : Kind) (ttl : Nat × Nat) (pre : List (Nat × Op)) : WF (runOps (CVol.init kind ttl) pre) :=
  wf_runOps (wf_init kind ttl) pre

theorem suf_view {s0 s : CVol} (hs : Suf s0 s) (t k : Nat) :
    view s t k =
      match lastFor (s.ilog.drop s0.ilog.length) k with
      | none => viewOf s.v.log s.ats t (s0.v.idx k)
      | some e => if 0 ≤ e.size then viewOf s.v.log s.ats t (some ⟨e.off, e.size⟩) else none := by
  rw [view_eq]
  cases hl : lastFor (s.ilog.drop s0.ilog.length) k with
  | none => rw [hs.untouched hl]
  | some e =>
    have h := hs.touched hl
    show _ = if 0 ≤ e.size then _ else none
    by_cases hp : 0 ≤ e.size
    · rw [if_pos hp, h.2.1 hp]
    · obtain ⟨e', he', hn⟩ := h.2.2 (Int.not_le.1 hp)
      rw [if_neg hp, he', viewOf_neg hn]

theorem suf_recAt {s0 s : CVol} (hs : Suf s0 s) {off : Nat} (h : off ≤ s0.v.log.length) : recAt s.v.log off = recAt s0.v.log off := by
  obtain ⟨ext, hlog⟩ := hs.log
  rw [← hlog, recAt_append_of_le _ h]

theorem suf_atOf {s0 s : CVol} (hw : WF s0) (hs : Suf s0 s) {off : Nat} (h0 : off ≠ 0) (h : off ≤ s0.v.log.length) :
    atOf s.ats off = atOf s0.ats off := by
  obtain ⟨ext, hats⟩ := hs.ats
  rw [← hats, atOf_append_of_le h0 (hw.len ▸ h)]

theorem suf_view_untouched {s0 s : CVol} (hw : WF s0) (hs : Suf s0 s) {k : Nat} (h : lastFor (s.ilog.drop s0.ilog.length) k = none)
    (t : Nat) : view s t k = view s0 t k := by
  rw [view_eq, view_eq, hs.untouched h]
  cases hi : s0.v.idx k with
  | none => rfl
  | some e =>
    have hb := hw.bound k e hi
    exact viewOf_congr e.size t hb.1 hb.1 (suf_recAt hs hb.2) (suf_atOf hw hs hb.1 hb.2)

/-- the entry `c` that `makeupDiff` appended for a key whose last update is `e`, against the files `L`, `A` it has written
    so far: `c` points at a copy of the updated record, or is a tombstone with offset 0 -/
def Replays (s2 : CVol) (e : IEnt) (L : List Rec) (A : List Nat) (c : IEnt) : Prop :=
  (validEnt e = true → c.size = e.size ∧ 1 ≤ c.off ∧
    ∃ r, recAt s2.v.log e.off = some r ∧ L[c.off - 1]? = some r ∧ A[c.off - 1]? = some (atOf s2.ats e.off)) ∧
  (¬ validEnt e = true → c.off = 0)

theorem Replays.append {s2 : CVol} {e c : IEnt} {L : List Rec} {A : List Nat} (h : Replays s2 e L A c) (L' : List Rec)
    (A' : List Nat) : Replays s2 e (L ++ L') (A ++ A') c :=
  ⟨fun hv => let ⟨h1, h2, r, h3, h4, h5⟩ := h.1 hv
    ⟨h1, h2, r, h3, getElem?_append_of_some h4 _, getElem?_append_of_some h5 _⟩, h.2⟩

/-- `makeupDiff` after the keys `done`: `L`, `A` = the .dat records / AppendAtNs so far, `M` = the .idx entries it
    appended.  Every entry of `M` replays the last update of its key, and every key in `done` that was updated during
    the copy has an entry. -/
def MkOK (s2 : CVol) (suf : List IEnt) (done : List Nat) (L : List Rec) (A : List Nat) (M : List IEnt) : Prop :=
  L.length = A.length ∧ (∀ c ∈ M, ∃ e, lastFor suf c.key = some e ∧ Replays s2 e L A c) ∧
  ∀ k ∈ done, (lastFor suf k).isSome = true → (lastFor M k).isSome = true

theorem mkOK_snoc {s2 : CVol} {suf : List IEnt} {done : List Nat} {L : List Rec} {A : List Nat} {M : List IEnt}
    (h : MkOK s2 suf done L A M) {e0 : IEnt} (ent : IEnt) (h0 : lastFor suf ent.key = some e0) (r : Rec) (a : Nat)
    (hnew : Replays s2 e0 (L ++ [r]) (A ++ [a]) ent) :
    MkOK s2 suf (done ++ [ent.key]) (L ++ [r]) (A ++ [a]) (M ++ [ent]) := by
  obtain ⟨hlen, hm1, hm2⟩ := h
  refine ⟨by rw [List.length_append, List.length_append, hlen]; rfl, fun c hc => ?_, fun k hk hs => ?_⟩
  · rcases List.mem_append.1 hc with hc | hc
    · obtain ⟨e, he, hr⟩ := hm1 c hc
      exact ⟨e, he, hr.append _ _⟩
    · rw [List.mem_singleton.1 hc]; exact ⟨e0, h0, hnew⟩
  · rw [lastFor_concat]
    by_cases hkk : ent.key = k
    · rw [if_pos hkk]; rfl
    · rw [if_neg hkk]
      exact hm2 k ((List.mem_append.1 hk).resolve_right fun h => hkk (List.mem_singleton.1 h).symm) hs

/-- one key of `makeupDiff`'s map: when every valid last entry points at a record (`hrec`), the step succeeds and only
    appends to the three files.  `X0` is the part of the new .idx that `MkOK` does not speak of (the .cpx the copy phase
    saved). -/
theorem makeupOne_char {s2 : CVol} {suf : List IEnt} (t : Nat)
    (hrec : ∀ k e, lastFor suf k = some e → validEnt e = true → ∃ r, recAt s2.v.log e.off = some r)
    {done : List Nat} {L : List Rec} {A : List Nat} {M : List IEnt} (h : MkOK s2 suf done L A M) (X0 : List IEnt) (k0 : Nat) :
    ∃ r' a' M', makeupOne s2 suf t (L, A, X0 ++ M) k0 = some (L ++ r', A ++ a', X0 ++ M') ∧
      MkOK s2 suf (done ++ [k0]) (L ++ r') (A ++ a') M' := by
  unfold makeupOne
  cases h0 : lastFor suf k0 with
  | none =>
    refine ⟨[], [], M, by rw [List.append_nil, List.append_nil], ?_⟩
    rw [List.append_nil, List.append_nil]
    refine ⟨h.1, h.2.1, fun k hk hs => h.2.2 k ((List.mem_append.1 hk).resolve_right fun hk0 => ?_) hs⟩
    rw [List.mem_singleton.1 hk0, h0] at hs; cases hs
  | some e0 =>
    dsimp only
    by_cases hv : validEnt e0 = true
    · obtain ⟨r, hr⟩ := hrec k0 e0 h0 hv
      rw [if_pos hv, hr]
      refine ⟨[r], [_], M ++ [_], by rw [List.append_assoc], mkOK_snoc h ⟨k0, L.length + 1, e0.size⟩ h0 r _
        ⟨fun _ => ⟨rfl, Nat.le_add_left _ _, r, hr, List.getElem?_concat_length, ?_⟩, fun h => absurd hv h⟩⟩
      rw [Nat.add_sub_cancel, h.1]; exact List.getElem?_concat_length
    · rw [if_neg hv]
      exact ⟨[_], [_], M ++ [_], by rw [List.append_assoc],
        mkOK_snoc h ⟨k0, 0, e0.size⟩ h0 _ _ ⟨fun h => absurd h hv, fun _ => rfl⟩⟩

theorem makeupFold_char (s2 : CVol) (suf : List IEnt) (t : Nat)
    (hrec : ∀ k e, lastFor suf k = some e → validEnt e = true → ∃ r, recAt s2.v.log e.off = some r)
    (X0 : List IEnt) (order : List Nat) :
    ∀ done L A M, MkOK s2 suf done L A M →
      ∃ mrecs mats M', makeupFold s2 suf t (some (L, A, X0 ++ M)) order = some (L ++ mrecs, A ++ mats, X0 ++ M') ∧
        MkOK s2 suf (done ++ order) (L ++ mrecs) (A ++ mats) M' := by
  induction order with
  | nil => exact fun done L A M h => ⟨[], [], M, by rw [List.append_nil, List.append_nil]; rfl, by simpa using h⟩
  | cons k0 rest ih =>
    intro done L A M h
    obtain ⟨r', a', M', hone, hok⟩ := makeupOne_char t hrec h X0 k0
    obtain ⟨mrecs, mats, M'', hf, hok'⟩ := ih _ _ _ _ hok
    refine ⟨r' ++ mrecs, a' ++ mats, M'', ?_, ?_⟩
    · rw [← List.append_assoc, ← List.append_assoc, ← hf]
      show List.foldl _ ((some (L, A, X0 ++ M)).bind _) rest = _
      rw [Option.bind_some, hone]; rfl
    · rw [← List.append_assoc, ← List.append_assoc, List.append_cons done k0 rest]
      exact hok'

/-- `makeupDiff` against a snapshot taken at `s0`, whose .idx was not empty: it succeeds -/
theorem makeup_char {s0 s2 : CVol} (hs : Suf s0 s2) (hnz : s0.ilog ≠ []) (sn : Snap) (hidx : sn.idxLen = s0.ilog.length)
    (hrev : sn.rev = s0.rev) (hlen : sn.log.length = sn.ats.length) (order : List Nat) (t : Nat) :
    ∃ mrecs mats ments, makeup s2 sn order t = some (sn.log ++ mrecs, sn.ats ++ mats, sn.cpx ++ ments) ∧
      MkOK s2 (s2.ilog.drop s0.ilog.length) order (sn.log ++ mrecs) (sn.ats ++ mats) ments := by
  unfold makeup
  by_cases hle : s2.ilog.length = 0 ∨ s2.ilog.length ≤ sn.idxLen
  · have : s2.ilog.drop s0.ilog.length = [] := List.drop_eq_nil_of_le (hle.elim (fun h => h ▸ Nat.zero_le _) fun h => hidx ▸ h)
    rw [if_pos hle, this]
    exact ⟨[], [], [], by simp only [List.append_nil], by rw [List.append_nil, List.append_nil]; exact hlen,
      (fun _ h => nomatch h), (fun _ _ h => nomatch h)⟩
  · have hnz' : ¬ sn.idxLen = 0 := fun h => hnz (List.eq_nil_of_length_eq_zero (hidx ▸ h))
    rw [if_neg hle, if_neg (not_not_intro (hs.rev.trans hrev.symm)), if_neg hnz', hidx]
    have hrec : ∀ k e, lastFor (s2.ilog.drop s0.ilog.length) k = some e → validEnt e = true →
        ∃ r, recAt s2.v.log e.off = some r := fun k e he hv =>
      wf_recAt hs.wf ((hs.touched he).2.1 (Int.le_of_lt ((validEnt_iff e).1 hv).2))
    have := makeupFold_char s2 _ t hrec sn.cpx order [] _ _ [] ⟨hlen, (fun _ h => nomatch h), (fun _ h => nomatch h)⟩
    rw [List.append_nil] at this
    exact this

/-- A key written or deleted while the copy ran is served from the committed files through the entry `makeupDiff`
    replayed for it, as from `s2` — except that an empty blob is replayed as a delete. -/
theorem replayed_view {s0 s2 : CVol} (hs : Suf s0 s2) {order : List Nat} {L : List Rec} {A : List Nat} {M : List IEnt}
    (hmk : MkOK s2 (s2.ilog.drop s0.ilog.length) order L A M) {X : List IEnt} {k : Nat} {e : IEnt} (hk : k ∈ order)
    (he : lastFor (s2.ilog.drop s0.ilog.length) k = some e) (t : Nat) :
    viewOf L A t (reloadIdx s2.kind (X ++ M) k) = view s2 t k ∨
    (viewOf L A t (reloadIdx s2.kind (X ++ M) k) = none ∧ ∃ off, s2.v.idx k = some ⟨off, 0⟩) := by
  have hkey := hs.touched he
  obtain ⟨c, hlast⟩ := Option.isSome_iff_exists.1 (hmk.2.2 k hk (Option.isSome_of_eq_some he))
  obtain ⟨e', he', hrep⟩ := hmk.2.1 c (lastFor_some hlast).1
  rw [(lastFor_some hlast).2, he] at he'
  cases he'
  rw [viewOf_reloadIdx, lastFor_append, hlast, Option.some_or, view_eq]
  by_cases hv : validEnt e = true
  · obtain ⟨hsz, hj, r, hr, hL, hA⟩ := hrep.1 hv
    have hv' := (validEnt_iff e).1 hv
    left
    simp only [(validEnt_iff c).2 ⟨Nat.ne_of_gt hj, hsz ▸ hv'.2⟩, if_true, hkey.2.1 (Int.le_of_lt hv'.2), hsz]
    exact viewOf_copy t hj hr hL hA
  · simp only [if_neg fun h => ((validEnt_iff c).1 h).1 (hrep.2 hv)]
    by_cases hneg : e.size < 0
    · obtain ⟨e', he', hn'⟩ := hkey.2.2 hneg
      left; rw [he', viewOf_neg hn']
    · have hz : e.size = 0 :=
        Int.le_antisymm (Int.not_lt.1 fun h => hv ((validEnt_iff e).2 ⟨hkey.1, h⟩)) (Int.not_lt.1 hneg)
      exact Or.inr ⟨trivial, e.off, by rw [hkey.2.1 (Int.not_lt.1 hneg), hz]⟩

end SwV.Lemmas.C04
