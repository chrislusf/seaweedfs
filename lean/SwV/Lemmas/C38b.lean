/-
C38 — the C01 specification and the C01 model are `Local`.  The specification's view of id `k` is its entry and
the two globals (read-only flag, volume TTL).  The model's view of `k` is the two globals and, of its index
entry, the size, whether the offset is 0, and the record the offset points at; the invariant is that index
offsets point into the log.
-/
import SwV.Lemmas.C01
import SwV.Lemmas.C38
namespace SwV.Lemmas.C38
open SwV.Model.C01 SwV.Spec.C01 SwV.Spec.C38 SwV.Lemmas.C01

def sview (s : KV) (k : Nat) : Option Entry × Bool × (Nat × Nat) := (s.m k, s.ro, s.volTtl)

theorem sview_set_self (m : Nat → Option Entry) (ro : Bool) (ttl : Nat × Nat) (a : Nat) (e : Entry) :
    sview ⟨setM m a e, ro, ttl⟩ a = (some e, ro, ttl) :=
  congrArg (·, ro, ttl) (if_pos rfl)

theorem sview_set_ne (m : Nat → Option Entry) (ro : Bool) (ttl : Nat × Nat) {a k : Nat} (e : Entry) (h : a ≠ k) :
    sview ⟨setM m a e, ro, ttl⟩ k = sview ⟨m, ro, ttl⟩ k :=
  congrArg (·, ro, ttl) (if_neg (Ne.symm h))

/-- what locality asks of the results `r1`, `r2` of one step on id `a` from `s1` and from a state with the same view
    of `a`: same output, same new view of `a`, and in `r1` every other id keeps the view it had in `s1` -/
def Agree (a : Nat) (r1 r2 : KV × Out) (s1 : KV) : Prop :=
  r1.2 = r2.2 ∧ sview r1.1 a = sview r2.1 a ∧ ∀ k, a ≠ k → sview r1.1 k = sview s1 k

theorem agree_same {a : Nat} {s1 s2 : KV} {o : Out} (hv : sview s1 a = sview s2 a) : Agree a (s1, o) (s2, o) s1 :=
  ⟨rfl, hv, fun _ _ => rfl⟩

theorem agree_set {a : Nat} (m1 m2 : Nat → Option Entry) (ro : Bool) (ttl : Nat × Nat) (e : Entry) (o : Out) :
    Agree a (⟨setM m1 a e, ro, ttl⟩, o) (⟨setM m2 a e, ro, ttl⟩, o) ⟨m1, ro, ttl⟩ :=
  ⟨rfl, (sview_set_self ..).trans (sview_set_self ..).symm, fun _ hk => sview_set_ne _ _ _ e hk⟩

theorem agree_ite {a : Nat} {s1 : KV} {c : Prop} [Decidable c] {t1 t2 e1 e2 : KV × Out}
    (ht : Agree a t1 t2 s1) (he : Agree a e1 e2 s1) :
    Agree a (if c then t1 else e1) (if c then t2 else e2) s1 := by
  split <;> assumption

/-- Every branch of the specification's step on a keyed operation is chosen by the entry of the operation's id
    and the two globals, and either returns the state or stores an entry for that id. -/
theorem sstep_agree (s1 s2 : KV) (op : Op) (hk : keyed op = true) (hv : sview s1 (opId op) = sview s2 (opId op)) :
    Agree (opId op) (sstep s1 op) (sstep s2 op) s1 := by
  obtain ⟨hm, hro, httl⟩ : s1.m (opId op) = s2.m (opId op) ∧ s1.ro = s2.ro ∧ s1.volTtl = s2.volTtl := by
    simpa only [sview, Prod.mk.injEq] using hv
  cases op
  case setRO => cases hk
  -- what the step from `s2` reads is rewritten into what the step from `s1` reads: both then run the same tests
  all_goals
    dsimp only [opId] at hm
    simp only [sstep, ← hro, ← httl, ← hm]
    generalize s1.m _ = e
  case write id ck c =>
    refine agree_ite (agree_same hv) ?_
    rcases e with _ | ⟨k, v⟩
    · exact agree_set ..
    · exact agree_ite (agree_same hv) (agree_set ..)
  case delete id ck =>
    refine agree_ite (agree_same hv) ?_
    rcases e with _ | ⟨k, _ | c⟩
    · exact agree_same hv
    · exact agree_same hv
    · exact agree_set ..
  case read id ck =>
    rcases e with _ | ⟨k, _ | c⟩ <;> exact agree_same hv
  case hread id ck =>
    rcases e with _ | ⟨k, _ | c⟩
    · exact agree_same hv
    · exact agree_same hv
    · exact agree_ite (agree_same hv) (agree_same hv)
  case hdelete id ck =>
    rcases e with _ | ⟨k, _ | c⟩
    · exact agree_same hv
    · exact agree_same hv
    · exact agree_ite (agree_same hv) (agree_ite (agree_same hv) (agree_set ..))

/-- FRAME + LOCALITY of the C01 specification: a step on id `a` leaves every other id's entry unchanged, and its
    output and the new entry of `a` depend on the old entry of `a` (and the read-only flag / volume TTL) only -/
theorem local_sstep : Local sstep sview (fun _ => True) where
  inv_step := fun _ _ _ => trivial
  frame := fun s op k _ hk hne => (sstep_agree s s op hk rfl).2.2 k hne
  loc := fun s1 s2 op _ _ hk hv => ⟨(sstep_agree s1 s2 op hk hv).1, (sstep_agree s1 s2 op hk hv).2.1⟩

abbrev EView := Option (Bool × Int × Option Rec)
abbrev MView := Bool × (Nat × Nat) × EView

def eview (st : Vol) (k : Nat) : EView := (st.idx k).map fun e => (decide (e.off = 0), e.size, recAt st.log e.off)
def mview (st : Vol) (k : Nat) : MView := (st.ro, st.volTtl, eview st k)

/-- index offsets point into the log (or are 0) -/
def minv (st : Vol) : Prop := ∀ k e, st.idx k = some e → e.off ≤ st.log.length

theorem minv_init (t : Nat × Nat) : minv (Vol.init t) :=
  fun _ _ h => nomatch h

theorem minv_appendSet {st : Vol} (hI : minv st) {r : Rec} {a : Nat} {e : Ent} (he : e.off ≤ st.log.length + 1) :
    minv (appendSet st r a e) := by
  intro k e' hk
  have hlen : (appendSet st r a e).log.length = st.log.length + 1 := List.length_append
  simp only [appendSet] at hk
  rw [hlen]
  by_cases hka : k = a
  · rw [hka, setIdx_same, Option.some.injEq] at hk
    exact hk ▸ he
  · rw [setIdx_ne hka] at hk
    exact Nat.le_succ_of_le (hI k e' hk)

theorem mview_appendSet_ne {st : Vol} (hI : minv st) {r : Rec} {a k : Nat} {e : Ent} (hk : k ≠ a) :
    mview (appendSet st r a e) k = mview st k := by
  simp only [mview, eview, appendSet, setIdx_ne hk]
  cases he : st.idx k with
  | none => rfl
  | some e' => simp only [Option.map_some, recAt_append_of_le [r] (hI k e' he)]

theorem mview_appendSet_self (st : Vol) (r : Rec) (a : Nat) (e : Ent) :
    mview (appendSet st r a e) a = (st.ro, st.volTtl, some (decide (e.off = 0), e.size, recAt (st.log ++ [r]) e.off)) := by
  simp only [mview, eview, appendSet, setIdx_same, Option.map_some]

theorem minv_of_eff {st st' : Vol} {id : Nat} (h : Eff st id st') (hI : minv st) : minv st' := by
  cases h with
  | same => exact hI
  | wrote ck c => exact minv_appendSet hI (Nat.le_refl _)
  | removed ck e hi hp => exact minv_appendSet hI (Nat.le_succ_of_le (hI id e hi))

theorem frame_of_eff {st st' : Vol} {id k : Nat} (h : Eff st id st') (hI : minv st) (hne : k ≠ id) :
    mview st' k = mview st k := by
  cases h with
  | same => rfl
  | wrote ck c => exact mview_appendSet_ne hI hne
  | removed ck e hi hp => exact mview_appendSet_ne hI hne

theorem mview_eq {st1 st2 : Vol} {k : Nat} (h : mview st1 k = mview st2 k) :
    st1.ro = st2.ro ∧ st1.volTtl = st2.volTtl ∧ eview st1 k = eview st2 k := by
  simpa only [mview, Prod.mk.injEq] using h

theorem eview_cases {st1 st2 : Vol} {id : Nat} (h : eview st1 id = eview st2 id) :
    (st1.idx id = none ∧ st2.idx id = none) ∨
    ∃ e1 e2, st1.idx id = some e1 ∧ st2.idx id = some e2 ∧ (e1.off = 0 ↔ e2.off = 0) ∧ e1.size = e2.size ∧
      recAt st1.log e1.off = recAt st2.log e2.off := by
  unfold eview at h
  cases h1 : st1.idx id with
  | none =>
    cases h2 : st2.idx id with
    | none => exact Or.inl ⟨rfl, rfl⟩
    | some e2 => rw [h1, h2] at h; cases h
  | some e1 =>
    cases h2 : st2.idx id with
    | none => rw [h1, h2] at h; cases h
    | some e2 =>
      simp only [h1, h2, Option.map_some, Option.some.injEq, Prod.mk.injEq, decide_eq_decide] at h
      exact Or.inr ⟨e1, e2, rfl, rfl, h.1, h.2.1, h.2.2⟩

theorem readStep_loc {st1 st2 : Vol} {id : Nat} (ck : Nat) (h : eview st1 id = eview st2 id) :
    readStep st1 id ck = readStep st2 id ck := by
  unfold readStep
  rcases eview_cases h with ⟨h1, h2⟩ | ⟨e1, e2, h1, h2, hz, hs, hr⟩
  · simp only [h1, h2]
  · simp only [h1, h2, hs, hr, hz]

theorem isFileUnchanged_loc {st1 st2 : Vol} {id : Nat} (ck : Nat) (c : Content) (ht : st1.volTtl = st2.volTtl)
    (h : eview st1 id = eview st2 id) : isFileUnchanged st1 id ck c = isFileUnchanged st2 id ck c := by
  unfold isFileUnchanged
  rcases eview_cases h with ⟨h1, h2⟩ | ⟨e1, e2, h1, h2, hz, hs, hr⟩
  · simp only [h1, h2, ht]
  · simp only [h1, h2, hs, hr, ht, ne_eq, hz]

theorem deleteStep_loc {st1 st2 : Vol} {id : Nat} (ck : Nat) (hI1 : minv st1) (hI2 : minv st2)
    (h : mview st1 id = mview st2 id) :
    (deleteStep st1 id ck).2 = (deleteStep st2 id ck).2 ∧ mview (deleteStep st1 id ck).1 id = mview (deleteStep st2 id ck).1 id := by
  obtain ⟨hro, ht, he⟩ := mview_eq h
  by_cases hr : st1.ro = true
  · rw [deleteStep_ro hr, deleteStep_ro (hro ▸ hr)]
    exact ⟨rfl, h⟩
  · have hr2 : ¬ st2.ro = true := hro ▸ hr
    rcases eview_cases he with ⟨h1, h2⟩ | ⟨e1, e2, h1, h2, hz, hs, hrc⟩
    · rw [deleteStep_none hr h1, deleteStep_none hr2 h2]
      exact ⟨rfl, h⟩
    · by_cases hp : 0 < e1.size
      · -- both append a tombstone and negate the size; the record pointed at stays the same
        rw [deleteStep_live hr h1 hp, deleteStep_live hr2 h2 (hs ▸ hp), mview_appendSet_self,
          mview_appendSet_self, recAt_append_of_le _ (hI1 _ _ h1), recAt_append_of_le _ (hI2 _ _ h2)]
        simp only [hro, ht, hs, hrc, decide_eq_decide.mpr hz, and_self]
      · rw [deleteStep_noop hr h1 hp, deleteStep_noop hr2 h2 (hs ▸ hp)]
        exact ⟨rfl, h⟩

theorem writeStep_loc {st1 st2 : Vol} {id : Nat} (ck : Nat) (c : Content) (h : mview st1 id = mview st2 id) :
    (writeStep st1 id ck c).2 = (writeStep st2 id ck c).2 ∧
      mview (writeStep st1 id ck c).1 id = mview (writeStep st2 id ck c).1 id := by
  obtain ⟨hro, ht, he⟩ := mview_eq h
  by_cases hr : st1.ro = true
  · rw [writeStep_ro hr, writeStep_ro (hro ▸ hr)]
    exact ⟨rfl, h⟩
  have hr2 : ¬ st2.ro = true := hro ▸ hr
  have hu : isFileUnchanged st1 id ck (inheritTtl st1.volTtl c) = isFileUnchanged st2 id ck (inheritTtl st2.volTtl c) :=
    ht ▸ isFileUnchanged_loc ck (inheritTtl st1.volTtl c) ht he
  by_cases hu1 : isFileUnchanged st1 id ck (inheritTtl st1.volTtl c) = true
  · rw [writeStep_unchanged hr hu1, writeStep_unchanged hr2 (hu ▸ hu1)]
    exact ⟨rfl, h⟩
  have hu2 : ¬ isFileUnchanged st2 id ck (inheritTtl st2.volTtl c) = true := hu ▸ hu1
  -- both append the same record and point the id at it
  have happ : (st1.idx id = none ∨ ∃ e r, st1.idx id = some e ∧ recAt st1.log e.off = some r ∧ r.cookie = ck) →
      (st2.idx id = none ∨ ∃ e r, st2.idx id = some e ∧ recAt st2.log e.off = some r ∧ r.cookie = ck) →
      (writeStep st1 id ck c).2 = (writeStep st2 id ck c).2 ∧
        mview (writeStep st1 id ck c).1 id = mview (writeStep st2 id ck c).1 id := by
    intro hok1 hok2
    rw [writeStep_append hr hu1 hok1, writeStep_append hr2 hu2 hok2, mview_appendSet_self,
      mview_appendSet_self, recAt_new, recAt_new]
    simp only [hro, ht, Nat.succ_ne_zero, and_self]
  rcases eview_cases he with ⟨h1, h2⟩ | ⟨e1, e2, h1, h2, hz, hs, hrc⟩
  · exact happ (.inl h1) (.inl h2)
  · cases hrec : recAt st1.log e1.off with
    | none =>
      rw [writeStep_ioerr hr hu1 h1 hrec, writeStep_ioerr hr2 hu2 h2 (hrc ▸ hrec)]
      exact ⟨rfl, h⟩
    | some r =>
      have hrec2 : recAt st2.log e2.off = some r := hrc ▸ hrec
      by_cases hc : r.cookie = ck
      · exact happ (.inr ⟨e1, r, h1, hrec, hc⟩) (.inr ⟨e2, r, h2, hrec2, hc⟩)
      · rw [writeStep_cookie hr hu1 h1 hrec hc, writeStep_cookie hr2 hu2 h2 hrec2 hc]
        exact ⟨rfl, h⟩

theorem step_loc (st1 st2 : Vol) (op : Op) (hI1 : minv st1) (hI2 : minv st2) (hk : keyed op = true)
    (h : mview st1 (opId op) = mview st2 (opId op)) :
    (step st1 op).2 = (step st2 op).2 ∧ mview (step st1 op).1 (opId op) = mview (step st2 op).1 (opId op) := by
  have he := (mview_eq h).2.2
  cases op with
  | setRO b => cases hk
  | write id ck c =>
    have := writeStep_loc ck c h
    exact ⟨congrArg MOut.w this.1, this.2⟩
  | delete id ck =>
    have := deleteStep_loc ck hI1 hI2 h
    exact ⟨congrArg MOut.d this.1, this.2⟩
  | read id ck => exact ⟨congrArg MOut.r (readStep_loc ck he), h⟩
  | hread id ck =>
    exact ⟨by simp only [step, httpRead, show readStep st1 id ck = readStep st2 id ck from readStep_loc ck he], h⟩
  | hdelete id ck =>
    -- a DELETE is decided by its read; where it deletes, output and state are the storage-level delete's
    have hd := deleteStep_loc ck hI1 hI2 h
    simp only [step, opId, httpDelete] at h he hd ⊢
    rw [← readStep_loc ck he]
    cases hrd : readStep st1 id ck with
    | ok n ck' sz c =>
      by_cases hck : ck' ≠ ck
      · simp only [if_pos hck]; exact ⟨trivial, h⟩
      · simp only [if_neg hck]
        generalize deleteStep st1 id ck = r1 at hd ⊢
        generalize deleteStep st2 id ck = r2 at hd ⊢
        obtain ⟨s1, o1⟩ := r1
        obtain ⟨s2, o2⟩ := r2
        obtain ⟨rfl, hv⟩ := hd
        cases o1 <;> exact ⟨rfl, hv⟩
    | _ => exact ⟨rfl, h⟩

theorem local_step : Local step mview minv where
  inv_step := fun st op hI => by
    rcases step_eff st op with h | ⟨b, rfl⟩
    · exact minv_of_eff h hI
    · exact hI
  frame := fun st op k hI hk hne => by
    rcases step_eff st op with h | ⟨b, rfl⟩
    · exact frame_of_eff h hI (Ne.symm hne)
    · cases hk
  loc := step_loc

/-- FRAME + LOCALITY of the oracle the driver runs: the model's step with its outputs as tokens -/
theorem local_modelStep : Local modelStep mview minv := by
  have : modelStep = fun st op => ((step st op).1, SwV.Codec.C01.mToks (step st op).2) := by
    funext st op; rfl
  rw [this]
  exact local_step.mapOut _

end SwV.Lemmas.C38
