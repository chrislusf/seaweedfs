/-
C05 — reload: replaying the index-entry log written by the in-memory NeedleMap through
`doLoading` (`loadMem`) reproduces the CompactMap and ALL counters maintained online, on the sequences
that stay clear of the recorded reload findings (`reloadOkFrom`).  `ReloadInv` is kept by every such
operation (`reload_step`).
-/
import SwV.Model.C05
import SwV.Spec.C05
import SwV.Lemmas.C05d
namespace SwV.Lemmas.C05
open SwV.Model.C05 SwV.Spec.C05

/-- operations on the in-memory NeedleMap (`off` = offset in 8-byte units; for a delete the
    offset of the tombstone record, which plays no role) -/
inductive MOp where
  | put (key off : Nat) (size : Int)
  | del (key off : Nat)
deriving DecidableEq, Repr

def MOp.toOp : MOp → Op
  | .put key off size => .set key (offLo off) (offHi off) size
  | .del key _ => .del key

def applyM (batch : Nat) (m : MemMap) : MOp → MemMap
  | .put key off size => m.put batch key off size
  | .del key off => m.delete batch key off

/-- the operation is outside the recorded reload findings, in model state `cm` / reference `r`:
    * a put stores a non-empty needle (size > 0: `mem-reload/empty-needle-counted-as-deletion`) at a
      real offset (offset 0 is the superblock; `doLoading` reads it as a deletion) and is admissible
      for the CompactMap (no stale high byte);
    * a delete addresses a LIVE key (`mem-reload/noop-delete-counted-as-deletion`; Volume.doDeleteRequest
      checks Get first) without aliasing. -/
def mopOk (cm : List Sec) (r : Ref) : MOp → Bool
  | .put key off size => decide (size > 0) && decide (off ≠ 0) && opOk cm (.set key (offLo off) (offHi off) size)
  | .del key _ => noAlias key cm && (match r.get key with | some (_, s) => decide (s > 0) | none => false)

def reloadOkFrom (batch : Nat) : MemMap → Ref → List MOp → Bool
  | _, _, [] => true
  | m, r, op :: ops => mopOk m.cm r op && reloadOkFrom batch (applyM batch m op) (applyR r op.toOp) ops

theorem MemMap.put_eq (batch : Nat) (m : MemMap) (key off : Nat) (size : Int) :
    m.put batch key off size =
      { cm := (setL batch key (offLo off) (offHi off) size m.cm).1,
        met := m.met.logPut key (setL batch key (offLo off) (offHi off) size m.cm).2.2.2 size,
        idx := ⟨key, off, size⟩ :: m.idx } := rfl

theorem MemMap.delete_eq (batch : Nat) (m : MemMap) (key off : Nat) :
    m.delete batch key off =
      { cm := (delL batch key m.cm).1, met := m.met.logDel (delL batch key m.cm).2,
        idx := ⟨key, off, -1⟩ :: m.idx } := rfl

theorem loadMem_snoc (batch : Nat) (l : List Rec) (r : Rec) :
    loadMem batch (l ++ [r]) = loadStep batch (loadMem batch l) r := by
  unfold loadMem; rw [List.foldl_append]; rfl

theorem loadStep_put (batch : Nat) (cm : List Sec) (met : Metric) (key off : Nat) (size : Int)
    (ho : off ≠ 0) (hs : size > 0)
    (hold : (setL batch key (offLo off) (offHi off) size cm).2.2.2 > 0 →
      (setL batch key (offLo off) (offHi off) size cm).2.1 ≠ 0 ∨ (setL batch key (offLo off) (offHi off) size cm).2.2.1 ≠ 0) :
    loadStep batch (cm, met) ⟨key, off, size⟩ =
      ((setL batch key (offLo off) (offHi off) size cm).1,
        met.logPut key (setL batch key (offLo off) (offHi off) size cm).2.2.2 size) := by
  unfold loadStep
  simp only [ne_eq, ho, not_false_eq_true, hs, and_self, if_true]
  unfold Metric.logPut Metric.logDel
  by_cases hp : (setL batch key (offLo off) (offHi off) size cm).2.2.2 > 0
  · have := hold hp
    simp only [hp, this, and_self, if_true]
  · simp [hp]

theorem maybeMax_of_le (m : Metric) (key : Nat) (h : key ≤ m.maxKey) : m.maybeMax key = m :=
  if_neg (Nat.not_lt.mpr h)

theorem loadStep_del (batch : Nat) (cm : List Sec) (met : Metric) (key off : Nat)
    (hk : key ≤ met.maxKey) (hd : (delL batch key cm).2 > 0) :
    loadStep batch (cm, met) ⟨key, off, -1⟩ = ((delL batch key cm).1, met.logDel (delL batch key cm).2) := by
  unfold loadStep
  simp only [maybeMax_of_le met key hk]
  have : ¬ ((-1 : Int) > 0) := by omega
  simp only [this, and_false, if_false]
  unfold Metric.logDel
  simp [hd]

theorem logPut_maxKey (m : Metric) (key : Nat) (old new : Int) :
    m.maxKey ≤ (m.logPut key old new).maxKey ∧ key ≤ (m.logPut key old new).maxKey := by
  unfold Metric.logPut Metric.logDel Metric.maybeMax
  by_cases h1 : key > m.maxKey <;> by_cases h2 : old > 0 <;> simp [h1, h2] <;> omega

theorem logDel_maxKey (m : Metric) (d : Int) : (m.logDel d).maxKey = m.maxKey := by
  unfold Metric.logDel; split <;> rfl

theorem fullOff_lo_hi (off : Nat) : fullOff (offLo off) (offHi off) = off :=
  Nat.mod_add_div' off _

theorem fullOff_ne_zero {lo hi : Nat} (h : fullOff lo hi ≠ 0) : lo ≠ 0 ∨ hi ≠ 0 := by
  by_cases hl : lo = 0
  · exact Or.inr fun hh => h (by rw [hl, hh]; rfl)
  · exact Or.inl hl

theorem ref_bindings_cons {P : Nat → Nat → Prop} {r : Ref} {key o : Nat} {s : Int}
    (h : ∀ k o s, r.get k = some (o, s) → P k o) (hn : P key o) :
    ∀ k o' s', Ref.get ((key, o, s) :: r) k = some (o', s') → P k o' := by
  intro k o' s' hk
  rw [ref_get_cons] at hk
  by_cases hkk : k = key
  · rw [if_pos hkk] at hk; cases hk; exact hkk ▸ hn
  · rw [if_neg hkk] at hk; exact h k o' s' hk

/-- invariant relating the online NeedleMap, the reference, and the reload of the log so far; every
    key bound in the reference is at most `maxKey` and is bound to a real offset -/
def ReloadInv (batch : Nat) (m : MemMap) (r : Ref) : Prop :=
  MapInv batch m.cm ∧ Abs m.cm r ∧ loadMem batch m.idx.reverse = (m.cm, m.met) ∧
  (∀ k o s, r.get k = some (o, s) → k ≤ m.met.maxKey ∧ o ≠ 0)

theorem reload_init (batch : Nat) : ReloadInv batch {} [] :=
  ⟨trivial, abs_nil, rfl, fun _ _ _ hk => nomatch hk⟩

theorem reload_step (batch : Nat) (m : MemMap) (r : Ref) (op : MOp)
    (hinv : ReloadInv batch m r) (hok : mopOk m.cm r op = true) :
    ReloadInv batch (applyM batch m op) (applyR r op.toOp) := by
  obtain ⟨h1, h2, h3, h4⟩ := hinv
  cases op with
  | put key off size =>
    have hok' : (decide (size > 0) && decide (off ≠ 0) && opOk m.cm (.set key (offLo off) (offHi off) size)) = true := hok
    simp only [Bool.and_eq_true, decide_eq_true_eq] at hok'
    obtain ⟨⟨hs, ho⟩, hopk⟩ := hok'
    obtain ⟨s1, s2, s3⟩ := step_sim batch m.cm r (.set key (offLo off) (offHi off) size) h1 h2 hopk
    have hm := logPut_maxKey m.met key (setL batch key (offLo off) (offHi off) size m.cm).2.2.2 size
    show ReloadInv batch (m.put batch key off size) ((key, fullOff (offLo off) (offHi off), size) :: r)
    rw [MemMap.put_eq]
    refine ⟨s1, s2, ?_, ref_bindings_cons (fun k o s hk => ⟨Nat.le_trans (h4 k o s hk).1 hm.1, (h4 k o s hk).2⟩)
      ⟨hm.2, (fullOff_lo_hi off).symm ▸ ho⟩⟩
    rw [List.reverse_cons, loadMem_snoc, h3]
    refine loadStep_put batch m.cm m.met key off size ho hs fun hp => ?_
    -- a live old value is the reference's binding, whose offset is not 0
    have s3' : (_, _) = (r.get key).getD (0, 0) := s3
    cases hg : r.get key with
    | none => rw [hg] at s3'; exact absurd hp (by rw [(Prod.mk.inj s3').2]; decide)
    | some p =>
      rw [hg] at s3'
      exact fullOff_ne_zero fun e => (h4 key _ _ hg).2 ((Prod.mk.inj s3').1.symm.trans e)
  | del key off =>
    have hok' : (noAlias key m.cm && (match r.get key with | some (_, s) => decide (s > 0) | none => false)) = true := hok
    simp only [Bool.and_eq_true] at hok'
    obtain ⟨hna, hlive⟩ := hok'
    obtain ⟨s1, s2, s3⟩ := step_sim batch m.cm r (.del key) h1 h2 hna
    cases hg : r.get key with
    | none => rw [hg] at hlive; cases hlive
    | some p =>
      obtain ⟨o, s⟩ := p
      rw [hg] at hlive
      have hs : s > 0 := of_decide_eq_true hlive
      -- the key is live, so the reference delete rebinds it and returns its size, and so does the model
      have hrd : r.delete key = ((key, o, -s) :: r, s) := (ref_delete_some r key o s hg).trans (if_pos hs)
      have s2' : Abs (delL batch key m.cm).1 (r.delete key).1 := s2
      have s3' : (delL batch key m.cm).2 = (r.delete key).2 ∨
        ((delL batch key m.cm).2 < 0 ∧ (r.delete key).2 = 0 ∧ ∃ o, r.get key = some (o, (delL batch key m.cm).2)) := s3
      show ReloadInv batch (m.delete batch key off) (r.delete key).1
      rw [hrd] at s2' s3' ⊢
      have hd : (delL batch key m.cm).2 = s := by
        rcases s3' with h | ⟨_, h, _⟩
        · exact h
        · exact absurd hs (by rw [show s = 0 from h]; decide)
      rw [MemMap.delete_eq]
      refine ⟨s1, s2', ?_, ?_⟩
      · rw [List.reverse_cons, loadMem_snoc, h3]
        exact loadStep_del batch m.cm m.met key off (h4 key o s hg).1 (hd.symm ▸ hs)
      · simp only [logDel_maxKey]
        exact ref_bindings_cons h4 (h4 key o s hg)

theorem reload_run (batch : Nat) : ∀ (ops : List MOp) (m : MemMap) (r : Ref),
    ReloadInv batch m r → reloadOkFrom batch m r ops = true →
    ReloadInv batch (ops.foldl (applyM batch) m) (ops.foldl (fun r op => applyR r op.toOp) r) := by
  intro ops
  induction ops with
  | nil => intro m r h _; exact h
  | cons op ops ih =>
    intro m r h hok
    simp only [reloadOkFrom, Bool.and_eq_true] at hok
    exact ih _ _ (reload_step batch m r op h hok.1) hok.2

end SwV.Lemmas.C05
