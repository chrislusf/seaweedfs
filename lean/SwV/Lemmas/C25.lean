/-
What a reader gets from the chunks the upload loop produces.  Without inline content `readBack` is C17's `readAcc` over
the whole entry, so by `SwV.Props.C17.readAcc_whole` every byte it delivers is `ByteOk`; the upload loop produces chunks
that tile the bytes read, placed at an offset (`TilesAt`), and for such chunks `ByteOk` leaves one byte per position.
-/
import SwV.Model.C25
import SwV.Props.C17
namespace SwV.Lemmas.C25
open SwV.Model.C25
open SwV.Model.C17 (Chunk Node maxInt64 readAcc viewFromChunks)
open SwV.Spec.C17 (ByteOk covers)
open SwV.Props.C17 (KeysDistinct)

theorem mem_toC17 {cs : List MChunk} {c : Chunk} :
    c ∈ toC17 cs ↔ ∃ idx mc, cs[idx]? = some mc ∧
      c = { off := mc.off, size := mc.data.length, mtime := (mc.gen : Int), fid := idx, key := idx } := by
  unfold toC17
  simp only [List.mem_map, Prod.exists, List.mem_zipIdx_iff_getElem?]
  constructor
  · rintro ⟨mc, idx, h, rfl⟩; exact ⟨idx, mc, h, rfl⟩
  · rintro ⟨idx, mc, h, rfl⟩; exact ⟨mc, idx, h, rfl⟩

theorem dataOf_of_getElem? {cs : List MChunk} {idx : Nat} {mc : MChunk} (h : cs[idx]? = some mc) (k : Nat) :
    dataOf cs idx k = mc.data.getD k 0 := by
  unfold dataOf
  simp [List.getD_eq_getElem?_getD, h]

theorem le_extent {cs : List MChunk} {c : MChunk} (h : c ∈ cs) : c.stop ≤ extent cs :=
  (SwV.Lemmas.C17.le_foldl_max MChunk.stop cs 0).2 c h

theorem extent_le {cs : List MChunk} {B : Nat} (h : ∀ c ∈ cs, c.stop ≤ B) : extent cs ≤ B :=
  SwV.Lemmas.C17.foldl_max_le MChunk.stop B cs 0 (Nat.zero_le _) h

/-- Entry.Size() of a chunked entry whose chunks end at or below its FileSize attribute -/
theorem size_of_chunked (e : Entry) (hc : e.content = []) (h : extent e.chunks ≤ e.fileSize) : e.size = e.fileSize := by
  unfold Entry.size
  rw [hc, Nat.max_eq_right h]
  exact Nat.max_eq_left (Nat.zero_le _)

theorem readBack_empty (e : Entry) (h : e.size = 0) : readBack e = [] := by
  unfold readBack
  rw [if_pos (by omega), h]
  rfl

/-- `readBack` of an entry without inline content, of at most 2^63 − 1 bytes: as long as the size, and every byte is a legal content byte (C17) -/
theorem readBack_spec (e : Entry) (hc : e.content = []) (hmax : e.size ≤ maxInt64) :
    (readBack e).length = e.size ∧
    ∀ i (hi : i < (readBack e).length), ByteOk (dataOf e.chunks) (toC17 e.chunks) i (readBack e)[i] := by
  by_cases h0 : e.size = 0
  · rw [readBack_empty e h0, h0]
    exact ⟨rfl, fun _ hi => absurd hi (Nat.not_lt_zero _)⟩
  have hlt : e.content.length < e.size := by rw [hc]; exact Nat.pos_of_ne_zero h0
  have hin : ∀ c ∈ toC17 e.chunks, c.off + c.size ≤ e.size := by
    intro c hc
    obtain ⟨idx, mc, h, rfl⟩ := mem_toC17.1 hc
    exact Nat.le_trans (le_extent (List.mem_of_getElem? h))
      (Nat.le_trans (Nat.le_max_left _ _) (Nat.le_max_left _ _))
  have hrb : readBack e = readAcc (dataOf e.chunks) (viewFromChunks ((toC17 e.chunks).map Node.data) 0 maxInt64) e.size e.size 0 := by
    unfold readBack
    rw [if_neg (Nat.not_le.2 hlt)]
  rw [hrb]
  obtain ⟨hl, hb⟩ := SwV.Props.C17.readAcc_whole (dataOf e.chunks) (toC17 e.chunks) hin hmax
  exact ⟨hl, fun i hi => List.getElem_eq_getD 0 ▸ hb i (hl ▸ hi)⟩

theorem readBack_eq (e : Entry) (content : List Nat) (hc : e.content = [])
    (hext : ∀ c ∈ e.chunks, c.stop ≤ e.fileSize) (hfs : e.fileSize = content.length) (hmax : content.length ≤ maxInt64)
    (h : ∀ i (hi : i < content.length) b, ByteOk (dataOf e.chunks) (toC17 e.chunks) i b → b = content[i]) :
    readBack e = content := by
  have hsize : e.size = content.length := (size_of_chunked e hc (extent_le hext)).trans hfs
  obtain ⟨hl, hb⟩ := readBack_spec e hc (by omega)
  apply List.ext_getElem (hl.trans hsize)
  intro i h1 h2
  exact h i h2 _ (hb i h1)

theorem byteOk_of_agree (cs : List MChunk) (i v b : Nat)
    (hag : ∀ mc ∈ cs, mc.off ≤ i → i < mc.off + mc.data.length → mc.data[i - mc.off]? = some v)
    (hcov : ∃ mc ∈ cs, mc.off ≤ i ∧ i < mc.off + mc.data.length)
    (h : ByteOk (dataOf cs) (toC17 cs) i b) : b = v := by
  rcases h with ⟨c, hc, rfl⟩ | ⟨hn, -⟩
  · obtain ⟨idx, mc, hidx, rfl⟩ := mem_toC17.1 hc.1
    have hcv := hc.2.1
    simp only [covers] at hcv
    have := hag mc (List.mem_of_getElem? hidx) hcv.1 hcv.2
    simp [dataOf_of_getElem? hidx, List.getD_eq_getElem?_getD, this]
  · obtain ⟨mc, hmc, h1, h2⟩ := hcov
    obtain ⟨idx, hidx⟩ := List.mem_iff_getElem?.1 hmc
    exact absurd (show covers _ i from ⟨h1, h2⟩) (hn _ (mem_toC17.2 ⟨idx, mc, hidx, rfl⟩))

theorem byteOk_append_left (a b' : List MChunk) (i b : Nat)
    (hnc : ∀ mc ∈ b', ¬ (mc.off ≤ i ∧ i < mc.off + mc.data.length))
    (h : ByteOk (dataOf (a ++ b')) (toC17 (a ++ b')) i b) : ByteOk (dataOf a) (toC17 a) i b := by
  -- the chunks of b' come behind those of a, under later file ids, and none of them covers i
  have hsplit : toC17 (a ++ b') = toC17 a ++ (b'.zipIdx a.length).map fun (c, i) =>
      { off := c.off, size := c.data.length, mtime := (c.gen : Int), fid := i, key := i } := by
    unfold toC17
    rw [List.zipIdx_append, List.map_append, Nat.zero_add]
  rw [hsplit, SwV.Lemmas.C17.byteOk_append_iff] at h
  · refine SwV.Lemmas.C17.byteOk_congr_data (fun c hc k => ?_) h
    obtain ⟨idx, mc, hidx, rfl⟩ := mem_toC17.1 hc
    rw [dataOf_of_getElem? hidx,
      dataOf_of_getElem? (by rw [List.getElem?_append_left (List.getElem?_eq_some_iff.1 hidx).1]; exact hidx)]
  · intro c hc
    obtain ⟨⟨mc, idx⟩, hm, rfl⟩ := List.mem_map.1 hc
    exact hnc mc (List.fst_mem_of_mem_zipIdx hm)

theorem keysDistinct_toC17 (cs : List MChunk) : KeysDistinct (toC17 cs) := by
  intro a ha b hb _ hk
  obtain ⟨i, m, hi, rfl⟩ := mem_toC17.1 ha
  obtain ⟨j, n, hj, rfl⟩ := mem_toC17.1 hb
  simp only at hk
  subst hk
  rw [hi] at hj
  cases hj
  rfl

/-- the reader's byte is the only legal content byte: positions in the chunk list are distinct file keys -/
theorem byteOk_readBack (e : Entry) (hc : e.content = []) (hmax : e.size ≤ maxInt64) {i b : Nat}
    (hi : i < (readBack e).length) (h : ByteOk (dataOf e.chunks) (toC17 e.chunks) i b) : b = (readBack e)[i] :=
  SwV.Props.C17.byteOk_unique _ (keysDistinct_toC17 e.chunks) h
    ((readBack_spec e hc hmax).2 i hi)

/-- `new` = chunks inside [off, off + rest.length) that show `rest` (placed at off) and cover all of it -/
structure TilesAt (off : Nat) (new : List MChunk) (rest : List Nat) : Prop where
  lo : ∀ c ∈ new, off ≤ c.off
  hi : ∀ c ∈ new, c.off + c.data.length ≤ off + rest.length
  agree : ∀ c ∈ new, ∀ i, i < c.data.length → rest[c.off - off + i]? = c.data[i]?
  cover : ∀ q, q < rest.length → ∃ c ∈ new, c.off ≤ off + q ∧ off + q < c.off + c.data.length

theorem TilesAt.nil (off : Nat) : TilesAt off [] [] :=
  ⟨nofun, nofun, nofun, fun _ h => absurd h (Nat.not_lt_zero _)⟩

theorem TilesAt.cons {off gen : Nat} {piece tail : List Nat} {new : List MChunk}
    (h : TilesAt (off + piece.length) new tail) : TilesAt off (⟨off, gen, piece⟩ :: new) (piece ++ tail) where
  lo := List.forall_mem_cons.2 ⟨Nat.le_refl _, fun c hc => Nat.le_trans (Nat.le_add_right _ _) (h.lo c hc)⟩
  hi := List.forall_mem_cons.2
    ⟨List.length_append ▸ Nat.add_le_add_left (Nat.le_add_right _ _) _,
     fun c hc => List.length_append ▸ Nat.add_assoc _ _ _ ▸ h.hi c hc⟩
  agree := List.forall_mem_cons.2
    ⟨fun i hi => by rw [Nat.sub_self, Nat.zero_add]; exact List.getElem?_append_left hi,
     fun c hc i hi => by
      have h2 : piece.length ≤ c.off - off := Nat.le_sub_of_add_le' (h.lo c hc)
      rw [← h.agree c hc i hi, List.getElem?_append_right (Nat.le_trans h2 (Nat.le_add_right _ _)),
        Nat.sub_add_comm h2, Nat.sub_sub]⟩
  cover := fun q hq => by
    rw [List.length_append] at hq
    by_cases hq' : q < piece.length
    · exact ⟨_, List.mem_cons_self, Nat.le_add_right _ _, Nat.add_lt_add_left hq' _⟩
    · obtain ⟨c, hc, h1, h2⟩ := h.cover (q - piece.length) (Nat.sub_lt_left_of_lt_add (Nat.le_of_not_lt hq') hq)
      exact ⟨c, List.mem_cons_of_mem _ hc, by omega, by omega⟩

theorem TilesAt.map_shift {new : List MChunk} {rest : List Nat} (h : TilesAt 0 new rest) (F : Nat) :
    TilesAt F (new.map (shift F)) rest where
  lo := List.forall_mem_map.2 fun n _ => Nat.le_add_left F n.off
  hi := List.forall_mem_map.2 fun n hn => by
    show n.off + F + n.data.length ≤ F + rest.length
    have := h.hi n hn
    omega
  agree := List.forall_mem_map.2 fun n hn i hi => by
    show rest[n.off + F - F + i]? = n.data[i]?
    rw [Nat.add_sub_cancel]
    exact h.agree n hn i hi
  cover := fun q hq => by
    obtain ⟨n, hn, h1, h2⟩ := h.cover q hq
    exact ⟨shift F n, List.mem_map_of_mem hn, by show n.off + F ≤ F + q; omega,
      by show F + q < n.off + F + n.data.length; omega⟩

theorem byteOk_tilesAt {old new : List MChunk} {F : Nat} {rest : List Nat} (hold : ∀ c ∈ old, c.stop ≤ F)
    (ht : TilesAt F new rest) {q b : Nat} (hq : q < rest.length)
    (h : ByteOk (dataOf (old ++ new)) (toC17 (old ++ new)) (F + q) b) : b = rest[q] := by
  refine byteOk_of_agree _ (F + q) _ _ ?_ ?_ h
  · intro mc hmc hlo hhi
    rcases List.mem_append.1 hmc with hc | hc
    · have := hold mc hc
      unfold MChunk.stop at this
      omega
    · have h1 := ht.lo mc hc
      rw [← ht.agree mc hc (F + q - mc.off) (by omega)]
      have : mc.off - F + (F + q - mc.off) = q := by omega
      rw [this]
      exact List.getElem?_eq_getElem hq
  · obtain ⟨c, hc, h1, h2⟩ := ht.cover q hq
    exact ⟨c, List.mem_append_right _ hc, h1, h2⟩

theorem readBack_of_tilesAt {new : List MChunk} {content : List Nat} (hmax : content.length ≤ maxInt64)
    (ht : TilesAt 0 new content) : readBack { fileSize := content.length, content := [], chunks := new } = content := by
  refine readBack_eq _ content rfl (fun c hc => Nat.zero_add content.length ▸ ht.hi c hc) rfl hmax (fun i hi b hb => ?_)
  exact byteOk_tilesAt (old := []) nofun ht hi ((Nat.zero_add i).symm ▸ hb)

/-- chunks tiling `body`, moved behind a chunked entry whose FileSize attribute is at or beyond its chunk extent: a
    reader gets the old content (zeros up to the attribute included) followed by `body` -/
theorem readBack_append (p : Entry) (hinl : p.content = []) (hattr : extent p.chunks ≤ p.fileSize)
    {new : List MChunk} {body : List Nat} (hmax : p.fileSize + body.length ≤ maxInt64) (ht : TilesAt 0 new body) :
    readBack { fileSize := p.fileSize + body.length, content := [], chunks := p.chunks ++ new.map (shift p.fileSize) } =
      readBack p ++ body := by
  have hps : p.size = p.fileSize := size_of_chunked p hinl hattr
  have hpl : (readBack p).length = p.fileSize := hps ▸ (readBack_spec p hinl (hps ▸ Nat.le_trans (Nat.le_add_right _ _) hmax)).1
  have ht' : TilesAt p.fileSize (new.map (shift p.fileSize)) body := ht.map_shift p.fileSize
  have hold : ∀ c ∈ p.chunks, c.stop ≤ p.fileSize := fun c hc => Nat.le_trans (le_extent hc) hattr
  have hext : ∀ c ∈ p.chunks ++ new.map (shift p.fileSize), c.stop ≤ p.fileSize + body.length :=
    List.forall_mem_append.2 ⟨fun c hc => Nat.le_trans (hold c hc) (Nat.le_add_right _ _), ht'.hi⟩
  have hlen : (readBack p ++ body).length = p.fileSize + body.length := by rw [List.length_append, hpl]
  refine readBack_eq _ _ rfl hext hlen.symm (hlen ▸ hmax) (fun i hi b hb => ?_)
  rw [hlen] at hi
  by_cases hlt : i < p.fileSize
  · -- below the old size no new chunk covers i, and the old chunks determine the byte
    have hb' := byteOk_append_left p.chunks _ i b
      (fun mc hmc hcov => Nat.lt_irrefl _ (Nat.lt_of_lt_of_le hlt (Nat.le_trans (ht'.lo mc hmc) hcov.1))) hb
    rw [List.getElem_append_left (hpl.symm ▸ hlt)]
    exact byteOk_readBack p hinl (hps ▸ Nat.le_trans (Nat.le_add_right _ _) hmax) (hpl.symm ▸ hlt) hb'
  · -- at and beyond the old size only new chunks cover i, and they tile the body
    have hge := Nat.le_of_not_lt hlt
    rw [List.getElem_append_right (hpl.symm ▸ hge)]
    simp only [hpl]
    exact byteOk_tilesAt hold ht' (Nat.sub_lt_left_of_lt_add hge hi) ((Nat.add_sub_cancel' hge).symm ▸ hb)

variable {cs limit : Nat} {inlineOK etc : Bool} {gen : Nat}

theorem uploadLoop_succ (fails : Bool) (fuel : Nat) (rest : List Nat) (off : Nat) (acc : List MChunk) :
    uploadLoop cs limit inlineOK etc gen fails (fuel + 1) rest off acc =
      if fails ∧ rest.length < cs then ⟨acc, off, [], true⟩
      else if (rest.take cs).length = 0 then ⟨acc, off, [], false⟩
      else if off = 0 ∧ inlineOK ∧ ((rest.take cs).length < limit ∨ etc) then
        ⟨acc, off + (rest.take cs).length, rest.take cs, false⟩
      else if (rest.take cs).length < cs then
        ⟨acc ++ [⟨off, gen, rest.take cs⟩], off + (rest.take cs).length, [], false⟩
      else uploadLoop cs limit inlineOK etc gen fails fuel (rest.drop cs) (off + (rest.take cs).length)
        (acc ++ [⟨off, gen, rest.take cs⟩]) := rfl

/-- the first read of a request that is no append, if it delivers bytes, meets no error (`hf`) and is shorter than the
    inline limit or on a path below /etc, is taken as the inline content -/
theorem upload_inline (fails : Bool) (avail : List Nat) (hf : fails = true → cs ≤ avail.length)
    (h0 : (avail.take cs).length ≠ 0) (hl : (avail.take cs).length < limit ∨ etc = true) :
    uploadReaderToChunks cs limit false etc gen avail fails = ⟨[], (avail.take cs).length, avail.take cs, false⟩ := by
  unfold uploadReaderToChunks
  rw [uploadLoop_succ, if_neg (fun h => Nat.not_lt.2 (hf h.1) h.2), if_neg h0, if_pos ⟨rfl, rfl, hl⟩, Nat.zero_add]

theorem uploadLoop_nil (fuel off : Nat) (acc : List MChunk) :
    uploadLoop cs limit inlineOK etc gen false fuel [] off acc = ⟨acc, off, [], false⟩ := by
  cases fuel with
  | zero => rfl
  | succ fuel => rw [uploadLoop_succ, if_neg (fun h => Bool.noConfusion h.1), List.take_nil, if_pos List.length_nil]

/-- a read that delivers bytes, meets no error and is not taken inline becomes a chunk, and the loop goes on
    behind it.  After a short read nothing is left, and the loop run on nothing returns what the code's `break`
    after a short read returns: so the short read needs no case of its own below. -/
theorem uploadLoop_chunk (hcs : 0 < cs) {fails : Bool} (fuel : Nat) {rest : List Nat} (hr : rest ≠ [])
    (hf : fails = true → cs ≤ rest.length) (off : Nat) (acc : List MChunk)
    (hni : ¬ (off = 0 ∧ inlineOK = true ∧ ((rest.take cs).length < limit ∨ etc = true))) :
    uploadLoop cs limit inlineOK etc gen fails (fuel + 1) rest off acc =
      uploadLoop cs limit inlineOK etc gen fails fuel (rest.drop cs) (off + (rest.take cs).length)
        (acc ++ [⟨off, gen, rest.take cs⟩]) := by
  have hpos : (rest.take cs).length ≠ 0 := by
    have := List.length_pos_iff.2 hr
    rw [List.length_take]
    omega
  rw [uploadLoop_succ, if_neg (fun h => Nat.not_lt.2 (hf h.1) h.2), if_neg hpos, if_neg hni]
  split
  · next hshort =>
    rw [List.length_take] at hshort
    have hff : fails = false := by
      cases fails
      · rfl
      · exact absurd (hf rfl) (by omega)
    subst hff
    rw [List.drop_eq_nil_of_le (by omega), uploadLoop_nil]
  · rfl

/-- one more chunk in front accounts for one more started read of `cs` bytes -/
theorem started_reads_succ {cs n m : Nat} (h : ∀ k, k * cs < n - cs → k < m) : ∀ k, k * cs < n → k < m + 1
  | 0, _ => Nat.succ_pos m
  | k + 1, hk => Nat.succ_lt_succ (h k (by rw [Nat.succ_mul] at hk; omega))

/-- error-free reader, inline branch not taken now (hence never: later iterations have off > 0): the loop
    uploads all of `rest` as chunks tiling it from `off` on, at least one chunk per started `cs` bytes -/
theorem loop_nofail (hcs : 0 < cs) :
    ∀ (fuel : Nat) (rest : List Nat) (off : Nat) (acc : List MChunk), rest.length < fuel →
      (rest = [] ∨ ¬ (off = 0 ∧ inlineOK = true ∧ ((rest.take cs).length < limit ∨ etc = true))) →
      ∃ new, uploadLoop cs limit inlineOK etc gen false fuel rest off acc = ⟨acc ++ new, off + rest.length, [], false⟩ ∧
        TilesAt off new rest ∧ ∀ k, k * cs < rest.length → k < new.length := by
  intro fuel
  induction fuel with
  | zero => intro rest off acc h; omega
  | succ fuel ih =>
    intro rest off acc hfuel hni
    by_cases hr : rest = []
    · subst hr
      refine ⟨[], ?_, TilesAt.nil off, fun k hk => absurd hk (Nat.not_lt_zero _)⟩
      rw [uploadLoop_nil, List.append_nil]
      rfl
    have hpos := List.length_pos_iff.2 hr
    have hdl : (rest.drop cs).length = rest.length - cs := List.length_drop
    have hpl : (rest.take cs).length = min cs rest.length := List.length_take
    obtain ⟨new', heq, ht, hk'⟩ := ih (rest.drop cs) (off + (rest.take cs).length) (acc ++ [⟨off, gen, rest.take cs⟩])
      (by omega) (Or.inr (fun h => by omega))
    have htile := TilesAt.cons (gen := gen) ht
    rw [List.take_append_drop] at htile
    refine ⟨⟨off, gen, rest.take cs⟩ :: new', ?_, htile, started_reads_succ (hdl ▸ hk')⟩
    rw [uploadLoop_chunk hcs fuel hr Bool.noConfusion off acc (hni.resolve_left hr), heq, List.append_assoc, Nat.add_assoc,
      ← List.length_append, List.take_append_drop]
    rfl

theorem loop_readErr_nofail :
    ∀ (fuel : Nat) (rest : List Nat) (off : Nat) (acc : List MChunk),
      (uploadLoop cs limit inlineOK etc gen false fuel rest off acc).readErr = false := by
  intro fuel
  induction fuel with
  | zero => intro rest off acc; rfl
  | succ fuel ih =>
    intro rest off acc
    rw [uploadLoop_succ, if_neg (fun h => Bool.noConfusion h.1)]
    split
    · rfl
    · split
      · rfl
      · split
        · rfl
        · exact ih _ _ _

/-- a reader that fails after `rest`, inline branch not taken: the loop uploads the whole reads before the
    error as chunks tiling them, and ends with the read error remembered -/
theorem loop_fails (hcs : 0 < cs) :
    ∀ (fuel : Nat) (rest : List Nat) (off : Nat) (acc : List MChunk) (j : Nat),
      rest.length < fuel → j * cs ≤ rest.length → rest.length < (j + 1) * cs →
      ¬ (off = 0 ∧ inlineOK = true ∧ (cs < limit ∨ etc = true) ∧ cs ≤ rest.length) →
      ∃ new, uploadLoop cs limit inlineOK etc gen true fuel rest off acc = ⟨acc ++ new, off + j * cs, [], true⟩ ∧
        TilesAt off new (rest.take (j * cs)) := by
  intro fuel
  induction fuel with
  | zero => intro rest off acc j hf; omega
  | succ fuel ih =>
    intro rest off acc j hf h1 h2 hni
    -- j counts the whole reads left before the error: none, and this read meets it; else this read becomes a chunk
    cases j with
    | zero =>
      rw [uploadLoop_succ, if_pos ⟨rfl, by omega⟩, Nat.zero_mul]
      exact ⟨[], by rw [List.append_nil]; rfl, TilesAt.nil off⟩
    | succ j =>
      have hsm : (j + 1) * cs = j * cs + cs := Nat.succ_mul j cs
      rw [Nat.succ_mul (j + 1) cs] at h2
      have hge : cs ≤ rest.length := Nat.le_trans (hsm ▸ Nat.le_add_left _ _) h1
      have hpl : (rest.take cs).length = cs := List.length_take_of_le hge
      have hdl : (rest.drop cs).length = rest.length - cs := List.length_drop
      rw [uploadLoop_chunk hcs fuel (List.ne_nil_of_length_pos (Nat.lt_of_lt_of_le hcs hge)) (fun _ => hge) off acc
        (fun ⟨a1, a2, a3⟩ => hni ⟨a1, a2, hpl ▸ a3, hge⟩), hpl]
      obtain ⟨new', heq, ht⟩ := ih (rest.drop cs) (off + cs) (acc ++ [⟨off, gen, rest.take cs⟩]) j (by omega)
        (hdl ▸ Nat.le_sub_of_add_le (hsm ▸ h1)) (hdl ▸ Nat.sub_lt_right_of_lt_add hge h2) (fun h => Nat.ne_of_gt (Nat.lt_of_lt_of_le hcs (Nat.le_add_left _ _)) h.1)
      refine ⟨⟨off, gen, rest.take cs⟩ :: new', ?_, ?_⟩
      · rw [heq, List.append_assoc, hsm, Nat.add_assoc, Nat.add_comm cs]
        rfl
      · have := TilesAt.cons (off := off) (gen := gen) (piece := rest.take cs) (tail := (rest.drop cs).take (j * cs))
          (by rw [hpl]; exact ht)
        rwa [← List.take_add, Nat.add_comm cs, ← hsm] at this

end SwV.Lemmas.C25
