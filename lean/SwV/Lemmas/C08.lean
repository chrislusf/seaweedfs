/-
C08 — helper lemmas: what the model's encoders and parsers compute on the inputs the round trips feed them; whatever
`parseFid` accepts is in range (`parseFid_bounds`, which C24's canonical ids need); the regenerated `TTL.Minutes` is
`ttlMinutes` for a count below 256 (`bridge_minutes`; `Lemmas/C09` states the same of its own regenerated copy, which
unfolds to the same term).
-/
import SwV.Model.C08
import SwV.Spec.C08
import SwV.Gen.C08
import SwV.Lemmas.GoInt
namespace SwV.Lemmas.C08
open SwV.Model.C08 SwV.Spec.C08

/-- the 27 placements as a table: `String` prints a string that parses back to the placement, and `Byte` followed by
    `%03d` prints the same string -/
theorem rp_table : ∀ d r s : Fin 3, rpFromString (rpString ⟨d, r, s⟩) = (⟨d, r, s⟩, true) ∧
    pad3 (rpByte ⟨d, r, s⟩) = rpString ⟨d, r, s⟩ := by
  decide +kernel

theorem rp_canon (rp : RP) (h : rpValid rp) :
    rpFromString (rpString rp) = (rp, true) ∧ pad3 (rpByte rp) = rpString rp :=
  rp_table ⟨rp.dc, Nat.lt_succ_of_le h.1⟩ ⟨rp.rack, Nat.lt_succ_of_le h.2.1⟩ ⟨rp.same, Nat.lt_succ_of_le h.2.2⟩

theorem ofNat_of_digit012 (c : Char) (h : 0 ≤ (c.toNat : Int) - 48 ∧ (c.toNat : Int) - 48 ≤ 2) :
    ∃ d, d ≤ 2 ∧ c = Char.ofNat ((d + 48) % 256) :=
  ⟨c.toNat - 48, by omega, by rw [show (c.toNat - 48 + 48) % 256 = c.toNat by omega, Char.ofNat_toNat]⟩

theorem rpFromString_accepts (a b c : Char) (h : (rpFromString [a, b, c]).2 = true) :
    ∃ rp, rpValid rp ∧ [a, b, c] = rpString rp := by
  by_cases ha : 0 ≤ (a.toNat : Int) - 48 ∧ (a.toNat : Int) - 48 ≤ 2
  · by_cases hb : 0 ≤ (b.toNat : Int) - 48 ∧ (b.toNat : Int) - 48 ≤ 2
    · by_cases hc : 0 ≤ (c.toNat : Int) - 48 ∧ (c.toNat : Int) - 48 ≤ 2
      · obtain ⟨d, hd, rfl⟩ := ofNat_of_digit012 a ha
        obtain ⟨r, hr, rfl⟩ := ofNat_of_digit012 b hb
        obtain ⟨s, hs, rfl⟩ := ofNat_of_digit012 c hc
        exact ⟨⟨d, r, s⟩, ⟨hd, hr, hs⟩, rfl⟩
      · simp only [rpFromString, rpFromStringAux, ha, hb, hc, and_self, if_true, if_false] at h; cases h
    · simp only [rpFromString, rpFromStringAux, ha, hb, and_self, if_true, if_false] at h; cases h
  · simp only [rpFromString, rpFromStringAux, ha, if_false] at h; cases h

/-- the bytes of the 27 valid placements; listed by (dc, rack, same) they increase, which is the order in which
    `List.range 256` meets them in `rp_accepted_bytes` -/
def rpBytes : List Nat :=
  [0, 1, 2].flatMap fun d => [0, 1, 2].flatMap fun r => [0, 1, 2].map fun s => rpByte ⟨d, r, s⟩

/-- classification of all 256 bytes: `FromByte` accepts exactly the bytes of valid placements -/
theorem rp_accepted_bytes : ((List.range 256).filter fun b => (rpFromByte b).2) = rpBytes := by
  decide +kernel

theorem mem_rpBytes (b : Nat) (h : b ∈ rpBytes) : ∃ rp, rpValid rp ∧ b = rpByte rp := by
  simp only [rpBytes, List.mem_flatMap, List.mem_map] at h
  obtain ⟨d, hd, r, hr, s, hs, rfl⟩ := h
  refine ⟨⟨d, r, s⟩, ⟨?_, ?_, ?_⟩, rfl⟩ <;> simp only [List.mem_cons, List.not_mem_nil, or_false] at * <;> omega

theorem beBytes_length (k n : Nat) : (beBytes k n).length = k := by
  induction k with
  | zero => rfl
  | succ k ih => simp [beBytes, ih]

theorem beBytes_lt (k n : Nat) : ∀ b ∈ beBytes k n, b < 256 := by
  induction k with
  | zero => exact List.forall_mem_nil _
  | succ k ih => exact List.forall_mem_cons.2 ⟨Nat.mod_lt _ (by decide), ih⟩

theorem beFold_beBytes (k n acc : Nat) :
    (beBytes k n).foldl (fun a b => a * 256 + b) acc = acc * 256 ^ k + n % 256 ^ k := by
  induction k generalizing acc with
  | zero => simp [beBytes, Nat.mod_one]
  | succ k ih =>
    simp only [beBytes, List.foldl_cons]
    rw [ih, Nat.mod_pow_succ, Nat.pow_succ, Nat.add_mul, Nat.mul_assoc, Nat.mul_comm 256 (256 ^ k),
      Nat.mul_comm (256 ^ k) (n / 256 ^ k % 256)]
    omega

theorem beValue_beBytes (k n : Nat) (h : n < 256 ^ k) : beValue (beBytes k n) = n := by
  unfold beValue
  rw [beFold_beBytes, Nat.mod_eq_of_lt h]; omega

theorem beValue_append_single (bs : List Nat) (b : Nat) : beValue (bs ++ [b]) = beValue bs * 256 + b :=
  List.foldl_append

theorem size_roundtrip (size : Int) (hs : -(2 ^ 31 : Int) ≤ size ∧ size < (2 ^ 31 : Int)) :
    u32ToSize (sizeToU32 size) = size := by
  unfold u32ToSize sizeToU32
  split <;> omega

theorem sizeToU32_lt (size : Int) : sizeToU32 size < 256 ^ 4 := by
  unfold sizeToU32; omega

theorem offsetBytes_length (offsetSize units : Nat) (hw : offsetSize = 4 ∨ offsetSize = 5) :
    (offsetBytes offsetSize units).length = offsetSize := by
  unfold offsetBytes
  rcases hw with rfl | rfl <;> simp [beBytes_length]

theorem offset_roundtrip (offsetSize units : Nat) (hw : offsetSize = 4 ∨ offsetSize = 5)
    (hu : units < 256 ^ offsetSize) : offsetOfBytes (offsetBytes offsetSize units) = units := by
  unfold offsetOfBytes offsetBytes
  have h4 : (beBytes 4 (units % 256 ^ 4)).length = 4 := beBytes_length _ _
  have hv : beValue (beBytes 4 (units % 256 ^ 4)) = units % 256 ^ 4 :=
    beValue_beBytes _ _ (Nat.mod_lt _ (by decide))
  rcases hw with rfl | rfl
  · rw [if_neg (by decide), List.take_of_length_le (Nat.le_of_eq h4), List.drop_of_length_le (Nat.le_of_eq h4), hv]
    exact Nat.mod_eq_of_lt hu
  · rw [if_pos rfl, List.take_left' h4, List.drop_left' h4, hv]
    have : units < 256 ^ 5 := hu
    simp only
    omega

/-- the function `parseDigits` folds with, under a name, so that the lemmas can start the fold from any accumulator -/
def pdStep (base : Nat) (acc : Option Nat) (c : Char) : Option Nat :=
  match acc, (if base = 16 then hexVal c else digitVal c) with
  | some a, some d => some (a * base + d)
  | _, _ => none

theorem parseDigits_eq (base : Nat) (cs : List Char) :
    parseDigits base cs = if cs.isEmpty then none else cs.foldl (pdStep base) (some 0) := rfl

theorem pdFold_none (base : Nat) (cs : List Char) : cs.foldl (pdStep base) none = none := by
  induction cs with
  | nil => rfl
  | cons c cs ih => simpa [List.foldl_cons, pdStep] using ih

theorem parseDigits_cons_nondigit (c : Char) (r : List Char) (h : digitVal c = none) :
    parseDigits 10 (c :: r) = none := by
  rw [parseDigits_eq]
  simp only [List.isEmpty_cons, List.foldl_cons]
  have : pdStep 10 (some 0) c = none := by simp [pdStep, h]
  rw [this, pdFold_none]; rfl

theorem atoi_of_digits (cs : List Char) (v : Nat) (h : parseDigits 10 cs = some v) (hv : v < 2 ^ 63) :
    atoi cs = ((v : Int), true) := by
  unfold atoi
  split
  rename_i neg ds heq
  split at heq
  · rw [parseDigits_cons_nondigit _ _ (by decide)] at h; cases h
  · rw [parseDigits_cons_nondigit _ _ (by decide)] at h; cases h
  · cases heq
    rw [h]
    simp [hv]

theorem digitVal_digitChar : ∀ d : Fin 10, digitVal (Nat.digitChar d.val) = some d.val := by decide +kernel

theorem hexVal_hexDigit : ∀ d : Fin 16, hexVal (hexDigit d.val) = some d.val := by decide +kernel

theorem pdStep10_digit (a d : Nat) (hd : d < 10) : pdStep 10 (some a) (Nat.digitChar d) = some (a * 10 + d) := by
  have := digitVal_digitChar ⟨d, hd⟩
  simp only at this
  simp [pdStep, this]

theorem pdStep16_hex (a d : Nat) (hd : d < 16) : pdStep 16 (some a) (hexDigit d) = some (a * 16 + d) := by
  have := hexVal_hexDigit ⟨d, hd⟩
  simp only at this
  simp [pdStep, this]

theorem pdFold_natToDec (n : Nat) : (Nat.toDigits 10 n).foldl (pdStep 10) (some 0) = some n := by
  induction n using Nat.strongRecOn with
  | _ n ih =>
    rw [Nat.toDigits_eq_if (by decide)]
    split
    · rename_i h
      simp [pdStep10_digit 0 n h]
    · rename_i h
      rw [List.foldl_append, ih (n / 10) (by omega)]
      simp only [List.foldl_cons, List.foldl_nil]
      rw [pdStep10_digit _ _ (Nat.mod_lt _ (by decide))]
      congr 1; omega

theorem parseDigits_natToDec (n : Nat) : parseDigits 10 (natToDec n) = some n := by
  rw [parseDigits_eq, natToDec, pdFold_natToDec, if_neg (mt List.isEmpty_iff.1 Nat.toDigits_ne_nil)]

theorem natToDec_no_comma (n : Nat) : ∀ c ∈ natToDec n, c ≠ ',' := fun _ hc h =>
  absurd (Nat.isDigit_of_mem_toDigits (by decide) (by decide) hc) (h ▸ by decide)

theorem natToDec_ne_nil (n : Nat) : natToDec n ≠ [] := Nat.toDigits_ne_nil

theorem ttl_in_grammar (s : List Char) (d : TTL) (h : ttlDenotation s = some d) : readTTL s = (d, true) := by
  unfold ttlDenotation at h
  unfold readTTL
  split at h
  · rename_i hl; rw [hl]; cases h; rfl
  · rename_i last hl
    rw [hl]
    simp only at h ⊢
    generalize hp : (if '0' ≤ last ∧ last ≤ '9' then (s, 'm') else (s.dropLast, last)) = p at h ⊢
    rcases p with ⟨cs, u⟩
    simp only at h ⊢
    split at h
    · cases h
    · split at h
      · cases h
      · rename_i n hn
        split at h
        · rename_i hle
          cases h
          rw [atoi_of_digits cs n hn (by omega)]
          simp only [Prod.mk.injEq, and_true, TTL.mk.injEq]
          omega
        · cases h

theorem readTTL_render (n : Nat) (hn : n ≤ 255) (uc : Char) (hu : ¬('0' ≤ uc ∧ uc ≤ '9')) :
    readTTL (natToDec n ++ [uc]) = (⟨n, toStoredByte uc⟩, true) := by
  simp only [readTTL, List.getLast?_concat, List.dropLast_concat, hu, if_false,
    atoi_of_digits _ n (parseDigits_natToDec n) (Nat.lt_of_le_of_lt hn (by decide))]
  -- the count is `(↑n % 256).toNat`, which computes to `n % 256`
  exact congrArg (fun c => (TTL.mk c (toStoredByte uc), true)) (Nat.mod_eq_of_lt (Nat.lt_succ_of_le hn))

theorem unitChar_stored {u : Nat} {ch : Char} (h : unitChar u = some ch) :
    ¬('0' ≤ ch ∧ ch ≤ '9') ∧ toStoredByte ch = u := by
  unfold unitChar at h
  split at h <;> cases h <;> decide

/-- `String` then `ReadTTL` is the identity on every TTL with a count in 1..255 and a unit that has a letter -/
theorem readTTL_ttlString (t : TTL) (ch : Char) (hc : t.count ≠ 0) (hc' : t.count ≤ 255)
    (hu : unitChar t.unit = some ch) : readTTL (ttlString t) = (t, true) := by
  obtain ⟨h1, h2⟩ := unitChar_stored hu
  simp only [ttlString, hc, hu, if_false]
  rw [readTTL_render _ hc' ch h1, h2]

theorem ttlMinutes_mul (c k : Nat) : ttlMinutes ⟨c, k⟩ = c * ttlMinutes ⟨1, k⟩ := by
  simp only [ttlMinutes]
  split <;> omega

theorem pdFold_hexOfBytes (bs : List Nat) (a : Nat) (hb : ∀ b ∈ bs, b < 256) :
    (hexOfBytes bs).foldl (pdStep 16) (some a) = some (bs.foldl (fun a b => a * 256 + b) a) := by
  induction bs generalizing a with
  | nil => rfl
  | cons b bs ih =>
    have hb0 : b < 256 := hb b List.mem_cons_self
    simp only [hexOfBytes, List.flatMap_cons, List.foldl_append, List.foldl_cons, List.foldl_nil]
    rw [pdStep16_hex _ _ (Nat.div_lt_of_lt_mul hb0), pdStep16_hex _ _ (Nat.mod_lt _ (by decide))]
    have : (a * 16 + b / 16) * 16 + b % 16 = a * 256 + b := by omega
    rw [this]
    exact ih _ (fun x hx => hb x (List.mem_cons_of_mem _ hx))

theorem hexOfBytes_length (bs : List Nat) : (hexOfBytes bs).length = 2 * bs.length := by
  induction bs with
  | nil => rfl
  | cons b bs ih =>
    simp only [hexOfBytes, List.flatMap_cons, List.length_append, List.length_cons, List.length_nil] at ih ⊢
    omega

theorem hexOfBytes_append (xs ys : List Nat) : hexOfBytes (xs ++ ys) = hexOfBytes xs ++ hexOfBytes ys :=
  List.flatMap_append

theorem parseDigits_hexOfBytes (bs : List Nat) (hne : bs ≠ []) (hb : ∀ b ∈ bs, b < 256) :
    parseDigits 16 (hexOfBytes bs) = some (beValue bs) := by
  rw [parseDigits_eq, pdFold_hexOfBytes bs 0 hb]
  obtain ⟨b, t, rfl⟩ := List.exists_cons_of_ne_nil hne
  rfl

theorem beValue_cons_zero (bs : List Nat) : beValue (0 :: bs) = beValue bs := by
  simp [beValue]

theorem beValue_dropLeadingZeroBytes (bs : List Nat) : beValue (dropLeadingZeroBytes bs) = beValue bs := by
  unfold dropLeadingZeroBytes
  induction bs with
  | nil => rfl
  | cons b bs ih =>
    rw [List.dropWhile_cons]
    split
    · rename_i h
      have : b = 0 := of_decide_eq_true h
      subst this
      rw [ih, beValue_cons_zero]
    · rfl

theorem span_loop_append_sep (p : Char → Bool) (l r acc : List Char) (x : Char) (hl : ∀ c ∈ l, p c = true)
    (hx : p x = false) : List.span.loop p (l ++ x :: r) acc = (acc.reverse ++ l, x :: r) := by
  induction l generalizing acc with
  | nil => simp [List.span.loop, hx]
  | cons c l ih =>
    have hc : p c = true := hl c List.mem_cons_self
    simp only [List.cons_append, List.span.loop, hc]
    rw [ih _ (fun d hd => hl d (List.mem_cons_of_mem _ hd))]
    simp

theorem span_append_sep (p : Char → Bool) (l r : List Char) (x : Char) (hl : ∀ c ∈ l, p c = true)
    (hx : p x = false) : (l ++ x :: r).span p = (l, x :: r) := by
  unfold List.span
  rw [span_loop_append_sep p l r [] x hl hx]; rfl

theorem splitAtComma_sep (l r : List Char) (hne : l ≠ []) (hl : ∀ c ∈ l, c ≠ ',') :
    splitAtComma (l ++ [','] ++ r) = some (l, r) := by
  unfold splitAtComma
  rw [List.append_assoc, List.singleton_append,
    span_append_sep _ l r ',' (fun c hc => decide_eq_true (hl c hc)) (by simp)]
  cases l with
  | nil => exact absurd rfl hne
  | cons => rfl

theorem parseUint_of_digits (base bits : Nat) (cs : List Char) (v : Nat) (h : parseDigits base cs = some v)
    (hv : v < 2 ^ bits) : parseUint base bits cs = (v, true) := by
  unfold parseUint
  rw [h]
  simp [hv]

theorem parseNeedleIdCookie_format (key cookie : Nat) (hk : key ≠ 0) (hk' : key < 2 ^ 64)
    (hc : cookie < 2 ^ 32) : parseNeedleIdCookie (formatNeedleIdCookie key cookie) = some (key, cookie) := by
  unfold parseNeedleIdCookie formatNeedleIdCookie
  -- `D`: the key bytes that are printed; it has the key's value, so it is not empty
  generalize hD : dropLeadingZeroBytes (beBytes 8 key) = D
  have hDv : beValue D = key := by rw [← hD, beValue_dropLeadingZeroBytes, beValue_beBytes 8 key hk']
  have hDne : D ≠ [] := ne_of_apply_ne beValue (hDv ▸ hk)
  have hDpos : 0 < D.length := List.length_pos_iff.mpr hDne
  have hsub : D.Sublist (beBytes 8 key) := hD ▸ List.dropWhile_sublist _
  have hDle : D.length ≤ 8 := beBytes_length 8 key ▸ hsub.length_le
  have hDlt : ∀ b ∈ D, b < 256 := fun b hb => beBytes_lt 8 key b (hsub.mem hb)
  have hCl : (beBytes 4 cookie).length = 4 := beBytes_length _ _
  have hCv : beValue (beBytes 4 cookie) = cookie := beValue_beBytes 4 cookie hc
  have hCne : beBytes 4 cookie ≠ [] := List.ne_nil_of_length_eq_add_one hCl
  have hlen : (hexOfBytes (D ++ beBytes 4 cookie)).length = 2 * D.length + 8 := by
    rw [hexOfBytes_length, List.length_append, hCl]; omega
  have hDhl : (hexOfBytes D).length = 2 * D.length + 8 - 8 := by
    rw [hexOfBytes_length]; omega
  rw [hlen, if_neg (by omega), if_neg (by omega)]
  simp only
  rw [hexOfBytes_append, List.take_left' hDhl, List.drop_left' hDhl,
    parseUint_of_digits 16 64 _ _ (parseDigits_hexOfBytes D hDne hDlt) (by rw [hDv]; exact hk'),
    parseUint_of_digits 16 32 _ _ (parseDigits_hexOfBytes _ hCne (beBytes_lt 4 cookie)) (by rw [hCv]; exact hc), hDv, hCv]

theorem parseFid_fidString (vid key cookie : Nat) (hk : key ≠ 0) (hk' : key < 2 ^ 64) (hv : vid < 2 ^ 32)
    (hc : cookie < 2 ^ 32) : parseFid (fidString ⟨vid, key, cookie⟩) = some ⟨vid, key, cookie⟩ := by
  unfold parseFid fidString
  simp only
  rw [splitAtComma_sep _ _ (natToDec_ne_nil vid) (natToDec_no_comma vid)]
  simp only
  rw [parseUint_of_digits 10 64 _ vid (parseDigits_natToDec vid) (by omega)]
  simp only
  rw [parseNeedleIdCookie_format key cookie hk hk' hc]
  simp only [Nat.mod_eq_of_lt hv]

theorem parseUint_lt {base bits : Nat} {cs : List Char} {v : Nat} (h : parseUint base bits cs = (v, true)) :
    v < 2 ^ bits := by
  unfold parseUint at h
  split at h
  · cases h
  · split at h
    · cases h; assumption
    · cases h

theorem parseNeedleIdCookie_lt {s : List Char} {k c : Nat} (h : parseNeedleIdCookie s = some (k, c)) :
    k < 2 ^ 64 ∧ c < 2 ^ 32 := by
  unfold parseNeedleIdCookie at h
  split at h; · cases h
  split at h; · cases h
  simp only at h
  split at h
  · rename_i hk hc
    cases h
    exact ⟨parseUint_lt hk, parseUint_lt hc⟩
  · cases h

theorem parseFid_bounds {s : List Char} {g : Fid} (h : parseFid s = some g) :
    g.vid < 2 ^ 32 ∧ g.key < 2 ^ 64 ∧ g.cookie < 2 ^ 32 := by
  unfold parseFid at h
  split at h
  · cases h
  · split at h
    · cases h
    · split at h
      · cases h
      · rename_i hkc
        cases h
        exact ⟨Nat.mod_lt _ (by decide), parseNeedleIdCookie_lt hkc⟩

/-- a file id with key 0 formats to a string that does not parse: all eight zero key bytes are dropped and the
    remaining 8 hex characters are "too short" -/
theorem parseFid_key0 (v c : Nat) : parseFid (fidString ⟨v, 0, c⟩) = none := by
  unfold parseFid fidString
  simp only
  rw [splitAtComma_sep _ _ (natToDec_ne_nil v) (natToDec_no_comma v)]
  simp only
  have h0 : dropLeadingZeroBytes (beBytes 8 0) = [] := by decide
  have hl : (formatNeedleIdCookie 0 c).length = 8 := by
    unfold formatNeedleIdCookie
    rw [h0, List.nil_append, hexOfBytes_length, beBytes_length]
  have : parseNeedleIdCookie (formatNeedleIdCookie 0 c) = none := by
    unfold parseNeedleIdCookie; rw [hl]; simp
  rw [this]
  split <;> rfl

/-- a byte count times at most a year of minutes fits `uint32` -/
theorem wrapU32_scale (c : Nat) (hc : c < 256) (k : Int) (h0 : 0 ≤ k) (hk : k ≤ 525600) :
    SwV.Go.wrapU 32 ((c : Int) * k) = c * k := by
  have h1 : (c : Int) * k ≤ 255 * 525600 := Int.mul_le_mul (by omega) hk h0 (by decide)
  exact SwV.Go.wrapU_id (Int.mul_nonneg (Int.natCast_nonneg c) h0) (by omega)

/-- for a count below 256 no `uint32` product in `Minutes` wraps: each is the count times a constant -/
theorem bridge_minutes (c u : Nat) (hc : c < 256) :
    SwV.Gen.C08.TTL_Minutes c u = (ttlMinutes ⟨c, u⟩ : Nat) := by
  have w := SwV.Go.wrapU_id (bits := 32) (Int.natCast_nonneg c) (by omega)
  simp only [SwV.Gen.C08.TTL_Minutes, w, wrapU32_scale c hc, Int.mul_assoc, Int.reduceMul, Int.reduceLE]
  match u with
  | 0 | 1 | 2 | 3 | 4 | 5 | 6 => simp [ttlMinutes, Int.mul_assoc]
  | n + 7 =>
    have h : ∀ k : Int, k ≤ 6 → ¬ (n : Int) + 7 = k := by omega
    simp [h, ttlMinutes]

end SwV.Lemmas.C08
