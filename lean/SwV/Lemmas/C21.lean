/-
C21 (hard links) — the equations of the store shim's operations (what an insert, the removal of a name and Dir.Link
leave in the records and in the stored names), `step` per operation as the filer call behind it (`viaQ`, `viaD`: the
sink its chunks go to), counting the names of an identity, the consistency predicate `Cons`, and `Cons` along those
operations.
-/
import SwV.Model.C18
import SwV.Lemmas.C18
namespace SwV.Lemmas.C21
open SwV.Model.C18 SwV.Lemmas.C18

/-- number of stored names that carry link identity h -/
def nameCount (l : List (RPath × Entry)) (h : Nat) : Nat := l.countP fun x => x.2.hl == h

/-- identity h is consistent: no record and no names, or a (file) record for h whose counter is the number of names -/
def Cons (s : St) (h : Nat) : Prop :=
  match kvGet s h with
  | none => nameCount s.ents h = 0
  | some r => r.hl = h ∧ r.isDir = false ∧ nameCount s.ents h ≠ 0 ∧ r.cnt = (nameCount s.ents h : Int)

def ConsAll (s : St) : Prop := ∀ h, h ≠ 0 → Cons s h

theorem find_filter_ne {l : List (Nat × Entry)} {k k' : Nat} (h : k' ≠ k) :
    (l.filter fun x => x.1 != k).find? (fun x => x.1 == k') = l.find? (fun x => x.1 == k') := by
  induction l with
  | nil => rfl
  | cons x t ih =>
    by_cases hx : x.1 = k
    · have hk : (x.1 == k') = false := beq_false_of_ne fun hh => h (hh.symm.trans hx)
      rw [List.filter_cons_of_neg (by simp [hx]), List.find?_cons_of_neg (by simp [hk]), ih]
    · rw [List.filter_cons_of_pos (by simpa using hx), List.find?_cons, List.find?_cons, ih]

theorem kvGet_kvPut (s : St) (k k' : Nat) (r : Entry) : kvGet (kvPut s k r) k' = if k' = k then some r else kvGet s k' := by
  unfold kvGet kvPut
  by_cases h : k' = k
  · subst h
    rw [List.find?_cons_of_pos (by simp), if_pos rfl]
    rfl
  · rw [List.find?_cons_of_neg (by simpa using fun hh => h hh.symm), if_neg h, find_filter_ne h]

theorem kvGet_kvDel (s : St) (k k' : Nat) : kvGet (kvDel s k) k' = if k' = k then none else kvGet s k' := by
  unfold kvGet kvDel
  by_cases h : k' = k
  · subst h
    rw [if_pos rfl, Option.map_eq_none_iff, List.find?_eq_none]
    intro x hx
    simpa using (List.mem_filter.mp hx).2
  · rw [if_neg h, find_filter_ne h]

theorem kvGet_congr {s s' : St} (h : s'.kv = s.kv) (k : Nat) : kvGet s' k = kvGet s k := by
  unfold kvGet; rw [h]

theorem kvGet_deleteHardLink {s : St} {k : Nat} {r : Entry} (hg : kvGet s k = some r) (k' : Nat) :
    kvGet (deleteHardLink s k) k' =
      if k' = k then (if r.cnt - 1 ≤ 0 then none else some { r with cnt := r.cnt - 1 }) else kvGet s k' := by
  unfold deleteHardLink
  rw [hg]
  by_cases hle : r.cnt - 1 ≤ 0
  · simp only [if_pos hle, kvGet_kvDel]
  · simp only [if_neg hle, kvGet_kvPut]

theorem kvGet_wInsert_plain {s : St} {p : RPath} {e : Entry} (h0 : e.hl = 0) (k : Nat) :
    kvGet (wInsert s p e) k = kvGet s k :=
  kvGet_congr (by simp only [wInsert, handleUpdateToHardLinks, if_pos h0]) k

/-- an entry of identity e.hl goes to a path that is absent, plain, or a name of that identity already: the record
    of the identity is set, no other identity is released -/
theorem kvGet_wInsert_linked {s : St} {p : RPath} {e : Entry} (hk : e.hl ≠ 0)
    (hp : ∀ ex, (p, ex) ∈ s.ents → ex.hl = e.hl ∨ ex.hl = 0) (k : Nat) :
    kvGet (wInsert s p e) k = if k = e.hl then some e else kvGet s k := by
  have : (wInsert s p e).kv = (kvPut s e.hl e).kv := by
    simp only [wInsert, handleUpdateToHardLinks, if_neg hk, kvPut_ents]
    cases hl : lookup p s.ents with
    | none => rfl
    | some ex =>
      have : ¬ (ex.hl ≠ 0 ∧ ex.hl ≠ e.hl) := fun ⟨h1, h2⟩ => (hp ex (lookup_some_mem hl)).elim h2 h1
      simp only [if_neg this]
  rw [kvGet_congr this, kvGet_kvPut]

theorem kvGet_deleteOne_plain {s : St} {e : Entry} (h0 : e.hl = 0) (p : RPath) (k : Nat) :
    kvGet (deleteOne s p e) k = kvGet s k :=
  kvGet_congr (by simp [deleteOne, h0]) k

theorem kvGet_deleteOne_linked {s : St} {e r : Entry} (hk : e.hl ≠ 0) (hg : kvGet s e.hl = some r) (p : RPath) (k : Nat) :
    kvGet (deleteOne s p e) k =
      if k = e.hl then (if r.cnt - 1 ≤ 0 then none else some { r with cnt := r.cnt - 1 }) else kvGet s k := by
  rw [← kvGet_deleteHardLink hg]
  exact kvGet_congr (by simp [deleteOne, hk]) k

theorem find_of_lookup_linked {s : St} {p : RPath} {e r : Entry} (hl : lookup p s.ents = some e) (hk : e.hl ≠ 0)
    (hr : kvGet s e.hl = some r) : find s p = some r := by
  simp only [find, hl, if_neg hk, hr]

theorem createEntry_over {s : St} {p : RPath} {e o : Entry} (hp : p ≠ []) (hf : find s p = some o)
    (hd : o.isDir = e.isDir) : createEntry s p e false = (wInsert s p e, .ok, notNew o e) := by
  cases p with
  | nil => exact absurd rfl hp
  | cons n par =>
    rw [createEntry_present e false hf, if_neg Bool.false_ne_true, if_neg (by rw [hd, bne_self_eq_false]; exact Bool.false_ne_true)]

theorem deleteEntry_file {s : St} {n : String} {par : RPath} {o : Entry} (hf : find s (n :: par) = some o)
    (hd : o.isDir = false) (r dc : Bool) :
    deleteEntry s (n :: par) r dc = (deleteOne s (n :: par) o, Res.ok, if dc then o.chunks else []) := by
  rw [deleteEntry_childless r dc hf fun h => absurd (hd.symm.trans h) Bool.false_ne_true]
  cases dc
  · rfl
  · exact congrArg (fun l => (deleteOne s (n :: par) o, Res.ok, l)) (List.append_nil _)

/-- the outcome of an operation that hands its chunks to DeleteChunks (sink `q`) -/
def viaQ (t : St × Res × List Nat) : St × Out := (t.1, { res := t.2.1, q := t.2.2 })

/-- the outcome of an operation that hands its chunks to DirectDeleteChunks (sink `d`) -/
def viaD (t : St × Res × List Nat) : St × Out := (t.1, { res := t.2.1, d := t.2.2 })

@[simp] theorem viaQ_fst (t : St × Res × List Nat) : (viaQ t).1 = t.1 := rfl

theorem step_create (s : St) (p : RPath) (e : Entry) (x : Bool) : step s (.create p e x) = viaQ (createEntry s p e x) := rfl

theorem step_write (s : St) (p : RPath) (tag : Nat) (chunks : List Nat) :
    step s (.write p tag chunks) = viaQ (createEntry s p (match find s p with
      | some o => { isDir := false, tag := tag, chunks := chunks, hl := o.hl, cnt := o.cnt }
      | none => { isDir := false, tag := tag, chunks := chunks, hl := 0, cnt := 0 }) false) := rfl

theorem step_link (s : St) (src dst : RPath) (h : Nat) : step s (.link src dst h) = viaQ (linkOp s src dst h) := rfl

theorem step_delete (s : St) (p : RPath) (r i dc : Bool) : step s (.delete p r i dc) = viaD (deleteEntry s p r dc) := rfl

theorem step_unlink (s : St) (p : RPath) : step s (.unlink p) = match find s p with
    | none => (s, { res := .notfound })
    | some o => viaD (deleteEntry s p false (decide (o.cnt ≤ 1))) := rfl

theorem linked_plain {o : Entry} (h0 : o.hl = 0) (h : Nat) : linked o h = { o with hl := h, cnt := 2 } := if_pos h0

theorem linked_linked {o : Entry} (hk : o.hl ≠ 0) (h : Nat) : linked o h = { o with cnt := o.cnt + 1 } := if_neg hk

/-- what the VFS checks before Dir.Link is called leave to rely on -/
theorem of_linkTargetOk {s : St} {dst : RPath} (h : linkTargetOk s dst = true) :
    find s dst = none ∧ ∃ n par, dst = n :: par ∧ (par = [] ∨ ∃ d, find s par = some d ∧ d.isDir = true) := by
  simp only [linkTargetOk, Bool.and_eq_true, Option.isNone_iff_eq_none] at h
  refine ⟨h.1, ?_⟩
  have h2 := h.2
  cases dst with
  | nil => cases h2
  | cons n par =>
    refine ⟨n, par, rfl, ?_⟩
    cases par with
    | nil => exact Or.inl rfl
    | cons m q =>
      right
      cases hfp : find s (m :: q) with
      | none => simp [hfp] at h2
      | some d => exact ⟨d, rfl, by simpa [hfp] using h2⟩

theorem nameCount_cons (x : RPath × Entry) (l : List (RPath × Entry)) (h : Nat) :
    nameCount (x :: l) h = nameCount l h + (if x.2.hl = h then 1 else 0) := by
  unfold nameCount
  rw [List.countP_cons]
  simp only [beq_iff_eq]

theorem nameCount_pos_of_mem {l : List (RPath × Entry)} {x : RPath × Entry} (hx : x ∈ l) {h : Nat} (hh : x.2.hl = h) :
    nameCount l h ≠ 0 :=
  Nat.ne_of_gt (List.countP_pos_iff.mpr ⟨x, hx, beq_iff_eq.mpr hh⟩)

theorem nameCount_erase_of_ne {p : RPath} {l : List (RPath × Entry)} {h : Nat} (hne : ∀ ex, (p, ex) ∈ l → ex.hl ≠ h) :
    nameCount (erase p l) h = nameCount l h := by
  unfold nameCount erase
  rw [List.countP_filter]
  refine List.countP_congr fun x hx => ?_
  rcases x with ⟨q, ex⟩
  simp only [Bool.and_eq_true, beq_iff_eq, decide_eq_true_eq, and_iff_left_iff_imp]
  rintro hh rfl
  exact hne ex hx hh

theorem nameCount_erase {p : RPath} {l : List (RPath × Entry)} {ex : Entry} (nd : (l.map (·.1)).Nodup)
    (hm : (p, ex) ∈ l) (h : Nat) : nameCount (erase p l) h + (if ex.hl = h then 1 else 0) = nameCount l h := by
  induction l with
  | nil => cases hm
  | cons x t ih =>
    rw [List.map_cons, List.nodup_cons] at nd
    rcases List.mem_cons.mp hm with hx | hx
    · subst hx
      have habs : ∀ e, (p, e) ∉ t := fun e he => nd.1 (List.mem_map.mpr ⟨(p, e), he, rfl⟩)
      have : erase p ((p, ex) :: t) = t := by
        rw [erase, List.filter_cons_of_neg (by simp)]
        exact erase_of_absent habs
      rw [this, nameCount_cons]
    · have hne : x.1 ≠ p := fun hp => nd.1 (hp ▸ List.mem_map_of_mem hx)
      have : erase p (x :: t) = x :: erase p t := List.filter_cons_of_pos (decide_eq_true hne)
      rw [this, nameCount_cons, nameCount_cons, ← ih nd.2 hx]
      exact Nat.add_right_comm _ _ _

theorem nameCount_put_of_mem {p : RPath} {l : List (RPath × Entry)} {ex e : Entry} (nd : (l.map (·.1)).Nodup)
    (hm : (p, ex) ∈ l) (h : Nat) :
    nameCount (put l p e) h + (if ex.hl = h then 1 else 0) = nameCount l h + (if e.hl = h then 1 else 0) := by
  unfold put
  rw [nameCount_cons, ← nameCount_erase nd hm h]
  exact Nat.add_right_comm _ _ _

theorem nameCount_put_of_absent {p : RPath} {l : List (RPath × Entry)} {e : Entry} (ha : ∀ y, (p, y) ∉ l) (h : Nat) :
    nameCount (put l p e) h = nameCount l h + (if e.hl = h then 1 else 0) := by
  unfold put
  rw [nameCount_cons, erase_of_absent ha]

theorem nameCount_put_of_ne {p : RPath} {l : List (RPath × Entry)} {e : Entry} {h : Nat} (he : e.hl ≠ h)
    (hne : ∀ ex, (p, ex) ∈ l → ex.hl ≠ h) : nameCount (put l p e) h = nameCount l h := by
  unfold put
  rw [nameCount_cons, nameCount_erase_of_ne hne, if_neg he]
  rfl

theorem two_names {l : List (RPath × Entry)} (nd : (l.map (·.1)).Nodup) {p q : RPath} {ex e' : Entry} {k : Nat}
    (hp : (p, ex) ∈ l) (hq : (q, e') ∈ l) (hne : q ≠ p) (h1 : ex.hl = k) (h2 : e'.hl = k) : 2 ≤ nameCount l k := by
  have h := nameCount_erase nd hp k
  rw [if_pos h1] at h
  exact h ▸ Nat.succ_le_succ (Nat.pos_of_ne_zero (nameCount_pos_of_mem (mem_erase.mpr ⟨hq, hne⟩) h2))

theorem cons_none {s : St} {h : Nat} (hg : kvGet s h = none) : Cons s h ↔ nameCount s.ents h = 0 := by
  unfold Cons; rw [hg]

theorem cons_some {s : St} {h : Nat} {r : Entry} (hg : kvGet s h = some r) :
    Cons s h ↔ r.hl = h ∧ r.isDir = false ∧ nameCount s.ents h ≠ 0 ∧ r.cnt = (nameCount s.ents h : Int) := by
  unfold Cons; rw [hg]

theorem cons_congr {s s' : St} {h : Nat} (hk : kvGet s' h = kvGet s h) (hn : nameCount s'.ents h = nameCount s.ents h)
    (c : Cons s h) : Cons s' h := by
  unfold Cons at c ⊢
  rw [hk, hn]
  exact c

theorem consAll_empty : ConsAll {} := fun _ _ => rfl

theorem find_of_linked {s : St} (inv : TreeInv s) {p : RPath} {ex : Entry} (hm : (p, ex) ∈ s.ents) (hk : ex.hl ≠ 0)
    (c : Cons s ex.hl) : ∃ r, kvGet s ex.hl = some r ∧ find s p = some r ∧ r.hl = ex.hl ∧ r.isDir = false
      ∧ r.cnt = (nameCount s.ents ex.hl : Int) := by
  cases hg : kvGet s ex.hl with
  | none => exact absurd ((cons_none hg).mp c) (nameCount_pos_of_mem hm rfl)
  | some r =>
    have := (cons_some hg).mp c
    exact ⟨r, rfl, find_of_lookup_linked (lookup_of_mem_nodup inv.nodup hm) hk hg, this.1, this.2.1, this.2.2.2⟩

/-- FindEntry showed `o` for the stored name `ex`: `o` is `ex` itself when plain, the record of its identity when linked -/
theorem find_cases {s : St} (inv : TreeInv s) {p : RPath} {ex o : Entry} (hm : (p, ex) ∈ s.ents)
    (c : ex.hl ≠ 0 → Cons s ex.hl) (hf : find s p = some o) :
    (ex.hl = 0 ∧ o = ex) ∨
    (ex.hl ≠ 0 ∧ kvGet s ex.hl = some o ∧ o.hl = ex.hl ∧ o.isDir = false ∧ o.cnt = (nameCount s.ents ex.hl : Int)) := by
  by_cases h0 : ex.hl = 0
  · rw [find_plain_of_mem inv hm h0] at hf
    exact Or.inl ⟨h0, (Option.some.inj hf).symm⟩
  · rcases find_of_linked inv hm h0 (c h0) with ⟨r, hg, hfr, hr⟩
    rw [hf] at hfr
    cases hfr
    exact Or.inr ⟨h0, hg, hr⟩

theorem nameCount_wInsert_plain {s : St} {p : RPath} {e : Entry} (he : e.hl = 0) (hp : ∀ ex, (p, ex) ∈ s.ents → ex.hl = 0)
    (h : Nat) (hh : h ≠ 0) : nameCount (wInsert s p e).ents h = nameCount s.ents h := by
  rw [ents_wInsert]
  exact nameCount_put_of_ne (he ▸ hh.symm) fun ex hm => hp ex hm ▸ hh.symm

theorem ensureParent_frame (e : Entry) (q : RPath) : ∀ s,
    (∀ k, kvGet (ensureParent e q s).1 k = kvGet s k) ∧
      ∀ h, h ≠ 0 → nameCount (ensureParent e q s).1.ents h = nameCount s.ents h := by
  induction q with
  | nil => intro s; exact ⟨fun _ => rfl, fun _ _ => rfl⟩
  | cons n q ih =>
    intro s
    unfold ensureParent
    split
    · exact ⟨fun _ => rfl, fun _ _ => rfl⟩
    · rename_i hnone
      have IH := ih s
      have I3 := not_mem_ensureParent_of_find_none e hnone
      rcases hr : ensureParent e q s with ⟨s1, b⟩
      rw [hr] at IH I3
      cases b with
      | false => exact IH
      | true =>
        -- `ensureParent e q` touches no path longer than q, so n :: q is as absent in s1 as in s
        have habs : ∀ y, (n :: q, y) ∈ s1.ents → y.hl = 0 := fun y hy => absurd hy (I3 y)
        have F := nameCount_wInsert_plain (s := s1) (p := n :: q) (e := mkdirEntry e) rfl habs
        exact ⟨fun k => (kvGet_wInsert_plain (e := mkdirEntry e) rfl k).trans (IH.1 k),
          fun h hh => (F h hh).trans (IH.2 h hh)⟩

theorem consAll_createEntry_plain {s : St} (c : ConsAll s) (p : RPath) (e : Entry) (x : Bool)
    (he : e.hl = 0) (hp : ∀ ex, (p, ex) ∈ s.ents → ex.hl = 0) : ConsAll (createEntry s p e x).1 := by
  intro h hh
  rcases createEntry_cases s p e x with ⟨hc, _⟩ | ⟨n, par, rfl, hf, _, hc⟩ | ⟨_, _, _, hc⟩
  · rw [hc]
    exact c h hh
  · rw [hc]
    have F := ensureParent_frame e par s
    have hp1 : ∀ ex, (n :: par, ex) ∈ (ensureParent e par s).1.ents → ex.hl = 0 := fun ex hm =>
      absurd hm (not_mem_ensureParent_of_find_none e hf ex)
    exact cons_congr ((kvGet_wInsert_plain he h).trans (F.1 h))
      ((nameCount_wInsert_plain he hp1 h hh).trans (F.2 h hh)) (c h hh)
  · rw [hc]
    exact cons_congr (kvGet_wInsert_plain he h) (nameCount_wInsert_plain he hp h hh) (c h hh)

/-- a write through a name of identity e.hl: the record is replaced, the counts stay -/
theorem consAll_wInsert_same {s : St} (inv : TreeInv s) (c : ConsAll s) {p : RPath} {ex e : Entry} (hm : (p, ex) ∈ s.ents)
    (hk : ex.hl ≠ 0) (hl : e.hl = ex.hl) (hd : e.isDir = false) (hc : e.cnt = (nameCount s.ents ex.hl : Int)) :
    ConsAll (wInsert s p e) := by
  have hkv := kvGet_wInsert_linked (s := s) (hl ▸ hk) fun y hy => Or.inl (mem_unique inv.nodup hy hm ▸ hl.symm)
  intro h hh
  have hcount : nameCount (wInsert s p e).ents h = nameCount s.ents h := by
    have := nameCount_put_of_mem (e := e) inv.nodup hm h
    rw [hl] at this
    rw [ents_wInsert]
    exact Nat.add_right_cancel this
  by_cases hhk : h = e.hl
  · subst hhk
    refine (cons_some (by rw [hkv, if_pos rfl])).mpr ⟨rfl, hd, ?_, ?_⟩
    · rw [hcount]
      exact nameCount_pos_of_mem hm hl.symm
    · rw [hcount, hc, hl]
  · exact cons_congr (by rw [hkv, if_neg hhk]) hcount (c h hh)

theorem consAll_write {s : St} (inv : TreeInv s) (c : ConsAll s) (p : RPath) (tag : Nat) (chunks : List Nat) :
    ConsAll (step s (.write p tag chunks)).1 := by
  rw [step_write, viaQ_fst]
  cases hf : find s p with
  | none => exact consAll_createEntry_plain c p _ false rfl fun ex hm => absurd hm (not_mem_of_find_none hf ex)
  | some o =>
    rcases find_stored inv hf with ⟨ex, hm, _⟩
    rcases find_cases inv hm (c _) hf with ⟨h0, rfl⟩ | ⟨h0, _, hrl, hrf, hrc⟩
    · exact consAll_createEntry_plain c p _ false h0 fun a ha => mem_unique inv.nodup ha hm ▸ h0
    · rw [createEntry_over (inv.parent _ hm).1 hf hrf]
      exact consAll_wInsert_same inv c hm h0 hrl rfl hrc

theorem consAll_deleteOne {s : St} (inv : TreeInv s) (c : ConsAll s) {p : RPath} {ex o : Entry}
    (hm : (p, ex) ∈ s.ents) (hf : find s p = some o) : ConsAll (deleteOne s p o) := by
  intro h hh
  have hcnt := nameCount_erase inv.nodup hm h
  rcases find_cases inv hm (c _) hf with ⟨h0, rfl⟩ | ⟨h0, hg, hrl, hrf, hrc⟩
  · refine cons_congr (kvGet_deleteOne_plain h0 p h) ?_ (c h hh)
    rw [deleteOne_ents, ← hcnt, if_neg (h0 ▸ hh.symm)]
    rfl
  · rw [← hrl] at hg hrc hcnt
    have hkv := kvGet_deleteOne_linked (hrl ▸ h0) hg p h
    have hpos : nameCount s.ents o.hl ≠ 0 := nameCount_pos_of_mem hm hrl.symm
    by_cases hhk : h = o.hl
    · subst hhk
      rw [if_pos rfl] at hkv hcnt
      -- the decremented counter counts the names that are left
      have hdec : o.cnt - 1 = (nameCount (deleteOne s p o).ents o.hl : Int) := by
        rw [deleteOne_ents, hrc, ← hcnt, Int.natCast_add, Int.natCast_one, Int.add_sub_cancel]
      by_cases hle : o.cnt - 1 ≤ 0
      · rw [if_pos hle] at hkv
        rw [hdec] at hle
        exact (cons_none hkv).mpr (Int.natCast_eq_zero.mp (Int.le_antisymm hle (Int.natCast_nonneg _)))
      · rw [if_neg hle] at hkv
        exact (cons_some hkv).mpr ⟨rfl, hrf, fun h0 => hle (by rw [hdec, h0]; exact Int.le_refl 0), hdec⟩
    · rw [if_neg hhk] at hkv
      rw [if_neg (Ne.symm hhk)] at hcnt
      exact cons_congr hkv (by rw [deleteOne_ents]; exact hcnt) (c h hh)

theorem consAll_deleteEntry_file {s : St} (inv : TreeInv s) (c : ConsAll s) (p : RPath) (r dc : Bool)
    (hfile : ∀ o, find s p = some o → o.isDir = false) : ConsAll (deleteEntry s p r dc).1 := by
  cases p with
  | nil => exact c
  | cons n par =>
    cases hf : find s (n :: par) with
    | none => rwa [deleteEntry_notfound r dc hf]
    | some o =>
      rcases find_stored inv hf with ⟨ex, hm, _⟩
      rw [deleteEntry_file hf (hfile o hf)]
      exact consAll_deleteOne inv c hm hf

theorem consAll_unlink {s : St} (inv : TreeInv s) (c : ConsAll s) (p : RPath)
    (hfile : ∀ o, find s p = some o → o.isDir = false) : ConsAll (step s (.unlink p)).1 := by
  rw [step_unlink]
  cases hf : find s p with
  | none => exact c
  | some o => exact consAll_deleteEntry_file inv c p false _ (hf ▸ hfile)

/-- client contract of Dir.Link: a plain source gets a new, unused, non-zero identity (16 random bytes in the code) -/
def LinkFresh (s : St) (src : RPath) (h : Nat) : Prop :=
  ∀ ex, (src, ex) ∈ s.ents → ex.hl = 0 → h ≠ 0 ∧ kvGet s h = none

/-- Dir.Link went through (UpdateEntry(old name), then CreateEntry(new name), both with the linked entry `L`):
    `k` is the identity of `L`, `ex` the stored source and `o` what FindEntry showed for it -/
structure Linked (s : St) (src dst : RPath) (L ex o : Entry) (k : Nat) : Prop where
  find_src : find s src = some o
  mem_src : (src, ex) ∈ s.ents
  id_ne : k ≠ 0
  id_eq : L.hl = k
  file : L.isDir = false
  chunks : L.chunks = o.chunks
  /-- the source was a name of k already (then `o` is the record), or plain with k unused -/
  src_id : (ex.hl = k ∧ kvGet s k = some o) ∨ (ex.hl = 0 ∧ nameCount s.ents k = 0)
  cnt : L.cnt = ((nameCount s.ents k + (if ex.hl = k then 0 else 1) + 1 : Nat) : Int)
  kv : ∀ k', kvGet (wInsert (wInsert s src L) dst L) k' = if k' = k then some L else kvGet s k'
  dst_new : ∀ y, (dst, y) ∉ s.ents
  dst_ne : dst ≠ src

/-- the two requests with a linked entry `L`, for a source that is plain or a name of L's identity already and a new
    name that passed the VFS checks: both go through, and only the record of that identity is written -/
theorem link_requests {s : St} (inv : TreeInv s) {src dst : RPath} {ex L : Entry} (hm : (src, ex) ∈ s.ents)
    (hex : ex.isDir = false) (hLf : L.isDir = false) (hLk : L.hl ≠ 0) (hid : ex.hl = L.hl ∨ ex.hl = 0)
    (hto : linkTargetOk s dst = true) :
    createEntry (wInsert s src L) dst L false = (wInsert (wInsert s src L) dst L, Res.ok, []) ∧
    (∀ k', kvGet (wInsert (wInsert s src L) dst L) k' = if k' = L.hl then some L else kvGet s k') ∧
    (∀ y, (dst, y) ∉ s.ents) ∧ dst ≠ src := by
  rcases of_linkTargetOk hto with ⟨hfd, n, par, rfl, hpar⟩
  have habs : ∀ y, (n :: par, y) ∉ s.ents := not_mem_of_find_none hfd
  have hdne : n :: par ≠ src := fun h => habs ex (h ▸ hm)
  have habs1 : ∀ y, (n :: par, y) ∉ (wInsert s src L).ents := fun y hy =>
    habs y ((mem_wInsert_of_ne hdne).mp hy)
  have inv1 : TreeInv (wInsert s src L) :=
    inv_wInsert inv (by simp [hLf]) (inv.parent _ hm).1 (inv.parent _ hm).2
      fun e1 h1 => by rw [mem_unique inv.nodup h1 hm, hex, hLf]
  -- the directory of the new name is still there after the first request
  have hpar1 : par = [] ∨ ∃ d, (par, d) ∈ (wInsert s src L).ents ∧ d.isDir = true := by
    refine hpar.imp_right fun ⟨d, hfp, hdir⟩ => ?_
    rcases find_stored inv hfp with ⟨d0, hd0, hdk⟩
    have hd0dir : d0.isDir = true := hdk.trans hdir
    refine ⟨d0, (mem_wInsert_of_ne ?_).mpr hd0, hd0dir⟩
    rintro rfl
    rw [mem_unique inv.nodup hd0 hm, hex] at hd0dir
    cases hd0dir
  refine ⟨createEntry_fresh inv1 L false habs1 (List.cons_ne_nil n par) hpar1, fun k' => ?_, habs, hdne⟩
  rw [kvGet_wInsert_linked hLk fun y hy => absurd hy (habs1 y),
    kvGet_wInsert_linked hLk fun y hy => mem_unique inv.nodup hy hm ▸ hid]
  by_cases hk' : k' = L.hl <;> simp only [hk', if_true, if_false]

theorem linkOp_cases {s : St} (inv : TreeInv s) (c : ConsAll s) (src dst : RPath) (h : Nat) (fresh : LinkFresh s src h) :
    ((linkOp s src dst h).1 = s ∧ (linkOp s src dst h).2.2 = []) ∨
    ∃ L ex o k, linkOp s src dst h = (wInsert (wInsert s src L) dst L, Res.ok, []) ∧ Linked s src dst L ex o k := by
  unfold linkOp
  cases hf : find s src with
  | none => exact Or.inl ⟨rfl, rfl⟩
  | some o =>
    simp only
    split
    · exact Or.inl ⟨rfl, rfl⟩
    · rename_i hc
      right
      simp only [Bool.or_eq_true, Bool.not_eq_eq_eq_not, Bool.not_true, not_or, Bool.not_eq_true, Bool.not_eq_false] at hc
      rcases find_stored inv hf with ⟨ex, hm, hxd⟩
      have hex : ex.isDir = false := hxd.trans hc.1
      rcases find_cases inv hm (c _) hf with ⟨h0, rfl⟩ | ⟨h0, hg, hrl, hrf, hrc⟩
      · -- a plain source: the fresh identity, counter 2
        rcases fresh o hm h0 with ⟨hne, hnone⟩
        have hc0 : nameCount s.ents h = 0 := (cons_none hnone).mp (c h hne)
        rw [linked_plain h0]
        rcases link_requests (L := { o with hl := h, cnt := 2 }) inv hm hex hc.1 hne (Or.inr h0) hc.2 with
          ⟨hcr, hkv, habs, hdne⟩
        exact ⟨_, o, o, h, hcr, hf, hm, hne, rfl, hc.1, rfl, Or.inr ⟨h0, hc0⟩,
          by rw [hc0, if_neg (h0 ▸ hne.symm)]; rfl, hkv, habs, hdne⟩
      · -- a name of an identity: its record with the counter incremented
        rw [linked_linked (hrl ▸ h0)]
        rcases link_requests (L := { o with cnt := o.cnt + 1 }) inv hm hex hrf (hrl ▸ h0) (Or.inl hrl.symm) hc.2 with
          ⟨hcr, hkv, habs, hdne⟩
        exact ⟨_, ex, o, o.hl, hcr, hf, hm, hrl ▸ h0, rfl, hrf, rfl, Or.inl ⟨hrl.symm, hrl ▸ hg⟩,
          by show o.cnt + 1 = _; rw [if_pos hrl.symm, hrc, hrl]; rfl, hkv, habs, hdne⟩

/-- the names of an identity after Dir.Link: both names are names of k -/
theorem Linked.count {s : St} {src dst : RPath} {L ex o : Entry} {k : Nat} (inv : TreeInv s) (H : Linked s src dst L ex o k)
    (h : Nat) (hh : h ≠ 0) : nameCount (wInsert (wInsert s src L) dst L).ents h =
      if h = k then nameCount s.ents k + (if ex.hl = k then 0 else 1) + 1 else nameCount s.ents h := by
  have habs1 : ∀ y, (dst, y) ∉ put s.ents src L := fun y hy => by
    rcases mem_put.mp hy with h1 | ⟨h1, _⟩
    · exact H.dst_ne (congrArg Prod.fst h1)
    · exact H.dst_new y h1
  have hc1 := nameCount_put_of_mem (e := L) inv.nodup H.mem_src h
  rw [ents_wInsert, ents_wInsert, nameCount_put_of_absent habs1, H.id_eq]
  rw [H.id_eq] at hc1
  by_cases hhk : h = k
  · subst hhk
    rw [if_pos rfl] at hc1 ⊢
    rw [if_pos rfl]
    by_cases he : ex.hl = h
    · rw [if_pos he] at hc1 ⊢
      exact hc1
    · rw [if_neg he] at hc1 ⊢
      exact congrArg (· + 1) hc1
  · have hkh : ¬ k = h := Ne.symm hhk
    have hne : ¬ ex.hl = h := by
      rcases H.src_id with ⟨he, _⟩ | ⟨he, _⟩
      · rw [he]
        exact hkh
      · rw [he]
        exact hh.symm
    rw [if_neg hne, if_neg hkh] at hc1
    rw [if_neg hkh, if_neg hhk]
    exact hc1

theorem consAll_linkOp {s : St} (inv : TreeInv s) (c : ConsAll s) (src dst : RPath) (h : Nat)
    (fresh : LinkFresh s src h) : ConsAll (linkOp s src dst h).1 := by
  rcases linkOp_cases inv c src dst h fresh with ⟨h1, _⟩ | ⟨L, ex, o, k, heq, H⟩
  · rw [h1]
    exact c
  · rw [heq]
    intro h' hh'
    have hcount := H.count inv h' hh'
    by_cases hhk : h' = k
    · subst hhk
      rw [if_pos rfl] at hcount
      refine (cons_some (by rw [H.kv, if_pos rfl])).mpr ⟨H.id_eq, H.file, ?_, ?_⟩
      · exact nameCount_pos_of_mem (mem_wInsert_self _ _ _) H.id_eq
      · rw [hcount, H.cnt]
    · rw [if_neg hhk] at hcount
      exact cons_congr (by rw [H.kv, if_neg hhk]) hcount (c h' hh')

end SwV.Lemmas.C21
