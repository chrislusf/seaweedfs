/-
C07 — byte-level facts about `readAt`/`writeAt`, the binary search loop, what `MarkNeedleDeleted` does to the
entry it hits and to all the others (key, offset and size of an entry are windows of the file; the tombstone write
is the size window of one entry and meets no other), and the journal of 8-byte ids read back.
-/
import SwV.Model.C07
namespace SwV.Lemmas.C07
open SwV.Model.C07

theorem writeAt_eq (bs : List Nat) (off : Nat) (d : List Nat) (h : off ≤ bs.length) :
    writeAt bs off d = bs.take off ++ (d ++ bs.drop (off + d.length)) := by
  unfold writeAt; rw [if_neg (Nat.not_lt_of_le h), List.append_assoc]

theorem writeAt_length {bs : List Nat} {off : Nat} {d : List Nat} (h : off + d.length ≤ bs.length) :
    (writeAt bs off d).length = bs.length := by
  rw [writeAt_eq bs off d (Nat.le_of_add_right_le h)]
  simp only [List.length_append, List.length_take, List.length_drop]; omega

theorem writeAt_getElem? (bs : List Nat) (off : Nat) (d : List Nat) (h : off + d.length ≤ bs.length) (i : Nat) :
    (writeAt bs off d)[i]? = if off ≤ i ∧ i < off + d.length then d[i - off]? else bs[i]? := by
  have hl : (bs.take off).length = off := List.length_take_of_le (Nat.le_of_add_right_le h)
  rw [writeAt_eq bs off d (Nat.le_of_add_right_le h)]
  by_cases h1 : i < off
  · rw [List.getElem?_append_left (by omega), List.getElem?_take_of_lt h1, if_neg (by omega)]
  · rw [List.getElem?_append_right (by omega), hl]
    by_cases h2 : i - off < d.length
    · rw [List.getElem?_append_left h2, if_pos (by omega)]
    · rw [List.getElem?_append_right (by omega), List.getElem?_drop, if_neg (by omega)]
      congr 1; omega

theorem readAt_getElem? (bs : List Nat) (p n i : Nat) :
    (readAt bs p n)[i]? = if i < n then bs[p + i]? else none := by
  unfold readAt
  simp [List.getElem?_take, List.getElem?_drop]

theorem readAt_length (bs : List Nat) (p n : Nat) (h : p + n ≤ bs.length) : (readAt bs p n).length = n :=
  List.length_take_of_le (List.length_drop ▸ Nat.le_sub_of_add_le' h)

theorem readAt_writeAt_disjoint {bs : List Nat} {off : Nat} {d : List Nat} {p : Nat} (n : Nat)
    (h : off + d.length ≤ bs.length) (hd : p + n ≤ off ∨ off + d.length ≤ p) :
    readAt (writeAt bs off d) p n = readAt bs p n := by
  apply List.ext_getElem?
  intro i
  rw [readAt_getElem?, readAt_getElem?]
  by_cases hi : i < n
  · simp only [hi, if_true]
    rw [writeAt_getElem? bs off d h]
    have : ¬ (off ≤ p + i ∧ p + i < off + d.length) := by omega
    simp [this]
  · simp [hi]

theorem readAt_writeAt_same {bs : List Nat} {off : Nat} {d : List Nat} (h : off + d.length ≤ bs.length) :
    readAt (writeAt bs off d) off d.length = d := by
  unfold readAt
  rw [writeAt_eq bs off d (Nat.le_of_add_right_le h), List.drop_left' (List.length_take_of_le (Nat.le_of_add_right_le h)), List.take_left' rfl]

theorem readAt_sub (bs : List Nat) (p n a k : Nat) (h : a + k ≤ n) :
    ((readAt bs p n).drop a).take k = readAt bs (p + a) k := by
  unfold readAt
  rw [List.drop_take, List.take_take, List.drop_drop, Nat.min_eq_left (Nat.le_sub_of_add_le' h)]

theorem keyOf_readAt (os : Nat) (bs : List Nat) (p : Nat) :
    keyOf (readAt bs p (entryWidth os)) = beNat (readAt bs p 8) := by
  have := readAt_sub bs p (entryWidth os) 0 8 (by unfold entryWidth; omega)
  rw [List.drop_zero, Nat.add_zero] at this
  unfold keyOf; rw [this]

theorem offOf_readAt (os : Nat) (bs : List Nat) (p : Nat) :
    offOf os (readAt bs p (entryWidth os)) =
      beNat ((readAt bs (p + 8) os).take 4) + (if os > 4 then ((readAt bs (p + 8) os).drop 4).headD 0 * 4294967296 else 0) := by
  unfold offOf; rw [readAt_sub bs p (entryWidth os) 8 os (by unfold entryWidth; omega)]

theorem sizeOf_readAt (os : Nat) (bs : List Nat) (p : Nat) :
    Model.C07.sizeOf os (readAt bs p (entryWidth os)) = toInt32 (beNat (readAt bs (p + (8 + os)) 4)) := by
  unfold Model.C07.sizeOf; rw [readAt_sub bs p (entryWidth os) (8 + os) 4 (Nat.le_refl _)]

theorem entry_end_le (w m n : Nat) (h : m < n) : m * w + w ≤ n * w := by
  have := Nat.mul_le_mul_right w (Nat.succ_le_of_lt h)
  rwa [Nat.succ_mul] at this

theorem searchLoop_sound (os : Nat) (bs : List Nat) (key : Nat) :
    ∀ (fuel l h m : Nat), searchLoop os bs key fuel l h = some m →
      m < h ∧ keyOf (readAt bs (m * entryWidth os) (entryWidth os)) = key := by
  intro fuel
  induction fuel with
  | zero => intro l h m hm; simp [searchLoop] at hm
  | succ f ih =>
    intro l h m hm
    unfold searchLoop at hm
    by_cases hlh : l < h
    · simp only [hlh, if_true] at hm
      split at hm
      · rename_i hk; injection hm with hm; subst hm; exact ⟨by omega, hk⟩
      · split at hm
        · exact ih _ _ _ hm
        · have := ih _ _ _ hm; exact ⟨by omega, this.2⟩
    · simp [hlh] at hm

theorem searchLoop_congr (os : Nat) (bs bs' : List Nat) (key : Nat) :
    ∀ (fuel l h : Nat),
      (∀ j, j < h → keyOf (readAt bs' (j * entryWidth os) (entryWidth os)) = keyOf (readAt bs (j * entryWidth os) (entryWidth os))) →
      searchLoop os bs' key fuel l h = searchLoop os bs key fuel l h := by
  intro fuel
  induction fuel with
  | zero => intro l h _; simp [searchLoop]
  | succ f ih =>
    intro l h hk
    unfold searchLoop
    by_cases hlh : l < h
    · simp only [hlh, if_true]
      have hm : (l + h) / 2 < h := by omega
      rw [hk _ hm]
      rw [ih ((l + h) / 2 + 1) h hk, ih l ((l + h) / 2) (fun j hj => hk j (by omega))]
    · simp [hlh]

theorem entries_div {os n : Nat} {bs : List Nat} (hlen : bs.length = n * entryWidth os) : bs.length / entryWidth os = n :=
  Nat.div_eq_of_eq_mul_left (Nat.succ_pos _) hlen

theorem search_sound (os : Nat) (bs : List Nat) (key m : Nat) (h : search os bs key = some m) :
    m < bs.length / entryWidth os ∧ keyOf (readAt bs (m * entryWidth os) (entryWidth os)) = key :=
  searchLoop_sound os bs key _ _ _ _ h

/-- `MarkNeedleDeleted` at entry `m` of a file of `n` entries, decoded entry by entry: the length stays, keys and
    offsets are those of the old entries, the size of entry `m` is the tombstone, the other sizes stay -/
theorem markDeleted_decoded (os n : Nat) (bs : List Nat) (hlen : bs.length = n * entryWidth os) (m : Nat) (hm : m < n) :
    (markDeleted os bs (m * entryWidth os)).length = bs.length ∧ ∀ j,
    keyOf (readAt (markDeleted os bs (m * entryWidth os)) (j * entryWidth os) (entryWidth os))
      = keyOf (readAt bs (j * entryWidth os) (entryWidth os)) ∧
    offOf os (readAt (markDeleted os bs (m * entryWidth os)) (j * entryWidth os) (entryWidth os))
      = offOf os (readAt bs (j * entryWidth os) (entryWidth os)) ∧
    Model.C07.sizeOf os (readAt (markDeleted os bs (m * entryWidth os)) (j * entryWidth os) (entryWidth os))
      = if j = m then -1 else Model.C07.sizeOf os (readAt bs (j * entryWidth os) (entryWidth os)) := by
  have hw : entryWidth os = 8 + os + tombstone.length := rfl
  have h4 : tombstone.length = 4 := rfl
  have hmw : m * entryWidth os + entryWidth os ≤ bs.length := hlen ▸ entry_end_le _ m n hm
  have hwr : m * entryWidth os + 8 + os + tombstone.length ≤ bs.length := by omega
  unfold markDeleted
  refine ⟨writeAt_length hwr, fun j => ?_⟩
  -- the written window is the size field of entry `m`: it lies behind the key and offset of that entry and of
  -- every earlier one, and before every later entry
  have hko : j * entryWidth os ≤ m * entryWidth os ∨ m * entryWidth os + entryWidth os ≤ j * entryWidth os :=
    (Nat.lt_or_ge m j).symm.imp (Nat.mul_le_mul_right _) (entry_end_le _ m j)
  rw [keyOf_readAt, keyOf_readAt, offOf_readAt, offOf_readAt, sizeOf_readAt, sizeOf_readAt,
    readAt_writeAt_disjoint 8 hwr (by omega), readAt_writeAt_disjoint os hwr (by omega)]
  refine ⟨rfl, rfl, ?_⟩
  by_cases h : j = m
  · subst h
    rw [if_pos rfl, ← Nat.add_assoc, show 4 = tombstone.length from rfl, readAt_writeAt_same hwr]
    decide
  · have := (Nat.lt_or_gt_of_ne h).imp (entry_end_le (entryWidth os) j m) (entry_end_le (entryWidth os) m j)
    rw [if_neg h, readAt_writeAt_disjoint 4 hwr (by omega)]

/-- the tombstone write leaves all keys alone, so every search gives the index it gave before -/
theorem search_markDeleted (os n : Nat) (bs : List Nat) (hlen : bs.length = n * entryWidth os) (m : Nat) (hm : m < n) (k : Nat) :
    search os (markDeleted os bs (m * entryWidth os)) k = search os bs k := by
  unfold search
  rw [(markDeleted_decoded os n bs hlen m hm).1, entries_div hlen]
  exact searchLoop_congr os bs _ k _ _ _ fun j _ => ((markDeleted_decoded os n bs hlen m hm).2 j).1

/-- a lookup in the index with entry `m` marked finds the entry it found before, with the tombstone size if
    that is entry `m` -/
theorem find_markDeleted (os n : Nat) (bs : List Nat) (hlen : bs.length = n * entryWidth os) (m : Nat) (hm : m < n) (k : Nat) :
    find os (markDeleted os bs (m * entryWidth os)) k =
      (find os bs k).map fun r => (r.1, if search os bs k = some m then -1 else r.2) := by
  unfold find
  rw [search_markDeleted os n bs hlen m hm k]
  cases hs : search os bs k with
  | none => rfl
  | some j =>
    obtain ⟨-, ho, hsz⟩ := (markDeleted_decoded os n bs hlen m hm).2 j
    simp only [Option.map_some, Option.some.injEq]
    rw [ho, hsz]

theorem writeAt_end (bs d : List Nat) : writeAt bs bs.length d = bs ++ d := by
  rw [writeAt_eq bs _ d (Nat.le_refl _), List.take_length, List.drop_eq_nil_of_le (by omega), List.append_nil]

theorem beBytes_length (n v : Nat) : (beBytes n v).length = n := by
  induction n generalizing v with
  | zero => rfl
  | succ n ih => simp [beBytes, ih]

theorem beNat_append_one (a : List Nat) (b : Nat) : beNat (a ++ [b]) = beNat a * 256 + b := by
  unfold beNat; simp [List.foldl_append]

theorem beNat_beBytes (n v : Nat) : beNat (beBytes n v) = v % 256 ^ n := by
  induction n generalizing v with
  | zero => simp [beBytes, beNat, Nat.mod_one]
  | succ n ih =>
    rw [beBytes, beNat_append_one, ih, Nat.pow_succ, Nat.mul_comm (256 ^ n) 256, Nat.mod_mul]
    omega

theorem journalKeys_flatMap (ks : List Nat) (hk : ∀ k ∈ ks, k < 2 ^ 64) :
    ∀ fuel, ks.length < fuel → journalKeys fuel (ks.flatMap (beBytes 8)) = ks := by
  induction ks with
  | nil => intro fuel hf; cases fuel with
    | zero => omega
    | succ f => simp [journalKeys]
  | cons k rest ih =>
    intro fuel hf
    cases fuel with
    | zero => omega
    | succ f =>
      have hl : (beBytes 8 k).length = 8 := beBytes_length 8 k
      have ht : (beBytes 8 k ++ rest.flatMap (beBytes 8)).take 8 = beBytes 8 k := List.take_left' hl
      have hd : (beBytes 8 k ++ rest.flatMap (beBytes 8)).drop 8 = rest.flatMap (beBytes 8) := List.drop_left' hl
      simp only [List.flatMap_cons, journalKeys, ht, hd, hl]
      have : beNat (beBytes 8 k) = k := by
        rw [beNat_beBytes]; exact Nat.mod_eq_of_lt (hk k List.mem_cons_self)
      simp [this]
      exact ih (fun x hx => hk x (List.mem_cons_of_mem _ hx)) f (Nat.lt_of_succ_lt_succ hf)

theorem ecjKeys_flatMap (ks : List Nat) (hk : ∀ k ∈ ks, k < 2 ^ 64) :
    ecjKeys (ks.flatMap (beBytes 8)) = ks := by
  unfold ecjKeys
  apply journalKeys_flatMap ks hk
  have : ∀ l : List Nat, (l.flatMap (beBytes 8)).length = 8 * l.length := by
    intro l; induction l with
    | nil => rfl
    | cons a r ih => simp [List.flatMap_cons, beBytes_length, ih]; omega
  rw [this]; omega

end SwV.Lemmas.C07
