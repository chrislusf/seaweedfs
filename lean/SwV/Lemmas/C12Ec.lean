/- The full EC heartbeat (`DataNode.UpdateEcShards`).  `updateEcShards_eq` gives the operation in closed form: the
   counter deltas of its two loops (`ecDeltas`, applied by `adjEc`), the shard map afterwards (`ecAfter`) and the two
   lists handed to the topology (`ecNews`, `ecDels`); C11 and C12 read what they need off that equation.
   For C12 the deltas a disk receives are written as sums over the volume ids; per volume id they add up to
   popcount(stored bits) − popcount(old bits), because popcount(new) − popcount(old) =
   popcount(new \ old) − popcount(old \ new); so the EC shard counter equals the recount afterwards
   (`diskEc_updateEcShards`), for a message that lists each EC volume once, with its id in range, under a modelled
   disk type, the one its shards are registered on (`EcFullOk`), while shards are registered on the two modelled disk
   types only (`EcDisksOk`). -/
import SwV.Model.C11
import SwV.Spec.C12
import SwV.Lemmas.C12
namespace SwV.Lemmas.C12Ec
open SwV.Model.C11 SwV.Spec.C12 SwV.Lemmas.C12

theorem sub_div_mod_two {a c : Nat} (hq : c / 2 ≤ a / 2) (hr : c % 2 ≤ a % 2) :
    (a - c) / 2 = a / 2 - c / 2 ∧ (a - c) % 2 = a % 2 - c % 2 := by
  obtain ⟨dq, hdq⟩ := Nat.exists_eq_add_of_le hq
  obtain ⟨dr, hdr⟩ := Nat.exists_eq_add_of_le hr
  have ha := Nat.div_add_mod a 2
  have hc := Nat.div_add_mod c 2
  have h2 : dr < 2 := Nat.lt_of_le_of_lt (hdr ▸ Nat.le_add_left dr _) (Nat.mod_lt a Nat.two_pos)
  rw [hdq, hdr] at ha ⊢
  have key : a - c = 2 * dq + dr :=
    Nat.sub_eq_of_eq_add (by rw [← ha, ← hc]; generalize c / 2 = qc; generalize c % 2 = rc; omega)
  rw [key, Nat.add_sub_cancel_left, Nat.add_sub_cancel_left, Nat.mul_add_div Nat.two_pos, Nat.mul_add_mod,
    Nat.div_eq_of_lt h2, Nat.mod_eq_of_lt h2]
  exact ⟨rfl, rfl⟩

theorem and_mod_two_le (a b : Nat) : (a &&& b) % 2 ≤ a % 2 := by
  rw [Nat.and_mod_two_pow (n := 1)]; exact Nat.and_le_left

/-- `bitsMinus a b = a - (a &&& b)` is the set difference `a \ b`, bit by bit: the subtraction borrows nowhere -/
theorem bitsMinus_bit (a b : Nat) :
    bitsMinus a b / 2 = bitsMinus (a / 2) (b / 2) ∧ bitsMinus a b % 2 = a % 2 - (a &&& b) % 2 := by
  have h1 : (a &&& b) / 2 = a / 2 &&& b / 2 := Nat.and_div_two
  have := sub_div_mod_two (h1 ▸ Nat.and_le_left) (and_mod_two_le a b)
  rw [h1] at this
  exact this

theorem popAux_split (f a b : Nat) : popAux f a = popAux f (a &&& b) + popAux f (bitsMinus a b) := by
  induction f generalizing a b with
  | zero => rfl
  | succ f ih =>
    have hr := and_mod_two_le a b
    simp only [popAux]
    rw [(bitsMinus_bit a b).1, (bitsMinus_bit a b).2, Nat.and_div_two, ih (a / 2) (b / 2)]
    generalize a % 2 = ra at hr ⊢
    generalize (a &&& b) % 2 = rc at hr ⊢
    omega

theorem popcount_diff (new old : Nat) :
    (popcount new : Int) - (popcount old : Int) =
      (popcount (bitsMinus new old) : Int) - (popcount (bitsMinus old new) : Int) := by
  unfold popcount
  have h1 := popAux_split 32 new old
  have h2 := popAux_split 32 old new
  rw [Nat.and_comm old new] at h2
  omega

theorem popcount_zero : popcount 0 = 0 := by decide

def lsum {α : Type} (f : α → Int) : List α → Int
  | [] => 0
  | a :: l => f a + lsum f l

theorem lsum_append {α : Type} (f : α → Int) (a b : List α) : lsum f (a ++ b) = lsum f a + lsum f b := by
  induction a with
  | nil => simp [lsum]
  | cons x a ih => simp only [List.cons_append, lsum, ih, Int.add_assoc]

theorem lsum_zero {α : Type} {f : α → Int} (l : List α) (h : ∀ x ∈ l, f x = 0) : lsum f l = 0 := by
  induction l with
  | nil => rfl
  | cons x l ih =>
    simp only [lsum]
    rw [h x List.mem_cons_self, ih (fun y hy => h y (List.mem_cons_of_mem _ hy))]; rfl

theorem lsum_map {α β : Type} (f : β → Int) (g : α → β) (l : List α) : lsum f (l.map g) = lsum (fun a => f (g a)) l := by
  induction l with
  | nil => rfl
  | cons a l ih => simp only [List.map_cons, lsum, ih]

theorem lsum_filter {α : Type} (f : α → Int) (p : α → Bool) (l : List α) :
    lsum f (l.filter p) = lsum (fun a => if p a then f a else 0) l := by
  induction l with
  | nil => rfl
  | cons a l ih =>
    rw [List.filter_cons]
    cases h : p a
    · simp only [lsum, h, Bool.false_eq_true, if_false, ih, Int.zero_add]
    · simp only [lsum, h, if_true, ih]

theorem lsum_by_vid (n : Nat) (g : EcInfo → Int) (l : List EcInfo) (h : ∀ e ∈ l, e.id < n) :
    lsum g l = sumI n (fun vid => lsum (fun e => if e.id = vid then g e else 0) l) := by
  induction l with
  | nil => simp only [lsum]; rw [sumI_zero (fun _ _ => rfl)]
  | cons e l ih =>
    simp only [lsum]
    rw [sumI_add, ← ih (fun x hx => h x (List.mem_cons_of_mem _ hx)), sumI_single n e.id (g e) (h e List.mem_cons_self)]

theorem lsum_filterMap_range {α : Type} (g : α → Int) (h : Nat → Option α) (m : Nat) :
    lsum g ((List.range m).filterMap h) = sumI m fun i => (h i).elim 0 g := by
  induction m with
  | zero => rfl
  | succ m ih =>
    rw [List.range_succ, List.filterMap_append, lsum_append, ih]
    simp only [sumI, List.filterMap_cons, List.filterMap_nil]
    cases h m <;> simp [lsum]

theorem foldl_actualBits_of_not_mem (l : List EcInfo) (vid : Nat) (acc : Option Nat) (h : ∀ e ∈ l, e.id ≠ vid) :
    l.foldl (fun acc e => if e.id = vid then some e.bits else acc) acc = acc :=
  foldl_inv_mem (· = acc) _ l (fun _ e he hb => (if_neg (h e he)).trans hb) acc rfl

theorem store_ecs_other (s : Nat) (l : List EcInfo) (base : Core) (s' t vid : Nat)
    (h : ∀ e ∈ l, ¬ (s' = s ∧ e.disk = t ∧ e.id = vid)) :
    (l.foldl (Core.ecStore s) base).ecs s' t vid = base.ecs s' t vid := by
  refine foldl_inv_mem (fun c : Core => c.ecs s' t vid = base.ecs s' t vid) _ l (fun c a ha hc => ?_) base rfl
  have : ¬ (s' = s ∧ t = a.disk ∧ vid = a.id) := fun ⟨e1, e2, e3⟩ => h a ha ⟨e1, e2.symm, e3.symm⟩
  exact (if_neg this).trans hc

/-- `doUpdateEcShards` writes the shard map only, and what it writes depends on the shard map only -/
theorem store_eq (s : Nat) (l : List EcInfo) (b b' : Core) (h : b.ecs = b'.ecs) :
    l.foldl (Core.ecStore s) b = { b with ecs := (l.foldl (Core.ecStore s) b').ecs } := by
  induction l generalizing b b' with
  | nil => show b = { b with ecs := b'.ecs }; rw [← h]
  | cons a l ih => exact ih _ _ (by show upd3 b.ecs s a.disk a.id a.bits = upd3 b'.ecs s a.disk a.id a.bits; rw [h])

theorem split_of_mem_nodup (l : List EcInfo) (e : EcInfo) (hn : (l.map (·.id)).Nodup) (he : e ∈ l) :
    ∃ l1 l2, l = l1 ++ e :: l2 ∧ (∀ x ∈ l1, x.id ≠ e.id) ∧ (∀ x ∈ l2, x.id ≠ e.id) := by
  obtain ⟨l1, l2, rfl⟩ := List.append_of_mem he
  refine ⟨l1, l2, rfl, ?_, ?_⟩
  · intro x hx heq
    simp only [List.map_append, List.map_cons, List.nodup_append] at hn
    exact hn.2.2 x.id (List.mem_map_of_mem hx) e.id List.mem_cons_self heq
  · intro x hx heq
    simp only [List.map_append, List.map_cons, List.nodup_append, List.nodup_cons] at hn
    exact hn.2.1.1 (by rw [← heq]; exact List.mem_map_of_mem hx)

theorem actualBits_of_mem (l : List EcInfo) (e : EcInfo) (hn : (l.map (·.id)).Nodup) (he : e ∈ l) :
    actualBits l e.id = some e.bits := by
  obtain ⟨l1, l2, rfl, h1, h2⟩ := split_of_mem_nodup l e hn he
  unfold actualBits
  rw [List.foldl_append, List.foldl_cons, foldl_actualBits_of_not_mem l1 e.id none h1]
  simp only [if_true]
  exact foldl_actualBits_of_not_mem l2 e.id _ h2

theorem actualBits_of_not_mem (l : List EcInfo) (vid : Nat) (h : ∀ e ∈ l, e.id ≠ vid) : actualBits l vid = none :=
  foldl_actualBits_of_not_mem l vid none h

theorem lsum_vid_of_mem (g : EcInfo → Int) (l : List EcInfo) (e : EcInfo) (hn : (l.map (·.id)).Nodup) (he : e ∈ l) :
    lsum (fun x => if x.id = e.id then g x else 0) l = g e := by
  obtain ⟨l1, l2, rfl, h1, h2⟩ := split_of_mem_nodup l e hn he
  rw [lsum_append]
  simp only [lsum, if_true]
  rw [lsum_zero l1 (fun x hx => if_neg (h1 x hx)), lsum_zero l2 (fun x hx => if_neg (h2 x hx))]
  omega

theorem store_ecs_of_mem (s : Nat) (l : List EcInfo) (e : EcInfo) (hn : (l.map (·.id)).Nodup) (he : e ∈ l)
    (base : Core) (t : Nat) :
    (l.foldl (Core.ecStore s) base).ecs s t e.id = if e.disk = t then e.bits else base.ecs s t e.id := by
  obtain ⟨l1, l2, rfl, h1, h2⟩ := split_of_mem_nodup l e hn he
  rw [List.foldl_append, List.foldl_cons]
  rw [store_ecs_other s l2 _ s t e.id (fun x hx hh => h2 x hx hh.2.2)]
  by_cases ht : e.disk = t
  · subst ht; simp [Core.ecStore, upd3]
  · have : ¬ (t = e.disk) := fun h => ht h.symm
    simp only [Core.ecStore, upd3, this, false_and, and_false, if_false, ht]
    exact store_ecs_other s l1 base s t e.id (fun x hx hh => h1 x hx hh.2.2)

/-- the EC delta loop 1 applies for one registered EC volume `x` = (disk type, vid, bits) -/
def d1 (actual : List EcInfo) (x : Nat × Nat × Nat) : Int :=
  match actualBits actual x.2.1 with
  | none => - (popcount x.2.2 : Int)
  | some ab => (popcount (bitsMinus ab x.2.2) : Int) - (popcount (bitsMinus x.2.2 ab) : Int)

/-- the EC delta loop 2 applies on disk type `t` for one message entry -/
def d2 (c0 : Core) (s t : Nat) (e : EcInfo) : Int :=
  if c0.hasEc s e.id then 0 else if e.disk = t then (popcount e.bits : Int) else 0

/-- the shards loop 1 reports as new for the registered EC volume `x` -/
def ecNew (actual : List EcInfo) (x : Nat × Nat × Nat) : List (Nat × Nat) :=
  match actualBits actual x.2.1 with
  | none => []
  | some ab => if popcount (bitsMinus ab x.2.2) > 0 then [(x.2.1, bitsMinus ab x.2.2)] else []

/-- the shards loop 1 reports as deleted for the registered EC volume `x` -/
def ecDel (actual : List EcInfo) (x : Nat × Nat × Nat) : List (Nat × Nat) :=
  match actualBits actual x.2.1 with
  | none => [(x.2.1, x.2.2)]
  | some ab => if popcount (bitsMinus x.2.2 ab) > 0 then [(x.2.1, bitsMinus x.2.2 ab)] else []

/-- the entries of the message for EC volumes of which the server had nothing at entry (loop 2 acts on these) -/
def fresh (c : Core) (s : Nat) (actual : List EcInfo) : List EcInfo := actual.filter fun e => !c.hasEc s e.id

/-- the counter deltas of both loops, as (disk type, EC delta), in the order they are applied -/
def ecDeltas (c : Core) (s : Nat) (actual : List EcInfo) : List (Nat × Int) :=
  ((c.ecOf s).map fun x => (x.1, d1 actual x)) ++ (fresh c s actual).map fun e => (e.disk, (popcount e.bits : Int))

/-- the shards handed to RegisterEcShards, as (vid, bits) -/
def ecNews (c : Core) (s : Nat) (actual : List EcInfo) : List (Nat × Nat) :=
  (c.ecOf s).flatMap (ecNew actual) ++ (fresh c s actual).map fun e => (e.id, e.bits)

/-- the shards handed to UnRegisterEcShards -/
def ecDels (c : Core) (s : Nat) (actual : List EcInfo) : List (Nat × Nat) := (c.ecOf s).flatMap (ecDel actual)

/-- EC counter deltas applied one after the other on server `s` -/
def adjEc (c : Core) (s : Nat) (l : List (Nat × Int)) : Core := l.foldl (fun c p => c.upAdj s p.1 { ec := p.2 }) c

/-- the shard map after `doUpdateEcShards`: the server's rows cleared, then one entry per message entry -/
def ecStored (c : Core) (s : Nat) (actual : List EcInfo) : Nat → Nat → Nat → Nat :=
  (actual.foldl (Core.ecStore s) { c with ecs := fun x => if x = s then fun _ _ => 0 else c.ecs x }).ecs

/-- the shard map after `UpdateEcShards`: kept when the message brings nothing new and drops nothing, otherwise
    rebuilt from the message -/
def ecAfter (c : Core) (s : Nat) (actual : List EcInfo) : Nat → Nat → Nat → Nat :=
  if (ecNews c s actual).isEmpty && (ecDels c s actual).isEmpty then c.ecs else ecStored c s actual

theorem ecStep1_eq (s : Nat) (actual : List EcInfo) (acc : Core × List (Nat × Nat) × List (Nat × Nat)) (x : Nat × Nat × Nat) :
    Core.ecStep1 s actual acc x =
      (acc.1.upAdj s x.1 { ec := d1 actual x }, acc.2.1 ++ ecNew actual x, acc.2.2 ++ ecDel actual x) := by
  unfold Core.ecStep1 d1 ecNew ecDel
  cases actualBits actual x.2.1 with
  | none => simp
  | some ab =>
    by_cases p1 : popcount (bitsMinus ab x.2.2) > 0 <;> by_cases p2 : popcount (bitsMinus x.2.2 ab) > 0 <;> simp [p1, p2]

theorem loop1_eq (s : Nat) (actual : List EcInfo) (L : List (Nat × Nat × Nat))
    (acc : Core × List (Nat × Nat) × List (Nat × Nat)) :
    L.foldl (Core.ecStep1 s actual) acc =
      (adjEc acc.1 s (L.map fun x => (x.1, d1 actual x)), acc.2.1 ++ L.flatMap (ecNew actual),
        acc.2.2 ++ L.flatMap (ecDel actual)) := by
  induction L generalizing acc with
  | nil => simp [adjEc]
  | cons x L ih => rw [List.foldl_cons, ih, ecStep1_eq]; simp [adjEc]

theorem loop2_eq (c0 : Core) (s : Nat) (L : List EcInfo) (acc : Core × List (Nat × Nat)) :
    L.foldl (Core.ecStep2 c0 s) acc =
      (adjEc acc.1 s ((fresh c0 s L).map fun e => (e.disk, (popcount e.bits : Int))),
        acc.2 ++ (fresh c0 s L).map fun e => (e.id, e.bits)) := by
  induction L generalizing acc with
  | nil => simp [adjEc, fresh]
  | cons e L ih =>
    rw [List.foldl_cons, ih]
    unfold Core.ecStep2 fresh
    cases h : c0.hasEc s e.id <;> simp [h, adjEc]

theorem adjEc_spec (c : Core) (s : Nat) (l : List (Nat × Int)) :
    (adjEc c s l).conn = c.conn ∧ (adjEc c s l).nVid = c.nVid ∧ (adjEc c s l).vols = c.vols ∧ (adjEc c s l).ecs = c.ecs ∧
    ∀ s' t', ((adjEc c s l).cDisk s' t').ec =
      (c.cDisk s' t').ec + if s' = s then lsum (fun p => if p.1 = t' then p.2 else 0) l else 0 := by
  induction l generalizing c with
  | nil => exact ⟨rfl, rfl, rfl, rfl, fun _ _ => by rw [lsum, ite_self, Int.add_zero]; rfl⟩
  | cons p l ih =>
    obtain ⟨a1, a2, a3, a4, a5⟩ := ih (c.upAdj s p.1 { ec := p.2 })
    refine ⟨a1, a2, a3, a4, fun s' t' => ?_⟩
    show ((adjEc (c.upAdj s p.1 { ec := p.2 }) s l).cDisk s' t').ec = _
    rw [a5, proj_add_at (·.ec) (fun _ _ => rfl) (upAdj_cDisk c s p.1 _), Int.add_assoc]
    by_cases e : s' = s
    · simp only [e, true_and, if_true, lsum, eq_comm (a := t')]
    · simp only [e, false_and, if_false, Int.add_zero]

/-- `DataNode.UpdateEcShards` in closed form: one counter delta per registered EC volume and per fresh entry of the
    message, the shard map `ecAfter`, and the two lists for the topology's shard map -/
theorem updateEcShards_eq (c : Core) (s : Nat) (actual : List EcInfo) :
    c.updateEcShards s actual =
      ({ adjEc c s (ecDeltas c s actual) with ecs := ecAfter c s actual }, ecNews c s actual, ecDels c s actual) := by
  have e := (adjEc_spec c s (ecDeltas c s actual)).2.2.2.1
  unfold Core.updateEcShards
  simp only [loop1_eq, loop2_eq, List.nil_append]
  rw [show adjEc (adjEc c s ((c.ecOf s).map fun x => (x.1, d1 actual x))) s
      ((fresh c s actual).map fun e => (e.disk, (popcount e.bits : Int))) = adjEc c s (ecDeltas c s actual) from
    List.foldl_append.symm]
  generalize adjEc c s (ecDeltas c s actual) = c1 at e ⊢
  unfold ecAfter
  show (if (ecNews c s actual).isEmpty && (ecDels c s actual).isEmpty then c1 else _, _, _) = _
  split
  · rw [← e]; rfl
  · rw [store_eq s actual _ { c with ecs := fun x => if x = s then fun _ _ => 0 else c.ecs x } (by rw [← e])]
    rfl

/-- a message that brings nothing new and drops nothing moves no counter, and every volume it lists was registered -/
theorem quiet_zero {c : Core} {s : Nat} {actual : List EcInfo}
    (h : ((ecNews c s actual).isEmpty && (ecDels c s actual).isEmpty) = true) :
    (∀ x ∈ c.ecOf s, d1 actual x = 0) ∧ ∀ e ∈ actual, c.hasEc s e.id = true := by
  simp only [ecNews, ecDels, fresh, Bool.and_eq_true, List.isEmpty_iff, List.append_eq_nil_iff, List.flatMap_eq_nil_iff,
    List.map_eq_nil_iff, List.filter_eq_nil_iff, Bool.not_eq_true', Bool.not_eq_false] at h
  refine ⟨fun x hx => ?_, h.1.2⟩
  have hn := h.1.1 x hx
  have hd := h.2 x hx
  unfold ecNew at hn; unfold ecDel at hd; unfold d1
  cases o : actualBits actual x.2.1 with
  | none => simp [o] at hd
  | some ab =>
    simp only [o] at hn hd ⊢
    have p1 : ¬ popcount (bitsMinus ab x.2.2) > 0 := fun p => by simp [p] at hn
    have p2 : ¬ popcount (bitsMinus x.2.2 ab) > 0 := fun p => by simp [p] at hd
    omega

/-- the deltas disk type `t'` receives: those of loop 1 for the volumes registered on it, and those of loop 2 -/
theorem lsum_ecDeltas (c : Core) (s : Nat) (actual : List EcInfo) (t' : Nat) :
    lsum (fun p => if p.1 = t' then p.2 else 0) (ecDeltas c s actual) =
      lsum (fun x => if x.1 = t' then d1 actual x else 0) (c.ecOf s) + lsum (d2 c s t') actual := by
  unfold ecDeltas fresh
  rw [lsum_append, lsum_map, lsum_map, lsum_filter]
  congr 2
  funext e
  unfold d2
  cases c.hasEc s e.id <;> rfl

/-- `UpdateEcShards` of server `s` leaves the shards of the other servers alone -/
theorem ecAfter_row (c : Core) (s : Nat) (actual : List EcInfo) {s' : Nat} (hs : s' ≠ s) :
    ecAfter c s actual s' = c.ecs s' := by
  unfold ecAfter
  split
  · rfl
  · funext t vid
    refine (store_ecs_other s actual _ s' t vid (fun _ _ hh => hs hh.1)).trans ?_
    show (if s' = s then (fun _ _ => 0 : Nat → Nat → Nat) else c.ecs s') t vid = _
    rw [if_neg hs]

/-- the condition under which the model's two-disk enumeration sees every registered shard -/
def EcDisksOk (c : Core) : Prop := ∀ s t vid, 2 ≤ t → c.ecs s t vid = 0

theorem loop1_sum (c : Core) (s t' : Nat) (g : Nat × Nat × Nat → Int) (hd : EcDisksOk c) :
    lsum (fun x => if x.1 = t' then g x else 0) (c.ecOf s) =
      sumI (c.nVid + 1) (fun vid => if c.ecs s t' vid = 0 then 0 else g (t', vid, c.ecs s t' vid)) := by
  -- the enumeration is the row of disk type 0 followed by the row of disk type 1
  simp only [Core.ecOf, show List.range 2 = [0, 1] from rfl, List.flatMap_cons, List.flatMap_nil, List.append_nil]
  rw [lsum_append, lsum_filterMap_range, lsum_filterMap_range, ← sumI_add]
  refine sumI_congr fun vid _ => ?_
  -- a row contributes on its own disk type only; disk types from 2 on hold no shards
  have row : ∀ t, (if c.ecs s t vid = 0 then none else some (t, vid, c.ecs s t vid) : Option (Nat × Nat × Nat)).elim
        0 (fun y => if y.1 = t' then g y else 0) =
      if t = t' then (if c.ecs s t vid = 0 then 0 else g (t, vid, c.ecs s t vid)) else 0 := by
    intro t
    by_cases z : c.ecs s t vid = 0
    · simp only [z, if_true, ite_self, Option.elim_none]
    · simp only [z, if_false, Option.elim_some]
  rw [row 0, row 1]
  by_cases e0 : 0 = t'
  · subst e0; simp
  · by_cases e1 : 1 = t'
    · subst e1; simp
    · rw [if_neg e0, if_neg e1, hd s t' vid (by omega)]; rfl

/-- well-formed full EC heartbeat of server `s` in state `c`: ids in range and pairwise different (the
    volume server lists a volume once per disk location holding shards of it,
    `Store.CollectErasureCodingHeartbeat`: one location per EC volume is assumed), modelled disk types, and
    the disk type of an EC volume is a function of the volume id (the message names the disk type the
    volume's shards are registered on) -/
structure EcFullOk (c : Core) (s : Nat) (actual : List EcInfo) : Prop where
  nodup : (actual.map (·.id)).Nodup
  range : ∀ e ∈ actual, e.id < c.nVid + 1 ∧ e.disk < 2
  disk : ∀ e ∈ actual, ∀ t, t < 2 → c.ecs s t e.id ≠ 0 → t = e.disk

theorem EcFullOk.disk_eq {c : Core} {s : Nat} {actual : List EcInfo} (w : EcFullOk c s actual) (hd : EcDisksOk c)
    {e : EcInfo} (he : e ∈ actual) {t : Nat} (z : c.ecs s t e.id ≠ 0) : t = e.disk :=
  w.disk e he t (Nat.lt_of_not_le fun h => z (hd s t e.id h)) z

theorem hasEc_of_other {c : Core} {s vid t : Nat} (ht : t < 2) (other : ∀ t', t' ≠ t → c.ecs s t' vid = 0) :
    c.hasEc s vid = (c.ecs s t vid != 0) := by
  unfold Core.hasEc
  rcases (show t = 0 ∨ t = 1 by omega) with h | h
  · rw [h] at other ⊢; rw [other 1 Nat.one_ne_zero]; simp
  · rw [h] at other ⊢; rw [other 0 Nat.zero_ne_one]; simp

theorem EcFullOk.hasEc {c : Core} {s : Nat} {actual : List EcInfo} (w : EcFullOk c s actual) (hd : EcDisksOk c)
    {e : EcInfo} (he : e ∈ actual) : c.hasEc s e.id = (c.ecs s e.disk e.id != 0) :=
  hasEc_of_other (w.range e he).2 fun _ ht => Decidable.byContradiction fun z => ht (w.disk_eq hd he z)

/-- per volume id and disk type: the deltas of both loops add up to popcount(stored) − popcount(old) -/
theorem ec_vid_balance (c : Core) (s : Nat) (actual : List EcInfo) (w : EcFullOk c s actual) (hd : EcDisksOk c) (base : Core)
    (hb : ∀ t vid, base.ecs s t vid = 0) (t vid : Nat) :
    (popcount (c.ecs s t vid) : Int)
      + (if c.ecs s t vid = 0 then 0 else d1 actual (t, vid, c.ecs s t vid))
      + lsum (fun e => if e.id = vid then d2 c s t e else 0) actual
    = (popcount ((actual.foldl (Core.ecStore s) base).ecs s t vid) : Int) := by
  by_cases hex : ∃ e ∈ actual, e.id = vid
  · obtain ⟨e, he, rfl⟩ := hex
    rw [lsum_vid_of_mem (d2 c s t) actual e w.nodup he, store_ecs_of_mem s actual e w.nodup he base t, hb]
    by_cases ht : e.disk = t
    · subst ht
      by_cases z : c.ecs s e.disk e.id = 0
      · -- not registered before: loop 2 counts all its shards
        have hno : c.hasEc s e.id = false := by rw [w.hasEc hd he, z]; rfl
        simp [z, d2, hno, popcount_zero]
      · -- registered before: loop 1 counts the difference of the shard sets
        have hyes : c.hasEc s e.id = true := by rw [w.hasEc hd he]; exact bne_iff_ne.mpr z
        simp only [z, if_false, d1, actualBits_of_mem actual e w.nodup he, d2, hyes, if_true]
        have := popcount_diff e.bits (c.ecs s e.disk e.id)
        omega
    · have z : c.ecs s t e.id = 0 := Decidable.byContradiction fun z => ht (w.disk_eq hd he z).symm
      simp [z, d2, ht, popcount_zero]
  · have hno : ∀ e ∈ actual, e.id ≠ vid := fun e he h => hex ⟨e, he, h⟩
    rw [lsum_zero actual (fun e he => if_neg (hno e he)),
      store_ecs_other s actual base s t vid (fun e he hh => hno e he hh.2.2), hb]
    by_cases z : c.ecs s t vid = 0
    · simp [z, popcount_zero]
    · simp only [z, if_false, d1, actualBits_of_not_mem actual vid hno, popcount_zero]
      omega

/-- C12, full EC heartbeat: after `DataNode.UpdateEcShards` the EC shard counter of every disk of every
    connected server still equals the recount of the registered shard bits, for a message `EcFullOk` in a state `EcDisksOk` -/
theorem diskEc_updateEcShards (c : Core) (s : Nat) (actual : List EcInfo) (h : DiskEcOk c)
    (w : EcFullOk c s actual) (hd : EcDisksOk c) : DiskEcOk (c.updateEcShards s actual).1 := by
  obtain ⟨k1, k2, _, _, k3⟩ := adjEc_spec c s (ecDeltas c s actual)
  rw [updateEcShards_eq]
  generalize adjEc c s (ecDeltas c s actual) = c1 at k1 k2 k3 ⊢
  intro s' t' hc'
  have hc : c.conn s' = true := k1 ▸ hc'
  unfold recountEc
  dsimp only
  rw [k3, k2, h s' t' hc, lsum_ecDeltas]
  unfold recountEc
  by_cases es : s' = s
  · subst es
    rw [if_pos rfl]
    unfold ecAfter
    by_cases hq : ((ecNews c s' actual).isEmpty && (ecDels c s' actual).isEmpty) = true
    · -- nothing changed: all deltas are zero and the shard map is kept
      obtain ⟨z1, z2⟩ := quiet_zero hq
      rw [if_pos hq, lsum_zero _ (fun x hx => by rw [z1 x hx, ite_self]),
        lsum_zero _ (fun x hx => by simp only [d2, z2 x hx, if_true])]
      exact Int.add_zero _
    · -- the shard map of the server is rebuilt from the message
      rw [if_neg hq, ← Int.add_assoc, loop1_sum c s' t' (d1 actual) hd,
        lsum_by_vid (c.nVid + 1) (d2 c s' t') actual (fun e he => (w.range e he).1), ← sumI_add, ← sumI_add]
      exact sumI_congr fun vid _ => ec_vid_balance c s' actual w hd _ (fun t vid => by simp) t' vid
  · rw [if_neg es, Int.add_zero]
    exact sumI_congr fun vid _ => by rw [ecAfter_row c s actual es]

theorem ecDisks_updateEcShards {c : Core} (hd : EcDisksOk c) (s : Nat) (actual : List EcInfo)
    (hr : ∀ e ∈ actual, e.disk < 2) : EcDisksOk (c.updateEcShards s actual).1 := by
  rw [updateEcShards_eq]
  intro s' t vid ht
  dsimp only
  unfold ecAfter
  split
  · exact hd s' t vid ht
  · refine (store_ecs_other s actual _ s' t vid (fun e he hh => Nat.not_le_of_lt (hh.2.1 ▸ hr e he) ht)).trans ?_
    dsimp only
    split
    · rfl
    · exact hd s' t vid ht

end SwV.Lemmas.C12Ec
