/-
C06 — helper lemmas (core Lean only): list slicing, block arithmetic with a VARIABLE block length (omega cannot
divide by a variable; the products are isolated by hand), and the loops of the locator, the decoder and the encoder.

That the shards hold the layout of the data file is one hypothesis (`Laid`), and every read of a laid-out shard
goes through `readExact_layout` (one instance per area: `readExact_large`, `readExact_small`).  The locator's loop
is followed with its cursor as a predicate (`Located`: where in the data file the cursor stands), the decoder's
loops row by row, with `>` and `>=` read off the closed form `nLargeRows` (`nLargeRows_step`); the encoder's loops
are put in closed form (`encLargeLoop_closed`, `encSmallLoop_closed`).

What SwV/Props/C06.lean instantiates: `ecRead_laid` (a read over any `Laid` shards whose small rows plus one small
block stay below one large block), `decode_laid` (the round trip
over any `Laid` shards, when the decoder's guard counts the `nL` large rows they were laid in; for the two operators
over `layout`, `decode_layout_guards`), `dataShard_eq_layout` (the encoder model writes the layout) and, for the
rebuilder, the Reconstruct step over a range of columns (`reconChunk_of_columns`).
-/
import SwV.Model.C06
import SwV.Spec.C06
namespace SwV.Lemmas.C06
open SwV.Model.C06 SwV.Spec.C06

theorem slicePad_eq_map (D : List Nat) (a len : Nat) :
    slicePad D a len = (List.range len).map fun t => D.getD (a + t) 0 := by
  unfold slicePad
  apply List.ext_getElem
  · simp; omega
  · intro i h1 h2
    simp only [List.length_map, List.length_range] at h2
    simp only [List.getElem_map, List.getElem_range, List.getElem_append, List.length_take, List.length_drop]
    by_cases h : i < min len (D.length - a)
    · rw [dif_pos h, List.getElem_take, List.getElem_drop, List.getElem_eq_getD 0]
    · rw [dif_neg h, List.getElem_replicate, List.getD_eq_getElem?_getD, List.getElem?_eq_none (by omega)]
      rfl

theorem slice_eq_map (D : List Nat) (off len : Nat) (h : off + len ≤ D.length) :
    (D.drop off).take len = (List.range len).map fun t => D.getD (off + t) 0 := by
  rw [← slicePad_eq_map]
  simp only [slicePad, List.length_take, List.length_drop, Nat.min_eq_left (show len ≤ D.length - off by omega),
    Nat.sub_self, List.replicate_zero, List.append_nil]

theorem map_range_slice {f : Nat → Nat} {n a len : Nat} (h : a + len ≤ n) :
    (((List.range n).map f).drop a).take len = (List.range len).map fun t => f (a + t) := by
  apply List.ext_getElem
  · simp; omega
  · intro i h1 h2
    simp at h1 h2 ⊢

theorem take_drop_append (D : List Nat) (off a b : Nat) :
    (D.drop off).take a ++ (D.drop (off + a)).take b = (D.drop off).take (a + b) := by
  rw [List.take_add, List.drop_drop]

theorem div_mod_block (B q r : Nat) (hr : r < B) : (q * B + r) / B = q ∧ (q * B + r) % B = r := by
  have hB : 0 < B := Nat.zero_lt_of_lt hr
  constructor
  · rw [Nat.add_comm, Nat.add_mul_div_right _ _ hB, Nat.div_eq_of_lt hr, Nat.zero_add]
  · exact Nat.mul_add_mod_of_lt hr

theorem succ_mul_le (a b B : Nat) (h : a < b) : a * B + B ≤ b * B := by
  have : (a + 1) * B ≤ b * B := Nat.mul_le_mul_right B h
  rwa [Nat.succ_mul] at this

theorem block_identity (bi k B : Nat) : (bi / k) * (k * B) + (bi % k) * B = bi * B := by
  have h := Nat.div_add_mod bi k
  have : bi * B = (k * (bi / k) + bi % k) * B := by rw [h]
  rw [this]; grind

theorem layoutShard_length (k L S nL len : Nat) (D : List Nat) (i : Nat) :
    (layoutShard k L S nL len D i).length = len := by simp [layoutShard]

theorem srcPos_large (k L S nL i r x : Nat) (hr : r < nL) (hx : x < L) :
    srcPos k L S nL i (r * L + x) = r * (k * L) + i * L + x := by
  have h1 := succ_mul_le r nL L hr
  have hdm := div_mod_block L r x hx
  unfold srcPos
  rw [if_pos (by omega), hdm.1, hdm.2]

theorem srcPos_small (k L S nL i r x : Nat) (hx : x < S) :
    srcPos k L S nL i (nL * L + r * S + x) = nL * (k * L) + r * (k * S) + i * S + x := by
  have hdm := div_mod_block S r x hx
  unfold srcPos
  rw [if_neg (by omega), show nL * L + r * S + x - nL * L = r * S + x by omega, hdm.1, hdm.2]

/-- the locator's cursor `(bi, isL, inner)` stands at offset `off` of the data file -/
def Located (k L S nL bi : Nat) : Bool → Nat → Nat → Prop
  | true, inner, off => bi < nL * k ∧ inner < L ∧ off = bi * L + inner
  | false, inner, off => inner < S ∧ off = nL * (k * L) + bi * S + inner

/-- the cursor after the rest of the current block: the next block of the same area, or the first small block
    after the last large one -/
theorem located_step {k L S nL bi inner off : Nat} {isL : Bool} (hS : 0 < S) (h : Located k L S nL bi isL inner off) :
    Located k L S nL (if (isL && bi + 1 == nL * k) = true then 0 else bi + 1)
      (if (isL && bi + 1 == nL * k) = true then false else isL) 0
      (off + if isL = true then L - inner else S - inner) := by
  cases isL with
  | false =>
    obtain ⟨hin, rfl⟩ := h
    refine ⟨hS, ?_⟩
    simp only [Bool.false_and, Bool.false_eq_true, if_false, Nat.succ_mul]
    omega
  | true =>
    obtain ⟨hbi, hin, rfl⟩ := h
    have hmul : (bi + 1) * L = bi * L + L := Nat.succ_mul bi L
    simp only [Bool.true_and, beq_iff_eq, if_true]
    by_cases hsw : bi + 1 = nL * k
    · rw [if_pos hsw, if_pos hsw]
      refine ⟨hS, ?_⟩
      rw [hsw, Nat.mul_assoc] at hmul
      omega
    · rw [if_neg hsw, if_neg hsw]
      exact ⟨by omega, by omega, by omega⟩

theorem readSegs_append {shards : List (List Nat)} {a b : List (Nat × Nat × Nat)} {da db : List Nat}
    (ha : readSegs shards a = some da) (hb : readSegs shards b = some db) :
    readSegs shards (a ++ b) = some (da ++ db) := by
  induction a generalizing da with
  | nil => simp [readSegs] at ha; subst ha; simpa using hb
  | cons x rest ih =>
    obtain ⟨i, o, l⟩ := x
    simp only [List.cons_append, readSegs] at ha ⊢
    split at ha
    · cases ha
    · rename_i d hd
      split at ha
      · cases ha
      · rename_i ds hds
        rw [ih hds]
        simp only [Option.some.injEq] at ha ⊢
        rw [← ha, List.append_assoc]

theorem readIntervals_cons_slice {k L S : Nat} {shards : List (List Nat)} {D : List Nat} {bi inner l rows a m : Nat}
    {isL : Bool} {rest : List Interval}
    (h : readInterval k L S shards ⟨bi, inner, l, isL, rows⟩ = some ((D.drop a).take l))
    (hr : readIntervals k L S shards rest = some ((D.drop (a + l)).take m)) :
    readIntervals k L S shards (⟨bi, inner, l, isL, rows⟩ :: rest) = some ((D.drop a).take (l + m)) := by
  simp only [readIntervals, h, hr, take_drop_append]

section slices
variable {shards : List (List Nat)} {D : List Nat}

theorem readSegs_cons_slice {i o p x y : Nat} {rest : List (Nat × Nat × Nat)}
    (h : readExact (shards.getD i []) o x = some ((D.drop p).take x))
    (hr : readSegs shards rest = some ((D.drop (p + x)).take y)) :
    readSegs shards ((i, o, x) :: rest) = some ((D.drop p).take (x + y)) := by
  simp only [readSegs, h, hr, take_drop_append]

theorem readSegs_append_slice {a b : List (Nat × Nat × Nat)} {p x y : Nat}
    (ha : readSegs shards a = some ((D.drop p).take x)) (hb : readSegs shards b = some ((D.drop (p + x)).take y)) :
    readSegs shards (a ++ b) = some ((D.drop p).take (x + y)) := by
  rw [readSegs_append ha hb, take_drop_append]

end slices

/-- `>` and `>=` in closed form: one more row exactly when the guard holds -/
theorem nLargeRows_step (k L : Nat) (strict : Bool) (rem : Nat) (hkL : 0 < k * L) :
    (guardHolds strict rem (k * L) = true →
      nLargeRows k L strict rem = nLargeRows k L strict (rem - k * L) + 1 ∧ k * L ≤ rem) ∧
    (guardHolds strict rem (k * L) = false → nLargeRows k L strict rem = 0) := by
  unfold guardHolds nLargeRows
  cases strict with
  | true =>
    simp only [if_true, decide_eq_true_eq, decide_eq_false_iff_not]
    constructor
    · intro h
      have := Nat.div_eq_sub_div hkL (show k * L ≤ rem - 1 by omega)
      rw [this, Nat.sub_right_comm]; omega
    · intro h
      exact Nat.div_eq_of_lt (by omega)
  | false =>
    simp only [Bool.false_eq_true, if_false, decide_eq_true_eq, decide_eq_false_iff_not]
    constructor
    · intro h
      have := Nat.div_eq_sub_div hkL h
      omega
    · intro h
      exact Nat.div_eq_of_lt (by omega)

theorem nLargeRows_zero (k L : Nat) (strict : Bool) : nLargeRows k L strict 0 = 0 := by
  unfold nLargeRows; cases strict <;> simp

theorem decSmallRow_zero (S pos : Nat) : ∀ cnt i, decSmallRow S pos cnt i 0 = ([], 0)
  | 0, _ => rfl
  | cnt + 1, i => by
    rw [decSmallRow, Nat.zero_min, Nat.sub_zero, decSmallRow_zero S pos cnt (i + 1)]
    rfl

theorem decSmallRow_full {S rem pos cnt i : Nat} (hS : 0 < S) (h : S ≤ rem) :
    decSmallRow S pos (cnt + 1) i rem =
      ((i, pos, S) :: (decSmallRow S pos cnt (i + 1) (rem - S)).1, (decSmallRow S pos cnt (i + 1) (rem - S)).2) := by
  rw [decSmallRow, Nat.min_eq_right h, if_neg (by omega)]

theorem decSmallRow_last {S rem pos cnt i : Nat} (h0 : 0 < rem) (h : rem ≤ S) :
    decSmallRow S pos (cnt + 1) i rem = ([(i, pos, rem)], 0) := by
  rw [decSmallRow, Nat.min_eq_left h, if_neg (by omega), Nat.sub_self, decSmallRow_zero]

theorem decSmallLoop_zero (k S pos : Nat) : ∀ fuel, decSmallLoop k S fuel pos 0 = []
  | 0 => rfl
  | _ + 1 => rfl

/-- data shard `i < k` is the closed-form layout of `D` in `nL` large and `nS` small rows, which cover `D`; the
    parity shards are left unconstrained -/
structure Laid (k L S nL nS : Nat) (D : List Nat) (shards : List (List Nat)) : Prop where
  shard : ∀ i, i < k → shards.getD i [] = layoutShard k L S nL (nL * L + nS * S) D i
  cover : D.length ≤ nL * (k * L) + nS * (k * S)
  kpos : 0 < k
  spos : 0 < S

section layout
variable {k L S nL nS : Nat} {D : List Nat} {shards : List (List Nat)} (h : Laid k L S nL nS D shards)
include h

theorem readExact_layout {i p l src : Nat} (hi : i < k) (hp : p + l ≤ nL * L + nS * S)
    (hsrc : ∀ t, t < l → srcPos k L S nL i (p + t) = src + t) (hD : src + l ≤ D.length) :
    readExact (shards.getD i []) p l = some ((D.drop src).take l) := by
  rw [h.shard i hi]
  unfold readExact
  rw [layoutShard_length, if_pos hp]
  unfold layoutShard
  rw [map_range_slice hp, slice_eq_map D src l hD]
  congr 1
  apply List.map_congr_left
  intro t ht
  rw [hsrc t (List.mem_range.mp ht)]

theorem Laid.head_length : (shards.headD []).length = nL * L + nS * S := by
  rw [List.headD_eq_getD, h.shard 0 h.kpos, layoutShard_length]

theorem readExact_large {r i x l : Nat} (hr : r < nL) (hi : i < k) (hx : l + x ≤ L)
    (hD : r * (k * L) + i * L + x + l ≤ D.length) :
    readExact (shards.getD i []) (r * L + x) l = some ((D.drop (r * (k * L) + i * L + x)).take l) := by
  have h1 := succ_mul_le r nL L hr
  refine readExact_layout h hi (by omega) (fun t ht => ?_) hD
  rw [Nat.add_assoc, srcPos_large k L S nL i r (x + t) hr (by omega), ← Nat.add_assoc]

theorem readExact_small {r i x l : Nat} (hi : i < k) (hx : l + x ≤ S) (hl : 0 < l)
    (hD : nL * (k * L) + r * (k * S) + i * S + x + l ≤ D.length) :
    readExact (shards.getD i []) (nL * L + r * S + x) l
      = some ((D.drop (nL * (k * L) + r * (k * S) + i * S + x)).take l) := by
  have hr : r < nS := Nat.lt_of_mul_lt_mul_right (a := k * S) (by have := h.cover; omega)
  have h1 := succ_mul_le r nS S hr
  refine readExact_layout h hi (by omega) (fun t ht => ?_) hD
  rw [Nat.add_assoc, srcPos_small k L S nL i r (x + t) (by omega), ← Nat.add_assoc]

theorem readInterval_large {bi inner size : Nat} (rows : Nat)
    (hbi : bi < nL * k) (hsz : size + inner ≤ L) (hD : bi * L + inner + size ≤ D.length) :
    readInterval k L S shards ⟨bi, inner, size, true, rows⟩ = some ((D.drop (bi * L + inner)).take size) := by
  have hq : bi / k < nL := (Nat.div_lt_iff_lt_mul h.kpos).mpr hbi
  simp only [readInterval, toShardIdAndOffset, if_true]
  rw [← block_identity bi k L] at hD ⊢
  rw [Nat.add_comm inner]
  exact readExact_large h hq (Nat.mod_lt _ h.kpos) hsz hD

theorem readInterval_small {bi inner size : Nat} (hsz : size + inner ≤ S) (hpos : 0 < size)
    (hD : nL * (k * L) + bi * S + inner + size ≤ D.length) :
    readInterval k L S shards ⟨bi, inner, size, false, nL⟩
      = some ((D.drop (nL * (k * L) + bi * S + inner)).take size) := by
  simp only [readInterval, toShardIdAndOffset, Bool.false_eq_true, if_false]
  rw [← block_identity bi k S, ← Nat.add_assoc (nL * (k * L))] at hD ⊢
  rw [Nat.add_comm inner]
  exact readExact_small h (Nat.mod_lt _ h.kpos) hsz hpos hD

theorem located_read {bi inner off size : Nat} {isL : Bool} (hloc : Located k L S nL bi isL inner off)
    (hpos : 0 < size) (hfit : size ≤ if isL = true then L - inner else S - inner) (hD : off + size ≤ D.length) :
    readInterval k L S shards ⟨bi, inner, size, isL, nL⟩ = some ((D.drop off).take size) := by
  cases isL with
  | false =>
    obtain ⟨hin, rfl⟩ := hloc
    exact readInterval_small h (by simp at hfit; omega) hpos hD
  | true =>
    obtain ⟨hbi, hin, rfl⟩ := hloc
    exact readInterval_large h nL hbi (by simp at hfit; omega) hD

theorem locateLoop_read : ∀ fuel size bi isL inner off, size ≤ fuel → off + size ≤ D.length →
    Located k L S nL bi isL inner off →
    readIntervals k L S shards (locateLoop k L S nL fuel size bi isL inner) = some ((D.drop off).take size) := by
  intro fuel
  induction fuel with
  | zero =>
    intro size bi isL inner off hf _ _
    obtain rfl : size = 0 := Nat.eq_zero_of_le_zero hf
    simp [locateLoop, readIntervals]
  | succ f ih =>
    intro size bi isL inner off hf hD hloc
    unfold locateLoop
    by_cases h0 : size = 0
    · subst h0; simp [readIntervals]
    · have hB : 0 < if isL = true then L - inner else S - inner := by
        cases isL
        · have := hloc.1; simp only [Bool.false_eq_true, if_false]; omega
        · have := hloc.2.1; simp only [if_true]; omega
      have hread := fun size => located_read h hloc (size := size)
      have hstep := located_step h.spos hloc
      simp only [if_neg h0]
      -- with the rest `B` of the current block a variable, the split on `size ≤ B` serves both areas
      generalize (if isL = true then L - inner else S - inner) = B at hB hread hstep ⊢
      by_cases hfit : size ≤ B
      · rw [if_pos hfit]
        exact readIntervals_cons_slice (m := 0) (rest := []) (hread size (by omega) hfit hD) rfl
      · have hle : B ≤ size := Nat.le_of_not_le hfit
        have := readIntervals_cons_slice (hread B hB (Nat.le_refl B) (by omega))
          (ih (size - B) _ _ 0 (off + B) (by omega) (by omega) hstep)
        rw [Nat.add_sub_cancel' hle] at this
        rwa [if_neg hfit]

theorem readSegs_large_row {r : Nat} (hr : r < nL) (hD : r * (k * L) + k * L ≤ D.length) :
    ∀ j, j ≤ k → readSegs shards ((List.range j).map fun i => (i, r * L, L))
      = some ((D.drop (r * (k * L))).take (j * L)) := by
  intro j
  induction j with
  | zero => intro _; simp [readSegs]
  | succ j ih =>
    intro hj
    have hjL : j * L + L ≤ k * L := succ_mul_le j k L hj
    rw [List.range_succ, List.map_append, Nat.succ_mul]
    exact readSegs_append_slice (ih (Nat.le_of_succ_le hj))
      (readSegs_cons_slice (y := 0) (readExact_large (x := 0) h hr hj (Nat.le_refl L) (by omega)) rfl)

theorem decLargeLoop_read (hkL : 0 < k * L) (strict : Bool) :
    ∀ fuel r rem, rem ≤ fuel → r + nLargeRows k L strict rem = nL → r * (k * L) + rem = D.length →
      readSegs shards (decLargeLoop k L strict fuel (r * L) rem).1
          = some ((D.drop (r * (k * L))).take (nLargeRows k L strict rem * (k * L))) ∧
      (decLargeLoop k L strict fuel (r * L) rem).2.1 = nL * L ∧
      nL * (k * L) + (decLargeLoop k L strict fuel (r * L) rem).2.2 = D.length := by
  intro fuel
  induction fuel with
  | zero =>
    intro r rem hf hq hrem
    obtain rfl : rem = 0 := Nat.eq_zero_of_le_zero hf
    rw [nLargeRows_zero] at hq ⊢
    subst hq
    simpa [decLargeLoop, readSegs] using hrem
  | succ f ih =>
    intro r rem hf hq hrem
    have hstep := nLargeRows_step k L strict rem hkL
    unfold decLargeLoop
    cases hg : guardHolds strict rem (k * L) with
    | false =>
      rw [hstep.2 hg] at hq ⊢
      subst hq
      simpa [readSegs] using hrem
    | true =>
      obtain ⟨hq1, hge⟩ := hstep.1 hg
      have hih := ih (r + 1) (rem - k * L) (by omega) (by omega) (by rw [Nat.succ_mul]; omega)
      rw [Nat.succ_mul, Nat.succ_mul] at hih
      rw [if_pos rfl, hq1, Nat.succ_mul, Nat.add_comm _ (k * L)]
      exact ⟨readSegs_append_slice (readSegs_large_row h (by omega) (by omega) k (Nat.le_refl k)) hih.1,
        hih.2⟩

theorem decSmallRow_read (r : Nat) :
    ∀ cnt i rem a, i + cnt = k → a = nL * (k * L) + r * (k * S) + i * S → a + rem ≤ D.length →
      readSegs shards (decSmallRow S (nL * L + r * S) cnt i rem).1 = some ((D.drop a).take (min rem (cnt * S))) ∧
      (decSmallRow S (nL * L + r * S) cnt i rem).2 = rem - cnt * S := by
  intro cnt
  induction cnt with
  | zero => intro i rem a _ _ _; simp [decSmallRow, readSegs]
  | succ c ih =>
    intro i rem a hik ha hD
    have hi : i < k := by omega
    by_cases h0 : rem = 0
    · subst h0
      rw [decSmallRow_zero]; simp [readSegs]
    · subst ha
      by_cases hlast : rem ≤ S
      · rw [decSmallRow_last (by omega) hlast, Nat.min_eq_left (Nat.le_trans hlast (Nat.le_mul_of_pos_left S (Nat.zero_lt_succ c)))]
        exact ⟨readSegs_cons_slice (y := 0) (readExact_small (x := 0) h hi hlast (Nat.pos_of_ne_zero h0) hD) rfl,
          (Nat.sub_eq_zero_of_le (Nat.le_trans hlast (Nat.le_mul_of_pos_left S (Nat.zero_lt_succ c)))).symm⟩
      · have hlt : S < rem := Nat.lt_of_not_le hlast
        have hih := ih (i + 1) (rem - S) _ (by omega) (by rw [Nat.succ_mul, ← Nat.add_assoc]) (by omega)
        rw [decSmallRow_full h.spos (Nat.le_of_lt hlt), Nat.succ_mul, Nat.add_comm _ S, ← Nat.sub_sub, ← hih.2]
        refine ⟨?_, rfl⟩
        rw [← Nat.add_sub_cancel' (Nat.le_of_lt hlt), Nat.add_min_add_left, Nat.add_sub_cancel_left]
        exact readSegs_cons_slice (readExact_small (x := 0) h hi (Nat.le_refl S) h.spos (by omega)) hih.1

theorem decSmallLoop_read :
    ∀ fuel r rem, rem ≤ fuel → nL * (k * L) + r * (k * S) + rem = D.length →
      readSegs shards (decSmallLoop k S fuel (nL * L + r * S) rem)
        = some ((D.drop (nL * (k * L) + r * (k * S))).take rem) := by
  intro fuel
  induction fuel with
  | zero =>
    intro r rem hf _
    obtain rfl : rem = 0 := Nat.eq_zero_of_le_zero hf
    simp [decSmallLoop, readSegs]
  | succ f ih =>
    intro r rem hf hD
    by_cases h0 : rem = 0
    · subst h0
      rw [decSmallLoop_zero]; simp [readSegs]
    · obtain ⟨hrow, hrest⟩ := decSmallRow_read h r k 0 rem _ (Nat.zero_add k)
        (by rw [Nat.zero_mul, Nat.add_zero]) (Nat.le_of_eq hD)
      unfold decSmallLoop
      simp only [if_pos (Nat.pos_of_ne_zero h0), hrest]
      by_cases hlast : rem ≤ k * S
      · rw [Nat.sub_eq_zero_of_le hlast, decSmallLoop_zero, List.append_nil, hrow, Nat.min_eq_left hlast]
      · have hle : k * S ≤ rem := Nat.le_of_not_le hlast
        have hkS : 0 < k * S := Nat.mul_pos h.kpos h.spos
        have hih := ih (r + 1) (rem - k * S) (by omega) (by rw [Nat.succ_mul]; omega)
        rw [Nat.succ_mul, Nat.succ_mul, ← Nat.add_assoc, ← Nat.add_assoc] at hih
        rw [Nat.min_eq_right hle] at hrow
        rw [readSegs_append_slice hrow hih, Nat.add_sub_cancel' hle]

end layout

theorem locateOffset_located {k L S nL datSize : Nat} (hL : 0 < L) (hS : 0 < S) (hrows : datSize / (L * k) = nL)
    (off : Nat) :
    Located k L S nL (locateOffset k L S datSize off).1 (locateOffset k L S datSize off).2.1
      (locateOffset k L S datSize off).2.2 off := by
  unfold locateOffset
  simp only [hrows]
  by_cases hlarge : off < nL * (L * k)
  · rw [if_pos hlarge]
    refine ⟨Nat.div_lt_of_lt_mul ?_, Nat.mod_lt _ hL, ?_⟩
    · rwa [Nat.mul_left_comm]
    · exact (Nat.div_add_mod' off L).symm
  · rw [if_neg hlarge]
    refine ⟨Nat.mod_lt _ hS, ?_⟩
    rw [Nat.mul_comm k L, Nat.add_assoc, Nat.div_add_mod']
    omega

theorem ecRead_laid {k L S nL nS : Nat} {D : List Nat} {shards : List (List Nat)} (h : Laid k L S nL nS D shards)
    (hg : (nS + 1) * S < L)
    (off size : Nat) (hD : off + size ≤ D.length) :
    ecRead k L S shards off size = some ((D.drop off).take size) := by
  have hL : 0 < L := Nat.zero_lt_of_lt hg
  -- both row counts LocateData derives from `k * shardSize` (with and without the extra `k * S`) are the encoder's
  -- `nL`, because by `hg` the small rows plus one small block stay below one large block
  have hrows : ∀ e, e ≤ k * S → (k * (nL * L + nS * S) + e) / (L * k) = nL := by
    intro e he
    have hlt : k * ((nS + 1) * S) < k * L := Nat.mul_lt_mul_of_pos_left hg h.kpos
    rw [Nat.succ_mul, Nat.mul_add, Nat.mul_comm k L] at hlt
    rw [Nat.mul_add, Nat.mul_left_comm, Nat.mul_comm k L, Nat.add_assoc]
    exact (div_mod_block (L * k) nL _ (by omega)).1
  unfold ecRead locateData
  simp only [h.head_length, hrows (k * S) (Nat.le_refl _)]
  exact locateLoop_read h size size _ _ _ off (Nat.le_refl _) hD
    (locateOffset_located hL h.spos (hrows 0 (Nat.zero_le _)) off)

theorem le_ceil_mul (a B : Nat) (hB : 0 < B) : a ≤ ((a + B - 1) / B) * B := by
  have h := Nat.div_add_mod' (a + B - 1) B
  have hr := Nat.mod_lt (a + B - 1) hB
  omega

theorem length_le_rows (k L S : Nat) (strict : Bool) (n : Nat) (hk : 0 < k) (hS : 0 < S) :
    n ≤ nLargeRows k L strict n * (k * L) + nSmallRows k L S strict n * (k * S) := by
  have h := le_ceil_mul (smallArea k L strict n) (k * S) (Nat.mul_pos hk hS)
  unfold nSmallRows
  unfold smallArea at h ⊢
  omega

theorem layout_laid (k L S : Nat) (strict : Bool) (D : List Nat) (hk : 0 < k) (hS : 0 < S) :
    Laid k L S (nLargeRows k L strict D.length) (nSmallRows k L S strict D.length) D (layout k L S strict D) := by
  refine ⟨fun i hi => ?_, length_le_rows k L S strict D.length hk hS, hk, hS⟩
  unfold layout
  rw [List.getD_eq_getElem?_getD, List.getElem?_map, List.getElem?_range hi]
  rfl

theorem decode_laid {k L S nL nS : Nat} {D : List Nat} {shards : List (List Nat)} (h : Laid k L S nL nS D shards)
    (hL : 0 < L) (ds : Bool) (hagree : nLargeRows k L ds D.length = nL) :
    decode k L S ds shards D.length = some D := by
  obtain ⟨h1, h2, h3⟩ := decLargeLoop_read h (Nat.mul_pos h.kpos hL) ds D.length 0 D.length
    (Nat.le_refl _) (by rw [Nat.zero_add, hagree]) (by rw [Nat.zero_mul, Nat.zero_add])
  simp only [Nat.zero_mul, hagree] at h1 h2 h3
  unfold decode decodeSegs
  generalize decLargeLoop k L ds D.length 0 D.length = res at h1 h2 h3
  obtain ⟨segs, pos, rem⟩ := res
  dsimp only at h1 h2 h3
  subst h2
  have hsmall := decSmallLoop_read h rem 0 rem (Nat.le_refl _)
    (by rw [Nat.zero_mul, Nat.add_zero]; exact h3)
  rw [Nat.zero_mul, Nat.add_zero, Nat.zero_mul, Nat.add_zero, ← Nat.zero_add (_ * (k * L))] at hsmall
  simp only [readSegs_append_slice h1 hsmall, h3, List.drop_zero, List.take_length]

/-- `>` and `>=` count the same number of large rows except at positive multiples of `k·L` -/
theorem nLargeRows_agree (k L n : Nat) (hkL : 0 < k * L) (hx : ¬ (0 < n ∧ n % (k * L) = 0)) :
    nLargeRows k L false n = nLargeRows k L true n := by
  unfold nLargeRows
  simp only [Bool.false_eq_true, if_false, if_true]
  by_cases h0 : n = 0
  · subst h0; simp
  · have hm : 0 < n % (k * L) := by omega
    have hlt := Nat.mod_lt n hkL
    have hdm := Nat.div_add_mod' n (k * L)
    have : n - 1 = n / (k * L) * (k * L) + (n % (k * L) - 1) := by omega
    rw [this, (div_mod_block (k * L) (n / (k * L)) (n % (k * L) - 1) (by omega)).1]

/-- the round trip is exact when both loops read the same operator, and otherwise for every size that is not a
    positive multiple of `k·L` -/
theorem decode_layout_guards (k L S : Nat) (es ds : Bool) (D : List Nat) (hk : 0 < k) (hL : 0 < L) (hS : 0 < S)
    (hx : es = ds ∨ ¬ (0 < D.length ∧ D.length % (k * L) = 0)) :
    decode k L S ds (layout k L S es D) D.length = some D := by
  apply decode_laid (layout_laid k L S es D hk hS) hL ds
  rcases hx with rfl | h
  · rfl
  · have := nLargeRows_agree k L D.length (Nat.mul_pos hk hL) h
    cases es <;> cases ds <;> first | rfl | exact this | exact this.symm

theorem flatMap_range_blocks {α : Type} (q B : Nat) (g : Nat → Nat → α) :
    (List.range q).flatMap (fun r => (List.range B).map (g r))
      = (List.range (q * B)).map (fun p => g (p / B) (p % B)) := by
  induction q with
  | zero => simp
  | succ q ih =>
    rw [List.range_succ, List.flatMap_append, ih, Nat.add_mul, Nat.one_mul, List.range_add, List.map_append]
    congr 1
    simp only [List.flatMap_cons, List.flatMap_nil, List.append_nil, List.map_map]
    apply List.map_congr_left
    intro t ht
    have ht' : t < B := List.mem_range.mp ht
    have hdm := div_mod_block B q t ht'
    simp only [Function.comp]
    rw [hdm.1, hdm.2]

theorem rowBlock_eq {D : List Nat} {start B buf i : Nat} (hb : 0 < buf) (hd : buf ∣ B) :
    rowBlock D start B buf i = (List.range B).map fun t => D.getD (start + B * i + t) 0 := by
  obtain ⟨q, rfl⟩ := hd
  unfold rowBlock
  rw [Nat.mul_div_cancel_left q hb]
  simp only [slicePad_eq_map]
  rw [flatMap_range_blocks q buf (fun b t => D.getD (start + b * buf + buf * q * i + t) 0), Nat.mul_comm q buf]
  apply List.map_congr_left
  intro p _
  have := Nat.div_add_mod' p buf
  congr 1; omega

theorem offsets_succ (p step q : Nat) :
    p :: (List.range q).map (fun r => p + step + r * step) = (List.range (q + 1)).map fun r => p + r * step := by
  rw [List.range_succ_eq_map, List.map_cons, List.map_map, Nat.zero_mul, Nat.add_zero]
  congr 1
  apply List.map_congr_left
  intro r _
  rw [Function.comp_apply, Nat.succ_mul, Nat.add_assoc, Nat.add_comm step]

theorem encLargeLoop_closed (c : EncCfg) (hkL : 0 < c.k * c.L) :
    ∀ fuel rem p, rem ≤ fuel →
      encLargeLoop c fuel rem p =
        ((List.range (nLargeRows c.k c.L c.strict rem)).map (fun r => p + r * (c.L * c.k)),
          rem - nLargeRows c.k c.L c.strict rem * (c.L * c.k), p + nLargeRows c.k c.L c.strict rem * (c.L * c.k)) := by
  intro fuel
  induction fuel with
  | zero =>
    intro rem p hf
    obtain rfl : rem = 0 := Nat.eq_zero_of_le_zero hf
    simp [encLargeLoop, nLargeRows_zero]
  | succ f ih =>
    intro rem p hf
    have hstep := nLargeRows_step c.k c.L c.strict rem hkL
    unfold encLargeLoop
    rw [Nat.mul_comm c.L c.k]
    cases hg : guardHolds c.strict rem (c.k * c.L) with
    | false => rw [hstep.2 hg]; simp
    | true =>
      obtain ⟨hq, hge⟩ := hstep.1 hg
      have hih := ih (rem - c.k * c.L) (p + c.k * c.L) (by omega)
      rw [Nat.mul_comm c.L c.k] at hih
      simp only [if_true, hih, hq]
      rw [offsets_succ, Nat.succ_mul, Nat.sub_sub, Nat.add_assoc, Nat.add_comm (c.k * c.L)]

/-- rows of the small area: `⌈rem / B⌉` drops by one with each row -/
theorem ceil_step (rem B : Nat) (hB : 0 < B) (hr : 0 < rem) :
    (rem + B - 1) / B = (rem - B + B - 1) / B + 1 := by
  by_cases h : B ≤ rem
  · rw [show rem + B - 1 = rem - B + B - 1 + B by omega, Nat.add_div_right _ hB]
  · rw [show rem - B = 0 by omega, show rem + B - 1 = rem - 1 + B by omega, Nat.add_div_right _ hB,
      Nat.div_eq_of_lt (show rem - 1 < B by omega), Nat.div_eq_of_lt (show 0 + B - 1 < B by omega)]

theorem encSmallLoop_closed (c : EncCfg) (hkS : 0 < c.k * c.S) :
    ∀ fuel rem p, rem ≤ fuel →
      encSmallLoop c fuel rem p = (List.range ((rem + c.k * c.S - 1) / (c.k * c.S))).map (fun r => p + r * (c.S * c.k)) := by
  have hz : (0 + c.k * c.S - 1) / (c.k * c.S) = 0 := Nat.div_eq_of_lt (by omega)
  intro fuel
  induction fuel with
  | zero =>
    intro rem p hf
    obtain rfl : rem = 0 := Nat.eq_zero_of_le_zero hf
    rw [hz]; rfl
  | succ f ih =>
    intro rem p hf
    unfold encSmallLoop
    by_cases h0 : 0 < rem
    · rw [if_pos h0, Nat.mul_comm c.S c.k, ih (rem - c.k * c.S) (p + c.k * c.S) (by omega), ceil_step rem _ hkS h0,
        Nat.mul_comm c.S c.k, offsets_succ]
    · obtain rfl : rem = 0 := Nat.eq_zero_of_not_pos h0
      rw [if_neg h0, hz]; rfl

/-- the encoder model (the loops of encodeDatFile, batches, zero fill) produces exactly the closed-form layout, when
    the batch length `buf` divides both block lengths -/
theorem dataShard_eq_layout (c : EncCfg) (D : List Nat) (i : Nat)
    (hk : 0 < c.k) (hL : 0 < c.L) (hS : 0 < c.S) (hb : 0 < c.buf) (hbL : c.buf ∣ c.L) (hbS : c.buf ∣ c.S) :
    dataShard c D i = layoutShard c.k c.L c.S (nLargeRows c.k c.L c.strict D.length)
      (shardLen c.k c.L c.S c.strict D.length) D i := by
  have hkL : 0 < c.k * c.L := Nat.mul_pos hk hL
  have hkS : 0 < c.k * c.S := Nat.mul_pos hk hS
  have hcL : c.L * c.k = c.k * c.L := Nat.mul_comm _ _
  have hcS : c.S * c.k = c.k * c.S := Nat.mul_comm _ _
  -- the row starts of both loops in closed form, every block a `range` map (`rowBlock_eq`), hence each area one
  -- `range (rows * B)` map (`flatMap_range_blocks`); what is left is `srcPos` position by position
  unfold dataShard encRows
  simp only [encLargeLoop_closed c hkL D.length D.length 0 (Nat.le_refl _)]
  rw [encSmallLoop_closed c hkS _ _ _ (Nat.le_refl _)]
  simp only [List.flatMap_append, List.flatMap_map, List.map_map, Function.comp,
    rowBlock_eq hb hbL, rowBlock_eq hb hbS]
  rw [flatMap_range_blocks _ c.L (fun r t => D.getD (0 + r * (c.L * c.k) + c.L * i + t) 0),
    flatMap_range_blocks _ c.S (fun r t => D.getD (0 + nLargeRows c.k c.L c.strict D.length * (c.L * c.k) + r * (c.S * c.k) + c.S * i + t) 0)]
  unfold layoutShard shardLen nSmallRows smallArea
  rw [List.range_add, List.map_append, List.map_map, hcL]
  congr 1
  · apply List.map_congr_left
    intro p hp
    have hp' : p < nLargeRows c.k c.L c.strict D.length * c.L := List.mem_range.mp hp
    unfold srcPos
    rw [if_pos hp']
    congr 1
    have : c.L * i = i * c.L := Nat.mul_comm _ _
    omega
  · apply List.map_congr_left
    intro p _
    simp only [Function.comp]
    unfold srcPos
    rw [if_neg (by omega), hcS]
    congr 1
    have : c.S * i = i * c.S := Nat.mul_comm _ _
    rw [Nat.add_sub_cancel_left]
    omega

theorem optColumn_erase (shards : List (List Nat)) (mask : List Bool) (p : Nat) :
    optColumn (eraseShards shards mask) p
      = ((columnAt shards p).zip mask).map fun xb => if xb.2 then some xb.1 else none := by
  unfold optColumn eraseShards columnAt
  rw [List.zip_map_left, List.map_map, List.map_map]
  apply List.map_congr_left
  intro sb _
  obtain ⟨s1, b⟩ := sb
  cases b <;> simp

theorem reconChunk_of_columns (cd : Codec) (present : List (Option (List Nat))) (col : Nat → List Nat) :
    ∀ cnt start, (∀ p, start ≤ p → p < start + cnt → cd.recon (optColumn present p) = some (col p)) →
      reconChunk cd present start cnt = some ((List.range cnt).map fun t => col (start + t)) := by
  intro cnt
  induction cnt with
  | zero => intro start _; rfl
  | succ c ih =>
    intro start h
    rw [reconChunk, h start (Nat.le_refl _) (by omega), ih (start + 1) (fun p h1 h2 => h p (by omega) (by omega)),
      List.range_succ_eq_map, List.map_cons, List.map_map]
    simp only [Nat.add_zero, Function.comp_def, Nat.add_assoc, Nat.add_comm 1]

end SwV.Lemmas.C06
