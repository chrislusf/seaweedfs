/-
C31 — the provenance invariant of the chunk cache model.

`Ok h c`: every byte string the cache `c` holds was stored (is in the history `h`) —
in memory under the same file id, on disk under SOME file id with the entry's needle key.
Every operation keeps it (`Ok.run`); every non-empty answer of a lookup is (a window of) a byte string the
cache holds (`get_cases`, `getSlice_cases`); so an answer was stored for the id asked for as soon as
no other id shares its needle key (`Ok.fromCache`).  Both lookups are one cascade over the four tiers
(`firstLong`): a case lemma or a length bound is proved per tier and carried through by `firstLong_ind`.
The last two lemmas are about the byte-level volume of `Model/C31Dat` (an append leaves what earlier
index entries read).
-/
import SwV.Model.C31
import SwV.Model.C31Dat
import SwV.Spec.C31

namespace SwV.Lemmas.C31
open SwV.Model.C31 SwV.Spec.C31

def EntryOk (h : History) (e : Entry) : Prop := ∃ g : Fid, g.key = e.key ∧ (g, e.data) ∈ h
def VolOk (h : History) (v : Vol) : Prop := ∀ e ∈ v.entries, EntryOk h e
def LayerOk (h : History) (l : Layer) : Prop := ∀ v ∈ l.vols, VolOk h v
def MemOk (h : History) (m : List (Fid × Bytes)) : Prop := ∀ p ∈ m, p ∈ h
def Ok (h : History) (c : Cache) : Prop :=
  MemOk h c.mem ∧ LayerOk h c.l0 ∧ LayerOk h c.l1 ∧ LayerOk h c.l2

/-- `d` is held by the cache where a lookup of `f` can find it -/
def FromCache (c : Cache) (f : Fid) (d : Bytes) : Prop :=
  (f, d) ∈ c.mem ∨ ∃ l, (l = c.l0 ∨ l = c.l1 ∨ l = c.l2) ∧ ∃ v ∈ l.vols, ∃ e ∈ v.entries, e.key = f.key ∧ e.data = d

theorem EntryOk.mono {h h' : History} (hs : h ⊆ h') {e : Entry} : EntryOk h e → EntryOk h' e
  | ⟨g, hk, hm⟩ => ⟨g, hk, hs hm⟩

theorem LayerOk.mono {h h' : History} (hs : h ⊆ h') {l : Layer} (hl : LayerOk h l) : LayerOk h' l :=
  fun v hv e he => (hl v hv e he).mono hs

theorem Ok.mono {h h' : History} (hs : h ⊆ h') {c : Cache} : Ok h c → Ok h' c
  | ⟨hm, h0, h1, h2⟩ => ⟨fun p hp => hs (hm p hp), h0.mono hs, h1.mono hs, h2.mono hs⟩

theorem Vol.get_some {v : Vol} {key : Nat} {e : Entry} (hg : v.get key = some e) : e ∈ v.entries ∧ e.key = key := by
  unfold Vol.get at hg
  refine ⟨List.mem_of_find?_eq_some hg, ?_⟩
  have := List.find?_some hg
  exact eq_of_beq this

theorem VolOk.write {h : History} {v : Vol} (hv : VolOk h v) {f : Fid} {d : Bytes} (hm : (f, d) ∈ h) :
    VolOk h (v.write f.key d) := by
  intro e he
  simp only [Vol.write, List.mem_cons, List.mem_filter] at he
  rcases he with rfl | ⟨he, _⟩
  · exact ⟨f, rfl, hm⟩
  · exact hv e he

theorem VolOk.reopen {h : History} {v : Vol} (hv : VolOk h v) (fresh : Bool) : VolOk h (v.reopen fresh) := by
  intro e he
  unfold Vol.reopen at he
  split at he
  · exact hv e he
  · exact hv e (List.mem_filter.mp he).1

/-- `setChunk` on a layer with volumes: the key is written to the front volume of a list whose members are
    volumes of the layer or empty (the reset one) -/
theorem set_vols {l : Layer} (hne : l.vols ≠ []) (key : Nat) (d : Bytes) :
    ∃ w ws, (l.set key d).vols = w.write key d :: ws ∧ ∀ v ∈ w :: ws, v ∈ l.vols ∨ v.entries = [] := by
  unfold Layer.set
  cases hvols : l.vols with
  | nil => exact absurd hvols hne
  | cons v0 rest =>
    have hvs : ∃ w ws, (if v0.fileSize + d.length > l.limit then l.rotated else v0 :: rest) = w :: ws ∧
        ∀ v ∈ w :: ws, v ∈ v0 :: rest ∨ v.entries = [] := by
      split
      · unfold Layer.rotated
        cases hl : l.vols.getLast? with
        | none => exact absurd (List.getLast?_eq_none_iff.mp hl) hne
        | some last =>
          refine ⟨_, _, rfl, fun v hv => ?_⟩
          rcases List.mem_cons.mp hv with rfl | hv
          · exact Or.inr rfl
          · exact Or.inl (hvols ▸ List.dropLast_subset _ hv)
      · exact ⟨v0, rest, rfl, fun v hv => Or.inl hv⟩
    obtain ⟨w, ws, e, hsub⟩ := hvs
    dsimp only
    rw [e]
    exact ⟨w, ws, rfl, hsub⟩

theorem LayerOk.set {h : History} {l : Layer} (hl : LayerOk h l) {f : Fid} {d : Bytes} (hm : (f, d) ∈ h) :
    LayerOk h (l.set f.key d) := by
  by_cases hne : l.vols = []
  · simpa only [Layer.set, hne] using hl
  · obtain ⟨w, ws, e, hsub⟩ := set_vols hne f.key d
    have hall : ∀ v ∈ w :: ws, VolOk h v := fun v hv =>
      (hsub v hv).elim (hl v) fun he e' he' => absurd (he ▸ he') List.not_mem_nil
    intro v hv
    rw [e] at hv
    rcases List.mem_cons.mp hv with rfl | hv
    · exact (hall w List.mem_cons_self).write hm
    · exact hall v (List.mem_cons_of_mem _ hv)

theorem LayerOk.restart {h : History} {l : Layer} (hl : LayerOk h l) (o : LayerOracle) : LayerOk h (l.restart o) := by
  intro v hv
  simp only [Layer.restart, List.mem_filterMap, Option.map_eq_some_iff] at hv
  rcases hv with ⟨i, _, w, hw, rfl⟩
  exact (hl w (List.mem_of_find?_eq_some hw)).reopen _

theorem mkLayer_ok (h : History) {ds segs : Nat} : LayerOk h (mkLayer ds segs) := by
  intro v hv e he
  simp only [mkLayer, List.mem_reverse, List.mem_map] at hv
  rcases hv with ⟨i, _, rfl⟩
  cases he

theorem newCache_ok (h : History) (u d : Nat) : Ok h (newCache u d) :=
  ⟨List.forall_mem_nil _, mkLayer_ok h, mkLayer_ok h, mkLayer_ok h⟩

theorem Ok.set {h : History} {c : Cache} (hc : Ok h c) {f : Fid} {d : Bytes} (hm : (f, d) ∈ h) : Ok h (c.set f d) := by
  rcases hc with ⟨hmem, h0, h1, h2⟩
  have hmem' : MemOk h (memSet c.mem f d) := by
    intro p hp
    simp only [memSet, List.mem_cons, List.mem_filter] at hp
    rcases hp with rfl | ⟨hp, _⟩
    · exact hm
    · exact hmem p hp
  unfold Cache.set
  by_cases hl0 : d.length ≤ c.lim0
  · simp only [hl0, if_true]
    exact ⟨hmem', h0.set hm, h1, h2⟩
  · simp only [hl0, if_false]
    split
    · exact ⟨hmem, h0, h1.set hm, h2⟩
    · exact ⟨hmem, h0, h1, h2.set hm⟩

theorem Ok.evict {h : History} {c : Cache} (hc : Ok h c) (fs : List Fid) : Ok h (c.evict fs) :=
  ⟨fun p hp => hc.1 p (List.mem_filter.mp hp).1, hc.2.1, hc.2.2.1, hc.2.2.2⟩

theorem Ok.restart {h : History} {c : Cache} (hc : Ok h c) (o0 o1 o2 : LayerOracle) : Ok h (c.restart o0 o1 o2) :=
  ⟨List.forall_mem_nil _, hc.2.1.restart o0, hc.2.2.1.restart o1, hc.2.2.2.restart o2⟩

theorem Ok.run {ops : List Op} : ∀ {h : History} {c : Cache}, Ok h c → Ok (h ++ stores ops) (c.run ops) := by
  induction ops with
  | nil => intro h c hc; simpa [Cache.run, stores] using hc
  | cons op ops ih =>
    intro h c hc
    cases op with
    | store f d =>
      have hc' : Ok (h ++ [(f, d)]) (c.set f d) :=
        (hc.mono (List.subset_append_left ..)).set (List.mem_append_right _ (List.mem_singleton.mpr rfl))
      have := ih hc'
      simpa [Cache.run, Cache.step, stores, List.append_assoc] using this
    | lookup f m => simpa [Cache.run, Cache.step, stores] using ih hc
    | slice f off len => simpa [Cache.run, Cache.step, stores] using ih hc
    | restart o0 o1 o2 => simpa [Cache.run, Cache.step, stores] using ih (hc.restart o0 o1 o2)
    | evict fs => simpa [Cache.run, Cache.step, stores] using ih (hc.evict fs)

theorem run_newCache_ok (u d : Nat) (ops : List Op) : Ok (stores ops) ((newCache u d).run ops) :=
  (newCache_ok [] u d).run

theorem memGet_some {m : List (Fid × Bytes)} {f : Fid} {d : Bytes} (hg : memGet m f = some d) : (f, d) ∈ m := by
  simp only [memGet, Option.map_eq_some_iff] at hg
  rcases hg with ⟨p, hp, rfl⟩
  have h1 := List.find?_some hp
  have h2 := List.mem_of_find?_eq_some hp
  have : p.1 = f := eq_of_beq h1
  rw [← this]; exact h2

theorem exists_mem_cons {α : Type} {p : α → Prop} (a : α) {l : List α} : (∃ x ∈ l, p x) → ∃ x ∈ a :: l, p x
  | ⟨x, hx, h⟩ => ⟨x, List.mem_cons_of_mem a hx, h⟩

theorem getVols_cases (vs : List Vol) (key : Nat) :
    getVols vs key = [] ∨ ∃ v ∈ vs, ∃ e ∈ v.entries, e.key = key ∧ e.data = getVols vs key := by
  induction vs with
  | nil => exact Or.inl rfl
  | cons v vs ih =>
    have skip := ih.imp id (exists_mem_cons v)
    cases hg : v.get key with
    | none => simp only [getVols, hg]; exact skip
    | some e =>
      by_cases hd : (e.data.length != 0) = true
      · simp only [getVols, hg, hd, if_true]
        exact Or.inr ⟨v, List.mem_cons_self .., e, (Vol.get_some hg).1, (Vol.get_some hg).2, rfl⟩
      · simp only [getVols, hg, hd, Bool.false_eq_true, if_false]; exact skip

theorem sliceVols_cases (vs : List Vol) (key off len : Nat) :
    sliceVols vs key off len = [] ∨
    ∃ v ∈ vs, ∃ e ∈ v.entries, e.key = key ∧ sliceVols vs key off len = (e.data.drop off).take len := by
  induction vs with
  | nil => exact Or.inl rfl
  | cons v vs ih =>
    have skip := ih.imp id (exists_mem_cons v)
    cases hg : v.get key with
    | none => simp only [sliceVols, hg]; exact skip
    | some e =>
      by_cases h1 : e.data.length < off
      · simp only [sliceVols, hg, h1, if_true]; exact skip
      by_cases h2 : (((e.data.drop off).take len).length != 0) = true
      · simp only [sliceVols, hg, h1, h2, if_true, if_false]
        exact Or.inr ⟨v, List.mem_cons_self .., e, (Vol.get_some hg).1, (Vol.get_some hg).2, rfl⟩
      · simp only [sliceVols, hg, h1, h2, Bool.false_eq_true, if_false]; exact skip

theorem sliceVols_length_le (vs : List Vol) (key off len : Nat) : (sliceVols vs key off len).length ≤ len := by
  rcases sliceVols_cases vs key off len with h | ⟨_, _, e, _, _, h⟩
  · simp [h]
  · rw [h]; exact List.length_take_le ..

theorem memSlice_cases (m : List (Fid × Bytes)) (f : Fid) (off len : Nat) :
    memSlice m f off len = [] ∨ ∃ d, (f, d) ∈ m ∧ memSlice m f off len = (d.drop off).take len := by
  unfold memSlice
  cases hm : memGet m f with
  | none => exact Or.inl rfl
  | some d =>
    dsimp only
    split
    · exact Or.inl rfl
    · exact Or.inr ⟨d, memGet_some hm, rfl⟩

theorem memSlice_length_le (m : List (Fid × Bytes)) (f : Fid) (off len : Nat) : (memSlice m f off len).length ≤ len := by
  rcases memSlice_cases m f off len with h | ⟨_, _, h⟩
  · simp [h]
  · rw [h]; exact List.length_take_le ..

/-! `doGetChunk` and `doGetChunkSlice` walk memory and the three disk layers in the same way and take the
first answer that is long enough: `Cache.get` and `Cache.getSlice` unfold to `firstLong` applied to the
four tiers' answers. -/

def firstLong (m lim0 lim1 : Nat) (r0 r1 r2 r3 : Bytes) : Bytes :=
  if m ≤ lim0 ∧ m ≤ r0.length then r0 else
  if m ≤ lim0 ∧ m ≤ r1.length then r1 else
  if m ≤ lim1 ∧ m ≤ r2.length then r2 else
  if m ≤ r3.length then r3 else []

theorem firstLong_ind (P : Bytes → Prop) {m lim0 lim1 : Nat} {r0 r1 r2 r3 : Bytes}
    (h0 : m ≤ r0.length → P r0) (h1 : m ≤ r1.length → P r1) (h2 : m ≤ r2.length → P r2)
    (h3 : m ≤ r3.length → P r3) (hnil : P []) : P (firstLong m lim0 lim1 r0 r1 r2 r3) := by
  unfold firstLong
  by_cases c0 : m ≤ lim0 ∧ m ≤ r0.length
  · rw [if_pos c0]; exact h0 c0.2
  rw [if_neg c0]
  by_cases c1 : m ≤ lim0 ∧ m ≤ r1.length
  · rw [if_pos c1]; exact h1 c1.2
  rw [if_neg c1]
  by_cases c2 : m ≤ lim1 ∧ m ≤ r2.length
  · rw [if_pos c2]; exact h2 c2.2
  rw [if_neg c2]
  by_cases c3 : m ≤ r3.length
  · rw [if_pos c3]; exact h3 c3
  rw [if_neg c3]; exact hnil

theorem firstLong_length (m lim0 lim1 : Nat) (r0 r1 r2 r3 : Bytes) :
    firstLong m lim0 lim1 r0 r1 r2 r3 = [] ∨ m ≤ (firstLong m lim0 lim1 r0 r1 r2 r3).length :=
  firstLong_ind (fun r => r = [] ∨ m ≤ r.length) Or.inr Or.inr Or.inr Or.inr (Or.inl rfl)

theorem get_cases (c : Cache) (f : Fid) (m : Nat) : c.get f m = [] ∨ FromCache c f (c.get f m) := by
  have hl (l : Layer) (hl : l = c.l0 ∨ l = c.l1 ∨ l = c.l2) :
      getVols l.vols f.key = [] ∨ FromCache c f (getVols l.vols f.key) :=
    (getVols_cases l.vols f.key).imp id fun ⟨v, hv, e, he, hk, hd⟩ => Or.inr ⟨l, hl, v, hv, e, he, hk, hd⟩
  refine firstLong_ind (fun r => r = [] ∨ FromCache c f r) (fun _ => ?_)
    (fun _ => hl c.l0 (Or.inl rfl)) (fun _ => hl c.l1 (Or.inr (Or.inl rfl))) (fun _ => hl c.l2 (Or.inr (Or.inr rfl)))
    (Or.inl rfl)
  cases hm : memGet c.mem f with
  | none => exact Or.inl rfl
  | some d => exact Or.inr (Or.inl (memGet_some hm))

theorem getSlice_cases (c : Cache) (f : Fid) (off len : Nat) :
    c.getSlice f off len = [] ∨ ∃ d, FromCache c f d ∧ c.getSlice f off len = (d.drop off).take len := by
  have hl (l : Layer) (hl : l = c.l0 ∨ l = c.l1 ∨ l = c.l2) :
      sliceVols l.vols f.key off len = [] ∨
      ∃ d, FromCache c f d ∧ sliceVols l.vols f.key off len = (d.drop off).take len :=
    (sliceVols_cases l.vols f.key off len).imp id fun ⟨v, hv, e, he, hk, hd⟩ =>
      ⟨e.data, Or.inr ⟨l, hl, v, hv, e, he, hk, rfl⟩, hd⟩
  refine firstLong_ind (fun r => r = [] ∨ ∃ d, FromCache c f d ∧ r = (d.drop off).take len)
    (fun _ => ?_) (fun _ => hl c.l0 (Or.inl rfl)) (fun _ => hl c.l1 (Or.inr (Or.inl rfl)))
    (fun _ => hl c.l2 (Or.inr (Or.inr rfl))) (Or.inl rfl)
  exact (memSlice_cases c.mem f off len).imp id fun ⟨d, hd, h⟩ => ⟨d, Or.inl hd, h⟩

/-- under the invariant, what a lookup of `f` can find was stored for `f` — provided no other id shares `f`'s key -/
theorem Ok.fromCache {h : History} {c : Cache} (hc : Ok h c) {f : Fid} (hown : KeyOwned h f) {d : Bytes}
    (hf : FromCache c f d) : (f, d) ∈ h := by
  rcases hf with hm | ⟨l, hl, v, hv, e, he, hk, rfl⟩
  · exact hc.1 _ hm
  · have hlo : LayerOk h l := by
      rcases hl with rfl | rfl | rfl
      · exact hc.2.1
      · exact hc.2.2.1
      · exact hc.2.2.2
    rcases hlo v hv e he with ⟨g, hgk, hgm⟩
    have : g = f := hown g e.data hgm (hgk.trans hk)
    rw [← this]; exact hgm

theorem padded_ge (n : Nat) : n ≤ padded n := by unfold padded; split <;> omega

theorem read_append (v : BVol) (x : Bytes) (e : Nat × Nat × Nat) (he : e.2.1 + e.2.2 ≤ v.dat.length) :
    (({ v with dat := v.dat ++ x } : BVol).read e) = v.read e := by
  simp only [BVol.read]
  rw [List.drop_append_of_le_length (Nat.le_of_add_right_le he)]
  rw [List.take_append_of_le_length (List.length_drop ▸ Nat.le_sub_of_add_le' he)]

end SwV.Lemmas.C31
