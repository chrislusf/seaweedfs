/-
C20, HTTP write handlers — lemmas about the save-path model `SwV.Model.C20Http.save`:
a Filer.CreateEntry that does not succeed leaves the store as it was and hands nothing to a deletion sink;
hence a failed save emits exactly the chunks the request uploaded.
-/
import SwV.Model.C18
import SwV.Model.C20Http
import SwV.Lemmas.C18
namespace SwV.Lemmas.C20Http
open SwV.Model.C18 SwV.Model.C20Http SwV.Lemmas.C18

theorem createEntry_not_ok {s : St} {p : RPath} {e : Entry} {x : Bool} (h : (createEntry s p e x).2.1 ≠ .ok) :
    (createEntry s p e x).1 = s ∧ (createEntry s p e x).2.2 = [] := by
  rcases createEntry_cases s p e x with h' | ⟨_, _, _, _, _, hc⟩ | ⟨_, _, _, hc⟩
  · exact h'
  · rw [hc] at h
    exact absurd rfl h
  · rw [hc] at h
    exact absurd rfl h

theorem createEntryDown_unchanged {s : St} {p : RPath} : (createEntryDown s p).1 = s ∧ (createEntryDown s p).2.2 = [] := by
  unfold createEntryDown
  split <;> exact ⟨rfl, rfl⟩

/-- the outcome of the CreateEntry call of `save` -/
def saveCall (s : St) (r : Req) (e : Entry) : St × Res × List Nat :=
  if r.down then createEntryDown s (targetPath s r.path) else createEntry s (targetPath s r.path) e false

theorem saveCall_not_ok {s : St} {r : Req} {e : Entry} (h : (saveCall s r e).2.1 ≠ .ok) :
    (saveCall s r e).1 = s ∧ (saveCall s r e).2.2 = [] := by
  unfold saveCall at h ⊢
  split
  · exact createEntryDown_unchanged
  · rename_i hd
    rw [if_neg hd] at h
    exact createEntry_not_ok h

theorem save_eq (s : St) (next : Nat) (r : Req) : save s next r =
    match entryToSave s next r with
    | none => (s, { res := .err, q := [], uploaded := (upload r).2, stage := .refused })
    | some e =>
      if (saveCall s r e).2.1 = .ok then
        ((if savesInline s r then markInline (saveCall s r e).1 (targetPath s r.path) else (saveCall s r e).1),
          { res := .ok, q := (saveCall s r e).2.2, uploaded := (upload r).2, stage := .saved })
      else ((saveCall s r e).1, { res := .err, q := (saveCall s r e).2.2 ++ newIds next r, uploaded := (upload r).2, stage := .saveFailed }) := by
  unfold save
  cases entryToSave s next r with
  | none => rfl
  | some e =>
    simp only []
    show (match saveCall s r e with
      | (s', .ok, q) => _
      | (s', _, q) => _) = _
    rcases h : saveCall s r e with ⟨s', res, q⟩
    cases res <;> simp

/-- a failed save: the store is what it was, the request answers an error, and the deletion queue received exactly
    the chunks this request uploaded -/
theorem save_failed {s : St} {next : Nat} {r : Req} (h : (save s next r).2.stage = .saveFailed) :
    (save s next r).1 = s ∧ (save s next r).2.q = newIds next r ∧
    (save s next r).2.uploaded = (newIds next r).length ∧ (save s next r).2.res = .err := by
  rw [save_eq] at h ⊢
  cases he : entryToSave s next r with
  | none => rw [he] at h; simp at h
  | some e =>
    rw [he] at h
    simp only [] at h ⊢
    by_cases hok : (saveCall s r e).2.1 = .ok
    · simp [hok] at h
    · have := saveCall_not_ok hok
      simp only [hok, if_false]
      refine ⟨this.1, ?_⟩
      simp [this.2, newIds]

end SwV.Lemmas.C20Http
