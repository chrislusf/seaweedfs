/-
C05 — a section (`CompactSection`) refines a map sectional-key ↦ entry: representation invariant,
denotation, and the three refinement theorems (Get, Set, Delete).  `Set` is proved branch by branch
against `SetSpec` (`SetSpec.hit`, `SetSpec.insert`, `SetSpec.overflow`); `Sec.set_spec` follows the
code to the branch taken.
-/
import SwV.Model.C05
import SwV.Lemmas.C05
namespace SwV.Lemmas.C05
open SwV.Model.C05

/-- representation invariant of a section: `counter` is the number of values, values strictly
    sorted (reversed list strictly descending), overflow strictly ascending, no key in both, and —
    while the section is not full — every overflow key lies below the whole look-back window
    (so that an in-window insertion can never duplicate an overflow key). -/
def SecInv (batch : Nat) (s : Sec) : Prop :=
  s.cnt = s.rvals.length ∧ DescSorted s.rvals ∧ AscSorted s.ovf ∧
  (∀ x, x ∈ keys s.ovf → getK x s.rvals = none) ∧
  (s.cnt < batch → ∀ x, x ∈ keys s.ovf →
    0 < s.cnt ∧ ∀ y ∈ (keys s.rvals).take (min lookBack s.cnt), x < y)

/-- the map a section denotes (sectional key ↦ entry): overflow binding, else values binding -/
def look (s : Sec) (k : Nat) : Option Ent :=
  match getK k s.ovf with
  | some e => some e
  | none => getK k s.rvals

theorem look_of_ovf_none {s : Sec} {k : Nat} (h : getK k s.ovf = none) : look s k = getK k s.rvals := by
  unfold look; rw [h]

theorem look_of_ovf_some {s : Sec} {k : Nat} {e : Ent} (h : getK k s.ovf = some e) : look s k = some e := by
  unfold look; rw [h]

theorem look_key (s : Sec) (k : Nat) (e : Ent) (h : look s k = some e) : e.key = k := by
  cases hov : getK k s.ovf with
  | some v => rw [look_of_ovf_some hov] at h; cases h; exact (getK_key hov).1
  | none => rw [look_of_ovf_none hov] at h; exact (getK_key h).1

theorem look_mem (s : Sec) (k : Nat) (e : Ent) (h : look s k = some e) : k ∈ keys s.ovf ∨ k ∈ keys s.rvals := by
  cases hov : getK k s.ovf with
  | some v => exact Or.inl (getK_key hov).2
  | none => rw [look_of_ovf_none hov] at h; exact Or.inr (getK_key h).2

theorem look_none_of_not_mem (s : Sec) (k : Nat) (h1 : k ∉ keys s.ovf) (h2 : k ∉ keys s.rvals) : look s k = none := by
  rw [look_of_ovf_none (getK_eq_none_iff.mpr h1), getK_eq_none_iff.mpr h2]

theorem secGet_refines (batch : Nat) (s : Sec) (h : SecInv batch s) (key : Nat) :
    Sec.get s key = (look s (skeyOf s key)).map (toNV s) := by
  unfold Sec.get look
  simp only
  rw [findAsc_eq h.2.2.1, findDesc_eq h.2.1]
  cases getK (skeyOf s key) s.ovf <;> rfl

theorem look_update_rvals {s s' : Sec} {k : Nat} {v : Option Ent} (hov : s'.ovf = s.ovf)
    (hno : getK k s.ovf = none) (hr : ∀ k', getK k' s'.rvals = if k' = k then v else getK k' s.rvals) (k' : Nat) :
    look s' k' = if k' = k then v else look s k' := by
  unfold look
  rw [hov, hr]
  by_cases hk : k' = k
  · rw [hk, hno, if_pos rfl]
  · rw [if_neg hk, if_neg hk]

theorem look_update_ovf {s s' : Sec} {k : Nat} {v : Ent} (hrv : s'.rvals = s.rvals)
    (ho : ∀ k', getK k' s'.ovf = if k' = k then some v else getK k' s.ovf) (k' : Nat) :
    look s' k' = if k' = k then some v else look s k' := by
  unfold look
  rw [hrv, ho]
  by_cases hk : k' = k
  · rw [if_pos hk, if_pos hk]
  · rw [if_neg hk, if_neg hk]

theorem SecInv.of_keys_eq {batch : Nat} {s s' : Sec} (h : SecInv batch s) (hc : s'.cnt = s.cnt)
    (hr : keys s'.rvals = keys s.rvals) (ho : keys s'.ovf = keys s.ovf) : SecInv batch s' := by
  obtain ⟨hc0, hd, ha, hdis, hwin⟩ := h
  have hlen : s'.rvals.length = s.rvals.length := by
    have := congrArg List.length hr
    rwa [keys, keys, List.length_map, List.length_map] at this
  unfold SecInv DescSorted AscSorted
  rw [hc, hr, ho, hlen]
  refine ⟨hc0, hd, ha, fun x hx => getK_eq_none_iff.mpr ?_, hwin⟩
  rw [hr]; exact getK_eq_none_iff.mp (hdis x hx)

theorem SecInv.insert {batch : Nat} {s : Sec} (h : SecInv batch s) (n : Ent) (hnew : getK n.key s.rvals = none)
    (hov : ∀ x, x ∈ keys s.ovf → x < n.key) :
    SecInv batch { s with rvals := insertDesc n s.rvals, cnt := s.cnt + 1 } := by
  obtain ⟨hc, hd, ha, hdis, hwin⟩ := h
  refine ⟨by rw [length_insertDesc, ← hc], descSorted_insertDesc n _ hd (getK_eq_none_iff.mp hnew), ha, fun x hx => ?_, fun hb x hx => ?_⟩
  · rw [getK_insertDesc, if_neg (Nat.ne_of_lt (hov x hx))]; exact hdis x hx
  · have hb' : s.cnt < batch := Nat.lt_of_succ_lt hb
    refine ⟨Nat.succ_pos _, fun y (hy : y ∈ (keys (insertDesc n s.rvals)).take (min lookBack (s.cnt + 1))) => ?_⟩
    rcases mem_take_insertDesc n s.rvals _ y hy with hy | hy
    · exact hy ▸ hov x hx
    · refine (hwin hb' x hx).2 y ?_
      -- the window of the longer list reaches one cell further only when that is the whole old list
      by_cases h128 : s.cnt < lookBack
      · rw [Nat.min_eq_right (Nat.le_of_lt h128), List.take_of_length_le (hc ▸ Nat.le_of_eq (List.length_map _))]
        exact List.mem_of_mem_take hy
      · rw [Nat.min_eq_left (Nat.le_of_not_lt h128)]
        rwa [Nat.min_eq_left (Nat.le_succ_of_le (Nat.le_of_not_lt h128))] at hy

theorem SecInv.overflow {batch : Nat} {s : Sec} (h : SecInv batch s) (n : Ent) (hnew : getK n.key s.rvals = none)
    (hlow : s.cnt < batch → 0 < s.cnt ∧ ∀ y ∈ (keys s.rvals).take (min lookBack s.cnt), n.key < y) :
    SecInv batch { s with ovf := setAsc n s.ovf } := by
  obtain ⟨hc, hd, ha, hdis, hwin⟩ := h
  refine ⟨hc, hd, ascSorted_setAsc n _ ha, fun x hx => ?_, fun hb x hx => ?_⟩
  · rcases (mem_keys_setAsc n s.ovf x).mp hx with hx | hx
    · exact hx ▸ hnew
    · exact hdis x hx
  · rcases (mem_keys_setAsc n s.ovf x).mp hx with hx | hx
    · exact hx ▸ hlow hb
    · exact hwin hb x hx

/-- the entry `CompactSection.Set` leaves for the key: an overwritten OVERFLOW entry keeps its old
    `OffsetHigher` byte (finding CompactSection.setOverflowEntry/stale-offset-high-byte) -/
def setEnt (s : Sec) (sk off hi : Nat) (size : Int) : Ent :=
  match getK sk s.ovf with
  | some e => ⟨sk, off, e.hi, size⟩
  | none => ⟨sk, off, hi, size⟩

def oldOf (o : Option Ent) : Old :=
  match o with
  | some e => (e.off, e.hi, e.size)
  | none => (0, 0, 0)

/-- the `stop` bookkeeping of `Set` first, the rest on a section whose `stop` already covers the key -/
theorem Sec.set_stop (batch : Nat) (s : Sec) (key off hi : Nat) (size : Int) :
    Sec.set batch s key off hi size = Sec.set batch { s with stop := max s.stop key } key off hi size := by
  unfold Sec.set
  by_cases h : key > s.stop
  · simp only [if_pos h, Nat.max_eq_right (Nat.le_of_lt h), if_neg (Nat.lt_irrefl key)]
  · simp only [if_neg h, Nat.max_eq_left (Nat.le_of_not_lt h)]

/-- what `Set` on sectional key `sk` does, in terms of the denoted map; `r` = the new section and the
    returned old value -/
structure SetSpec (batch : Nat) (s : Sec) (sk off hi : Nat) (size : Int) (r : Sec × Old) : Prop where
  inv : SecInv batch r.1
  start : r.1.start = s.start
  stop : r.1.stop = s.stop
  cnt : s.cnt ≤ r.1.cnt
  mem_keys : ∀ x, x ∈ keys r.1.rvals ∨ x ∈ keys r.1.ovf ↔ x = sk ∨ (x ∈ keys s.rvals ∨ x ∈ keys s.ovf)
  look_eq : ∀ k', look r.1 k' = if k' = sk then some (setEnt s sk off hi size) else look s k'
  old : r.2 = oldOf (look s sk)

section setSpec
variable {batch : Nat} {s : Sec} {sk off hi : Nat} {size : Int}

theorem SetSpec.hit (h : SecInv batch s) {e : Ent} (hfd : getK sk s.rvals = some e) :
    SetSpec batch s sk off hi size
      ({ s with rvals := updDesc sk (fun e => { e with off := off, hi := hi, size := size }) s.rvals }, (e.off, e.hi, e.size)) := by
  have hek := getK_key hfd
  have hnov : getK sk s.ovf = none :=
    getK_eq_none_iff.mpr fun hx => by rw [h.2.2.2.1 sk hx] at hfd; cases hfd
  have hent : (getK sk s.rvals).map (fun e => { e with off := off, hi := hi, size := size }) = some (setEnt s sk off hi size) := by
    unfold setEnt; rw [hfd, hnov, ← hek.1]; rfl
  have hkeys := keys_updDesc sk (fun e => { e with off := off, hi := hi, size := size }) (fun _ => rfl) _ h.2.1
  exact {
    inv := h.of_keys_eq rfl hkeys rfl
    start := rfl
    stop := rfl
    cnt := Nat.le_refl _
    mem_keys := fun x => by
      show x ∈ keys (updDesc sk _ s.rvals) ∨ _ ↔ _
      rw [hkeys]
      exact ⟨Or.inr, fun hx => hx.elim (fun e => Or.inl (e.symm ▸ hek.2)) id⟩
    look_eq := look_update_rvals rfl hnov fun k' => by rw [← hent]; exact getK_updDesc sk k' (fun e => { e with off := off, hi := hi, size := size }) (fun _ => rfl) _ h.2.1
    old := by rw [look_of_ovf_none hnov, hfd]; rfl }

/-- covers both the append and the look-back-window insertion of `CompactSection.Set` -/
theorem SetSpec.insert (h : SecInv batch s) (hfd : getK sk s.rvals = none) (hov : ∀ x, x ∈ keys s.ovf → x < sk) :
    SetSpec batch s sk off hi size
      ({ s with rvals := insertDesc ⟨sk, off, hi, size⟩ s.rvals, cnt := s.cnt + 1 }, (0, 0, 0)) := by
  have hnov : getK sk s.ovf = none := getK_none_of_lt sk _ hov
  have hent : setEnt s sk off hi size = ⟨sk, off, hi, size⟩ := by unfold setEnt; rw [hnov]
  exact {
    inv := h.insert ⟨sk, off, hi, size⟩ hfd hov
    start := rfl
    stop := rfl
    cnt := Nat.le_succ _
    mem_keys := fun x => by
      show x ∈ keys (insertDesc _ s.rvals) ∨ _ ↔ _
      rw [mem_keys_insertDesc]; exact or_assoc
    look_eq := look_update_rvals rfl hnov fun k' => by rw [hent]; exact getK_insertDesc _ k' _
    old := by rw [look_of_ovf_none hnov, hfd]; rfl }

theorem SetSpec.overflow (h : SecInv batch s) (hfd : getK sk s.rvals = none)
    (hlow : s.cnt < batch → 0 < s.cnt ∧ ∀ y ∈ (keys s.rvals).take (min lookBack s.cnt), sk < y) :
    SetSpec batch s sk off hi size
      ({ s with ovf := setAsc ⟨sk, off, hi, size⟩ s.ovf },
        match getK sk s.ovf with
        | some e => (e.off, e.hi, e.size)
        | none => (0, 0, 0)) := by
  have hent : (match getK sk s.ovf with
      | some e => { e with off := off, size := size }
      | none => (⟨sk, off, hi, size⟩ : Ent)) = setEnt s sk off hi size := by
    unfold setEnt
    cases hgo : getK sk s.ovf with
    | some e => rw [← (getK_key hgo).1]
    | none => rfl
  exact {
    inv := h.overflow ⟨sk, off, hi, size⟩ hfd hlow
    start := rfl
    stop := rfl
    cnt := Nat.le_refl _
    mem_keys := fun x => by
      show _ ∨ x ∈ keys (setAsc _ s.ovf) ↔ _
      rw [mem_keys_setAsc]; exact or_left_comm
    look_eq := look_update_ovf rfl fun k' => by rw [← hent]; exact getK_setAsc _ k' _ h.2.2.1
    old := by
      unfold look
      cases getK sk s.ovf with
      | some e => rfl
      | none => show _ = oldOf (getK sk s.rvals); rw [hfd]; rfl }

theorem Sec.set_spec {key : Nat} (h : SecInv batch s) (hle : key ≤ s.stop) :
    SetSpec batch s (skeyOf s key) off hi size (Sec.set batch s key off hi size) := by
  obtain ⟨hc, hd, ha, _, hwin⟩ := id h
  unfold Sec.set
  simp only [if_neg (Nat.not_lt.mpr hle)]
  generalize skeyOf s key = sk
  rw [findDesc_eq hd, findAsc_eq ha]
  cases hfd : getK sk s.rvals with
  | some e => exact SetSpec.hit h hfd
  | none =>
    -- the look-back window is `take w`; `values[lookBackIndex]` is its last cell, index `w - 1`
    have hw0 (hp : 0 < s.cnt) : min lookBack s.cnt - 1 < min lookBack s.cnt :=
      Nat.sub_lt (Nat.lt_min.mpr ⟨by decide, hp⟩) Nat.one_pos
    have hwle : min lookBack s.cnt ≤ (keys s.rvals).length := by
      rw [keys, List.length_map, ← hc]; exact Nat.min_le_right _ _
    have hno_iff : (decide (s.cnt ≥ batch) || (decide (s.cnt > 0) && decide ((s.rvals.headD default).key > sk))) = true ↔
        (s.cnt ≥ batch ∨ (s.cnt > 0 ∧ (s.rvals.headD default).key > sk)) := by
      simp only [Bool.or_eq_true, Bool.and_eq_true, decide_eq_true_eq]
    show SetSpec batch s sk off hi size (if _ then _ else _)
    by_cases hno : s.cnt ≥ batch ∨ (s.cnt > 0 ∧ (s.rvals.headD default).key > sk)
    · rw [if_pos (hno_iff.mpr hno)]
      have hpos (hb : s.cnt < batch) : 0 < s.cnt := hno.elim (fun h => absurd hb (Nat.not_lt.mpr h)) And.left
      show SetSpec batch s sk off hi size (if _ then _ else _)
      by_cases hw : s.cnt < batch ∧ (s.rvals.getD (min lookBack s.cnt - 1) default).key < sk
      · rw [if_pos hw]
        refine SetSpec.insert h hfd fun x hx => Nat.lt_trans ((hwin hw.1 x hx).2 _ ?_) (keys_getD _ _ ▸ hw.2)
        exact getD_mem_take _ _ _ (hw0 (hpos hw.1)) hwle
      · rw [if_neg hw]
        refine SetSpec.overflow h hfd fun hb => ⟨hpos hb, fun y hy => ?_⟩
        have hge := desc_take_ge _ hd _ _ (Nat.le_refl _) (Nat.lt_of_lt_of_le (hw0 (hpos hb)) hwle) y hy
        have hlb : ¬ (keys s.rvals).getD (min lookBack s.cnt - 1) 0 < sk := keys_getD _ _ ▸ fun hh => hw ⟨hb, hh⟩
        exact Nat.lt_of_le_of_ne (Nat.le_trans (Nat.le_of_not_lt hlb) hge)
          fun e => getK_eq_none_iff.mp hfd (e ▸ List.mem_of_mem_take hy)
    · rw [if_neg (fun hh => hno (hno_iff.mp hh))]
      have hb : s.cnt < batch := Nat.lt_of_not_le fun hh => hno (Or.inl hh)
      have hhd (hp : 0 < s.cnt) : ¬ (s.rvals.headD default).key > sk := fun hh => hno (Or.inr ⟨hp, hh⟩)
      rw [← insertDesc_eq_cons ⟨sk, off, hi, size⟩ s.rvals fun hp => hhd (hc ▸ hp)]
      -- an overflow key is below the whole window, in particular below the head, which is not above `sk`
      refine SetSpec.insert h hfd fun x hx => ?_
      obtain ⟨hp, hw⟩ := hwin hb x hx
      have hhead := hw _ (getD_mem_take _ 0 _ (Nat.lt_min.mpr ⟨by decide, hp⟩) hwle)
      exact Nat.lt_of_lt_of_le hhead (Nat.le_of_not_lt (headD_key s.rvals ▸ hhd hp))

end setSpec

theorem secSet_refines (batch : Nat) (s0 : Sec) (h0 : SecInv batch s0) (key off hi : Nat) (size : Int) :
    let r := Sec.set batch s0 key off hi size
    let sk := skeyOf s0 key
    SecInv batch r.1 ∧ r.1.start = s0.start ∧ r.1.stop = max s0.stop key ∧ s0.cnt ≤ r.1.cnt ∧
    (∀ x, x ∈ keys r.1.rvals ∨ x ∈ keys r.1.ovf ↔ x = sk ∨ (x ∈ keys s0.rvals ∨ x ∈ keys s0.ovf)) ∧
    (∀ k', look r.1 k' = (if k' = sk then some (setEnt s0 sk off hi size) else look s0 k')) ∧
    r.2 = oldOf (look s0 sk) := by
  -- `SecInv`, `skeyOf`, `look` and `setEnt` do not read `stop`: `h0` serves for the section with `stop` raised,
  -- and what `p` says of that section it says of `s0`
  have p := Sec.set_spec (s := { s0 with stop := max s0.stop key }) (off := off) (hi := hi) (size := size) h0
    (Nat.le_max_right s0.stop key)
  rw [← Sec.set_stop] at p
  exact ⟨p.inv, p.start, p.stop, p.cnt, p.mem_keys, p.look_eq, p.old⟩

theorem secDelete_refines (batch : Nat) (s : Sec) (h : SecInv batch s) (key : Nat) :
    let r := Sec.delete s key
    let sk := skeyOf s key
    SecInv batch r.1 ∧ r.1.start = s.start ∧ r.1.stop = s.stop ∧
    keys r.1.rvals = keys s.rvals ∧ keys r.1.ovf = keys s.ovf ∧
    (∀ k', look r.1 k' = (if k' = sk then (look s sk).map (fun e => if e.size > 0 then { e with size := -e.size } else e) else look s k')) ∧
    r.2 = (match getK sk s.ovf with
           | some v => v.size
           | none => match getK sk s.rvals with
             | some e => if e.size > 0 then e.size else 0
             | none => 0) := by
  obtain ⟨_, hd, ha, hdis, _⟩ := id h
  -- where `Delete` leaves the section as it is, the key is unbound or bound to a size that is not positive
  have same (k' : Nat) {f : Ent → Ent} (hf : (look s (skeyOf s key)).map f = look s (skeyOf s key)) :
      look s k' = if k' = skeyOf s key then (look s (skeyOf s key)).map f else look s k' :=
    ite_self_eq (look s) _ hf.symm k'
  unfold Sec.delete
  simp only []
  rw [findAsc_eq ha, findDesc_eq hd]
  cases hov : getK (skeyOf s key) s.ovf with
  | some v =>
    rw [hdis _ (getK_key hov).2]
    have hg (k' : Nat) := getK_delAsc (skeyOf s key) k' _ ha
    rw [hov] at hg
    refine ⟨h.of_keys_eq rfl rfl (keys_delAsc _ _ ha), rfl, rfl, rfl, keys_delAsc _ _ ha, fun k' => ?_, rfl⟩
    rw [look_of_ovf_some hov]
    exact look_update_ovf (s := s) (s' := { s with ovf := delAsc (skeyOf s key) s.ovf }) rfl hg k'
  | none =>
    cases hrv : getK (skeyOf s key) s.rvals with
    | none => exact ⟨h, rfl, rfl, rfl, rfl, fun k' => same k' (by rw [look_of_ovf_none hov, hrv]; rfl), rfl⟩
    | some e =>
      have hl : look s (skeyOf s key) = some e := by rw [look_of_ovf_none hov, hrv]
      dsimp only
      by_cases hp : e.size > 0
      · rw [if_pos hp, if_pos hp]
        have hg (k' : Nat) := getK_updDesc (skeyOf s key) k' (fun e => { e with size := -e.size }) (fun _ => rfl) _ hd
        rw [hrv] at hg
        have hkeys := keys_updDesc (skeyOf s key) (fun e => { e with size := -e.size }) (fun _ => rfl) _ hd
        refine ⟨h.of_keys_eq rfl hkeys rfl, rfl, rfl, hkeys, rfl, fun k' => ?_, rfl⟩
        rw [hl, Option.map_some, if_pos hp]
        exact look_update_rvals (s := s) (s' := { s with rvals := updDesc (skeyOf s key) _ s.rvals }) rfl hov hg k'
      · rw [if_neg hp, if_neg hp]
        exact ⟨h, rfl, rfl, rfl, rfl, fun k' => same k' (by rw [hl, Option.map_some, if_neg hp]), rfl⟩

end SwV.Lemmas.C05
