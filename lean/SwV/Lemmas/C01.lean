/-
C01 — lookups in the log and the index (`recAt`, `setIdx`), what `stored`, `needleSize` and `inheritTtl` do to
a content (a well-formed one outside class (iii) reaches the disk whole; the size is 0 exactly for an empty blob),
the representation invariant of the model's state (`Inv`) and the four things an id can be under it (`Slot`),
the model's and the specification's steps case by case, what a step can do to the log and the index (`Eff`: the
invariant here and the per-id locality of SwV/Lemmas/C38b.lean rest on it), and the one-step simulation squares
used by SwV/Props/C01.lean.
-/
import SwV.Spec.C01
namespace SwV.Lemmas.C01
open SwV.Model.C01 SwV.Spec.C01

theorem recAt_eq (log : List Rec) {off : Nat} (h : off ≠ 0) : recAt log off = log[off - 1]? := if_neg h

theorem recAt_some_le {log : List Rec} {off : Nat} {r : Rec} (h : recAt log off = some r) :
    off ≠ 0 ∧ off ≤ log.length := by
  by_cases h0 : off = 0
  · rw [recAt, if_pos h0] at h
    cases h
  · rw [recAt_eq log h0] at h
    exact ⟨h0, Nat.le_of_pred_lt (List.getElem?_eq_some_iff.mp h).1⟩

theorem pred_lt {off n : Nat} (h0 : off ≠ 0) (h : off ≤ n) : off - 1 < n := Nat.lt_of_lt_of_le (Nat.sub_one_lt h0) h

theorem recAt_of_bound {log : List Rec} {off : Nat} (h : off ≠ 0 ∧ off ≤ log.length) : ∃ r, recAt log off = some r := by
  rw [recAt_eq log h.1]
  exact ⟨log[off - 1]'(pred_lt h.1 h.2), List.getElem?_eq_getElem _⟩

theorem recAt_append_of_le {log : List Rec} (ext : List Rec) {off : Nat} (h : off ≤ log.length) :
    recAt (log ++ ext) off = recAt log off := by
  by_cases h0 : off = 0
  · rw [h0]; rfl
  · rw [recAt_eq _ h0, recAt_eq _ h0, List.getElem?_append_left (pred_lt h0 h)]

theorem recAt_append_some {log : List Rec} {off : Nat} {r : Rec} (x : Rec) (h : recAt log off = some r) :
    recAt (log ++ [x]) off = some r :=
  (recAt_append_of_le [x] (recAt_some_le h).2).trans h

theorem recAt_new (log : List Rec) (x : Rec) : recAt (log ++ [x]) (log.length + 1) = some x := by
  simp [recAt]

theorem recAt_take (log : List Rec) (n off : Nat) : recAt (log.take n) off = if off ≤ n then recAt log off else none := by
  by_cases h0 : off = 0
  · rw [h0]; exact (if_pos (Nat.zero_le n)).symm
  · rw [recAt_eq _ h0, recAt_eq _ h0, List.getElem?_take]
    by_cases h : off ≤ n
    · rw [if_pos h, if_pos (pred_lt h0 h)]
    · rw [if_neg h, if_neg fun (h' : off - 1 < n) => h (Nat.le_of_pred_lt h')]

theorem setIdx_same (m : Nat → Option Ent) (k : Nat) (e : Ent) : setIdx m k e k = some e := if_pos rfl
theorem setIdx_ne {m : Nat → Option Ent} {j k : Nat} {e : Ent} (h : k ≠ j) : setIdx m j e k = m k := if_neg h

theorem stored_empty {c : Content} (h : c.data = "") : stored c = Content.empty := by
  rw [stored, if_pos h]

theorem stored_data (c : Content) : (stored c).data = c.data := by
  by_cases h : c.data = ""
  · rw [stored_empty h, h]; rfl
  · rw [stored, if_neg h]

/-- an optional field survives `stored` when its flag is set or it has the default value anyway -/
theorem ite_flag_eq {α : Type} {b : Bool} {x d : α} (h : b = true ∨ x = d) : (if b = true then x else d) = x := by
  cases h with
  | inl h => rw [if_pos h]
  | inr h => rw [h, ite_self]

/-- well-formed and not in class (iii): what reaches the disk is what was written -/
theorem stored_eq_self {c : Content} (hw : wfContent c = true) (hx : ¬(c.data = "" ∧ c ≠ Content.empty)) :
    stored c = c := by
  by_cases hd : c.data = ""
  · rw [stored_empty hd]
    exact (Decidable.by_contra fun he => hx ⟨hd, he⟩).symm
  · obtain ⟨data, fl, name, mime, pairs, lm, ttl⟩ := c
    simp only [wfContent, Bool.and_eq_true, Bool.or_eq_true, beq_iff_eq, decide_eq_true_eq] at hw
    obtain ⟨⟨⟨⟨⟨h1, h2⟩, h3⟩, h4⟩, h5⟩, h6⟩ := hw
    rw [stored, if_neg hd, ite_flag_eq h1, ite_flag_eq h2, ite_flag_eq h3, Nat.mod_eq_of_lt h5, ite_flag_eq h4,
      ite_flag_eq h6]

theorem needleSize_empty {c : Content} (h : c.data = "") : needleSize c = 0 := by
  rw [needleSize, if_pos h]

theorem needleSize_pos {c : Content} (h : c.data ≠ "") : 0 < needleSize c := by
  rw [needleSize, if_neg h]
  -- 4 + length + 1 + (the five optional fields): the summand 1 alone makes it positive
  iterate 5 apply Nat.add_pos_left
  exact Nat.succ_pos _

theorem needleSize_eq_zero_iff (c : Content) : needleSize c = 0 ↔ c.data = "" :=
  ⟨fun h0 => Decidable.by_contra fun h => Nat.ne_of_gt (needleSize_pos h) h0, needleSize_empty⟩

theorem inheritTtl_wf {t : Nat × Nat} {c : Content} (hw : wfContent c = true) : wfContent (inheritTtl t c) = true := by
  by_cases h : c.ttl = (0, 0) ∧ t ≠ (0, 0)
  · -- only the TTL conjunct changes, and there the flag is set
    rw [inheritTtl, if_pos h]
    rw [wfContent, Bool.and_eq_true] at hw ⊢
    exact ⟨hw.1, rfl⟩
  · rw [inheritTtl, if_neg h]
    exact hw

/-- every index entry points at a record of the log; a positive size is the size of that
    record and the record has data; size 0 means the record is a bare header -/
def Inv (st : Vol) : Prop :=
  ∀ id e, st.idx id = some e →
    ∃ r, recAt st.log e.off = some r ∧ (0 < e.size → r.size = e.size ∧ r.c.data ≠ "") ∧ (e.size = 0 → r.c = Content.empty)

theorem inv_init (t : Nat × Nat) : Inv (Vol.init t) :=
  fun _ _ h => nomatch h

theorem absEntry_some {st : Vol} {id : Nat} {e : Ent} {r : Rec} (h1 : st.idx id = some e)
    (h2 : recAt st.log e.off = some r) :
    absEntry st id = some ⟨r.cookie, if e.size < 0 then none else some r.c⟩ := by
  simp only [absEntry, h1, h2]

theorem absEntry_none {st : Vol} {id : Nat} (h : st.idx id = none) : absEntry st id = none := by
  simp only [absEntry, h]

/-- the state after appending record `x` and pointing `id` at `e'`: the shape of every successor
    state of a write or a delete that changes anything -/
def appendSet (st : Vol) (x : Rec) (id : Nat) (e' : Ent) : Vol :=
  { st with log := st.log ++ [x], idx := setIdx st.idx id e' }

theorem abs_appendSet {st : Vol} (hI : Inv st) (id : Nat) {x : Rec} (e' : Ent) (r' : Rec)
    (hr : recAt (st.log ++ [x]) e'.off = some r') :
    abs (appendSet st x id e') =
      { abs st with m := setM (abs st).m id ⟨r'.cookie, if e'.size < 0 then none else some r'.c⟩ } := by
  have hm : absEntry (appendSet st x id e') =
      setM (absEntry st) id ⟨r'.cookie, if e'.size < 0 then none else some r'.c⟩ := by
    funext k
    by_cases hk : k = id
    · simp only [absEntry, appendSet, setIdx, setM, if_pos hk, hr]
    · simp only [absEntry, appendSet, setIdx, setM, if_neg hk]
      cases hik : st.idx k with
      | none => rfl
      | some e =>
        obtain ⟨r, hr0, _⟩ := hI k e hik
        simp only [recAt_append_some x hr0, hr0]
  unfold abs
  rw [hm]
  rfl

theorem inv_appendSet {st : Vol} (hI : Inv st) (id : Nat) {x : Rec} (e' : Ent) (r' : Rec)
    (hr : recAt (st.log ++ [x]) e'.off = some r')
    (h1 : 0 < e'.size → r'.size = e'.size ∧ r'.c.data ≠ "") (h2 : e'.size = 0 → r'.c = Content.empty) :
    Inv (appendSet st x id e') := by
  intro k e hk
  simp only [appendSet] at hk
  by_cases hki : k = id
  · rw [hki, setIdx_same, Option.some.injEq] at hk
    subst hk
    exact ⟨r', hr, h1, h2⟩
  · rw [setIdx_ne hki] at hk
    obtain ⟨r, hr0, ha, hb⟩ := hI k e hk
    exact ⟨r, recAt_append_some x hr0, ha, hb⟩

/-- the record `writeStep` appends for content `c` (`c` is the content after TTL inheritance) -/
def newRec (id ck : Nat) (c : Content) : Rec := { id := id, cookie := ck, size := (needleSize c : Int), c := stored c }

/-- the record `deleteStep` appends -/
def tomb (id ck : Nat) : Rec := { id := id, cookie := ck, size := 0, c := Content.empty }

theorem isFileUnchanged_true {st : Vol} {id ck : Nat} {c : Content} {e : Ent} {r : Rec}
    (hi : st.idx id = some e) (hr : recAt st.log e.off = some r)
    (hu : isFileUnchanged st id ck c = true) : 0 < e.size ∧ r.cookie = ck ∧ r.c.data = c.data := by
  unfold isFileUnchanged at hu
  split at hu
  · cases hu
  · simp only [hi] at hu
    split at hu
    · rename_i h
      simp only [hr, Bool.and_eq_true, beq_iff_eq] at hu
      exact ⟨h.2, hu.1.2, hu.2⟩
    · cases hu

theorem isFileUnchanged_none {st : Vol} {id : Nat} (ck : Nat) (c : Content) (hi : st.idx id = none) :
    ¬ isFileUnchanged st id ck c = true := by
  simp only [isFileUnchanged, hi, ite_self, Bool.false_eq_true, not_false_eq_true]

theorem writeStep_ro {st : Vol} {id ck : Nat} {c0 : Content} (h : st.ro = true) :
    writeStep st id ck c0 = (st, .ro) := by
  rw [writeStep, if_pos h]

theorem writeStep_unchanged {st : Vol} {id ck : Nat} {c0 : Content} (h : ¬ st.ro = true)
    (hu : isFileUnchanged st id ck (inheritTtl st.volTtl c0) = true) :
    writeStep st id ck c0 = (st, .ok true) := by
  simp [writeStep, h, hu]

theorem writeStep_cookie {st : Vol} {id ck : Nat} {c0 : Content} (h : ¬ st.ro = true)
    (hu : ¬ isFileUnchanged st id ck (inheritTtl st.volTtl c0) = true)
    {e : Ent} {r : Rec} (hi : st.idx id = some e) (hr : recAt st.log e.off = some r) (hck : r.cookie ≠ ck) :
    writeStep st id ck c0 = (st, .cookie) := by
  simp [writeStep, h, hu, hi, hr, hck]

theorem writeStep_ioerr {st : Vol} {id ck : Nat} {c0 : Content} (h : ¬ st.ro = true)
    (hu : ¬ isFileUnchanged st id ck (inheritTtl st.volTtl c0) = true)
    {e : Ent} (hi : st.idx id = some e) (hr : recAt st.log e.off = none) :
    writeStep st id ck c0 = (st, .ioerr) := by
  simp [writeStep, h, hu, hi, hr]

theorem writeStep_append {st : Vol} {id ck : Nat} {c0 : Content} (h : ¬ st.ro = true)
    (hu : ¬ isFileUnchanged st id ck (inheritTtl st.volTtl c0) = true)
    (hok : st.idx id = none ∨ ∃ e r, st.idx id = some e ∧ recAt st.log e.off = some r ∧ r.cookie = ck) :
    writeStep st id ck c0 =
      (appendSet st (newRec id ck (inheritTtl st.volTtl c0)) id
        ⟨st.log.length + 1, (needleSize (inheritTtl st.volTtl c0) : Int)⟩, .ok false) := by
  rcases hok with hi | ⟨e, r, hi, hr, hck⟩
  · simp [writeStep, h, hu, hi, appendSet, newRec]
  · have : e.off < st.log.length + 1 := Nat.lt_succ_of_le (recAt_some_le hr).2
    simp [writeStep, h, hu, hi, hr, hck, appendSet, newRec, this]

theorem deleteStep_ro {st : Vol} {id ck : Nat} (h : st.ro = true) : deleteStep st id ck = (st, .ro) := by
  rw [deleteStep, if_pos h]

theorem deleteStep_none {st : Vol} {id ck : Nat} (h : ¬ st.ro = true) (hi : st.idx id = none) :
    deleteStep st id ck = (st, .ok 0) := by
  simp [deleteStep, h, hi]

theorem deleteStep_noop {st : Vol} {id ck : Nat} (h : ¬ st.ro = true) {e : Ent} (hi : st.idx id = some e)
    (hs : ¬ 0 < e.size) : deleteStep st id ck = (st, .ok 0) := by
  simp [deleteStep, h, hi, hs]

theorem deleteStep_live {st : Vol} {id ck : Nat} (h : ¬ st.ro = true) {e : Ent} (hi : st.idx id = some e)
    (hs : 0 < e.size) : deleteStep st id ck = (appendSet st (tomb id ck) id ⟨e.off, -e.size⟩, .ok e.size) := by
  simp [deleteStep, h, hi, hs, appendSet, tomb]

/-- a write leaves the state alone or appends its record and points its id at it (the branch that
    appends without re-pointing is dead: the cookie check has read the old record, so its offset is
    inside the log) -/
theorem writeStep_state (st : Vol) (id ck : Nat) (c0 : Content) :
    (writeStep st id ck c0).1 = st ∨
    (writeStep st id ck c0).1 = appendSet st (newRec id ck (inheritTtl st.volTtl c0)) id
      ⟨st.log.length + 1, (needleSize (inheritTtl st.volTtl c0) : Int)⟩ := by
  by_cases hro : st.ro = true
  · exact .inl (by rw [writeStep_ro hro])
  by_cases hu : isFileUnchanged st id ck (inheritTtl st.volTtl c0) = true
  · exact .inl (by rw [writeStep_unchanged hro hu])
  cases hi : st.idx id with
  | none => exact .inr (congrArg Prod.fst (writeStep_append hro hu (.inl hi)))
  | some e =>
    cases hr : recAt st.log e.off with
    | none => exact .inl (by rw [writeStep_ioerr hro hu hi hr])
    | some r =>
      by_cases hck : r.cookie = ck
      · exact .inr (congrArg Prod.fst (writeStep_append hro hu (.inr ⟨e, r, hi, hr, hck⟩)))
      · exact .inl (by rw [writeStep_cookie hro hu hi hr hck])

theorem deleteStep_state (st : Vol) (id ck : Nat) :
    deleteStep st id ck = (st, .ro) ∨ deleteStep st id ck = (st, .ok 0) ∨
    ∃ e, st.idx id = some e ∧ 0 < e.size ∧
      deleteStep st id ck = (appendSet st (tomb id ck) id ⟨e.off, -e.size⟩, .ok e.size) := by
  by_cases hro : st.ro = true
  · exact .inl (deleteStep_ro hro)
  cases hi : st.idx id with
  | none => exact .inr (.inl (deleteStep_none hro hi))
  | some e =>
    by_cases hs : 0 < e.size
    · exact .inr (.inr ⟨e, rfl, hs, deleteStep_live hro hi hs⟩)
    · exact .inr (.inl (deleteStep_noop hro hi hs))

theorem httpDelete_state (st : Vol) (id ck : Nat) :
    (httpDelete st id ck).1 = st ∨ (httpDelete st id ck).1 = (deleteStep st id ck).1 := by
  unfold httpDelete
  cases readStep st id ck with
  | ok n ck' sz c =>
    by_cases hck : ck' ≠ ck
    · exact .inl (by simp only [if_pos hck])
    · simp only [if_neg hck]
      rcases deleteStep st id ck with ⟨st', _ | _⟩ <;> exact .inr rfl
  | _ => exact .inl rfl

/-- What an operation on id `id` can do to the log and the index: nothing, append a needle and point `id` at it,
    or append a tombstone and negate the size of the live entry of `id`. -/
inductive Eff (st : Vol) (id : Nat) : Vol → Prop
  | same : Eff st id st
  | wrote (ck : Nat) (c : Content) :
      Eff st id (appendSet st (newRec id ck c) id ⟨st.log.length + 1, (needleSize c : Int)⟩)
  | removed (ck : Nat) (e : Ent) (hi : st.idx id = some e) (hp : 0 < e.size) :
      Eff st id (appendSet st (tomb id ck) id ⟨e.off, -e.size⟩)

/-- every operation but the read-only toggle acts on its own id only -/
theorem step_eff (st : Vol) (op : Op) : Eff st (opId op) (step st op).1 ∨ ∃ b, op = .setRO b := by
  have hdel : ∀ id ck, Eff st id (deleteStep st id ck).1 := by
    intro id ck
    rcases deleteStep_state st id ck with h | h | ⟨e, hi, hp, h⟩ <;> rw [h]
    · exact .same
    · exact .same
    · exact .removed ck e hi hp
  cases op with
  | write id ck c =>
    rcases writeStep_state st id ck c with h | h
    · exact .inl (h.symm ▸ .same)
    · exact .inl (h.symm ▸ .wrote ck _)
  | delete id ck => exact .inl (hdel id ck)
  | hdelete id ck =>
    rcases httpDelete_state st id ck with h | h
    · exact .inl (h.symm ▸ .same)
    · exact .inl (h.symm ▸ hdel id ck)
  | setRO b => exact .inr ⟨b, rfl⟩
  | _ => exact .inl .same

theorem Eff.inv {st st' : Vol} {id : Nat} (h : Eff st id st') (hI : Inv st) : Inv st' := by
  cases h with
  | same => exact hI
  | wrote ck c =>
    refine inv_appendSet hI id ⟨st.log.length + 1, _⟩ _ (recAt_new st.log _) (fun hp => ⟨rfl, ?_⟩) (fun hz => ?_)
    · rw [newRec, stored_data]
      exact fun h => Nat.ne_of_gt (Int.natCast_pos.mp hp) (needleSize_empty h)
    · exact stored_empty ((needleSize_eq_zero_iff _).mp (Int.natCast_eq_zero.mp hz))
  | removed ck e hi hp =>
    obtain ⟨r, hr, -, -⟩ := hI id e hi
    apply inv_appendSet hI id ⟨e.off, -e.size⟩ r (recAt_append_some _ hr)
    · intro h; simp only at h; omega
    · intro h; simp only at h; omega

theorem inv_step {st : Vol} (hI : Inv st) (op : Op) : Inv (step st op).1 := by
  rcases step_eff st op with h | ⟨b, rfl⟩
  · exact h.inv hI
  · exact hI

theorem readStep_none {st : Vol} {id : Nat} (hi : st.idx id = none) (ck : Nat) : readStep st id ck = .notfound := by
  simp only [readStep, hi]

theorem readStep_deleted {st : Vol} {id : Nat} {e : Ent} (hi : st.idx id = some e) (h0 : e.off ≠ 0)
    (hlt : e.size < 0) (ck : Nat) : readStep st id ck = .deleted := by
  simp only [readStep, hi, if_neg h0, if_pos hlt]

theorem readStep_empty {st : Vol} {id : Nat} {e : Ent} (hi : st.idx id = some e) (h0 : e.off ≠ 0)
    (hz : e.size = 0) (ck : Nat) : readStep st id ck = .ok 0 ck 0 Content.empty := by
  simp only [readStep, hi, if_neg h0, hz, Int.lt_irrefl, if_false, if_true]

theorem readStep_live {st : Vol} {id : Nat} {e : Ent} {r : Rec} (hi : st.idx id = some e)
    (hr : recAt st.log e.off = some r) (hgt : 0 < e.size) (hsz : r.size = e.size) (ck : Nat) :
    readStep st id ck = .ok (byteLen r.c.data) r.cookie r.size r.c := by
  have h1 : ¬ e.size < 0 := Int.lt_asymm hgt
  have h2 : ¬ e.size = 0 := Int.ne_of_gt hgt
  simp only [readStep, hi, if_neg (recAt_some_le hr).1, if_neg h1, if_neg h2, hr, hsz, ne_eq, not_true_eq_false, if_false]

/-- What the index, the abstraction and a read say about one id under the invariant: the id is
    absent, deleted, an empty blob, or a live blob with data. -/
inductive Slot (st : Vol) (id : Nat) : Prop
  | absent (hidx : st.idx id = none) (habs : (abs st).m id = none)
      (hread : ∀ ck, readStep st id ck = .notfound)
  | deleted (e : Ent) (r : Rec) (hidx : st.idx id = some e) (hlt : e.size < 0)
      (habs : (abs st).m id = some ⟨r.cookie, none⟩) (hread : ∀ ck, readStep st id ck = .deleted)
  | empty (e : Ent) (r : Rec) (hidx : st.idx id = some e) (hz : e.size = 0)
      (habs : (abs st).m id = some ⟨r.cookie, some Content.empty⟩)
      (hread : ∀ ck, readStep st id ck = .ok 0 ck 0 Content.empty)
  | live (e : Ent) (r : Rec) (hidx : st.idx id = some e) (hr : recAt st.log e.off = some r) (hgt : 0 < e.size)
      (hd : r.c.data ≠ "") (habs : (abs st).m id = some ⟨r.cookie, some r.c⟩)
      (hread : ∀ ck, readStep st id ck = .ok (byteLen r.c.data) r.cookie r.size r.c)

theorem slot {st : Vol} (hI : Inv st) (id : Nat) : Slot st id := by
  cases hidx : st.idx id with
  | none => exact .absent hidx (absEntry_none hidx) (readStep_none hidx)
  | some e =>
    obtain ⟨r, hr, hpos, hzero⟩ := hI id e hidx
    have h0 := (recAt_some_le hr).1
    have habs := absEntry_some hidx hr
    rcases Int.lt_trichotomy e.size 0 with hlt | hz | hgt
    · rw [if_pos hlt] at habs
      exact .deleted e r hidx hlt habs (readStep_deleted hidx h0 hlt)
    · rw [if_neg (by omega), hzero hz] at habs
      exact .empty e r hidx hz habs (readStep_empty hidx h0 hz)
    · rw [if_neg (Int.lt_asymm hgt)] at habs
      exact .live e r hidx hr hgt (hpos hgt).2 habs (readStep_live hidx hr hgt (hpos hgt).1)

theorem setM_self {m : Nat → Option Entry} {id : Nat} {e : Entry} (h : m id = some e) : setM m id e = m := by
  funext k
  unfold setM
  split
  · rename_i hk; rw [hk, h]
  · rfl

theorem sstep_write_ro {s : KV} {id ck : Nat} {c0 : Content} (h : s.ro = true) :
    sstep s (.write id ck c0) = (s, .wRo) := by
  simp [sstep, h]

theorem sstep_write_cookie {s : KV} {id ck : Nat} {c0 : Content} (h : ¬ s.ro = true) {e : Entry}
    (hm : s.m id = some e) (hck : e.cookie ≠ ck) : sstep s (.write id ck c0) = (s, .wCookie) := by
  simp [sstep, h, hm, hck]

theorem sstep_write_set {s : KV} {id ck : Nat} {c0 : Content} (h : ¬ s.ro = true)
    (hm : s.m id = none ∨ ∃ e, s.m id = some e ∧ e.cookie = ck) :
    sstep s (.write id ck c0) = ({ s with m := setM s.m id ⟨ck, some (inheritTtl s.volTtl c0)⟩ }, .wOk) := by
  rcases hm with hi | ⟨e, hi, hck⟩
  · simp [sstep, h, hi]
  · simp [sstep, h, hi, hck]

theorem sstep_write_cases (s : KV) (id ck : Nat) (c0 : Content) :
    sstep s (.write id ck c0) = (s, .wRo) ∨ sstep s (.write id ck c0) = (s, .wCookie) ∨
    sstep s (.write id ck c0) = ({ s with m := setM s.m id ⟨ck, some (inheritTtl s.volTtl c0)⟩ }, .wOk) := by
  by_cases hro : s.ro = true
  · exact .inl (sstep_write_ro hro)
  · cases hm : s.m id with
    | none => exact .inr (.inr (sstep_write_set hro (.inl hm)))
    | some e =>
      by_cases hck : e.cookie = ck
      · exact .inr (.inr (sstep_write_set hro (.inr ⟨e, hm, hck⟩)))
      · exact .inr (.inl (sstep_write_cookie hro hm hck))

theorem absOut_w_wRo {o : WOut} (h : absOut (.w o) = .wRo) : o = .ro := by
  cases o with
  | ro => rfl
  | _ => cases h

theorem absOut_w_wCookie {o : WOut} (h : absOut (.w o) = .wCookie) : o = .cookie := by
  cases o with
  | cookie => rfl
  | _ => cases h

theorem excluded_write_none {s : KV} {id ck : Nat} {c0 : Content} (hx : excluded s (.write id ck c0) = none) :
    ¬((inheritTtl s.volTtl c0).data = "" ∧ inheritTtl s.volTtl c0 ≠ Content.empty) ∧
    ∀ k c', s.m id = some ⟨k, some c'⟩ →
      ¬(k = ck ∧ c'.data = (inheritTtl s.volTtl c0).data ∧ c' ≠ inheritTtl s.volTtl c0) := by
  simp only [excluded] at hx
  split at hx
  · cases hx
  · rename_i h3
    refine ⟨h3, fun k c' hm => ?_⟩
    rw [hm] at hx
    simp only at hx
    split at hx
    · cases hx
    · assumption

theorem write_append_sim {st : Vol} (hI : Inv st) (id ck : Nat) (c0 : Content) (hro : ¬ st.ro = true)
    (hst : stored (inheritTtl st.volTtl c0) = inheritTtl st.volTtl c0)
    (hu : ¬ isFileUnchanged st id ck (inheritTtl st.volTtl c0) = true)
    (hok : st.idx id = none ∨ ∃ e r, st.idx id = some e ∧ recAt st.log e.off = some r ∧ r.cookie = ck) :
    abs (writeStep st id ck c0).1 = (sstep (abs st) (.write id ck c0)).1 ∧
      absOut (.w (writeStep st id ck c0).2) = (sstep (abs st) (.write id ck c0)).2 := by
  have hm : (abs st).m id = none ∨ ∃ e, (abs st).m id = some e ∧ e.cookie = ck :=
    hok.imp absEntry_none fun ⟨_, _, hi, hr, hck⟩ => ⟨_, absEntry_some hi hr, hck⟩
  rw [writeStep_append hro hu hok, sstep_write_set hro hm]
  refine ⟨?_, rfl⟩
  rw [abs_appendSet hI id ⟨st.log.length + 1, _⟩ _ (recAt_new st.log _),
    if_neg (Int.not_lt.mpr (Int.natCast_nonneg _))]
  simp only [newRec, hst]
  rfl

theorem write_sim {st : Vol} (hI : Inv st) (id ck : Nat) (c0 : Content) (hw : wfContent c0 = true)
    (hx : excluded (abs st) (.write id ck c0) = none) :
    abs (writeStep st id ck c0).1 = (sstep (abs st) (.write id ck c0)).1 ∧
      absOut (.w (writeStep st id ck c0).2) = (sstep (abs st) (.write id ck c0)).2 := by
  obtain ⟨h3, h1⟩ := excluded_write_none hx
  have hst := stored_eq_self (inheritTtl_wf hw) h3
  by_cases hro : st.ro = true
  · rw [writeStep_ro hro, sstep_write_ro (show (abs st).ro = true from hro)]
    exact ⟨rfl, rfl⟩
  · cases hidx : st.idx id with
    | none =>
      exact write_append_sim hI id ck c0 hro hst (isFileUnchanged_none ck _ hidx) (.inl hidx)
    | some e =>
      obtain ⟨r, hr, -, -⟩ := hI id e hidx
      have habs : (abs st).m id = some ⟨r.cookie, if e.size < 0 then none else some r.c⟩ := absEntry_some hidx hr
      by_cases hu : isFileUnchanged st id ck (inheritTtl st.volTtl c0) = true
      · -- same cookie, same bytes: outside class (i) the whole content is the same, so the
        -- specification's write changes nothing either
        obtain ⟨hp, hck, hdata⟩ := isFileUnchanged_true hidx hr hu
        rw [if_neg (Int.lt_asymm hp)] at habs
        have hsame : r.c = inheritTtl st.volTtl c0 :=
          Decidable.by_contra fun hne => h1 _ _ habs ⟨hck, hdata, hne⟩
        rw [writeStep_unchanged hro hu,
          sstep_write_set hro (.inr ⟨_, habs, hck⟩)]
        refine ⟨?_, rfl⟩
        show abs st = { abs st with m := setM (abs st).m id ⟨ck, some (inheritTtl st.volTtl c0)⟩ }
        rw [setM_self (by rw [habs, hck, hsame])]
      · by_cases hck : r.cookie = ck
        · exact write_append_sim hI id ck c0 hro hst hu (.inr ⟨e, r, hidx, hr, hck⟩)
        · rw [writeStep_cookie hro hu hidx hr hck, sstep_write_cookie hro habs hck]
          exact ⟨rfl, rfl⟩

theorem abs_appendSet_neg {st : Vol} (hI : Inv st) (id : Nat) {x : Rec} {e : Ent} {r : Rec}
    (hr : recAt st.log e.off = some r) (hgt : 0 < e.size) :
    abs (appendSet st x id ⟨e.off, -e.size⟩) = { abs st with m := setM (abs st).m id ⟨r.cookie, none⟩ } := by
  rw [abs_appendSet hI id ⟨e.off, -e.size⟩ r (recAt_append_some _ hr), if_pos (Int.neg_neg_of_pos hgt)]

theorem delete_sim {st : Vol} (hI : Inv st) (id ck : Nat) (hx : excluded (abs st) (.delete id ck) = none) :
    abs (deleteStep st id ck).1 = (sstep (abs st) (.delete id ck)).1 ∧
      absOut (.d (deleteStep st id ck).2) = (sstep (abs st) (.delete id ck)).2 := by
  by_cases hro : st.ro = true
  · have hs : sstep (abs st) (.delete id ck) = (abs st, .dRo) := by
      simp only [sstep, show (abs st).ro = true from hro, if_true]
    rw [deleteStep_ro hro, hs]
    exact ⟨rfl, rfl⟩
  · have hsro : ¬ (abs st).ro = true := hro
    cases slot hI id with
    | absent hidx habs _ =>
      have hs : sstep (abs st) (.delete id ck) = (abs st, .dOk false) := by
        simp only [sstep, hsro, habs, Bool.false_eq_true, if_false]
      rw [deleteStep_none hro hidx, hs]
      exact ⟨rfl, rfl⟩
    | deleted e r hidx hlt habs _ =>
      have hs : sstep (abs st) (.delete id ck) = (abs st, .dOk false) := by
        simp only [sstep, hsro, habs, Bool.false_eq_true, if_false]
      rw [deleteStep_noop hro hidx (Int.lt_asymm hlt), hs]
      exact ⟨rfl, rfl⟩
    | empty e r _ _ habs _ => simp [excluded, habs, Content.empty] at hx
    | live e r hidx hr hgt _ habs _ =>
      have hs : sstep (abs st) (.delete id ck) =
          ({ abs st with m := setM (abs st).m id ⟨r.cookie, none⟩ }, .dOk true) := by
        simp only [sstep, hsro, habs, Bool.false_eq_true, if_false]
      rw [deleteStep_live hro hidx hgt, hs]
      exact ⟨abs_appendSet_neg hI id hr hgt, congrArg Out.dOk (decide_eq_true hgt)⟩

theorem read_sim {st : Vol} (hI : Inv st) (id ck : Nat) :
    abs st = (sstep (abs st) (.read id ck)).1 ∧ absOut (.r (readStep st id ck)) = (sstep (abs st) (.read id ck)).2 := by
  cases slot hI id <;> simp only [sstep, absOut, and_self, *]

theorem hread_sim {st : Vol} (hI : Inv st) (id ck : Nat) :
    abs st = (sstep (abs st) (.hread id ck)).1 ∧
      absOut (.hr (httpRead st id ck).1 (httpRead st id ck).2) = (sstep (abs st) (.hread id ck)).2 := by
  cases slot hI id with
  | live e r _ _ _ hd habs hread =>
    by_cases hck : r.cookie = ck <;> simp [httpRead, sstep, habs, hread, absOut, hck, hd]
  | _ => simp [httpRead, sstep, absOut, Content.empty, *]

theorem hdelete_sim {st : Vol} (hI : Inv st) (id ck : Nat) (hx : excluded (abs st) (.hdelete id ck) = none) :
    abs (httpDelete st id ck).1 = (sstep (abs st) (.hdelete id ck)).1 ∧
      absOut (.hd (httpDelete st id ck).2.1 (httpDelete st id ck).2.2) = (sstep (abs st) (.hdelete id ck)).2 := by
  cases slot hI id with
  | absent _ habs hread | deleted _ _ _ _ habs hread =>
    have hs : sstep (abs st) (.hdelete id ck) = (abs st, .hdel 404) := by simp only [sstep, habs]
    have hm : httpDelete st id ck = (st, 404, some 0) := by simp only [httpDelete, hread]
    rw [hs, hm]
    exact ⟨rfl, rfl⟩
  | empty e r _ _ habs _ => by_cases hk : r.cookie = ck <;> simp [excluded, habs, Content.empty, hk] at hx
  | live e r hidx hr hgt _ habs hread =>
    -- both sides compare the cookie first, then the read-only flag
    have hs : sstep (abs st) (.hdelete id ck) =
        if r.cookie ≠ ck then (abs st, .hdel 400) else if (abs st).ro = true then (abs st, .hdel 500)
        else ({ abs st with m := setM (abs st).m id ⟨r.cookie, none⟩ }, .hdel 202) := by
      simp only [sstep, habs]
    rw [hs]
    simp only [httpDelete, hread]
    by_cases hck : r.cookie ≠ ck
    · rw [if_pos hck, if_pos hck]
      exact ⟨rfl, rfl⟩
    · rw [if_neg hck, if_neg hck]
      by_cases hro : st.ro = true
      · rw [deleteStep_ro hro, if_pos (show (abs st).ro = true from hro)]
        exact ⟨rfl, rfl⟩
      · rw [deleteStep_live hro hidx hgt, if_neg (show ¬ (abs st).ro = true from hro)]
        exact ⟨abs_appendSet_neg hI id hr hgt, rfl⟩

end SwV.Lemmas.C01
