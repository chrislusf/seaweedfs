/-
C15 — when do the three counts `isGoodMove` tests (`GoodAfter`) force the shape `satisfies` asks for (`Shape`)?
Replicas are counted rack by rack and racks data center by data center (`length_eq_sum_cnt` over `distinct`/`cnt`),
so x+1 data centers with x+y+1 racks leave y racks to spread; in `goodClass` they cannot be split over two data
centers (`exists_main_dc`).  When the source is among the replicas, these are pairwise different and ids identify
servers, the list `adjustAfterMove` produces is a permutation of the list `isGoodMove`
evaluated (`adjust_perm`), and `Shape` is invariant under permutation (`Shape.perm`), so `satisfies` after the move
can be decided on the list `isGoodMove` saw (`satisfies_adjust_iff`).
-/
import SwV.Model.C15
import SwV.Spec.C15
namespace SwV.Lemmas.C15
open SwV.Model.C15 SwV.Spec.C15

theorem of_ite_false {c : Prop} [Decidable c] {b : Bool} (h : (if c then false else b) = true) : b = true := by
  split at h
  · cases h
  · exact h

theorem mem_distinct {α : Type} [DecidableEq α] (a : α) (l : List α) : a ∈ distinct l ↔ a ∈ l := by
  induction l with
  | nil => simp [distinct]
  | cons b rest ih =>
    unfold distinct
    split
    next hb =>
      exact ⟨fun h => List.mem_cons_of_mem _ (ih.mp h),
        fun h => (List.mem_cons.mp h).elim (fun e => e ▸ hb) ih.mpr⟩
    next => rw [List.mem_cons, List.mem_cons, ih]

theorem distinct_cons_length {α : Type} [DecidableEq α] (a : α) (l : List α) :
    (distinct (a :: l)).length = if a ∈ l then (distinct l).length else (distinct l).length + 1 := by
  show (if a ∈ distinct l then distinct l else a :: distinct l).length = _
  simp only [mem_distinct]
  split <;> rfl

theorem distinct_nodup {α : Type} [DecidableEq α] (l : List α) : (distinct l).Nodup := by
  induction l with
  | nil => exact List.nodup_nil
  | cons a l ih =>
    unfold distinct
    split
    · exact ih
    · exact List.nodup_cons.mpr ⟨‹_›, ih⟩

theorem cnt_eq_count {α : Type} [DecidableEq α] (a : α) (l : List α) : cnt a l = l.count a := by
  rw [List.count, List.countP_eq_length_filter]; rfl

theorem cnt_cons {α : Type} [DecidableEq α] (a b : α) (l : List α) :
    cnt a (b :: l) = cnt a l + (if b = a then 1 else 0) := by
  simp only [cnt_eq_count, List.count_cons, beq_iff_eq]

theorem cnt_eq_zero {α : Type} [DecidableEq α] {a : α} {l : List α} : cnt a l = 0 ↔ a ∉ l :=
  cnt_eq_count a l ▸ List.count_eq_zero

theorem distinct_filter {α : Type} [DecidableEq α] (q : α → Bool) (l : List α) :
    distinct (l.filter q) = (distinct l).filter q := by
  induction l with
  | nil => simp [distinct]
  | cons a l ih =>
    by_cases hq : q a = true
    · rw [List.filter_cons_of_pos hq]
      unfold distinct
      rw [ih]
      by_cases h : a ∈ distinct l
      · have : a ∈ (distinct l).filter q := List.mem_filter.mpr ⟨h, hq⟩
        simp [h, this]
      · have : a ∉ (distinct l).filter q := fun e => h (List.mem_filter.mp e).1
        simp [h, this, List.filter_cons_of_pos hq]
    · rw [List.filter_cons_of_neg hq, ih]
      show _ = (if a ∈ distinct l then distinct l else a :: distinct l).filter q
      by_cases h : a ∈ distinct l
      · simp [h]
      · simp [h, List.filter_cons_of_neg hq]

theorem cnt_filter_pos {α : Type} [DecidableEq α] (q : α → Bool) (a : α) (l : List α) (h : q a = true) :
    cnt a (l.filter q) = cnt a l := by
  rw [cnt_eq_count, cnt_eq_count, List.count_filter h]

theorem distinct_perm {α : Type} [DecidableEq α] {l₁ l₂ : List α} (h : ∀ a, a ∈ l₁ ↔ a ∈ l₂) :
    (distinct l₁).Perm (distinct l₂) :=
  (List.perm_ext_iff_of_nodup (distinct_nodup _) (distinct_nodup _)).mpr fun a => by
    rw [mem_distinct, mem_distinct, h a]

theorem cnt_perm {α : Type} [DecidableEq α] {l₁ l₂ : List α} (h : l₁.Perm l₂) (a : α) : cnt a l₁ = cnt a l₂ := by
  rw [cnt_eq_count, cnt_eq_count, h.count_eq]

theorem cnt_map_eq {α β : Type} [DecidableEq β] (f : α → β) (b : β) (K : List α) :
    cnt b (K.map f) = (K.filter (fun k => f k == b)).length := by
  induction K with
  | nil => rfl
  | cons k K ih =>
    rw [List.map_cons, cnt_cons, ih]
    by_cases h : f k = b <;> simp [h]

theorem sum_map_add {α : Type} (L : List α) (f g : α → Nat) :
    (L.map fun k => f k + g k).sum = (L.map f).sum + (L.map g).sum := by
  induction L with
  | nil => rfl
  | cons a L ih => simp only [List.map_cons, List.sum_cons, ih]; exact Nat.add_add_add_comm _ _ _ _

theorem sum_indicator {α : Type} [DecidableEq α] (a : α) {L : List α} (hn : L.Nodup) :
    (L.map fun k => if a = k then 1 else 0).sum = if a ∈ L then 1 else 0 := by
  induction L with
  | nil => rfl
  | cons b L ih =>
    have hn' := List.nodup_cons.mp hn
    simp only [List.map_cons, List.sum_cons, ih hn'.2, List.mem_cons]
    by_cases hab : a = b
    · subst hab; simp [hn'.1]
    · simp [hab]

theorem length_eq_sum_cnt {α : Type} [DecidableEq α] (l : List α) :
    l.length = ((distinct l).map fun k => cnt k l).sum := by
  induction l with
  | nil => rfl
  | cons a l ih =>
    have hc : (fun k => cnt k (a :: l)) = fun k => cnt k l + (if a = k then 1 else 0) := by
      funext k; exact cnt_cons k a l
    rw [hc]
    unfold distinct
    by_cases h : a ∈ distinct l
    · simp only [h, if_true, sum_map_add, sum_indicator a (distinct_nodup l), List.length_cons, ← ih]
    · have hz : cnt a l = 0 := cnt_eq_zero.mpr (fun e => h ((mem_distinct a l).mpr e))
      simp only [h, if_false, List.map_cons, List.sum_cons, sum_map_add, sum_indicator a (distinct_nodup l),
        List.length_cons, ← ih, hz, if_true]
      omega

theorem sum_le_mul {α : Type} (L : List α) (f : α → Nat) (c : Nat) (h : ∀ k ∈ L, f k ≤ c) :
    (L.map f).sum ≤ L.length * c := by
  induction L with
  | nil => simp
  | cons a L ih =>
    rw [List.map_cons, List.sum_cons, List.length_cons, Nat.succ_mul, Nat.add_comm]
    exact Nat.add_le_add (ih fun k hk => h k (List.mem_cons_of_mem _ hk)) (h a List.mem_cons_self)

theorem mul_le_sum {α : Type} (L : List α) (f : α → Nat) (c : Nat) (h : ∀ k ∈ L, c ≤ f k) :
    L.length * c ≤ (L.map f).sum := by
  induction L with
  | nil => simp
  | cons a L ih =>
    rw [List.map_cons, List.sum_cons, List.length_cons, Nat.succ_mul, Nat.add_comm]
    exact Nat.add_le_add (h a List.mem_cons_self) (ih fun k hk => h k (List.mem_cons_of_mem _ hk))

theorem sum_const {α : Type} (L : List α) (f : α → Nat) (c : Nat) (h : ∀ k ∈ L, f k = c) :
    (L.map f).sum = L.length * c :=
  Nat.le_antisymm (sum_le_mul L f c fun k hk => Nat.le_of_eq (h k hk))
    (mul_le_sum L f c fun k hk => Nat.le_of_eq (h k hk).symm)

theorem sum_split {α : Type} [DecidableEq α] (L : List α) (f : α → Nat) (d : α) (hd : d ∈ L) :
    (L.map f).sum = f d + ((L.erase d).map f).sum := by
  have hp := (List.perm_cons_erase hd).map f
  rw [hp.sum_nat]; simp

theorem le_of_sum {α : Type} [DecidableEq α] (L : List α) (n : α → Nat) (e : Nat)
    (hpos : ∀ d ∈ L, n d ≥ 1) (hsum : (L.map n).sum = L.length + e) (d : α) (hd : d ∈ L) : n d ≤ e + 1 := by
  have h1 := sum_split L n d hd
  have h3 := mul_le_sum (L.erase d) n 1 (fun k hk => hpos k (List.mem_of_mem_erase hk))
  have l1 := List.length_erase_of_mem hd
  have := List.length_pos_of_mem hd
  omega

theorem others_one {α : Type} [DecidableEq α] (L : List α) (n : α → Nat) (e : Nat)
    (hpos : ∀ d ∈ L, n d ≥ 1) (hsum : (L.map n).sum = L.length + e)
    (d : α) (hd : d ∈ L) (hnd : n d = e + 1) (d' : α) (hd' : d' ∈ L) (hne : d' ≠ d) : n d' = 1 := by
  have h1 := sum_split L n d hd
  have l1 := List.length_erase_of_mem hd
  have := List.length_pos_of_mem hd
  have hrest : ((L.erase d).map n).sum = (L.erase d).length + 0 := by omega
  exact Nat.le_antisymm
    (le_of_sum (L.erase d) n 0 (fun k hk => hpos k (List.mem_of_mem_erase hk)) hrest d'
      ((List.mem_erase_of_ne hne).mpr hd'))
    (hpos d' hd')

theorem sum_main_others {α : Type} [DecidableEq α] (L : List α) (f : α → Nat) (r : α) (hr : r ∈ L)
    (ho : ∀ k ∈ L, k ≠ r → f k = 1) (hn : L.Nodup) {m : Nat} (hlen : L.length = m + 1) :
    (L.map f).sum = f r + m := by
  rw [sum_split L f r hr, sum_const (L.erase r) f 1 (fun k hk => ho k (List.mem_of_mem_erase hk)
    (fun e => (List.Nodup.mem_erase_iff hn).mp hk |>.1 e)), List.length_erase_of_mem hr, hlen,
    Nat.add_sub_cancel, Nat.mul_one]

/-- read with `L` the x+1 data centers and `n d` the racks of `d`, x+y+1 in all: when x = 0 or y ≤ 1, one data center
    has y+1 racks (x = 1, y = 2 allows 2 + 2) -/
theorem exists_main_dc {α : Type} [DecidableEq α] (L : List α) (n : α → Nat) (x y : Nat)
    (hc : x = 0 ∨ y ≤ 1) (hlen : L.length = x + 1) (hpos : ∀ d ∈ L, n d ≥ 1)
    (hsum : (L.map n).sum = L.length + y) : ∃ d ∈ L, n d = y + 1 := by
  apply Classical.byContradiction
  intro hno
  -- otherwise each has at most y, together at most (x+1)·y < x+1+y
  have hs := sum_le_mul L n y fun d hd =>
    Nat.le_of_lt_succ (Nat.lt_of_le_of_ne (le_of_sum L n y hpos hsum d hd) fun e => hno ⟨d, hd, e⟩)
  rw [hsum, hlen, Nat.succ_mul] at hs
  have hxy : x * y ≤ x := hc.elim (fun h => h ▸ Nat.le_of_eq (Nat.zero_mul y))
    fun h => Nat.le_trans (Nat.mul_le_mul_left x h) (Nat.le_of_eq (Nat.mul_one x))
  omega

/-! `Shape rp p d r`: what `satisfies` tests of `d` and `r` (`r ∈ racksIn p d` and `shapeAt true rp p d r`), as
propositions — `r` is the rack of data center `d` with z+1 replicas, the other racks of `d` (y of them) and the other
data centers (x of them) hold one replica each. -/

structure Shape (rp : RP) (p : List Loc) (d : Nat) (r : Nat × Nat) : Prop where
  rmem : r ∈ racksOf p
  rdc : r.1 = d
  main : cntRack p r = rp.z + 1
  others : ∀ k ∈ racksOf p, k.1 = d → k ≠ r → cntRack p k = 1
  nracks : (racksIn p d).length = rp.y + 1
  odcs : ∀ d' ∈ dcsOf p, d' ≠ d → cntDc p d' = 1
  ndcs : (dcsOf p).length = rp.x + 1

theorem mem_racksIn (p : List Loc) (d : Nat) (k : Nat × Nat) : k ∈ racksIn p d ↔ k ∈ racksOf p ∧ k.1 = d := by
  simp [racksIn, List.mem_filter]

theorem mem_dcsOf (p : List Loc) (d : Nat) : d ∈ dcsOf p ↔ ∃ l ∈ p, l.dc = d := by
  unfold dcsOf; rw [mem_distinct]; simp [List.mem_map]

theorem mem_racksOf (p : List Loc) (k : Nat × Nat) : k ∈ racksOf p ↔ ∃ l ∈ p, rackKey l = k := by
  unfold racksOf; rw [mem_distinct]; simp [List.mem_map]

theorem dc_mem_of_rack_mem (p : List Loc) (k : Nat × Nat) (h : k ∈ racksOf p) : k.1 ∈ dcsOf p := by
  obtain ⟨l, hl, rfl⟩ := (mem_racksOf p k).mp h
  exact (mem_dcsOf p _).mpr ⟨l, hl, rfl⟩

theorem Shape.dmem {rp : RP} {p : List Loc} {d : Nat} {r : Nat × Nat} (s : Shape rp p d r) : d ∈ dcsOf p :=
  s.rdc ▸ dc_mem_of_rack_mem p r s.rmem

theorem Shape.rmemIn {rp : RP} {p : List Loc} {d : Nat} {r : Nat × Nat} (s : Shape rp p d r) : r ∈ racksIn p d :=
  (mem_racksIn p d r).mpr ⟨s.rmem, s.rdc⟩

theorem shapeAt_iff (rp : RP) (p : List Loc) (d : Nat) (r : Nat × Nat) : shapeAt true rp p d r = true ↔
    cntRack p r = rp.z + 1 ∧ (∀ k ∈ racksIn p d, k = r ∨ cntRack p k = 1) ∧ (racksIn p d).length - 1 = rp.y ∧
    (∀ d' ∈ dcsOf p, d' = d ∨ cntDc p d' = 1) ∧ (dcsOf p).length - 1 = rp.x := by
  simp only [shapeAt, if_true, Bool.and_eq_true, beq_iff_eq, List.all_eq_true, Bool.or_eq_true, and_assoc]

theorem satisfies_iff (rp : RP) (p : List Loc) :
    satisfies rp p = true ↔ p.Nodup ∧ ∃ d r, Shape rp p d r := by
  unfold satisfies nodupB
  simp only [Bool.and_eq_true, decide_eq_true_eq, List.any_eq_true, shapeAt_iff]
  constructor
  · rintro ⟨hn, d, hd, r, hr, h1, h2, h3, h4, h5⟩
    have hr' := (mem_racksIn p d r).mp hr
    refine ⟨hn, d, r, hr'.1, hr'.2, h1, fun k hk hkd hne => ?_,
      by rw [← h3, Nat.sub_add_cancel (List.length_pos_of_mem hr)],
      fun d' hd' hne => ?_, by rw [← h5, Nat.sub_add_cancel (List.length_pos_of_mem hd)]⟩
    · exact (h2 k ((mem_racksIn p d k).mpr ⟨hk, hkd⟩)).resolve_left hne
    · exact (h4 d' hd').resolve_left hne
  · rintro ⟨hn, d, r, hs⟩
    refine ⟨hn, d, hs.dmem, r, hs.rmemIn, hs.main, fun k hk => ?_, by rw [hs.nracks, Nat.add_sub_cancel],
      fun d' hd' => ?_, by rw [hs.ndcs, Nat.add_sub_cancel]⟩
    · have hk' := (mem_racksIn p d k).mp hk
      exact (Decidable.em (k = r)).imp_right (hs.others k hk'.1 hk'.2)
    · exact (Decidable.em (d' = d)).imp_right (hs.odcs d' hd')

theorem racksOf_perm {p q : List Loc} (h : p.Perm q) : (racksOf p).Perm (racksOf q) := distinct_perm fun _ => (h.map rackKey).mem_iff
theorem dcsOf_perm {p q : List Loc} (h : p.Perm q) : (dcsOf p).Perm (dcsOf q) := distinct_perm fun _ => (h.map (fun l : Loc => l.dc)).mem_iff
theorem racksIn_perm {p q : List Loc} (h : p.Perm q) (d : Nat) : (racksIn p d).Perm (racksIn q d) := (racksOf_perm h).filter _
theorem cntRack_perm {p q : List Loc} (h : p.Perm q) (k : Nat × Nat) : cntRack p k = cntRack q k := cnt_perm (h.map rackKey) k
theorem cntDc_perm {p q : List Loc} (h : p.Perm q) (d : Nat) : cntDc p d = cntDc q d := cnt_perm (h.map (fun l : Loc => l.dc)) d

theorem Shape.perm {rp : RP} {p q : List Loc} {d : Nat} {r : Nat × Nat} (h : p.Perm q) (s : Shape rp p d r) :
    Shape rp q d r where
  rmem := (racksOf_perm h).mem_iff.mp s.rmem
  rdc := s.rdc
  main := by rw [← cntRack_perm h]; exact s.main
  others := fun k hk hd hne => by rw [← cntRack_perm h]; exact s.others k ((racksOf_perm h).mem_iff.mpr hk) hd hne
  nracks := by rw [← (racksIn_perm h d).length_eq]; exact s.nracks
  odcs := fun d' hd' hne => by rw [← cntDc_perm h]; exact s.odcs d' ((dcsOf_perm h).mem_iff.mpr hd') hne
  ndcs := by rw [← (dcsOf_perm h).length_eq]; exact s.ndcs

theorem length_eq_sum_cntRack (p : List Loc) : p.length = ((racksOf p).map (cntRack p)).sum := by
  rw [← List.length_map (f := rackKey), length_eq_sum_cnt]; rfl

theorem length_eq_sum_cntDc (p : List Loc) : p.length = ((dcsOf p).map (cntDc p)).sum := by
  rw [← List.length_map (f := fun l : Loc => l.dc), length_eq_sum_cnt]; rfl

theorem cntDc_eq_sum (p : List Loc) (d : Nat) : cntDc p d = ((racksIn p d).map (cntRack p)).sum := by
  have hlen : cntDc p d = ((p.map rackKey).filter (fun k => k.1 == d)).length := by
    rw [cntDc, cnt_map_eq, List.filter_map, List.length_map]; rfl
  rw [hlen, length_eq_sum_cnt, distinct_filter]
  exact congrArg List.sum (List.map_congr_left fun k hk => cnt_filter_pos _ k _ (List.mem_filter.mp hk).2)

theorem Shape.length {rp : RP} {p : List Loc} {d : Nat} {r : Nat × Nat} (s : Shape rp p d r) :
    p.length = rp.x + rp.y + rp.z + 1 := by
  rw [length_eq_sum_cntDc, sum_main_others (dcsOf p) (cntDc p) d s.dmem s.odcs (distinct_nodup _) s.ndcs,
    cntDc_eq_sum, sum_main_others (racksIn p d) (cntRack p) r s.rmemIn
      (fun k hk hne => s.others k ((mem_racksIn p d k).mp hk).1 ((mem_racksIn p d k).mp hk).2 hne)
      ((distinct_nodup _).filter _) s.nracks, s.main]
  omega

theorem racks_eq_sum (p : List Loc) : (racksOf p).length = ((dcsOf p).map fun d => (racksIn p d).length).sum := by
  rw [← List.length_map (f := (·.1)), length_eq_sum_cnt]
  have hperm : (distinct ((racksOf p).map (·.1))).Perm (dcsOf p) := distinct_perm fun d => by
    refine Iff.trans ?_ (mem_distinct d _)
    constructor
    · intro h
      obtain ⟨k, hk, rfl⟩ := List.mem_map.mp h
      exact dc_mem_of_rack_mem p k hk
    · intro h
      obtain ⟨l, hl, rfl⟩ := (mem_dcsOf p d).mp h
      exact List.mem_map.mpr ⟨rackKey l, (mem_racksOf p _).mpr ⟨l, hl, rfl⟩, rfl⟩
  rw [(hperm.map _).sum_nat]
  exact congrArg List.sum (List.map_congr_left fun d _ => cnt_map_eq _ d _)

theorem racksIn_pos (p : List Loc) (d : Nat) (h : d ∈ dcsOf p) : (racksIn p d).length ≥ 1 := by
  obtain ⟨l, hl, rfl⟩ := (mem_dcsOf p d).mp h
  exact List.length_pos_of_mem ((mem_racksIn p l.dc (rackKey l)).mpr ⟨(mem_racksOf p _).mpr ⟨l, hl, rfl⟩, rfl⟩)

/-- the replica list `isGoodMove` evaluates: the target plus every replica not on the source server -/
def afterOf (reps : List Loc) (src dst : Loc) : List Loc := dst :: reps.filter (fun r => r.id != src.id)

/-- what `isGoodMove` checks on that list: x+1 data centers, x+y+1 racks, z+1 replicas in EVERY rack -/
structure GoodAfter (rp : RP) (a : List Loc) : Prop where
  ndcs : (dcsOf a).length = rp.x + 1
  nracks : (racksOf a).length = rp.y + rp.x + 1
  each : ∀ k ∈ racksOf a, cntRack a k = rp.z + 1

theorem good_racks_sum {rp : RP} {a : List Loc} (g : GoodAfter rp a) :
    ((dcsOf a).map fun d => (racksIn a d).length).sum = (dcsOf a).length + rp.y := by
  rw [← racks_eq_sum, g.nracks, g.ndcs, Nat.add_comm (rp.x + 1), Nat.add_assoc]

theorem good_length {rp : RP} {a : List Loc} (g : GoodAfter rp a) : a.length = (rp.y + rp.x + 1) * (rp.z + 1) := by
  rw [length_eq_sum_cntRack, sum_const _ _ _ g.each, g.nracks]

theorem isGoodMove_good (rp : RP) (reps : List Loc) (src dst : Loc) (h : isGoodMove rp reps src dst = true) :
    GoodAfter rp (afterOf reps src dst) := by
  have h := of_ite_false h
  simp only [Bool.and_eq_true, beq_iff_eq, List.all_eq_true] at h
  exact ⟨h.1.1, h.1.2, h.2⟩

theorem goodMove_target_new (rp : RP) (reps : List Loc) (src dst : Loc)
    (h : isGoodMove rp reps src dst = true) : dst ∉ reps := by
  intro hmem
  have hany : reps.any (fun r => r.id == dst.id && r.rack == dst.rack && r.dc == dst.dc) = true :=
    List.any_eq_true.mpr ⟨dst, hmem, by simp⟩
  simp [isGoodMove, hany] at h

/-- the replication settings for which the three counts of `isGoodMove` pin the shape down -/
def goodClass (rp : RP) : Prop := (rp.z = 0 ∧ (rp.x = 0 ∨ rp.y ≤ 1)) ∨ (rp.x = 0 ∧ rp.y = 0)
instance (rp : RP) : Decidable (goodClass rp) := by unfold goodClass; exact inferInstance

theorem eq_of_length_one {α : Type} {L : List α} (h : L.length = 1) (a b : α) (ha : a ∈ L) (hb : b ∈ L) : a = b := by
  match L, h with
  | [x], _ => simp at ha hb; rw [ha, hb]

/-- the three counts of `isGoodMove` plus ONE data center with y+1 racks give the shape, when every rack holds one
    replica (z = 0) or there is nothing besides the main rack (x = y = 0) -/
theorem good_shape_of_main (rp : RP) (a : List Loc) (g : GoodAfter rp a) (hz : rp.z = 0 ∨ (rp.x = 0 ∧ rp.y = 0))
    (d : Nat) (hd : d ∈ dcsOf a) (hnd : (racksIn a d).length = rp.y + 1) : ∃ r, Shape rp a d r := by
  obtain ⟨r, hr⟩ := List.exists_mem_of_length_pos (l := racksIn a d) (hnd ▸ Nat.succ_pos _)
  have hr' := (mem_racksIn a d r).mp hr
  refine ⟨r, hr'.1, hr'.2, g.each r hr'.1, ?_, hnd, ?_, g.ndcs⟩
  · intro k hk hkd hne
    rcases hz with hz | hxy
    · rw [g.each k hk, hz]
    · exact absurd (eq_of_length_one (by rw [hnd, hxy.2]) k r ((mem_racksIn a d k).mpr ⟨hk, hkd⟩) hr) hne
  · intro d' hd' hne'
    rcases hz with hz | hxy
    · have hone : (racksIn a d').length = 1 :=
        others_one (dcsOf a) (fun d => (racksIn a d).length) rp.y (fun d hd => racksIn_pos a d hd) (good_racks_sum g) d hd hnd d' hd' hne'
      rw [cntDc_eq_sum, sum_const _ _ 1 (fun k hk => by rw [g.each k ((mem_racksIn a d' k).mp hk).1, hz]), hone]
    · exact absurd (eq_of_length_one (by rw [g.ndcs, hxy.1]) d' d hd' hd) hne'

theorem good_imp_shape (rp : RP) (a : List Loc) (g : GoodAfter rp a) (hc : goodClass rp) :
    ∃ d r, Shape rp a d r := by
  obtain ⟨d, hd, hnd⟩ := exists_main_dc (dcsOf a) (fun d => (racksIn a d).length) rp.x rp.y
    (hc.elim (·.2) (Or.inl ·.1)) g.ndcs (fun d hd => racksIn_pos a d hd) (good_racks_sum g)
  exact ⟨d, good_shape_of_main rp a g (hc.imp_left (·.1)) d hd hnd⟩

/-- server ids identify servers: equal id ⇒ same data center and rack (ids are ip:port) -/
def idsInj (l : List Loc) : Prop := ∀ a ∈ l, ∀ b ∈ l, a.id = b.id → a = b
instance (l : List Loc) : Decidable (idsInj l) := by unfold idsInj; exact inferInstance

theorem idsInj_subset {l m : List Loc} (h : l ⊆ m) (hm : idsInj m) : idsInj l :=
  fun a ha b hb e => hm a (h ha) b (h hb) e

theorem mem_adjust {l : List Loc} {src dst x : Loc} (h : x ∈ adjustReps l src dst) : x ∈ l ∨ x = dst := by
  induction l with
  | nil => simp [adjustReps] at h
  | cons r rest ih =>
    unfold adjustReps at h
    split at h
    · exact (List.mem_cons.mp h).symm.imp_left (List.mem_cons_of_mem _)
    · rcases List.mem_cons.mp h with h | h
      · exact Or.inl (h ▸ List.mem_cons_self)
      · exact (ih h).imp_left (List.mem_cons_of_mem _)

theorem adjust_nodup (reps : List Loc) (src dst : Loc) (hn : reps.Nodup) (hd : dst ∉ reps) :
    (adjustReps reps src dst).Nodup := by
  induction reps with
  | nil => exact List.nodup_nil
  | cons r rest ih =>
    have hn' := List.nodup_cons.mp hn
    have hd' := List.ne_and_not_mem_of_not_mem_cons hd
    unfold adjustReps
    split
    · exact List.nodup_cons.mpr ⟨hd'.2, hn'.2⟩
    · refine List.nodup_cons.mpr ⟨fun hm => ?_, ih hn'.2 hd'.2⟩
      exact (mem_adjust hm).elim hn'.1 fun e => hd'.1 e.symm

theorem adjust_of_not_mem (reps : List Loc) (src dst : Loc) (h : src ∉ reps) : adjustReps reps src dst = reps := by
  induction reps with
  | nil => rfl
  | cons r rest ih =>
    have h' := List.ne_and_not_mem_of_not_mem_cons h
    simp [adjustReps, Ne.symm h'.1, ih h'.2]

theorem adjust_length (reps : List Loc) (src dst : Loc) : (adjustReps reps src dst).length = reps.length := by
  induction reps with
  | nil => rfl
  | cons r rest ih =>
    unfold adjustReps
    split <;> simp [ih]

theorem adjust_perm (reps : List Loc) (src dst : Loc) (hn : reps.Nodup) (hs : src ∈ reps) (hi : idsInj reps) :
    (adjustReps reps src dst).Perm (afterOf reps src dst) := by
  induction reps with
  | nil => simp at hs
  | cons r rest ih =>
    have hn' := List.nodup_cons.mp hn
    unfold adjustReps afterOf
    by_cases hr : r = src
    · subst hr
      have hkeep : rest.filter (fun q => q.id != r.id) = rest := by
        apply List.filter_eq_self.mpr
        intro q hq
        have : ¬ q.id = r.id := fun e => hn'.1 ((hi q (List.mem_cons_of_mem _ hq) r List.mem_cons_self e) ▸ hq)
        exact bne_iff_ne.mpr this
      simp [hkeep]
    · have hid : ¬ r.id = src.id := fun e => hr (hi r List.mem_cons_self src hs e)
      have hs' : src ∈ rest := (List.mem_cons.mp hs).resolve_left (Ne.symm hr)
      have ih' := ih hn'.2 hs' (idsInj_subset (List.subset_cons_self _ _) hi)
      unfold afterOf at ih'
      have hb : (r.id != src.id) = true := bne_iff_ne.mpr hid
      simp only [hr, if_false, List.filter_cons, hb, if_true]
      exact (ih'.cons r).trans (List.Perm.swap _ _ _)

theorem satisfies_adjust_iff {rp : RP} {reps : List Loc} {src dst : Loc} (hn : reps.Nodup) (hi : idsInj reps)
    (hsrc : src ∈ reps) (hg : isGoodMove rp reps src dst = true) :
    satisfies rp (adjustReps reps src dst) = true ↔ ∃ d r, Shape rp (afterOf reps src dst) d r := by
  have hp := adjust_perm reps src dst hn hsrc hi
  rw [satisfies_iff]
  constructor
  · rintro ⟨_, d, r, sh⟩
    exact ⟨d, r, Shape.perm hp sh⟩
  · rintro ⟨d, r, sh⟩
    exact ⟨adjust_nodup reps src dst hn (goodMove_target_new rp reps src dst hg), d, r, Shape.perm hp.symm sh⟩

/-- the decidable condition on (rp, replica set, move): after the move some data center still has y+1 racks -/
def mainDcSurvives (rp : RP) (reps : List Loc) (src dst : Loc) : Bool :=
  (dcsOf (afterOf reps src dst)).any fun d => (racksIn (afterOf reps src dst) d).length == rp.y + 1

end SwV.Lemmas.C15
