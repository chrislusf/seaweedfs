/-
C26 — every verifier of a transport credential (`verifyV2`, `verifyV4`, the streaming seed check) and the lookup of
the anonymous identity establish `Vouched` (an intact transport credential of a configured identity, or the
anonymous identity), from which the specification's `authorized` follows once `canDo` has passed (`verifyForm`, which
reads the form's credential, is not among them: an unverified-type request to the form handler whose policy signature
verifies falls under `excludedClass`); what a request
that `getRequestAuthType` classifies as streaming or POST-policy looks like; `matchIdx` returns the first row that
matches; IAM policy documents: every element `GetActions` emits on whose account `canDo` says yes to a non-empty
action without a colon is named by the statement it came from.
-/
import SwV.Model.C26
import SwV.Spec.C26
namespace SwV.Lemmas.C26
open SwV.Model.C26 SwV.Spec.C26

theorem lookupByAccessKey_sound {cfg : Config} {ak : String} {i : Identity} {secret : String}
    (h : lookupByAccessKey cfg ak = some (i, secret)) : i ∈ cfg ∧ (ak, secret) ∈ i.creds := by
  induction cfg with
  | nil => simp [lookupByAccessKey] at h
  | cons j rest ih =>
    simp only [lookupByAccessKey] at h
    split at h
    · rename_i c hc
      simp only [Option.some.injEq, Prod.mk.injEq] at h
      obtain ⟨rfl, rfl⟩ := h
      have hm := List.mem_of_find?_eq_some hc
      have hp := List.find?_some hc
      simp only [beq_iff_eq] at hp
      refine ⟨List.mem_cons_self, ?_⟩
      have : c = (ak, c.2) := by rw [← hp]
      rw [← this]; exact hm
    · obtain ⟨h1, h2⟩ := ih h
      exact ⟨List.mem_cons_of_mem _ h1, h2⟩

theorem verifyCred_sound {cfg : Config} {c : Option Cred} {k : CredKind} {i : Identity}
    (h : verifyCred cfg c k = some i) :
    ∃ cr, c = some cr ∧ cr.kind = k ∧ cr.intact = true ∧ i ∈ cfg ∧ (cr.ak, cr.sk) ∈ i.creds := by
  unfold verifyCred at h
  split at h
  · simp at h
  · rename_i cr
    split at h
    · rename_i hk
      split at h
      · rename_i j secret hl
        split at h
        · rename_i hs
          simp only [Option.some.injEq] at h
          subst h
          simp only [sigOK, Bool.and_eq_true, beq_iff_eq] at hs
          obtain ⟨h1, h2⟩ := lookupByAccessKey_sound hl
          exact ⟨cr, rfl, hk, hs.1, h1, by rw [hs.2]; exact h2⟩
        · simp at h
      · simp at h
    · simp at h

/-- The request vouches for identity `i`: it carries an intact transport credential made with a key pair of `i`,
    or `i` is the configured anonymous identity.  Every verifier of a transport credential establishes this, and it is
    what the specification's `authorized` asks for besides the permission (its clause for the form's credential aside). -/
def Vouched (cfg : Config) (rq : Req) (i : Identity) : Prop :=
  i ∈ cfg ∧ ((∃ cr, rq.transport = some cr ∧ cr.intact = true ∧ (cr.ak, cr.sk) ∈ i.creds) ∨ (i.name == "anonymous") = true)

theorem verifyCred_vouched {cfg : Config} {rq : Req} {k : CredKind} {i : Identity}
    (h : verifyCred cfg rq.transport k = some i) : Vouched cfg rq i := by
  obtain ⟨cr, a, _, b, c, d⟩ := verifyCred_sound h
  exact ⟨c, Or.inl ⟨cr, a, b, d⟩⟩

theorem verifyV2_vouched {cfg : Config} {rq : Req} {i : Identity} (h : verifyV2 cfg rq = some i) : Vouched cfg rq i := by
  unfold verifyV2 at h
  split at h <;> exact verifyCred_vouched h

theorem verifyV4_vouched {cfg : Config} {rq : Req} {i : Identity} (h : verifyV4 cfg rq = some i) : Vouched cfg rq i := by
  unfold verifyV4 at h
  split at h
  · exact verifyCred_vouched h
  · split at h
    · exact verifyCred_vouched h
    · cases h

theorem lookupAnonymous_vouched {cfg : Config} {rq : Req} {i : Identity} (h : lookupAnonymous cfg = some i) : Vouched cfg rq i :=
  ⟨List.mem_of_find?_eq_some h, Or.inr (List.find?_some (p := fun (i : Identity) => i.name == "anonymous") h)⟩

theorem authorized_of_vouched {cfg : Config} {rq : Req} {i : Identity} {rt : Route} {a : Option Str}
    (hv : Vouched cfg rq i) (ha : routeAction rt = a) (hp : permitted i a rq.bucket = true) :
    authorized cfg rt rq = true := by
  subst ha
  obtain ⟨hi, ⟨cr, ht, hint, hc⟩ | hn⟩ := hv
  · have : credAuthorizes cfg cr (routeAction rt) rq.bucket = true := by
      simp only [credAuthorizes, hint, Bool.true_and, List.any_eq_true, Bool.and_eq_true]
      exact ⟨i, hi, List.contains_iff_mem.mpr hc, hp⟩
    simp only [authorized, ht, this, Bool.true_or]
  · have : anonymousAllowed cfg (routeAction rt) rq.bucket = true := by
      simp only [anonymousAllowed, List.any_eq_true, Bool.and_eq_true]
      exact ⟨i, hi, hn, hp⟩
    simp only [authorized, this, Bool.or_true]

/-- the two auth types whose arm in `authRequest` returns ErrNone without looking at any credential -/
theorem arm_pass_iff {t : AuthType} : armOf t = .pass ↔ t = .streamingSigned ∨ t = .postPolicy := by
  cases t <;> simp [armOf]

/-- the `canDo` step after the switch of `authRequest` -/
theorem canDo_check {action bucket : Str} {oi : Option Identity} {r : Option Identity}
    (h : (match oi with
      | none => none
      | some i => if canDo i.actions action bucket then some (some i) else none) = some r) :
    ∃ i, oi = some i ∧ canDo i.actions action bucket = true := by
  split at h
  · cases h
  · rename_i i
    split at h
    · exact ⟨i, rfl, ‹_›⟩
    · cases h

theorem authRequest_sound {cfg : Config} {action : Str} {rq : Req} {r : Option Identity}
    (h : authRequest cfg action rq = some r) :
    armOf (authTypeOf rq) = .pass ∨ ∃ i, Vouched cfg rq i ∧ canDo i.actions action rq.bucket = true := by
  unfold authRequest at h
  cases ha : armOf (authTypeOf rq) <;> rw [ha] at h
  · exact Or.inl rfl
  · cases h
  · cases h
  · obtain ⟨i, hv, hc⟩ := canDo_check h; exact Or.inr ⟨i, verifyV2_vouched hv, hc⟩
  · obtain ⟨i, hv, hc⟩ := canDo_check h; exact Or.inr ⟨i, verifyV4_vouched hv, hc⟩
  · obtain ⟨i, hv, hc⟩ := canDo_check h; exact Or.inr ⟨i, lookupAnonymous_vouched hv, hc⟩

theorem authUser_sound {cfg : Config} {rq : Req} (h : authUser cfg rq = true) :
    armOf (authTypeOf rq) = .pass ∨ ∃ i, Vouched cfg rq i := by
  unfold authUser at h
  cases ha : armOf (authTypeOf rq) <;> simp only [ha] at h
  · exact Or.inl rfl
  · cases h
  · cases h
  · obtain ⟨i, hv⟩ := Option.isSome_iff_exists.mp h; exact Or.inr ⟨i, verifyV2_vouched hv⟩
  · obtain ⟨i, hv⟩ := Option.isSome_iff_exists.mp h; exact Or.inr ⟨i, verifyV4_vouched hv⟩
  · obtain ⟨i, hv⟩ := Option.isSome_iff_exists.mp h; exact Or.inr ⟨i, lookupAnonymous_vouched hv⟩

/-- the re-verification inside PutObjectHandler / PutObjectPartHandler, on a streaming request: the seed signature
    is a V4 header signature, and its signer may write to the bucket -/
theorem putVerify_streaming {cfg : Config} {rq : Req} (ht : authTypeOf rq = .streamingSigned) (h : putVerify cfg rq = true) :
    ∃ i, Vouched cfg rq i ∧ canDo i.actions writeA rq.bucket = true := by
  simp only [putVerify, ht, verifySeed] at h
  split at h
  · rename_i i hv; exact ⟨i, verifyCred_vouched hv, h⟩
  · cases h

/-- no known-finding class covers the request: its auth type is not one `authRequest` lets through unverified, or it is
    a streaming request to PutObjectHandler, or to PutObjectPartHandler with an effect other than the bare upload-id
    lookup (the two handlers that verify the seed signature), or a request to the form handler whose policy signature
    did not verify -/
theorem excludedClass_none_iff {cfg : Config} {rt : Route} {rq : Req} {eff : Nat} :
    excludedClass cfg rt rq eff = none ↔ armOf (authTypeOf rq) ≠ .pass ∨
      (authTypeOf rq = .streamingSigned ∧
        (kindOf rt.handler = .putObject ∨ (kindOf rt.handler = .putPart ∧ eff ≠ 1))) ∨
      (kindOf rt.handler = .postPolicy ∧ verifyForm cfg rq = none) := by
  unfold excludedClass
  by_cases hp : armOf (authTypeOf rq) = .pass
  · rcases arm_pass_iff.mp hp with ht | ht <;> cases hk : kindOf rt.handler <;> simp [ht, armOf]
  · simp [hp]

/-- a request of a type that `authRequest` lets through unverified, with identities configured: an effect of the
    handler that no known-finding class covers comes from PutObjectHandler / PutObjectPartHandler on a streaming request
    whose seed signature they verified -/
theorem pass_handler_verifies {cfg : Config} {rt : Route} {rq : Req} (hen : enabled cfg = true)
    (hp : armOf (authTypeOf rq) = .pass) (heff : handlerEffect cfg rt rq ≥ 1)
    (hex : excludedClass cfg rt rq (handlerEffect cfg rt rq) = none) :
    (kindOf rt.handler = .putObject ∨ kindOf rt.handler = .putPart) ∧ authTypeOf rq = .streamingSigned ∧
      putVerify cfg rq = true := by
  rcases excludedClass_none_iff.mp hex with h | ⟨ht, hk | ⟨hk, h1⟩⟩ | ⟨hk, hv⟩
  · exact absurd hp h
  · refine ⟨.inl hk, ht, ?_⟩
    simp only [handlerEffect, hk, hen, if_true] at heff
    exact Decidable.by_contra fun h => by simp [h] at heff
  · -- without the verification its effect is 1, the upload-id lookup
    refine ⟨.inr hk, ht, ?_⟩
    simp only [handlerEffect, hk, hen, if_true] at h1
    exact Decidable.by_contra fun h => by simp [h] at h1
  · -- the form handler has an effect only when the policy signature verifies
    simp [handlerEffect, hk, hv] at heff

/-- `iam.Auth` around a handler, with identities configured: an effect is the handler's own, and the route is registered
    bare or `authRequest` let the request through -/
theorem effect_pos {cfg : Config} {rt : Route} {rq : Req} (hen : enabled cfg = true) (h : effect cfg rt rq ≥ 1) :
    effect cfg rt rq = handlerEffect cfg rt rq ∧
      ((rt.action == "-") = true ∨ ∃ r, authRequest cfg (actionValue rt.action) rq = some r) := by
  unfold effect at h ⊢
  by_cases hact : (rt.action == "-") = true
  · exact ⟨if_pos hact, Or.inl hact⟩
  · rw [if_neg hact] at h ⊢
    simp only [hen, Bool.not_true, Bool.false_eq_true, if_false] at h ⊢
    cases har : authRequest cfg (actionValue rt.action) rq with
    | none => simp [har] at h
    | some r => exact ⟨rfl, Or.inr ⟨r, rfl⟩⟩

theorem ite_else {α : Type} {c : Prop} [Decidable c] {a b x : α} (h : (if c then a else b) = x) (ha : a ≠ x) : b = x := by
  split at h
  · exact absurd h ha
  · exact h

/-- `getRequestAuthType` answers "streaming" only on its own predicate (peel the decision chain one `if` at a time) -/
theorem authTypeOf_streamingSigned {rq : Req} (h : authTypeOf rq = .streamingSigned) :
    rq.sha = streamingContentSHA256 ∧ rq.method = "PUT" := by
  unfold authTypeOf at h
  iterate 2 replace h := ite_else h nofun
  by_cases hs : isRequestSignStreamingV4 rq = true
  · simpa only [isRequestSignStreamingV4, Bool.and_eq_true, beq_iff_eq] using hs
  · rw [if_neg hs] at h
    iterate 5 replace h := ite_else h nofun
    cases h

theorem authTypeOf_postPolicy {rq : Req} (h : authTypeOf rq = .postPolicy) :
    strContains rq.ctype "multipart/form-data" = true ∧ rq.method = "POST" := by
  unfold authTypeOf at h
  iterate 6 replace h := ite_else h nofun
  by_cases hp : isRequestPostPolicySignatureV4 rq = true
  · simpa only [isRequestPostPolicySignatureV4, Bool.and_eq_true, beq_iff_eq] using hp
  · rw [if_neg hp] at h
    replace h := ite_else h nofun
    cases h

theorem isInfix_of_append {p q : Str} {s : Str} (h : isInfix (p ++ q) s = true) : isInfix p s = true := by
  induction s with
  | nil => simp [isInfix] at h ⊢; exact h.1
  | cons c s ih =>
    simp only [isInfix, Bool.or_eq_true] at h ⊢
    rcases h with h | h
    · left
      rw [List.isPrefixOf_iff_prefix] at h ⊢
      exact (List.prefix_append p q).trans h
    · exact Or.inr (ih h)

theorem postPolicy_type_facts (rq : Req) (h : authTypeOf rq = .postPolicy) :
    rq.method = "POST" ∧ strContains rq.ctype "multipart/form-dat" = true := by
  have hp := authTypeOf_postPolicy h
  have e : "multipart/form-data".toList = "multipart/form-dat".toList ++ "a".toList :=
    String.toList_append ▸ congrArg String.toList (by decide +kernel : "multipart/form-data" = "multipart/form-dat" ++ "a")
  unfold strContains at hp ⊢
  rw [e] at hp
  exact ⟨hp.2, isInfix_of_append hp.1⟩

/-- mux takes the first route that matches -/
theorem matchIdx_first {rq : Req} {l : List Route} {k i : Nat} {rt : Route} (h : matchIdx rq l k = some (i, rt)) :
    ∃ j, i = k + j ∧ l[j]? = some rt ∧ routeMatches rq rt = true ∧
      ∀ j' < j, ∀ r, l[j']? = some r → routeMatches rq r = false := by
  induction l generalizing k with
  | nil => cases h
  | cons a t ih =>
    rw [matchIdx] at h
    split at h
    · cases h
      exact ⟨0, rfl, rfl, ‹_›, fun _ hj => absurd hj (Nat.not_lt_zero _)⟩
    · rename_i hna
      obtain ⟨j, e, hj, hm, hpre⟩ := ih h
      refine ⟨j + 1, by omega, hj, hm, fun j' hj' r hr => ?_⟩
      cases j' with
      | zero => cases hr; exact Bool.eq_false_iff.mpr hna
      | succ n => exact hpre n (Nat.lt_of_succ_lt_succ hj') r hr

theorem matchIdx_mem {rq : Req} {l : List Route} {k i : Nat} {rt : Route} (h : matchIdx rq l k = some (i, rt)) : rt ∈ l := by
  obtain ⟨j, _, hj, _⟩ := matchIdx_first h
  exact List.mem_of_getElem? hj

theorem splitOn_ne_nil (c : Char) (s : Str) : splitOn c s ≠ [] := by
  induction s with
  | nil => simp [splitOn]
  | cons x xs ih =>
    simp only [splitOn]
    split
    · simp
    · split <;> simp

theorem splitOn_cons (c x : Char) (xs : Str) :
    ∃ a t, splitOn c xs = a :: t ∧ splitOn c (x :: xs) = if x = c then [] :: a :: t else (x :: a) :: t := by
  cases h : splitOn c xs with
  | nil => exact absurd h (splitOn_ne_nil c xs)
  | cons a t => exact ⟨a, t, rfl, by simp only [splitOn, h]⟩

theorem join_splitOn (c : Char) (s : Str) : joinWith c (splitOn c s) = s := by
  induction s with
  | nil => rfl
  | cons x xs ih =>
    obtain ⟨a, t, h, e⟩ := splitOn_cons c x xs
    rw [h] at ih
    rw [e]
    split
    · rename_i hx
      rw [hx]; simp only [joinWith, List.nil_append]; rw [ih]
    · cases t with
      | nil => simp only [joinWith] at ih ⊢; rw [ih]
      | cons b t' => simp only [joinWith, List.cons_append] at ih ⊢; rw [ih]

theorem eq_join_of_splitOn {c : Char} {s : Str} {l : List Str} (h : splitOn c s = l) : s = joinWith c l :=
  h ▸ (join_splitOn c s).symm

/-- with `splitOn_ne_nil` and `join_splitOn` this determines `splitOn c s` (`strings.Split`): the non-empty list of
    `c`-free pieces that joins to `s` -/
theorem splitOn_no_sep (c : Char) (s : Str) : ∀ piece ∈ splitOn c s, c ∉ piece := by
  induction s with
  | nil => intro p hp; rw [List.mem_singleton.mp hp]; exact List.not_mem_nil
  | cons x xs ih =>
    obtain ⟨a, t, h, e⟩ := splitOn_cons c x xs
    rw [h] at ih
    rw [e]
    split
    · exact List.forall_mem_cons.mpr ⟨List.not_mem_nil, ih⟩
    · rename_i hx
      refine List.forall_mem_cons.mpr ⟨?_, fun p hp => ih p (List.mem_cons_of_mem _ hp)⟩
      exact fun hc => (List.mem_cons.mp hc).elim (fun e => hx e.symm) (ih a List.mem_cons_self)

theorem prefix_sep {sep : Char} {u v g w : Str} (hu : sep ∉ u) (hv : sep ∉ v)
    (h : (u ++ sep :: g).isPrefixOf (v ++ sep :: w) = true) : u = v ∧ g.isPrefixOf w = true := by
  induction u generalizing v with
  | nil =>
    cases v with
    | nil => simpa using h
    | cons d v' =>
      simp only [List.nil_append, List.cons_append, List.isPrefixOf_cons_cons, Bool.and_eq_true, beq_iff_eq] at h
      exact absurd h.1 (List.ne_of_not_mem_cons hv)
  | cons c u' ih =>
    cases v with
    | nil =>
      simp only [List.nil_append, List.cons_append, List.isPrefixOf_cons_cons, Bool.and_eq_true, beq_iff_eq] at h
      exact absurd h.1.symm (List.ne_of_not_mem_cons hu)
    | cons d v' =>
      simp only [List.cons_append, List.isPrefixOf_cons_cons, Bool.and_eq_true, beq_iff_eq] at h
      obtain ⟨e1, e2⟩ := ih (List.not_mem_of_not_mem_cons hu) (List.not_mem_of_not_mem_cons hv) h.2
      exact ⟨by rw [h.1, e1], e2⟩

theorem eq_sep {sep : Char} {u v g w : Str} (hu : sep ∉ u) (hv : sep ∉ v)
    (h : u ++ sep :: g = v ++ sep :: w) : u = v ∧ g = w := by
  have h1 : (u ++ sep :: g).isPrefixOf (v ++ sep :: w) = true :=
    List.isPrefixOf_iff_prefix.mpr (h ▸ List.prefix_rfl)
  obtain ⟨e, _⟩ := prefix_sep hu hv h1
  subst e
  exact ⟨rfl, by simpa using h⟩

theorem someSuffix_of_suffix (f : Str → Bool) (a t : Str) (h : f t = true) : someSuffix f (a ++ t) = true := by
  induction a with
  | nil => cases t <;> simp [someSuffix, h]
  | cons c a' ih => simp [someSuffix, ih]

theorem globMatch_append_left (g : Str) {p s : Str} (h : globMatch p s = true) : globMatch (g ++ p) (g ++ s) = true := by
  induction g with
  | nil => exact h
  | cons c g' ih =>
    simp only [List.cons_append, globMatch]
    split
    · exact someSuffix_of_suffix _ [c] _ ih
    · simp [headMatch, ih]

theorem globMatch_self (g : Str) : globMatch g g = true := by
  have h := globMatch_append_left g (p := []) (s := []) rfl
  rwa [List.append_nil] at h

theorem globMatch_prefix_star (g s : Str) : globMatch (g ++ ['*']) (g ++ s) = true := by
  refine globMatch_append_left g ?_
  have h := someSuffix_of_suffix (globMatch []) s [] (globMatch_self [])
  simp only [List.append_nil] at h
  simp only [globMatch, if_true]
  exact h

theorem mapToStatementAction_no_colon_no_star_iamAction (x : Str) :
    ':' ∉ mapToStatementAction x ∧ (mapToStatementAction x).getLast? ≠ some '*' ∧
      (mapToStatementAction x ≠ [] → iamAction ("s3:".toList ++ x) = some (mapToStatementAction x)) := by
  by_cases h : x ∈ ["*".toList, "Put*".toList, "Get*".toList, "List*".toList, "Tagging*".toList]
  · -- the five recognised patterns: a table check
    revert x; decide +kernel
  · simp only [List.mem_cons, List.not_mem_nil, or_false, not_or] at h
    unfold mapToStatementAction
    rw [if_neg h.1, if_neg h.2.1, if_neg h.2.2.1, if_neg h.2.2.2.1, if_neg h.2.2.2.2]
    exact ⟨List.not_mem_nil, nofun, fun h => absurd rfl h⟩

/-- every element `GetActions` emits for a (resource, action) pair: a global action (resource `…:*`) or `action:bucketpattern` -/
theorem actionsOfPair_mem (res a x : Str) (h : x ∈ actionsOfPair res a) :
    ∃ region account r5 x' : Str,
      res = joinWith ':' ["arn".toList, "aws".toList, "s3".toList, region, account, r5] ∧ a = "s3:".toList ++ x' ∧
      ((r5 = "*".toList ∧ x = mapToStatementAction x') ∨
       (∃ bk, r5 = bk ++ "/*".toList ∧ x = mapToStatementAction x' ++ ':' :: bk)) := by
  -- each `if … else []` the element came through held, and each `Split` that matched gives its string back joined
  unfold actionsOfPair at h
  split at h
  · rename_i a1 b1 c1 region account r5 hs
    rw [List.mem_ite_nil_right] at h
    obtain ⟨⟨rfl, rfl, rfl⟩, h⟩ := h
    split at h
    · rename_i s x' hsa
      rw [List.mem_ite_nil_right] at h
      obtain ⟨rfl, h⟩ := h
      refine ⟨region, account, r5, x', eq_join_of_splitOn hs, eq_join_of_splitOn hsa, ?_⟩
      simp only at h
      by_cases hstar : r5 = "*".toList
      · rw [if_pos hstar] at h
        exact Or.inl ⟨hstar, List.mem_singleton.mp h⟩
      · rw [if_neg hstar] at h
        split at h
        · rename_i bk star hsl
          rw [List.mem_ite_nil_right] at h
          obtain ⟨rfl, h⟩ := h
          exact Or.inr ⟨bk, eq_join_of_splitOn hsl, List.mem_singleton.mp h⟩
        · cases h
    · cases h
  · cases h

theorem getActions_mem (p : List Stmt) (x : Str) (h : x ∈ getActions p) :
    ∃ st ∈ p, st.effect = "Allow".toList ∧ ∃ res ∈ st.resources, ∃ a ∈ st.actions, x ∈ actionsOfPair res a := by
  unfold getActions at h
  simp only [List.mem_flatMap, List.mem_ite_nil_right] at h
  exact h

theorem getLast?_append_cons {u : Str} {c : Char} {v : Str} (hv : v ≠ []) : (u ++ c :: v).getLast? = v.getLast? := by
  rw [List.getLast?_append, List.getLast?_cons_of_ne_nil hv, List.getLast?_eq_some_getLast hv, Option.some_or]

/-- `canDo`'s test of one held action `x` against one target (`action:bucket` or `Admin:bucket`) -/
def patMatches (x lim : Str) : Bool :=
  if x.getLast? = some '*' then x.dropLast.isPrefixOf lim else x == lim

theorem patMatches_literal {x lim : Str} (hl : x.getLast? ≠ some '*') (h : patMatches x lim = true) : x = lim := by
  unfold patMatches at h
  rw [if_neg hl] at h
  exact beq_iff_eq.mp h

theorem patMatches_scoped {sa bk tgt bucket : Str} (hsa : ':' ∉ sa) (htgt : ':' ∉ tgt)
    (h : patMatches (sa ++ ':' :: bk) (tgt ++ ':' :: bucket) = true) : sa = tgt ∧ globMatch bk bucket = true := by
  by_cases hl : (sa ++ ':' :: bk).getLast? = some '*'
  · -- `bk` is `g*`, and the test is whether `sa:g` is a prefix of `tgt:bucket`
    have hbne : bk ≠ [] := fun hb => by rw [hb] at hl; simp at hl
    obtain ⟨g, rfl⟩ := List.getLast?_eq_some_iff.mp (getLast?_append_cons hbne ▸ hl)
    unfold patMatches at h
    rw [if_pos hl, ← List.cons_append, ← List.append_assoc, List.dropLast_concat] at h
    obtain ⟨e, hp⟩ := prefix_sep hsa htgt h
    obtain ⟨rest, rfl⟩ := List.isPrefixOf_iff_prefix.mp hp
    exact ⟨e, globMatch_prefix_star g rest⟩
  · obtain ⟨e, rfl⟩ := eq_sep hsa htgt (patMatches_literal hl h)
    exact ⟨e, globMatch_self bk⟩

/-- why `canDo` says yes on account of the held action `x`: for the action itself or for Admin as target, `x` is the
    target, or the bucket is named and `x` matches `target:bucket` -/
def Granted (x action bucket : Str) : Prop :=
  ∃ tgt, (tgt = action ∨ tgt = adminA) ∧ (x = tgt ∨ (bucket ≠ [] ∧ patMatches x (tgt ++ ':' :: bucket) = true))

theorem canDo_granted {acts : List Str} {action bucket : Str} (h : canDo acts action bucket = true) :
    ∃ x ∈ acts, Granted x action bucket := by
  unfold canDo at h
  by_cases h1 : isAdmin acts = true
  · exact ⟨adminA, List.contains_iff_mem.mp h1, adminA, Or.inr rfl, Or.inl rfl⟩
  by_cases h2 : acts.contains action = true
  · exact ⟨action, List.contains_iff_mem.mp h2, action, Or.inl rfl, Or.inl rfl⟩
  by_cases hb : bucket = []
  · rw [if_neg h1, if_neg h2, if_pos hb] at h; cases h
  rw [if_neg h1, if_neg h2, if_neg hb] at h
  obtain ⟨x, hx, hf⟩ := List.any_eq_true.mp h
  have : (patMatches x (action ++ ':' :: bucket) || patMatches x (adminA ++ ':' :: bucket)) = true := by
    unfold patMatches
    by_cases hl : x.getLast? = some '*'
    · rw [if_pos hl] at hf; rw [if_pos hl, if_pos hl]; exact hf
    · rw [if_neg hl] at hf; rw [if_neg hl, if_neg hl]; exact hf
  refine ⟨x, hx, ?_⟩
  rcases (Bool.or_eq_true _ _).mp this with hm | hm
  · exact ⟨action, Or.inl rfl, Or.inr ⟨hb, hm⟩⟩
  · exact ⟨adminA, Or.inr rfl, Or.inr ⟨hb, hm⟩⟩

/-- one emitted element on account of which `canDo` says yes to a non-empty action without a colon is named by its
    statement -/
theorem element_named (res a x action bucket : Str) (hx : x ∈ actionsOfPair res a)
    (ha : ':' ∉ action) (hne : action ≠ []) (hgrant : Granted x action bucket) :
    resourceNames res bucket ∧ (iamAction a = some action ∨ iamAction a = some adminA) := by
  obtain ⟨region, account, r5, x', hres, rfl, hform⟩ := actionsOfPair_mem res a x hx
  obtain ⟨hcol, hlast, hiam⟩ := mapToStatementAction_no_colon_no_star_iamAction x'
  obtain ⟨tgt, ht, hg⟩ := hgrant
  have htgt : ':' ∉ tgt ∧ tgt ≠ [] := by
    rcases ht with rfl | rfl
    · exact ⟨ha, hne⟩
    · decide
  -- enough that the resource names the bucket and the statement's action maps to the target: the target is not
  -- empty, so it is then the IAM action of `s3:x'`
  suffices h : resourceNames res bucket ∧ mapToStatementAction x' = tgt by
    rw [hiam (h.2 ▸ htgt.2), h.2]
    exact ⟨h.1, ht.imp (congrArg some) (congrArg some)⟩
  rcases hform with ⟨hstar, rfl⟩ | ⟨bk, hbk, rfl⟩
  · -- global action from resource `…:*`: no colon and no trailing `*`, so it matches no `tgt:bucket`
    refine ⟨⟨region, account, r5, hres, Or.inl hstar⟩, ?_⟩
    rcases hg with h | ⟨_, hm⟩
    · exact h
    · exact absurd (patMatches_literal hlast hm ▸ List.mem_append_right _ List.mem_cons_self) hcol
  · -- bucket-scoped action `sa:bk` from resource `…:bk/*`: it has a colon, so it is no bare target
    rcases hg with h | ⟨_, hm⟩
    · exact absurd (h ▸ List.mem_append_right _ List.mem_cons_self) htgt.1
    · obtain ⟨e, hgm⟩ := patMatches_scoped hcol htgt.1 hm
      exact ⟨⟨region, account, r5, hres, Or.inr ⟨bk, hbk, hgm⟩⟩, e⟩

end SwV.Lemmas.C26
