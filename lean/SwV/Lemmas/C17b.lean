/-
From the interval invariant to the bytes a reader gets.  The overlay of a list sorted by (mtime, key) shows at
every position a NEWEST covering chunk; ResolveChunkManifest keeps every chunk of a well-formed tree that covers a
byte of the window;
the view list denotes the overlay inside the window; the read loop delivers the bytes the views denote.
-/
import SwV.Lemmas.C17
import SwV.Spec.C17
namespace SwV.Lemmas.C17
open SwV.Model.C17 SwV.Spec.C17

/-- the last chunk of the list covering p -/
def lastCov : List Chunk → Nat → Option Chunk
  | [], _ => none
  | c :: cs, p =>
    match lastCov cs p with
    | some r => some r
    | none => if c.off ≤ p ∧ p < c.stop then some c else none

theorem lastCov_cons_some {c : Chunk} {cs : List Chunk} {p : Nat} {r : Chunk} (h : lastCov cs p = some r) :
    lastCov (c :: cs) p = some r := by simp [lastCov, h]

theorem lastCov_cons_none {c : Chunk} {cs : List Chunk} {p : Nat} (h : lastCov cs p = none) :
    lastCov (c :: cs) p = if c.off ≤ p ∧ p < c.stop then some c else none := by simp [lastCov, h]

theorem foldl_stepSpec (cs : List Chunk) (f : Nat → Option Shown) (p : Nat) :
    (cs.foldl (fun f c => stepSpec c f) f) p =
      match lastCov cs p with
      | some c => some (shows c p)
      | none => f p := by
  induction cs generalizing f with
  | nil => rfl
  | cons c cs ih =>
    simp only [List.foldl_cons, ih, lastCov]
    cases lastCov cs p with
    | some r => rfl
    | none =>
      simp only [stepSpec]
      split <;> rfl

theorem specOf_eq (cs : List Chunk) (p : Nat) :
    specOf cs p = (lastCov cs p).map (fun c => shows c p) := by
  unfold specOf; rw [foldl_stepSpec]; cases lastCov cs p <;> rfl

theorem lastCov_none {cs : List Chunk} {p : Nat} (h : lastCov cs p = none) :
    ∀ c ∈ cs, ¬ covers c p := by
  induction cs with
  | nil => simp
  | cons d cs ih =>
    cases h' : lastCov cs p with
    | some r => rw [lastCov_cons_some h'] at h; cases h
    | none =>
      rw [lastCov_cons_none h'] at h
      split at h
      · cases h
      · rename_i hc
        intro c hc'
        rcases List.mem_cons.1 hc' with rfl | hc'
        · exact fun hcov => hc hcov
        · exact ih h' c hc'

theorem lastCov_some {cs : List Chunk} {p : Nat} {c : Chunk} (h : lastCov cs p = some c) :
    ∃ as bs, cs = as ++ c :: bs ∧ covers c p ∧ ∀ b ∈ bs, ¬ covers b p := by
  induction cs with
  | nil => cases h
  | cons d cs ih =>
    cases h' : lastCov cs p with
    | some r =>
      rw [lastCov_cons_some h', Option.some.injEq] at h
      subst h
      obtain ⟨as, bs, e, hc⟩ := ih h'
      exact ⟨d :: as, bs, by rw [e]; rfl, hc⟩
    | none =>
      rw [lastCov_cons_none h'] at h
      split at h
      · rename_i hc
        cases h
        exact ⟨[], cs, rfl, hc, lastCov_none h'⟩
      · cases h

theorem keyLe_refl (c : Chunk) : keyLe c c := Or.inr ⟨rfl, Nat.le_refl _⟩

theorem chunkLe_iff (a b : Chunk) : chunkLe a b = true ↔ keyLe a b := by
  unfold chunkLe chunkLess keyLe
  by_cases h : b.mtime = a.mtime
  · simp [h]
  · have h' : ¬ a.mtime = b.mtime := fun e => h e.symm
    simp [h, h']; omega

theorem chunkLe_trans (a b c : Chunk) (h1 : chunkLe a b = true) (h2 : chunkLe b c = true) : chunkLe a c = true := by
  rw [chunkLe_iff] at *; unfold keyLe at *; omega

theorem chunkLe_total (a b : Chunk) : (chunkLe a b || chunkLe b a) = true := by
  rw [Bool.or_eq_true, chunkLe_iff, chunkLe_iff]; unfold keyLe; omega

/-- a chunk order the reader may end up with: sorted by the comparator -/
def SortedBy (cs : List Chunk) : Prop := cs.Pairwise keyLe

theorem sortChunks_sorted (cs : List Chunk) : SortedBy (sortChunks cs) := by
  have := List.pairwise_mergeSort (le := chunkLe) chunkLe_trans chunkLe_total cs
  exact this.imp (fun h => (chunkLe_iff _ _).1 h)

theorem sortChunks_perm (cs : List Chunk) : (sortChunks cs).Perm cs := List.mergeSort_perm cs chunkLe

theorem lastCov_newest {cs : List Chunk} (hs : SortedBy cs) {p : Nat} {c : Chunk}
    (h : lastCov cs p = some c) : Newest cs p c := by
  obtain ⟨as, bs, rfl, hc, hn⟩ := lastCov_some h
  refine ⟨List.mem_append_right _ List.mem_cons_self, hc, fun c' hc' hcov => ?_⟩
  rcases List.mem_append.1 hc' with ha | hb
  · exact (List.pairwise_append.1 hs).2.2 c' ha c List.mem_cons_self
  · rcases List.mem_cons.1 hb with rfl | hb
    · exact keyLe_refl _
    · exact absurd hcov (hn c' hb)

theorem flatten_data (c : Chunk) (ns : List Node) : flatten (.data c :: ns) = c :: flatten ns := by
  rw [flatten]

theorem flatten_manifest (o s f : Nat) (ch ns : List Node) :
    flatten (.manifest o s f ch :: ns) = flatten ch ++ flatten ns := by
  rw [flatten]

theorem wellFormed_data (c : Chunk) (ns : List Node) : wellFormed (.data c :: ns) = wellFormed ns := by
  rw [wellFormed]

theorem wellFormed_manifest (o s f : Nat) (ch ns : List Node) :
    wellFormed (.manifest o s f ch :: ns) =
      ((flatten ch).all (fun c => decide (o ≤ c.off ∧ c.off + c.size ≤ o + s)) && wellFormed ch && wellFormed ns) := by
  rw [wellFormed]

theorem flatten_map_data (cs : List Chunk) : flatten (cs.map Node.data) = cs := by
  induction cs with
  | nil => simp [flatten]
  | cons c cs ih => simp [flatten_data, ih]

theorem wellFormed_map_data (cs : List Chunk) : wellFormed (cs.map Node.data) = true := by
  induction cs with
  | nil => simp [wellFormed]
  | cons c cs ih => simp [wellFormed_data, ih]

theorem flatten_append (a b : List Node) : flatten (a ++ b) = flatten a ++ flatten b := by
  induction a with
  | nil => simp [flatten]
  | cons n a ih =>
    cases n with
    | data c => simp [flatten_data, ih]
    | manifest o s f ch => simp [flatten_manifest, ih, List.append_assoc]

theorem wellFormed_append (a b : List Node) : wellFormed (a ++ b) = (wellFormed a && wellFormed b) := by
  induction a with
  | nil => simp [wellFormed]
  | cons n a ih =>
    cases n with
    | data c => simp [wellFormed_data, ih]
    | manifest o s f ch => simp [wellFormed_manifest, ih, Bool.and_assoc]

theorem outside_eq_false {off size lo hi : Nat} : outside off size lo hi = false ↔ max off lo < min (off + size) hi := by
  unfold outside
  rw [decide_eq_false_iff_not, ge_iff_le, Nat.not_le]

theorem not_outside {off size lo hi p : Nat} (h1 : off ≤ p) (h2 : p < off + size) (h3 : lo ≤ p) (h4 : p < hi) :
    outside off size lo hi = false :=
  outside_eq_false.2 (Nat.lt_of_le_of_lt (Nat.max_le.2 ⟨h1, h3⟩) (Nat.lt_min.2 ⟨h2, h4⟩))

theorem outside_false_pos {off size lo hi : Nat} (h : outside off size lo hi = false) : 0 < size :=
  Nat.lt_add_right_iff_pos.1
    (Nat.lt_of_le_of_lt (Nat.le_max_left off lo) (Nat.lt_of_lt_of_le (outside_eq_false.1 h) (Nat.min_le_left _ _)))

theorem mem_resolveNode_data {lo hi : Nat} {d c : Chunk} :
    c ∈ resolveNode lo hi (.data d) ↔ c = d ∧ outside d.off d.size lo hi = false := by
  show c ∈ (if outside d.off d.size lo hi then [] else [d]) ↔ _
  cases outside d.off d.size lo hi <;> simp

theorem mem_resolveNode_manifest {lo hi o s f : Nat} {ch : List Node} {c : Chunk} :
    c ∈ resolveNode lo hi (.manifest o s f ch) ↔ outside o s lo hi = false ∧ c ∈ resolveList lo hi ch := by
  show c ∈ (if outside o s lo hi then [] else resolveList lo hi ch) ↔ _
  cases outside o s lo hi <;> simp

theorem mem_resolveList_cons {lo hi : Nat} {n : Node} {ns : List Node} {c : Chunk} :
    c ∈ resolveList lo hi (n :: ns) ↔ c ∈ resolveNode lo hi n ∨ c ∈ resolveList lo hi ns :=
  List.mem_append

/- The two theorems about `resolveList` go by `flatten.induct`, the induction over a chunk tree that
   descends into the children of a manifest and into the tail. -/

theorem resolveList_sub (lo hi : Nat) (ns : List Node) (c : Chunk) :
    c ∈ resolveList lo hi ns → c ∈ flatten ns ∧ 0 < c.size := by
  induction ns using flatten.induct with
  | case1 => intro h; cases h
  | case2 d ns ih =>
    rw [mem_resolveList_cons, mem_resolveNode_data, flatten_data]
    rintro (⟨rfl, ho⟩ | h)
    · exact ⟨List.mem_cons_self, outside_false_pos ho⟩
    · exact ⟨List.mem_cons_of_mem _ (ih h).1, (ih h).2⟩
  | case3 o s f ch ns ihc ih =>
    rw [mem_resolveList_cons, mem_resolveNode_manifest, flatten_manifest, List.mem_append]
    rintro (⟨-, h⟩ | h)
    · exact ⟨Or.inl (ihc h).1, (ihc h).2⟩
    · exact ⟨Or.inr (ih h).1, (ih h).2⟩

/-- nothing that covers a byte of the window is filtered out (manifest extents contain their chunks) -/
theorem resolveList_complete (lo hi p : Nat) (hlo : lo ≤ p) (hhi : p < hi) (ns : List Node) (c : Chunk)
    (hcov : covers c p) : wellFormed ns = true → c ∈ flatten ns → c ∈ resolveList lo hi ns := by
  induction ns using flatten.induct with
  | case1 => intro _ h; rw [flatten] at h; cases h
  | case2 d ns ih =>
    rw [wellFormed_data, flatten_data, mem_resolveList_cons, mem_resolveNode_data, List.mem_cons]
    rintro hw (rfl | h)
    · exact Or.inl ⟨rfl, not_outside hcov.1 hcov.2 hlo hhi⟩
    · exact Or.inr (ih hw h)
  | case3 o s f ch ns ihc ih =>
    rw [wellFormed_manifest, Bool.and_eq_true, Bool.and_eq_true, List.all_eq_true, flatten_manifest, List.mem_append,
      mem_resolveList_cons, mem_resolveNode_manifest]
    rintro ⟨⟨hin, hwc⟩, hwn⟩ (h | h)
    · have hx := of_decide_eq_true (hin c h)
      exact Or.inl ⟨not_outside (Nat.le_trans hx.1 hcov.1) (Nat.lt_of_lt_of_le hcov.2 hx.2) hlo hhi, ihc hwc h⟩
    · exact Or.inr (ih hwn h)

def vcov (w : View) (p : Nat) : Prop := w.logic ≤ p ∧ p < w.logic + w.size

instance (w : View) (p : Nat) : Decidable (vcov w p) := by unfold vcov; infer_instance

/-- the byte a view list denotes at p -/
def viewByte (data : Nat → Nat → Nat) (ws : List View) (p : Nat) : Nat :=
  match ws.find? (fun w => decide (vcov w p)) with
  | some w => data w.fid (w.off + (p - w.logic))
  | none => 0

theorem viewByte_uncovered (data : Nat → Nat → Nat) {ws : List View} {p : Nat} (h : ∀ w ∈ ws, ¬ vcov w p) :
    viewByte data ws p = 0 := by
  unfold viewByte
  have : ws.find? (fun w => decide (vcov w p)) = none :=
    List.find?_eq_none.2 fun x hx => mt of_decide_eq_true (h x hx)
  rw [this]

theorem viewByte_head (data : Nat → Nat → Nat) (w : View) (ws : List View) {p : Nat} (h : vcov w p) :
    viewByte data (w :: ws) p = data w.fid (w.off + (p - w.logic)) := by
  unfold viewByte; simp [h]

theorem viewByte_tail (data : Nat → Nat → Nat) (w : View) (ws : List View) {p : Nat} (h : ¬ vcov w p) :
    viewByte data (w :: ws) p = viewByte data ws p := by
  unfold viewByte; simp [h]

abbrev VSorted (ws : List View) : Prop := ws.Pairwise (fun a b => a.logic + a.size ≤ b.logic)

theorem vcov_head_le {w : View} {ws : List View} (hs : VSorted (w :: ws)) {x : View} (hx : x ∈ w :: ws)
    {p : Nat} (hc : vcov x p) : w.logic ≤ p := by
  rcases List.mem_cons.1 hx with rfl | hx
  · exact hc.1
  · exact Nat.le_trans (Nat.le_trans (Nat.le_add_right _ _) ((List.pairwise_cons.1 hs).1 x hx)) hc.1

/-- w is the interval v clipped to the window [offset, stop) -/
structure Clipped (offset stop : Nat) (v : Vis) (w : View) : Prop where
  fid : w.fid = v.fid
  csize : w.csize = v.csize
  pos : 0 < w.size
  lo : w.logic = max offset v.start
  hi : w.logic + w.size = min stop v.stop
  off : w.off = w.logic - v.start + v.coff

theorem viewOf_some {offset stop : Nat} {v : Vis} {w : View} (h : viewOf offset stop v = some w) :
    Clipped offset stop v w := by
  unfold viewOf at h
  simp only at h
  split at h
  · cases h; exact ⟨rfl, rfl, by dsimp only; omega, rfl, by dsimp only; omega, rfl⟩
  · cases h

theorem Clipped.start_le {offset stop : Nat} {v : Vis} {w : View} (h : Clipped offset stop v w) :
    v.start ≤ w.logic := h.lo ▸ Nat.le_max_right _ _

theorem Clipped.le_stop {offset stop : Nat} {v : Vis} {w : View} (h : Clipped offset stop v w) :
    w.logic + w.size ≤ v.stop := h.hi ▸ Nat.min_le_right _ _

theorem viewOf_isSome {offset stop : Nat} {v : Vis} (h : max offset v.start < min stop v.stop) :
    ∃ w, viewOf offset stop v = some w := by
  unfold viewOf; exact ⟨_, if_pos h⟩

theorem mem_views {vs : List Vis} {offset size : Nat} {w : View} (hw : w ∈ viewsOfVisibles vs offset size) :
    ∃ v ∈ vs, Clipped offset (viewStop offset size) v w := by
  obtain ⟨v, hv, hvw⟩ := List.mem_filterMap.1 hw
  exact ⟨v, hv, viewOf_some hvw⟩

theorem views_sorted {vs : List Vis} (h : vs.Pairwise R) (offset size : Nat) :
    VSorted (viewsOfVisibles vs offset size) := by
  refine List.Pairwise.filterMap _ ?_ h
  intro a a' hR b hb b' hb'
  exact Nat.le_trans (viewOf_some hb).le_stop (Nat.le_trans hR (viewOf_some hb').start_le)

theorem views_window {vs : List Vis} (offset size : Nat) {w : View} (hw : w ∈ viewsOfVisibles vs offset size) :
    0 < w.size ∧ offset ≤ w.logic ∧ w.logic + w.size ≤ viewStop offset size := by
  obtain ⟨v, -, hx⟩ := mem_views hw
  exact ⟨hx.pos, hx.lo ▸ Nat.le_max_left _ _, hx.hi ▸ Nat.min_le_left _ _⟩

/-- inside the window a view shows exactly what the overlay says -/
theorem views_sem_some {vs : List Vis} {f : Nat → Option Shown} (h : VInv vs f) (offset size p : Nat)
    {w : View} (hw : w ∈ viewsOfVisibles vs offset size) (hc : vcov w p) :
    ∃ mt, f p = some (w.fid, mt, w.csize, w.off + (p - w.logic)) := by
  obtain ⟨v, hv, hx⟩ := mem_views hw
  have hlo := hx.start_le
  have hhi := hx.le_stop
  have hoff := hx.off
  have hcv : cov v p := ⟨Nat.le_trans hlo hc.1, Nat.lt_of_lt_of_le hc.2 hhi⟩
  have e : w.off + (p - w.logic) = v.coff + (p - v.start) := by
    rw [hoff, Nat.add_right_comm, Nat.add_comm (w.logic - v.start), Nat.sub_add_sub_cancel hc.1 hlo, Nat.add_comm]
  rw [hx.fid, hx.csize, e]
  exact ⟨v.mtime, (h.sem p (val v p)).1 ⟨v, hv, hcv, rfl⟩⟩

theorem views_sem_none {vs : List Vis} {f : Nat → Option Shown} (h : VInv vs f) (offset size p : Nat)
    (hlo : offset ≤ p) (hhi : p < viewStop offset size)
    (hn : ∀ w ∈ viewsOfVisibles vs offset size, ¬ vcov w p) : f p = none := by
  cases hf : f p with
  | none => rfl
  | some r =>
    obtain ⟨v, hv, hcv, _⟩ := (h.sem p r).2 hf
    have h1 : max offset v.start ≤ p := Nat.max_le.2 ⟨hlo, hcv.1⟩
    have h2 : p < min (viewStop offset size) v.stop := Nat.lt_min.2 ⟨hhi, hcv.2⟩
    obtain ⟨w, hw⟩ := viewOf_isSome (Nat.lt_of_le_of_lt h1 h2)
    have hx := viewOf_some hw
    exact absurd (show vcov w p from ⟨hx.lo ▸ h1, hx.hi ▸ h2⟩) (hn w (List.mem_filterMap.2 ⟨v, hv, hw⟩))

theorem range'_append_range' {a b c : Nat} (hab : a ≤ b) (hbc : b ≤ c) :
    List.range' a (b - a) ++ List.range' b (c - b) = List.range' a (c - a) := by
  have h := List.range'_append_1 (s := a) (m := b - a) (n := c - b)
  rw [Nat.add_sub_cancel' hab] at h
  rw [h, Nat.add_comm, Nat.sub_add_sub_cancel hbc hab]

theorem map_range'_shift {f g : Nat → Nat} {a b : Nat} : ∀ n, (∀ i, i < n → f (a + i) = g (b + i)) →
    (List.range' a n).map f = (List.range' b n).map g
  | 0, _ => rfl
  | n + 1, h => by
    rw [List.range'_succ, List.range'_succ, List.map_cons, List.map_cons]
    have h0 := h 0 n.succ_pos
    simp only [Nat.add_zero] at h0
    rw [h0, map_range'_shift (a := a + 1) (b := b + 1) n (fun i hi => by have := h (i + 1) (Nat.succ_lt_succ hi); simpa [Nat.add_assoc, Nat.add_comm 1 i] using this)]

theorem map_range'_zero (g : Nat → Nat) : ∀ (n a : Nat), (∀ p, a ≤ p → p < a + n → g p = 0) →
    (List.range' a n).map g = List.replicate n 0
  | 0, _, _ => rfl
  | n + 1, a, h => by
    rw [List.range'_succ, List.map_cons, h a (Nat.le_refl _) (Nat.lt_add_of_pos_right n.succ_pos),
      map_range'_zero g n (a + 1) (fun p h1 h2 => h p (Nat.le_of_succ_le h1) (by omega)), List.replicate_succ]

theorem getD_map_range' {g : Nat → Nat} {a n i : Nat} (hi : i < n) : ((List.range' a n).map g).getD i 0 = g (a + i) := by
  simp only [List.getD_eq_getElem?_getD, List.getElem?_map, List.getElem?_range' hi, Option.map_some, Option.getD_some,
    Nat.one_mul]

theorem readLoop_cons (data : Nat → Nat → Nat) (w : View) (ws : List View) (s : RS) :
    readLoop data (w :: ws) s =
      if s.rem = 0 then s else
      if (gapStep w s).rem = 0 then gapStep w s else readLoop data ws (copyStep data w (gapStep w s)) := rfl

theorem readLoop_rem0 {data : Nat → Nat → Nat} {ws : List View} {s : RS} (h : s.rem = 0) : readLoop data ws s = s := by
  cases ws with
  | nil => rfl
  | cons w ws => rw [readLoop_cons, if_pos h]

/-- the reader at work on the window [a, e): it has delivered the bytes `g` of [a, min s.pos e) (a gap may carry
    s.pos beyond e) and what remains of the window is [s.pos, e).  Unless nothing was delivered yet, what was
    delivered ends at or below F (every step moves to a position that is at most F). -/
structure Reading (g : Nat → Nat) (F a e : Nat) (s : RS) : Prop where
  lo : a ≤ s.pos
  rem : s.rem = e - s.pos
  acc : s.acc = (List.range' a (min s.pos e - a)).map g
  bound : min s.pos e = a ∨ min s.pos e ≤ F

theorem Reading.step {g : Nat → Nat} {F a e : Nat} {s s' : RS} (h : Reading g F a e s) (hr : 0 < s.rem)
    (hpos : s.pos < s'.pos) (hF : s'.pos ≤ F) (hrem : s'.rem = s.rem - (s'.pos - s.pos))
    (hacc : s'.acc = s.acc ++ (List.range' s.pos (min (s'.pos - s.pos) s.rem)).map g) : Reading g F a e s' := by
  have hlo := h.lo
  have hr0 := h.rem
  have hpe : s.pos ≤ e := Nat.le_of_lt (Nat.lt_of_sub_pos (hr0 ▸ hr))
  refine ⟨Nat.le_trans hlo (Nat.le_of_lt hpos), ?_, ?_, Or.inr (Nat.le_trans (Nat.min_le_left _ _) hF)⟩
  · rw [hrem, hr0, Nat.sub_sub, Nat.add_sub_cancel' (Nat.le_of_lt hpos)]
  · -- s.pos lies inside the window, and all of [s.pos, min s'.pos e) was delivered
    rw [hacc, h.acc, ← List.map_append, Nat.min_eq_left hpe, hr0, Nat.sub_min_sub_right,
      range'_append_range' hlo (Nat.le_min.2 ⟨Nat.le_of_lt hpos, hpe⟩)]

theorem Reading.gap {g : Nat → Nat} {F a e : Nat} {s : RS} (h : Reading g F a e s) (w : View) (hr : 0 < s.rem)
    (hg : ∀ p, s.pos ≤ p → p < w.logic → g p = 0) (hF : w.logic ≤ F) :
    Reading g F a e (gapStep w s) ∧ s.pos ≤ (gapStep w s).pos ∧ (0 < (gapStep w s).rem → w.logic ≤ (gapStep w s).pos) := by
  unfold gapStep
  split
  · rename_i hlt
    refine ⟨h.step hr hlt hF rfl ?_, Nat.le_of_lt hlt, fun _ => Nat.le_refl _⟩
    show s.acc ++ _ = s.acc ++ (List.range' s.pos (min (w.logic - s.pos) s.rem)).map g
    rw [map_range'_zero g _ s.pos fun p h1 h2 => hg p h1 (Nat.lt_of_lt_of_le h2 (by
      have := Nat.min_le_left (w.logic - s.pos) s.rem; omega))]
  · rename_i hge
    exact ⟨h, Nat.le_refl _, fun _ => Nat.le_of_not_lt hge⟩

theorem Reading.copy {g : Nat → Nat} {F a e : Nat} {s : RS} (h : Reading g F a e s) (data : Nat → Nat → Nat)
    (w : View) (hr : 0 < s.rem) (hpos : w.logic ≤ s.pos)
    (hg : ∀ p, s.pos ≤ p → vcov w p → g p = data w.fid (w.off + (p - w.logic))) (hF : w.logic + w.size ≤ F) :
    Reading g F a e (copyStep data w s) ∧ s.pos ≤ (copyStep data w s).pos ∧
      (0 < (copyStep data w s).rem → w.logic + w.size ≤ (copyStep data w s).pos) := by
  unfold copyStep
  simp only [ge_iff_le, Nat.max_eq_right hpos]
  -- m, where the copy stops: the end of the view or of the window, whichever comes first (all that is used of it)
  generalize hm : min (w.logic + w.size) (s.pos + s.rem) = m
  have hm1 : m ≤ w.logic + w.size := hm ▸ Nat.min_le_left _ _
  have hm2 : m ≤ s.pos + s.rem := hm ▸ Nat.min_le_right _ _
  have hm3 : m = w.logic + w.size ∨ m = s.pos + s.rem :=
    (Nat.le_total (w.logic + w.size) (s.pos + s.rem)).imp (fun h => hm ▸ Nat.min_eq_left h) (fun h => hm ▸ Nat.min_eq_right h)
  clear hm
  split
  · exact ⟨h, Nat.le_refl _, fun _ => by omega⟩
  · rename_i hlt
    have hpm : s.pos + (m - s.pos) = m := Nat.add_sub_cancel' (Nat.le_of_lt (Nat.lt_of_not_le hlt))
    refine ⟨h.step hr (Nat.lt_add_of_pos_right (Nat.sub_pos_of_lt (Nat.lt_of_not_le hlt)))
      (hpm.symm ▸ Nat.le_trans hm1 hF) ?_ ?_, Nat.le_add_right _ _, ?_⟩
    · show s.rem - (m - s.pos) = s.rem - (s.pos + (m - s.pos) - s.pos)
      rw [Nat.add_sub_cancel_left]
    · show s.acc ++ _ = s.acc ++ (List.range' s.pos (min (s.pos + (m - s.pos) - s.pos) s.rem)).map g
      rw [Nat.add_sub_cancel_left, Nat.min_eq_left (Nat.sub_le_iff_le_add'.2 hm2)]
      congr 1
      refine map_range'_shift _ fun i hi => ?_
      rw [hg (s.pos + i) (Nat.le_add_right _ _) ⟨Nat.le_trans hpos (Nat.le_add_right _ _), by omega⟩]
      congr 1
      omega
    · show 0 < s.rem - (m - s.pos) → w.logic + w.size ≤ s.pos + (m - s.pos)
      rw [hpm]
      omega

/-- the loop delivers, position by position, the bytes the (sorted) view list denotes; `g` is that denotation
    from the reader's position on -/
theorem readLoop_reading (data : Nat → Nat → Nat) {F a e : Nat} (g : Nat → Nat) : ∀ (ws : List View) (s : RS),
    VSorted ws → (∀ w ∈ ws, w.logic + w.size ≤ F) → (∀ p, s.pos ≤ p → g p = viewByte data ws p) → Reading g F a e s →
    Reading g F a e (readLoop data ws s) ∧ s.pos ≤ (readLoop data ws s).pos ∧
      (0 < (readLoop data ws s).rem → ∀ w ∈ ws, w.logic + w.size ≤ (readLoop data ws s).pos)
  | [], s, _, _, _, h => ⟨h, Nat.le_refl _, fun _ => nofun⟩
  | w :: ws, s, hs, hF, hg, h => by
    have hs' := List.pairwise_cons.1 hs
    by_cases hr : s.rem = 0
    · rw [readLoop_rem0 hr]
      exact ⟨h, Nat.le_refl _, fun h' => absurd hr (Nat.ne_of_gt h')⟩
    have hwF := hF w List.mem_cons_self
    -- before w the views denote zeros, on w they denote w's bytes
    obtain ⟨h1, m1, p1⟩ := h.gap w (Nat.pos_of_ne_zero hr) (fun p hp hlt => by
      rw [hg p hp]
      exact viewByte_uncovered data fun x hx hc => Nat.not_le.2 hlt (vcov_head_le hs hx hc))
      (Nat.le_trans (Nat.le_add_right _ _) hwF)
    rw [readLoop_cons, if_neg hr]
    by_cases hr1 : (gapStep w s).rem = 0
    · rw [if_pos hr1]
      exact ⟨h1, m1, fun h' => absurd hr1 (Nat.ne_of_gt h')⟩
    rw [if_neg hr1]
    have hr1' := Nat.pos_of_ne_zero hr1
    obtain ⟨h2, m2, p2⟩ := h1.copy data w hr1' (p1 hr1')
      (fun p hp hc => by rw [hg p (Nat.le_trans m1 hp)]; exact viewByte_head data w ws hc) hwF
    by_cases hr2 : (copyStep data w (gapStep w s)).rem = 0
    · rw [readLoop_rem0 hr2]
      exact ⟨h2, Nat.le_trans m1 m2, fun h' => absurd hr2 (Nat.ne_of_gt h')⟩
    have hend := p2 (Nat.pos_of_ne_zero hr2)
    obtain ⟨h3, m3, p3⟩ := readLoop_reading data g ws _ hs'.2 (fun x hx => hF x (List.mem_cons_of_mem _ hx))
      (fun p hp => by
        rw [hg p (Nat.le_trans m1 (Nat.le_trans m2 hp))]
        exact viewByte_tail data w ws fun hc => Nat.lt_irrefl _ (Nat.lt_of_lt_of_le hc.2 (Nat.le_trans hend hp))) h2
    refine ⟨h3, Nat.le_trans m1 (Nat.le_trans m2 m3), fun h' x hx => ?_⟩
    rcases List.mem_cons.1 hx with rfl | hx
    · exact Nat.le_trans hend m3
    · exact p3 h' x hx

end SwV.Lemmas.C17
