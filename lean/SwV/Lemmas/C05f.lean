/-
C05 — sufficient conditions for admissibility that do not replay the model: 4-byte offsets
(`OffsetHigher` = 0 in every Set), Set keys from some `lo` up and Get/Delete keys below `lo + 2^32`
(`plainAdm`; `plainMAdmFrom` also asks what the reload needs: positive sizes, non-zero offsets, deletes of keys
live in the reference); all keys inside one window of 2^32 (`plainOp`, `plainMFrom`) is a case of it.
-/
import SwV.Model.C05
import SwV.Spec.C05
import SwV.Lemmas.C05e
namespace SwV.Lemmas.C05
open SwV.Model.C05 SwV.Spec.C05

theorem setL_forall (P : Sec → Prop) (batch key off hi : Nat) (size : Int) (cm : List Sec)
    (h : ∀ s, s ∈ cm → P s)
    (hset : ∀ s, P s → P (Sec.set batch s key off hi size).1)
    (hfirst : P (Sec.first batch key off hi size)) :
    ∀ s, s ∈ (setL batch key off hi size cm).1 → P s := by
  rw [setL_eq_walk]
  induction cm using walk_ind key with
  | above l hl => rw [walk_above hl]; exact List.forall_mem_cons.mpr ⟨hfirst, h⟩
  | next s0 rest n hlt hn hle ih =>
    obtain ⟨h0, hr⟩ := List.forall_mem_cons.mp h
    rw [walk_next hlt hn hle]; exact List.forall_mem_cons.mpr ⟨h0, ih hr⟩
  | here s0 rest hlt hn =>
    obtain ⟨h0, hr⟩ := List.forall_mem_cons.mp h
    rw [walk_here hlt hn]
    split
    · exact List.forall_mem_cons.mpr ⟨hset s0 h0, hr⟩
    · exact List.forall_mem_cons.mpr ⟨h0, List.forall_mem_cons.mpr ⟨hfirst, hr⟩⟩

theorem delL_forall (P : Sec → Prop) (batch key : Nat) (cm : List Sec)
    (h : ∀ s, s ∈ cm → P s) (hdel : ∀ s, P s → P (Sec.delete s key).1) :
    ∀ s, s ∈ (delL batch key cm).1 → P s := by
  rw [delL_eq_walk]
  induction cm using walk_ind key with
  | above l hl => rw [walk_above hl]; exact h
  | next s0 rest n hlt hn hle ih =>
    obtain ⟨h0, hr⟩ := List.forall_mem_cons.mp h
    rw [walk_next hlt hn hle]; exact List.forall_mem_cons.mpr ⟨h0, ih hr⟩
  | here s0 rest hlt hn =>
    obtain ⟨h0, hr⟩ := List.forall_mem_cons.mp h
    rw [walk_here hlt hn]
    split
    · exact List.forall_mem_cons.mpr ⟨hdel s0 h0, hr⟩
    · exact h

theorem secSet_shape (batch : Nat) (s0 : Sec) (key off hi : Nat) (size : Int) :
    (Sec.set batch s0 key off hi size).1.start = s0.start ∧
    ((Sec.set batch s0 key off hi size).1.ovf = s0.ovf ∨
     (Sec.set batch s0 key off hi size).1.ovf = setAsc ⟨skeyOf s0 key, off, hi, size⟩ s0.ovf) := by
  rw [Sec.set_stop]
  unfold Sec.set
  simp only [if_neg (Nat.not_lt.mpr (Nat.le_max_right s0.stop key))]
  cases findDesc (skeyOf { s0 with stop := max s0.stop key } key) s0.rvals with
  | some e => exact ⟨rfl, Or.inl rfl⟩
  | none =>
    dsimp only
    split
    · split
      · exact ⟨rfl, Or.inl rfl⟩
      · exact ⟨rfl, Or.inr rfl⟩
    · exact ⟨rfl, Or.inl rfl⟩

theorem secDelete_shape (s : Sec) (key : Nat) :
    (Sec.delete s key).1.start = s.start ∧
    ((Sec.delete s key).1.ovf = s.ovf ∨ (Sec.delete s key).1.ovf = delAsc (skeyOf s key) s.ovf) := by
  unfold Sec.delete; dsimp only
  split
  · exact ⟨rfl, Or.inr rfl⟩
  · exact ⟨rfl, Or.inl rfl⟩

/-- section-wise invariant of a run with 4-byte offsets whose Set keys are all `lo` or above -/
def Plain (lo : Nat) (s : Sec) : Prop := lo ≤ s.start ∧ ∀ e, e ∈ s.ovf → e.hi = 0

theorem plain_set (lo batch key off : Nat) (size : Int) (s : Sec) (h : Plain lo s) :
    Plain lo (Sec.set batch s key off 0 size).1 := by
  obtain ⟨h1, h2⟩ := secSet_shape batch s key off 0 size
  refine ⟨by rw [h1]; exact h.1, ?_⟩
  rcases h2 with h2 | h2
  · rw [h2]; exact h.2
  · rw [h2]; exact forall_setAsc (fun e => e.hi = 0) _ _ rfl (fun e he => he) h.2

theorem plain_delete (lo key : Nat) (s : Sec) (h : Plain lo s) : Plain lo (Sec.delete s key).1 := by
  obtain ⟨h1, h2⟩ := secDelete_shape s key
  refine ⟨by rw [h1]; exact h.1, ?_⟩
  rcases h2 with h2 | h2
  · rw [h2]; exact h.2
  · rw [h2]; exact forall_delAsc (fun e => e.hi = 0) _ _ (fun e he => he) h.2

theorem noAlias_of_plain (lo : Nat) (cm : List Sec) (h : ∀ s, s ∈ cm → Plain lo s) (key : Nat)
    (hk : key < lo + 4294967296) : noAlias key cm = true := by
  unfold noAlias
  cases hs : sel (fun s => some (decide (key - s.start ≤ limit))) key cm with
  | none => rfl
  | some b =>
    obtain ⟨s, hs1, _, hs3⟩ := sel_mem hs
    have := (h s hs1).1
    have hle : key - s.start ≤ limit := by unfold limit; omega
    simp only [hle, decide_true, Option.some.injEq] at hs3
    rw [← hs3]; rfl

theorem setOk_of_plain (lo : Nat) (cm : List Sec) (h : ∀ s, s ∈ cm → Plain lo s) (key off : Nat) (size : Int) :
    opOk cm (.set key off 0 size) = true := by
  show (match ovfAt key cm with | some e => decide (e.hi = 0) | none => true) = true
  cases ho : ovfAt key cm with
  | none => rfl
  | some e =>
    obtain ⟨s, hs1, _, hs3⟩ := sel_mem ho
    unfold dovf at hs3
    split at hs3
    · have hm : e ∈ s.ovf := List.mem_of_find?_eq_some hs3
      exact decide_eq_true ((h s hs1).2 e hm)
    · cases hs3

/-- 4-byte offsets and all keys in `[lo, lo + 2^32)`: a condition on the op list alone -/
def plainOp (lo : Nat) : Op → Bool
  | .set key _ hi _ => decide (hi = 0) && decide (lo ≤ key) && decide (key < lo + 4294967296)
  | .del key => decide (lo ≤ key) && decide (key < lo + 4294967296)
  | .get key => decide (lo ≤ key) && decide (key < lo + 4294967296)

/-- what the proofs read of `plainOp`: a Set has `OffsetHigher` 0 and a key from `lo` up, a Get or Delete
    a key below `lo + 2^32` -/
def plainAdm (lo : Nat) : Op → Bool
  | .set key _ hi _ => decide (hi = 0) && decide (lo ≤ key)
  | .del key => decide (key < lo + 4294967296)
  | .get key => decide (key < lo + 4294967296)

theorem plainAdm_of_plainOp (lo : Nat) (op : Op) (h : plainOp lo op = true) : plainAdm lo op = true := by
  cases op <;> simp_all [plainOp, plainAdm]

theorem plain_step (lo batch : Nat) (cm : List Sec) (h : ∀ s, s ∈ cm → Plain lo s) (op : Op)
    (hop : plainAdm lo op = true) :
    opOk cm op = true ∧ ∀ s, s ∈ applyL batch cm op → Plain lo s := by
  cases op with
  | set key off hi size =>
    simp only [plainAdm, Bool.and_eq_true, decide_eq_true_eq] at hop
    obtain ⟨hhi, hlo⟩ := hop
    subst hhi
    exact ⟨setOk_of_plain lo cm h key off size,
      setL_forall (Plain lo) batch key off 0 size cm h (plain_set lo batch key off size)
        (plain_set lo batch key off size (Sec.fresh key) ⟨hlo, fun e he => nomatch he⟩)⟩
  | del key =>
    exact ⟨noAlias_of_plain lo cm h key (of_decide_eq_true hop),
      delL_forall (Plain lo) batch key cm h (plain_delete lo key)⟩
  | get key => exact ⟨noAlias_of_plain lo cm h key (of_decide_eq_true hop), h⟩

theorem admFrom_of_plain (lo batch : Nat) : ∀ (ops : List Op) (cm : List Sec),
    (∀ s, s ∈ cm → Plain lo s) → ops.all (plainAdm lo) = true → admFrom batch cm ops = true := by
  intro ops
  induction ops with
  | nil => intro cm _ _; rfl
  | cons op ops ih =>
    intro cm h hall
    simp only [List.all_cons, Bool.and_eq_true] at hall
    obtain ⟨s1, s2⟩ := plain_step lo batch cm h op hall.1
    simp only [admFrom, Bool.and_eq_true]
    exact ⟨s1, ih _ s2 hall.2⟩

/-- condition on the op list and the REFERENCE only: 4-byte non-zero offsets, positive sizes, keys
    in one window, deletes of keys that are live in the reference -/
def plainMOp (lo : Nat) (r : Ref) : MOp → Bool
  | .put key off size => decide (size > 0) && decide (off ≠ 0) && decide (off < 4294967296) &&
      decide (lo ≤ key) && decide (key < lo + 4294967296)
  | .del key _ => decide (lo ≤ key) && decide (key < lo + 4294967296) &&
      (match r.get key with | some (_, s) => decide (s > 0) | none => false)

def plainMFrom (lo : Nat) : Ref → List MOp → Bool
  | _, [] => true
  | r, op :: ops => plainMOp lo r op && plainMFrom lo (applyR r op.toOp) ops

/-- what the proofs read of `plainMOp`: a put has a positive size, a 4-byte non-zero offset and a key from
    `lo` up, a delete a key below `lo + 2^32` that is live in the reference -/
def plainMAdm (lo : Nat) (r : Ref) : MOp → Bool
  | .put key off size => decide (size > 0) && decide (off ≠ 0) && decide (off < 4294967296) && decide (lo ≤ key)
  | .del key _ => decide (key < lo + 4294967296) &&
      (match r.get key with | some (_, s) => decide (s > 0) | none => false)

def plainMAdmFrom (lo : Nat) : Ref → List MOp → Bool
  | _, [] => true
  | r, op :: ops => plainMAdm lo r op && plainMAdmFrom lo (applyR r op.toOp) ops

theorem plainMAdm_of_plainMOp (lo : Nat) (r : Ref) (op : MOp) (h : plainMOp lo r op = true) :
    plainMAdm lo r op = true := by
  cases op <;> simp_all [plainMOp, plainMAdm]

theorem plainMAdmFrom_of_plainMFrom (lo : Nat) : ∀ (ops : List MOp) (r : Ref),
    plainMFrom lo r ops = true → plainMAdmFrom lo r ops = true
  | [], _, _ => rfl
  | op :: ops, r, h => by
    simp only [plainMFrom, plainMAdmFrom, Bool.and_eq_true] at h ⊢
    exact ⟨plainMAdm_of_plainMOp lo r op h.1, plainMAdmFrom_of_plainMFrom lo ops _ h.2⟩

theorem applyM_cm (batch : Nat) (m : MemMap) (op : MOp) : (applyM batch m op).cm = applyL batch m.cm op.toOp := by
  cases op <;> rfl

theorem reloadOk_of_plain (lo batch : Nat) : ∀ (ops : List MOp) (m : MemMap) (r : Ref),
    (∀ s, s ∈ m.cm → Plain lo s) → plainMAdmFrom lo r ops = true → reloadOkFrom batch m r ops = true := by
  intro ops
  induction ops with
  | nil => intro m r _ _; rfl
  | cons op ops ih =>
    intro m r h hall
    simp only [plainMAdmFrom, Bool.and_eq_true] at hall
    obtain ⟨h1, h2⟩ := hall
    -- in a `Plain` state such an operation is outside the reload findings, and it translates to an `Op`
    -- that `plain_step` takes, which hands `Plain` on to the next state
    have hstep : mopOk m.cm r op = true ∧ plainAdm lo op.toOp = true := by
      cases op with
      | put key off size =>
        simp only [plainMAdm, Bool.and_eq_true, decide_eq_true_eq] at h1
        obtain ⟨⟨⟨hs, ho⟩, h32⟩, hlo⟩ := h1
        have hz : offHi off = 0 := Nat.div_eq_of_lt h32
        have hp : plainAdm lo (MOp.put key off size).toOp = true := by
          simp only [MOp.toOp, plainAdm, hz, Bool.and_eq_true, decide_eq_true_eq]
          exact ⟨trivial, hlo⟩
        refine ⟨?_, hp⟩
        show (decide (size > 0) && decide (off ≠ 0) && opOk m.cm (.set key (offLo off) (offHi off) size)) = true
        rw [hz, setOk_of_plain lo m.cm h key (offLo off) size]
        simp [hs, ho]
      | del key off =>
        simp only [plainMAdm, Bool.and_eq_true, decide_eq_true_eq] at h1
        obtain ⟨hhi, hlive⟩ := h1
        refine ⟨?_, decide_eq_true hhi⟩
        show (noAlias key m.cm && (match r.get key with | some (_, s) => decide (s > 0) | none => false)) = true
        rw [noAlias_of_plain lo m.cm h key hhi, hlive]; rfl
    simp only [reloadOkFrom, Bool.and_eq_true]
    refine ⟨hstep.1, ih _ _ ?_ h2⟩
    rw [applyM_cm]
    exact (plain_step lo batch m.cm h op.toOp hstep.2).2

end SwV.Lemmas.C05
