/-
C32 — lemmas for the range proof: the numeric core of `parseOne` (int64 wrap-around included), the list and header
level of `parseRange`, the decision tree of `processRange` (ignored / single / multipart / 416) up to the spec's
`conforms` judgement and the judge, and the element-wise Accept-Encoding test.
-/
import SwV.Model.C32
import SwV.Spec.C32
namespace SwV.Lemmas.C32
open SwV.Model.C32 SwV.Spec.C32

theorem isDigit_not_sign (c : Char) (h : isDigit c = true) : c ≠ '+' ∧ c ≠ '-' := by
  constructor <;> (intro e; subst e; revert h; decide)

theorem number_spec {s : List Char} {v : Nat} (h : number s = some v) :
    parseInt64 s = some (v : Int) ∧ v < 2 ^ 63 ∧ emptyOrSigned s = false := by
  unfold number at h
  cases hd : digitsVal s with
  | none => simp [hd] at h
  | some w =>
    simp only [hd] at h
    by_cases hw : w < 2 ^ 63
    · simp only [hw, if_true, Option.some.injEq] at h
      subst h
      cases s with
      | nil => simp [digitsVal] at hd
      | cons c r =>
        have hc : isDigit c = true := by
          simp only [digitsVal, digitsAcc] at hd
          by_cases hcd : isDigit c = true
          · exact hcd
          · simp [hcd] at hd
        obtain ⟨h1, h2⟩ := isDigit_not_sign c hc
        exact ⟨by simp [parseInt64, h1, h2, posOf, hd, hw], hw, by simp [emptyOrSigned, h2]⟩
    · simp [hw] at h

theorem wrap64_id (x : Int) (h0 : -(2 ^ 63) ≤ x) (h1 : x < 2 ^ 63) : wrap64 x = x := by
  unfold wrap64; omega

theorem satisfy_bounds (N : Nat) (sp : RSpec) (r : Nat × Nat) (h : satisfy N sp = some r) :
    0 < r.2 ∧ r.1 + r.2 ≤ N := by
  -- each form is one conditional: `h` excludes its `none` branch, the other is arithmetic
  cases sp <;> simp only [satisfy] at h <;> split at h <;> cases h <;> (dsimp only; omega)

theorem eq_nil_of_filterMap_eq_nil {α β : Type} (f : α → Option β) :
    ∀ l : List α, (∀ a ∈ l, (f a).isSome) → l.filterMap f = [] → l = [] := by
  intro l hsat he
  cases l with
  | nil => rfl
  | cons a rest =>
    have h1 := hsat a List.mem_cons_self
    cases hs : f a with
    | none => simp [hs] at h1
    | some r => simp [hs] at he

/-- what `parseOne` yields for an element of the grammar -/
def elemOf (o : Option (Nat × Nat)) : Elem :=
  match o with
  | some r => .range (toRg r)
  | none => .noOverlap

theorem elemOf_some (r : Nat × Nat) : elemOf (some r) = .range (toRg r) := rfl
theorem elemOf_none : elemOf none = .noOverlap := rfl

/-- the two int64 subtractions of the suffix form are exact once the suffix length is cut to the size -/
theorem suffix_range {N m : Nat} (hN : N < 2 ^ 63) (hm : m ≤ N) :
    (⟨wrap64 ((N : Int) - m), wrap64 (N - wrap64 ((N : Int) - m))⟩ : Rg) = toRg (N - m, m) := by
  have e : ∀ k : Nat, k ≤ N → wrap64 ((N : Int) - k) = ((N - k : Nat) : Int) := fun k hk => by
    rw [wrap64_id _ (by omega) (by omega)]; omega
  rw [e m hm, e (N - m) (Nat.sub_le N m), Nat.sub_sub_self hm]
  rfl

/-! The three forms of an element whose numbers parse, `-n`, `a-` and `a-b` with `a ≤ b`: `parseOne` computes what the
    specification says of them.  (`omega` evaluates a power in the context anew at every call: the size bound is
    used once and cleared.) -/

theorem parseOne_suffix {ra s0 e0 : List Char} {n N : Nat} (hc : cut '-' ra = some (s0, e0)) (hs : trimSpace s0 = [])
    (hsg : emptyOrSigned (trimSpace e0) = false) (hp : parseInt64 (trimSpace e0) = some (n : Int)) (hN : N < 2 ^ 63) :
    parseOne ra (N : Int) = elemOf (satisfy N (.suffix n)) := by
  have hr := suffix_range hN (Nat.min_le_right n N)
  clear hN
  have hm : (if (n : Int) > N then (N : Int) else n) = ((min n N : Nat) : Int) := by omega
  have hz : ((min n N : Nat) : Int) = 0 ↔ n = 0 ∨ N = 0 := by omega
  simp only [parseOne, hc, hs, hsg, hp, if_true, Bool.false_eq_true, if_false, Int.not_lt.mpr (Int.natCast_nonneg n),
    hm, hz, hr, satisfy, apply_ite elemOf, elemOf_some, elemOf_none]

theorem parseOne_from {ra s0 e0 : List Char} {a N : Nat} (hc : cut '-' ra = some (s0, e0)) (hs : trimSpace s0 ≠ [])
    (hp : parseInt64 (trimSpace s0) = some (a : Int)) (he : trimSpace e0 = []) :
    parseOne ra (N : Int) = elemOf (satisfy N (.from a)) := by
  have hge : (a : Int) ≥ N ↔ ¬ a < N := by omega
  simp only [parseOne, hc, hs, hp, he, if_true, if_false, Int.not_lt.mpr (Int.natCast_nonneg a), hge, ite_not, satisfy,
    apply_ite elemOf, elemOf_some, elemOf_none, toRg]
  split
  · congr 2; omega
  · rfl

theorem parseOne_fromTo {ra s0 e0 : List Char} {a b N : Nat} (hc : cut '-' ra = some (s0, e0)) (hs : trimSpace s0 ≠ [])
    (hp : parseInt64 (trimSpace s0) = some (a : Int)) (he : trimSpace e0 ≠ [])
    (hq : parseInt64 (trimSpace e0) = some (b : Int)) (hab : a ≤ b) :
    parseOne ra (N : Int) = elemOf (satisfy N (.fromTo a b)) := by
  have hge : (a : Int) ≥ N ↔ ¬ a < N := by omega
  have hgt : ¬ (a : Int) > b := by omega
  simp only [parseOne, hc, hs, hp, he, hq, if_false, Int.not_lt.mpr (Int.natCast_nonneg a), hge, ite_not, hgt, satisfy,
    apply_ite elemOf, elemOf_some, elemOf_none, toRg]
  split
  · congr 2; omega
  · rfl

/-- a grammatical element is parsed to exactly the (start, length) it denotes when it is satisfiable for a
    representation of N bytes, and skipped (`noOverlap`) when it is not -/
theorem parseOne_denote (ra : List Char) (N : Nat) (sp : RSpec) (hN : N < 2 ^ 62)
    (hd : denoteOne ra = some sp) : parseOne ra (N : Int) = elemOf (satisfy N sp) := by
  -- along the case tree of `denoteOne`: every leaf that denotes something is one of the three forms above
  unfold denoteOne at hd
  cases hcut : cut '-' ra with
  | none => simp [hcut] at hd
  | some se =>
    obtain ⟨s0, e0⟩ := se
    simp only [hcut] at hd
    by_cases hs0 : trimSpace s0 = []
    · simp only [hs0, if_true] at hd
      cases hn : number (trimSpace e0) with
      | none => simp [hn] at hd
      | some n =>
        simp only [hn, Option.some.injEq] at hd
        subst hd
        obtain ⟨hp, _, hsg⟩ := number_spec hn
        exact parseOne_suffix hcut hs0 hsg hp (by omega)
    · simp only [hs0, if_false] at hd
      cases hn : number (trimSpace s0) with
      | none => simp [hn] at hd
      | some a =>
        simp only [hn] at hd
        have hp := (number_spec hn).1
        by_cases he0 : trimSpace e0 = []
        · simp only [he0, if_true, Option.some.injEq] at hd
          subst hd
          exact parseOne_from hcut hs0 hp he0
        · simp only [he0, if_false] at hd
          cases hm : number (trimSpace e0) with
          | none => simp [hm] at hd
          | some b =>
            simp only [hm] at hd
            by_cases hab : a ≤ b
            · simp only [hab, if_true, Option.some.injEq] at hd
              subst hd
              exact parseOne_fromTo hcut hs0 hp he0 (number_spec hm).1 hab
            · simp [hab] at hd

/-- is some element of the header unsatisfiable (⇒ `noOverlap` is set) -/
def anyUnsat (N : Nat) (specs : List RSpec) : Bool := specs.any fun sp => (satisfy N sp).isNone

theorem parsePieces_denote (N : Nat) (hN : N < 2 ^ 62) :
    ∀ (ps : List (List Char)) (specs : List RSpec), denotePieces ps = some specs →
      parsePieces ps (N : Int) = some ((specs.filterMap (satisfy N)).map toRg, anyUnsat N specs) := by
  intro ps
  induction ps with
  | nil => intro specs h; simp [denotePieces] at h; subst h; rfl
  | cons p rest ih =>
    intro specs h
    simp only [denotePieces] at h
    simp only [parsePieces]
    by_cases hb : trimSpace p = []
    · simp only [hb, if_true] at h ⊢
      exact ih specs h
    · simp only [hb, if_false] at h ⊢
      cases hd : denoteOne (trimSpace p) with
      | none => simp [hd] at h
      | some sp =>
        simp only [hd] at h
        cases hr : denotePieces rest with
        | none => simp [hr] at h
        | some sps =>
          simp only [hr, Option.some.injEq] at h
          subst h
          rw [parseOne_denote (trimSpace p) N sp hN hd, ih sps hr]
          cases hs : satisfy N sp <;> simp [elemOf, anyUnsat, hs]

theorem parseRangeD_denote (h : List Char) (N : Nat) (hN : N < 2 ^ 62) (specs : List RSpec) (hd : denote h = some specs) :
    parseRangeD h (N : Int) = some ((specs.filterMap (satisfy N)).map toRg, anyUnsat N specs) := by
  unfold denote at hd
  unfold parseRangeD
  by_cases he : h = []
  · simp only [he, if_true, Option.some.injEq] at hd ⊢
    subst hd; rfl
  · simp only [he, if_false] at hd ⊢
    cases hp : stripBytesPrefix h with
    | none => simp [hp] at hd
    | some rest =>
      simp only [hp] at hd ⊢
      exact parsePieces_denote N hN _ specs hd

/-- header level: the denoted satisfiable ranges, in order; errNoOverlap when there are elements and none is satisfiable -/
theorem parseRange_denote (h : List Char) (N : Nat) (hN : N < 2 ^ 62) (specs : List RSpec) (hd : denote h = some specs) :
    parseRange h (N : Int) =
      if specs ≠ [] ∧ specs.filterMap (satisfy N) = [] then none else some ((specs.filterMap (satisfy N)).map toRg) := by
  unfold parseRange
  rw [parseRangeD_denote h N hN specs hd]
  dsimp only
  by_cases hr : specs.filterMap (satisfy N) = []
  · -- nothing satisfiable: the flag is set exactly when there was an element
    cases specs with
    | nil => rfl
    | cons sp rest =>
      cases hs : satisfy N sp with
      | none => simp [anyUnsat, hs, hr]
      | some r => simp [hs] at hr
  · simp [hr]

theorem slice_of_pos (R : List Nat) {start len : Int} (h0 : 0 ≤ start) (h1 : 0 < len) :
    slice R start len = (R.drop start.toNat).take len.toNat :=
  if_neg (by omega)

/-- Seek + CopyN of a positive count = the spec's `bytesOf` -/
theorem slice_eq_bytesOf (R : List Nat) (r : Nat × Nat) (h : 0 < r.2) :
    slice R (toRg r).start (toRg r).length = bytesOf R r := by
  unfold toRg bytesOf
  rw [slice_of_pos R (Int.natCast_nonneg r.1) (Int.natCast_pos.mpr h)]
  simp only [Int.toNat_natCast]

theorem parts_eq (R : List Nat) : ∀ rs : List (Nat × Nat), (∀ r ∈ rs, 0 < r.2) →
    (rs.map toRg).map (fun r => (r, slice R r.start r.length)) = rs.map (fun r => (toRg r, bytesOf R r)) := by
  intro rs h
  rw [List.map_map]
  exact List.map_congr_left fun r hr => congrArg (Prod.mk (toRg r)) (slice_eq_bytesOf R r (h r hr))

theorem sumLen_map_toRg : ∀ rs : List (Nat × Nat), sumLen (rs.map toRg) = (((rs.map (·.2)).sum : Nat) : Int) := by
  intro rs
  induction rs with
  | nil => rfl
  | cons r rest ih =>
    simp only [sumLen, List.map_cons, List.sum_cons, toRg] at ih ⊢
    rw [ih, Int.natCast_add]

/-- the int64 sum can only look oversized when the true sum is oversized (N < 2^63) -/
theorem oversized_of_wrapped (N : Nat) (hN : N < 2 ^ 63) (rs : List (Nat × Nat))
    (h : sumRangesSize (rs.map toRg) > (N : Int)) : (rs.map (·.2)).sum > N := by
  unfold sumRangesSize at h
  rw [sumLen_map_toRg] at h
  by_cases hle : (rs.map (·.2)).sum ≤ N
  · rw [wrap64_id _ (by omega) (by omega)] at h
    omega
  · omega

/-- a range inside a content of N bytes: non-empty, not beyond the end -/
def inside (N : Int) (r : Rg) : Prop := 0 ≤ r.start ∧ 0 < r.length ∧ r.start + r.length ≤ N

theorem inside_toRg {N : Nat} {r : Nat × Nat} (h : 0 < r.2 ∧ r.1 + r.2 ≤ N) : inside N (toRg r) := by
  simp only [inside, toRg]; omega

theorem parseRange_nil (size : Int) : parseRange [] size = some [] := rfl

theorem respond_nil (R : List Nat) : respond [] R = .full R := by
  simp [respond, processRange]

theorem respond_unsat (h : List Char) (R : List Nat) (hp : parseRange h (R.length : Int) = none) :
    respond h R = .unsat := by
  have he : h ≠ [] := fun e => by rw [e, parseRange_nil] at hp; cases hp
  simp [respond, processRange, he, hp]

/-- a range inside the content does not start beyond it, so the 416 of the multipart branch is never taken: from parsed
    ranges `processRange` chooses between everything (no range, or an oversized sum), the single range and multipart -/
theorem respond_of_inside (h : List Char) (R : List Nat) (gs : List Rg)
    (hp : parseRange h (R.length : Int) = some gs) (hin : ∀ r ∈ gs, inside R.length r) :
    respond h R =
      if sumRangesSize gs > (R.length : Int) ∨ gs = [] then .full R
      else match (generalizing := false) gs with
        | [g] => .single g (slice R g.start g.length)
        | _ => .multi (gs.map fun r => (r, slice R r.start r.length)) := by
  by_cases he : h = []
  · -- the absent header parses to no range, and no range is answered like no header
    subst he
    cases (parseRange_nil _).symm.trans hp
    rw [respond_nil, if_pos (Or.inr rfl)]
  have hany : gs.any (fun r => decide (r.start > (R.length : Int))) = false := by
    rw [List.any_eq_false]
    intro r hr
    obtain ⟨_, h2, h3⟩ := hin r hr
    simp only [decide_eq_true_eq]
    omega
  unfold respond processRange
  rw [if_neg he, hp]
  dsimp only
  by_cases hbig : sumRangesSize gs > (R.length : Int) ∨ gs = []
  · rw [if_pos hbig, if_pos hbig]
  · rw [if_neg hbig, if_neg hbig]
    cases gs with
    | nil => rfl
    | cons g1 t =>
      cases t with
      | nil => rfl
      | cons g2 t => simp only [hany]; rfl

theorem expected_of_satisfiable_ne_nil (specs : List RSpec) (N : Nat) (hs0 : specs ≠ [])
    (hrs0 : specs.filterMap (satisfy N) ≠ []) :
    expected specs N =
      if ((specs.filterMap (satisfy N)).map (·.2)).sum > N then .fullOrMulti (specs.filterMap (satisfy N))
      -- not generalizing: the match of `expected` does not abstract hypotheses about the list either
      else match (generalizing := false) specs.filterMap (satisfy N) with
        | [r] => .single r | _ => .multi (specs.filterMap (satisfy N)) := by
  simp only [expected, if_neg hs0, if_neg hrs0]
  rfl

/-- ranges inside the content, at least one: the answer built from them is the one the specification expects of them -/
theorem respond_conforms_ranges (h : List Char) (R : List Nat) (rs : List (Nat × Nat)) (hN : R.length < 2 ^ 63)
    (hrs0 : rs ≠ []) (hb : ∀ r ∈ rs, 0 < r.2 ∧ r.1 + r.2 ≤ R.length)
    (hp : parseRange h (R.length : Int) = some (rs.map toRg)) :
    conforms (if (rs.map (·.2)).sum > R.length then .fullOrMulti rs
      else match (generalizing := false) rs with | [r] => .single r | _ => .multi rs) R (respond h R) = true := by
  have hin : ∀ g ∈ rs.map toRg, inside R.length g :=
    List.forall_mem_map.mpr fun r hr => inside_toRg (hb r hr)
  rw [respond_of_inside h R _ hp hin]
  by_cases hbig : sumRangesSize (rs.map toRg) > (R.length : Int) ∨ rs.map toRg = []
  · -- everything is served: the sum of the lengths is oversized, not merely its int64 image
    have hover : (rs.map (·.2)).sum > R.length :=
      hbig.elim (oversized_of_wrapped R.length hN rs) fun e => absurd (List.map_eq_nil_iff.1 e) hrs0
    rw [if_pos hbig, if_pos hover]
    simp [conforms]
  · rw [if_neg hbig]
    cases rs with
    | nil => exact absurd rfl hrs0
    | cons r1 t =>
      cases t with
      | nil =>
        have hr := hb r1 List.mem_cons_self
        have hnot : ¬ ([r1].map (·.2)).sum > R.length := by simp; omega
        rw [if_neg hnot]
        simp [conforms, slice_eq_bytesOf R r1 hr.1]
      | cons r2 rest =>
        show conforms _ R (.multi (((r1 :: r2 :: rest).map toRg).map _)) = true
        rw [parts_eq R _ fun r hr => (hb r hr).1]
        split <;> simp only [conforms, BEq.rfl]

theorem inside_of_elemOf {N : Nat} {sp : RSpec} {r : Rg} (h : elemOf (satisfy N sp) = .range r) : inside N r := by
  cases hs : satisfy N sp with
  | none => rw [hs] at h; cases h
  | some p =>
    rw [hs] at h
    cases h
    exact inside_toRg (satisfy_bounds N sp p hs)

/-- an element that is not rejected has one of the three forms, with numbers that need not be plain digits -/
theorem parseOne_inside (ra : List Char) (N : Nat) (r : Rg) (hN : N < 2 ^ 63)
    (h : parseOne ra (N : Int) = .range r) : inside N r := by
  cases hcut : cut '-' ra with
  | none => simp [parseOne, hcut] at h
  | some se =>
    obtain ⟨s0, e0⟩ := se
    by_cases hs0 : trimSpace s0 = []
    · cases hsg : emptyOrSigned (trimSpace e0) with
      | true => simp [parseOne, hcut, hs0, hsg] at h
      | false =>
        cases hp : parseInt64 (trimSpace e0) with
        | none => simp [parseOne, hcut, hs0, hsg, hp] at h
        | some i =>
          by_cases hneg : i < 0
          · simp [parseOne, hcut, hs0, hsg, hp, hneg] at h
          · obtain ⟨n, rfl⟩ := Int.eq_ofNat_of_zero_le (Int.not_lt.mp hneg)
            rw [parseOne_suffix hcut hs0 hsg hp hN] at h
            exact inside_of_elemOf h
    · clear hN
      cases hp : parseInt64 (trimSpace s0) with
      | none => simp [parseOne, hcut, hs0, hp] at h
      | some i =>
        by_cases hneg : i < 0
        · simp [parseOne, hcut, hs0, hp, hneg] at h
        · obtain ⟨a, rfl⟩ := Int.eq_ofNat_of_zero_le (Int.not_lt.mp hneg)
          by_cases he0 : trimSpace e0 = []
          · rw [parseOne_from hcut hs0 hp he0] at h
            exact inside_of_elemOf h
          · by_cases hge : (a : Int) ≥ N
            · simp [parseOne, hcut, hs0, hp, hneg, hge] at h
            cases hq : parseInt64 (trimSpace e0) with
            | none => simp [parseOne, hcut, hs0, hp, hneg, hge, he0, hq] at h
            | some j =>
              by_cases hij : (a : Int) > j
              · simp [parseOne, hcut, hs0, hp, hneg, hge, he0, hq, hij] at h
              · obtain ⟨b, rfl⟩ := Int.eq_ofNat_of_zero_le (by omega : 0 ≤ j)
                rw [parseOne_fromTo hcut hs0 hp he0 hq (by omega)] at h
                exact inside_of_elemOf h

theorem parsePieces_inside (N : Nat) (hN : N < 2 ^ 63) :
    ∀ (ps : List (List Char)) (rs : List Rg) (no : Bool), parsePieces ps (N : Int) = some (rs, no) → ∀ r ∈ rs, inside N r := by
  intro ps
  induction ps with
  | nil =>
    intro rs no h
    cases h
    exact List.forall_mem_nil _
  | cons p rest ih =>
    intro rs no h
    simp only [parsePieces] at h
    -- the branches of `parsePieces`: a blank piece; then the element invalid, skipped, a range (the one new member)
    split at h
    · exact ih rs no h
    · split at h
      · cases h
      · split at h
        · cases h
        · next hr => cases h; exact ih _ _ hr
      · next g ho =>
        split at h
        · cases h
        · next hr =>
          cases h
          intro r hr'
          rcases List.mem_cons.1 hr' with rfl | hm
          · exact parseOne_inside _ N _ hN ho
          · exact ih _ _ hr r hm

/-- the test is `okPart` of `Spec.consistent` (a `let` there, so written out here and in `multi_ok_inside`) on the part
    `respond` builds for `r` -/
theorem okPart_of_inside (R : List Nat) (r : Rg) (h : inside (R.length : Int) r) :
    (decide (0 ≤ r.start) && decide (0 < r.length) && decide (r.start + r.length ≤ (R.length : Int)) &&
      slice R r.start r.length == (R.drop r.start.toNat).take r.length.toNat) = true := by
  obtain ⟨a1, a2, a3⟩ := h
  simp [slice_of_pos R a1 a2, a1, a2, a3]

theorem multi_ok_inside (R : List Nat) : ∀ rs : List Rg, (∀ r ∈ rs, inside (R.length : Int) r) →
    (rs.map fun r => (r, slice R r.start r.length)).find? (fun p => decide (p.1.length ≤ 0)) = none ∧
    (rs.map fun r => (r, slice R r.start r.length)).all (fun p =>
      decide (0 ≤ p.1.start) && decide (0 < p.1.length) && decide (p.1.start + p.1.length ≤ (R.length : Int)) &&
        p.2 == (R.drop p.1.start.toNat).take p.1.length.toNat) = true := by
  intro rs h
  induction rs with
  | nil => simp
  | cons r t ih =>
    have hr := h r List.mem_cons_self
    have iht := ih (fun x hx => h x (List.mem_cons_of_mem _ hx))
    have hpos : ¬ (r.length ≤ 0) := Int.not_le.mpr hr.2.1
    constructor
    · simp only [List.map_cons, List.find?_cons, hpos, decide_false]; exact iht.1
    · simp only [List.map_cons, List.all_cons, Bool.and_eq_true]
      exact ⟨by simpa [Bool.and_eq_true] using okPart_of_inside R r hr, iht.2⟩

/-- the judge asks every answer for self-consistency, and an answer other than a 200 for the expectation when the header
    is in the grammar -/
theorem rangeJudge_none (h : List Char) (R : List Nat) (resp : Response)
    (h1 : rgNonPositive resp = none) (h2 : consistent R resp = true)
    (hc : ∀ specs, denote h = some specs → conforms (expected specs R.length) R resp = true) :
    rangeJudge h R resp = none := by
  cases resp with
  | full b =>
    have : (b == R) = true := by simpa [consistent] using h2
    simp [rangeJudge, this]
  | _ =>
    cases hd : denote h with
    | none => simp [rangeJudge, h1, h2, hd]
    | some specs => simp [rangeJudge, h1, h2, hd, hc specs hd]

theorem lowerAscii_eq_lower : lowerAscii = lower := by
  funext c; rfl

theorem paramRefuses_eq_qIsZero : paramRefuses = qIsZero := by
  funext p; simp only [paramRefuses, qIsZero, lowerAscii_eq_lower]; rfl

theorem elemAccepts_of_elemLists (e : List Char) (h : elemListsGzip e = true) : elemAcceptsGzip e = true := by
  unfold elemListsGzip at h
  unfold elemAcceptsGzip
  cases hs : splitOn ';' e with
  | nil => simp [hs] at h
  | cons coding params =>
    simp only [hs, Bool.and_eq_true, Bool.or_eq_true, lowerAscii_eq_lower, paramRefuses_eq_qIsZero] at h ⊢
    refine ⟨?_, h.2⟩
    rcases h.1 with h1 | h1
    · exact Or.inl (Or.inl (by simpa [gzipWord] using h1))
    · exact Or.inl (Or.inr h1)

/-- Accept-Encoding: the handler's element-wise test implies the spec's acceptance -/
theorem clientAccepts_of_acceptsGzip (ae : List Char) (h : acceptsGzip ae = true) : clientAcceptsGzip ae = true := by
  unfold acceptsGzip at h
  unfold clientAcceptsGzip
  rw [List.any_eq_true] at h ⊢
  obtain ⟨e, he, hl⟩ := h
  exact ⟨e, he, elemAccepts_of_elemLists e hl⟩

end SwV.Lemmas.C32
