/-
C18 / C20 / C21 — the association-list store, the invariant `TreeInv` and its preservation by every building
block of the model, and what each block can and cannot touch.

Each block of the model gets one lemma saying which states it can end in (`createEntry_cases`, `updateEntry_state`,
`deleteEntry_state`); the recursive move gets an induction principle instead (`moveEntry_rel`: a reflexive, transitive relation between
states that holds across CreateEntry and DeleteEntry holds across the move). Invariant, subset and frame facts are read off
these; `inv_run` is the invariant along a trace whose operations meet the client contract `OpOk`.
-/
import SwV.Model.C18
namespace SwV.Lemmas.C18
open SwV.Model.C18

theorem lookup_some_mem {p : RPath} {l : List (RPath × Entry)} {e : Entry} (h : lookup p l = some e) : (p, e) ∈ l := by
  induction l with
  | nil => cases h
  | cons x r ih =>
    rw [lookup] at h
    split at h
    · rename_i hx
      cases h
      subst hx
      exact List.mem_cons_self
    · exact List.mem_cons_of_mem _ (ih h)

theorem lookup_of_mem_nodup {p : RPath} {l : List (RPath × Entry)} {e : Entry}
    (nd : (l.map (·.1)).Nodup) (h : (p, e) ∈ l) : lookup p l = some e := by
  induction l with
  | nil => cases h
  | cons x r ih =>
    rw [List.map_cons, List.nodup_cons] at nd
    rw [lookup]
    rcases List.mem_cons.mp h with h | h
    · subst h; rw [if_pos rfl]
    · rw [if_neg (fun hx => nd.1 (List.mem_map.mpr ⟨(p, e), h, hx.symm⟩)), ih nd.2 h]

theorem lookup_eq_none {p : RPath} {l : List (RPath × Entry)} : lookup p l = none ↔ ∀ e, (p, e) ∉ l := by
  refine ⟨fun h => ?_, fun h => ?_⟩
  · induction l with
    | nil => exact fun _ he => nomatch he
    | cons x r ih =>
      rw [lookup] at h
      split at h
      · cases h
      · rename_i hx
        intro e he
        rcases List.mem_cons.mp he with rfl | he
        · exact hx rfl
        · exact ih h e he
  · cases hl : lookup p l with
    | none => rfl
    | some e => exact absurd (lookup_some_mem hl) (h e)

theorem mem_unique {l : List (RPath × Entry)} (nd : (l.map (·.1)).Nodup) {p : RPath} {a b : Entry}
    (ha : (p, a) ∈ l) (hb : (p, b) ∈ l) : a = b :=
  Option.some.inj ((lookup_of_mem_nodup nd ha).symm.trans (lookup_of_mem_nodup nd hb))

theorem mem_erase {p : RPath} {l : List (RPath × Entry)} {x : RPath × Entry} : x ∈ erase p l ↔ x ∈ l ∧ x.1 ≠ p := by
  simp [erase, List.mem_filter]

theorem erase_of_absent {p : RPath} {l : List (RPath × Entry)} (h : ∀ e, (p, e) ∉ l) : erase p l = l := by
  unfold erase
  rw [List.filter_eq_self]
  rintro ⟨q, e⟩ hx
  simp only [decide_eq_true_eq]
  rintro rfl
  exact h e hx

theorem mem_put {p : RPath} {l : List (RPath × Entry)} {e : Entry} {x : RPath × Entry} :
    x ∈ put l p e ↔ x = (p, e) ∨ (x ∈ l ∧ x.1 ≠ p) := by
  rw [put, List.mem_cons, mem_erase]

theorem erase_sublist (p : RPath) (l : List (RPath × Entry)) : (erase p l).Sublist l :=
  List.filter_sublist

theorem nodup_put {p : RPath} {l : List (RPath × Entry)} {e : Entry} (nd : (l.map (·.1)).Nodup) :
    ((put l p e).map (·.1)).Nodup := by
  rw [put, List.map_cons, List.nodup_cons]
  refine ⟨fun h => ?_, nd.sublist ((erase_sublist p l).map _)⟩
  rcases List.mem_map.mp h with ⟨x, hx, hp⟩
  exact (mem_erase.mp hx).2 hp

theorem mem_delChildren {d : RPath} {l : List (RPath × Entry)} {x : RPath × Entry} :
    x ∈ delChildren l d ↔ x ∈ l ∧ (x.1 = [] ∨ x.1.tail ≠ d) := by
  rcases x with ⟨p, e⟩
  cases p <;> simp [delChildren, List.mem_filter]

theorem delChildren_sublist (d : RPath) (l : List (RPath × Entry)) : (delChildren l d).Sublist l :=
  List.filter_sublist

theorem tail_ne_self {p : RPath} (hp : p ≠ []) : p.tail ≠ p := by
  cases p with
  | nil => exact absurd rfl hp
  | cons a t => exact (List.cons_ne_self a t).symm

theorem cons_not_suffix (k : String) (l : RPath) : ¬ (k :: l) <:+ l :=
  fun h => Nat.not_succ_le_self _ h.length_le

theorem ne_of_not_suffix {a b : RPath} (h : ¬ a <:+ b) : a ≠ b :=
  fun e => h (e ▸ List.suffix_refl _)

/-- p is a proper descendant of d -/
def PD (d p : RPath) : Prop := d <:+ p ∧ p ≠ d

theorem pd_of_cons_suffix {d p : RPath} {n : String} (h : (n :: d) <:+ p) : PD d p :=
  ⟨(List.suffix_cons n d).trans h, fun hh => cons_not_suffix n d (hh ▸ h)⟩

theorem pd_child (n : String) (d : RPath) : PD d (n :: d) :=
  pd_of_cons_suffix (List.suffix_refl _)

theorem pd_of_cons {d p : RPath} {n : String} (h : PD (n :: d) p) : PD d p :=
  pd_of_cons_suffix h.1

theorem pd_of_tail {d p : RPath} (hp : p ≠ []) (h : p.tail = d) : PD d p := by
  cases p with
  | nil => exact absurd rfl hp
  | cons a t => exact h ▸ pd_child a t

theorem pd_of_pd_tail {d p : RPath} (h : PD d p.tail) : PD d p := by
  cases p with
  | nil => exact h
  | cons a t => exact ⟨h.1.trans (List.suffix_cons a t), fun hh => cons_not_suffix a t (hh ▸ h.1)⟩

theorem not_suffix_iff {d p : RPath} : ¬ d <:+ p ↔ ¬ PD d p ∧ p ≠ d :=
  ⟨fun h => ⟨fun hp => h hp.1, (ne_of_not_suffix h).symm⟩, fun ⟨h1, h2⟩ hs => h1 ⟨hs, h2⟩⟩

theorem pd_child_on_path {d : RPath} : ∀ t : RPath, PD d t → ∃ n, (n :: d) <:+ t := by
  intro t
  induction t with
  | nil =>
    intro h
    exact absurd (List.suffix_nil.mp h.1).symm h.2
  | cons b t' ih =>
    intro h
    rcases List.suffix_cons_iff.mp h.1 with h1 | h1
    · exact absurd h1.symm h.2
    · by_cases hd : t' = d
      · subst hd; exact ⟨b, List.suffix_refl _⟩
      · rcases ih ⟨h1, hd⟩ with ⟨n, hn⟩
        exact ⟨n, hn.trans (List.suffix_cons b t')⟩

theorem kvGet_some_mem {s : St} {k : Nat} {r : Entry} (h : kvGet s k = some r) : (k, r) ∈ s.kv := by
  simp only [kvGet, Option.map_eq_some_iff] at h
  rcases h with ⟨⟨a, b⟩, hx, rfl⟩
  have hk : a = k := by simpa using List.find?_some hx
  exact hk ▸ List.mem_of_find?_eq_some hx

theorem eq_or_mem_of_mem_kvPut {s : St} {k : Nat} {r : Entry} {x : Nat × Entry} (h : x ∈ (kvPut s k r).kv) : x = (k, r) ∨ x ∈ s.kv :=
  (List.mem_cons.mp h).imp_right fun h => (List.mem_filter.mp h).1

theorem mem_of_mem_kvDel {s : St} {k : Nat} {x : Nat × Entry} (h : x ∈ (kvDel s k).kv) : x ∈ s.kv :=
  (List.mem_filter.mp h).1

@[simp] theorem kvPut_ents (s : St) (k : Nat) (r : Entry) : (kvPut s k r).ents = s.ents := rfl
@[simp] theorem kvDel_ents (s : St) (k : Nat) : (kvDel s k).ents = s.ents := rfl

@[simp] theorem deleteHardLink_ents (s : St) (k : Nat) : (deleteHardLink s k).ents = s.ents := by
  unfold deleteHardLink
  split
  · rfl
  · split <;> rfl

@[simp] theorem foldl_deleteHardLink_ents (hs : List Nat) (s : St) : (hs.foldl deleteHardLink s).ents = s.ents := by
  induction hs generalizing s with
  | nil => rfl
  | cons h t ih => rw [List.foldl_cons, ih, deleteHardLink_ents]

/-- the store is a map; it is parent-closed (every stored path is below the root and its parent is the root or a
    stored directory); directories carry no link id; link records are files -/
structure TreeInv (s : St) : Prop where
  nodup : (s.ents.map (·.1)).Nodup
  parent : ∀ x ∈ s.ents, x.1 ≠ [] ∧ (x.1.tail = [] ∨ ∃ d, (x.1.tail, d) ∈ s.ents ∧ d.isDir = true)
  dirNoLink : ∀ x ∈ s.ents, x.2.isDir = true → x.2.hl = 0
  recFile : ∀ x ∈ s.kv, x.2.isDir = false

theorem recFile_deleteHardLink {s : St} {k : Nat} (h : ∀ x ∈ s.kv, x.2.isDir = false) :
    ∀ x ∈ (deleteHardLink s k).kv, x.2.isDir = false := by
  unfold deleteHardLink
  split
  · exact h
  · rename_i r hr
    split
    · exact fun x hx => h x (mem_of_mem_kvDel hx)
    · intro x hx
      rcases eq_or_mem_of_mem_kvPut hx with rfl | hx
      · exact h (k, r) (kvGet_some_mem hr)
      · exact h x hx

theorem recFile_foldl_deleteHardLink (hs : List Nat) {s : St} (h : ∀ x ∈ s.kv, x.2.isDir = false) :
    ∀ x ∈ (hs.foldl deleteHardLink s).kv, x.2.isDir = false := by
  induction hs generalizing s with
  | nil => exact h
  | cons k t ih => exact ih (recFile_deleteHardLink h)

variable {s : St} {p : RPath} {e : Entry}

theorem inv_empty : TreeInv {} :=
  ⟨List.nodup_nil, fun _ h => (List.not_mem_nil h).elim, fun _ h => (List.not_mem_nil h).elim,
    fun _ h => (List.not_mem_nil h).elim⟩

theorem inv_of_ents_eq {s s' : St} (inv : TreeInv s) (he : s'.ents = s.ents) (hk : ∀ x ∈ s'.kv, x.2.isDir = false) : TreeInv s' :=
  ⟨he ▸ inv.nodup, he ▸ inv.parent, he ▸ inv.dirNoLink, hk⟩

theorem inv_of_sublist {s s' : St} (inv : TreeInv s) (hsub : s'.ents.Sublist s.ents) (hk : ∀ x ∈ s'.kv, x.2.isDir = false)
    (hpar : ∀ x ∈ s'.ents, ∀ d, (x.1.tail, d) ∈ s.ents → (x.1.tail, d) ∈ s'.ents) : TreeInv s' := by
  refine ⟨inv.nodup.sublist (hsub.map _), fun x hx => ?_, fun x hx => inv.dirNoLink x (hsub.subset hx), hk⟩
  have P := inv.parent x (hsub.subset hx)
  exact ⟨P.1, P.2.imp_right fun ⟨d, hd, hdir⟩ => ⟨d, hpar x hx d hd, hdir⟩⟩

theorem ancestors_of_inv (inv : TreeInv s) : ∀ (p : RPath) (e : Entry), (p, e) ∈ s.ents →
    ∀ q : RPath, q ≠ [] → q <:+ p → q ≠ p → ∃ d, (q, d) ∈ s.ents ∧ d.isDir = true := by
  intro p
  induction p with
  | nil =>
    intro e _ q hq hs _
    exact absurd (List.suffix_nil.mp hs) hq
  | cons a t ih =>
    intro e he q hq hs hne
    rcases List.suffix_cons_iff.mp hs with h | h
    · exact absurd h hne
    · rcases (inv.parent _ he).2 with h0 | ⟨d, hd, hdir⟩
      · have h0 : t = [] := h0
        subst h0
        exact absurd (List.suffix_nil.mp h) hq
      · have hd : (t, d) ∈ s.ents := hd
        by_cases hqt : q = t
        · subst hqt; exact ⟨d, hd, hdir⟩
        · exact ih d hd q hq h hqt

theorem not_pd_file (inv : TreeInv s) (hp : (p, e) ∈ s.ents) (hf : e.isDir = false) :
    ∀ x ∈ s.ents, ¬ PD p x.1 := by
  intro x hx hpd
  rcases ancestors_of_inv inv x.1 x.2 hx p (inv.parent _ hp).1 hpd.1 (fun h => hpd.2 h.symm) with ⟨d, hd, hdir⟩
  rw [mem_unique inv.nodup hd hp, hf] at hdir
  cases hdir

/-! ### FindEntry -/

theorem find_eq_none : find s p = none ↔ lookup p s.ents = none := by
  unfold find
  cases lookup p s.ents with
  | none => exact Iff.rfl
  | some e =>
    dsimp only
    split
    · simp
    · split <;> simp

/-- `find` overlays the link record on the stored entry; under the invariant the overlay keeps the kind -/
theorem find_of_lookup (inv : TreeInv s) {e0 : Entry} (h : lookup p s.ents = some e0) :
    ∃ e, find s p = some e ∧ e.isDir = e0.isDir := by
  have hm := lookup_some_mem h
  unfold find
  rw [h]
  dsimp only
  split
  · exact ⟨e0, rfl, rfl⟩
  · rename_i hne
    split
    · rename_i r hr
      have hf : e0.isDir = false := Bool.eq_false_iff.mpr fun hd => hne (inv.dirNoLink _ hm hd)
      exact ⟨r, rfl, by rw [hf, inv.recFile _ (kvGet_some_mem hr)]⟩
    · exact ⟨e0, rfl, rfl⟩

theorem find_stored (inv : TreeInv s) (h : find s p = some e) :
    ∃ e0, (p, e0) ∈ s.ents ∧ e0.isDir = e.isDir := by
  cases hl : lookup p s.ents with
  | none => rw [find_eq_none.mpr hl] at h; cases h
  | some e0 =>
    rcases find_of_lookup inv hl with ⟨e', he', hk⟩
    rw [he'] at h
    cases h
    exact ⟨e0, lookup_some_mem hl, hk.symm⟩

theorem find_plain_of_mem (inv : TreeInv s) (h : (p, e) ∈ s.ents) (h0 : e.hl = 0) : find s p = some e := by
  rw [find, lookup_of_mem_nodup inv.nodup h]
  exact if_pos h0

theorem find_dir_of_mem (inv : TreeInv s) (h : (p, e) ∈ s.ents) (hd : e.isDir = true) :
    find s p = some e :=
  find_plain_of_mem inv h (inv.dirNoLink _ h hd)

theorem not_mem_of_find_none (h : find s p = none) : ∀ e, (p, e) ∉ s.ents :=
  lookup_eq_none.mp (find_eq_none.mp h)

theorem find_none_of_absent (h : ∀ c, (p, c) ∉ s.ents) : find s p = none :=
  find_eq_none.mpr (lookup_eq_none.mpr h)

/-! ### FilerStoreWrapper.InsertEntry -/

@[simp] theorem handleUpdate_ents (s : St) (p : RPath) (e : Entry) : (handleUpdateToHardLinks s p e).ents = s.ents := by
  unfold handleUpdateToHardLinks
  split
  · rfl
  · dsimp only
    split
    · split
      · rw [deleteHardLink_ents, kvPut_ents]
      · rfl
    · rfl

@[simp] theorem ents_wInsert (s : St) (p : RPath) (e : Entry) : (wInsert s p e).ents = put s.ents p e := by
  simp [wInsert]

theorem recFile_handleUpdate (p : RPath) (h : ∀ x ∈ s.kv, x.2.isDir = false)
    (he : e.isDir = true → e.hl = 0) : ∀ x ∈ (handleUpdateToHardLinks s p e).kv, x.2.isDir = false := by
  unfold handleUpdateToHardLinks
  split
  · exact h
  · rename_i hne
    have h1 : ∀ x ∈ (kvPut s e.hl e).kv, x.2.isDir = false := by
      intro x hx
      rcases eq_or_mem_of_mem_kvPut hx with rfl | hx
      · exact Bool.eq_false_iff.mpr fun hd => hne (he hd)
      · exact h x hx
    dsimp only
    split
    · split
      · exact recFile_deleteHardLink h1
      · exact h1
    · exact h1

theorem mem_wInsert {x : RPath × Entry} :
    x ∈ (wInsert s p e).ents ↔ x = (p, e) ∨ (x ∈ s.ents ∧ x.1 ≠ p) := by
  rw [ents_wInsert, mem_put]

theorem mem_wInsert_of_ne {x : RPath × Entry} (hne : x.1 ≠ p) :
    x ∈ (wInsert s p e).ents ↔ x ∈ s.ents :=
  mem_wInsert.trans ⟨fun h => h.elim (fun h => absurd (congrArg Prod.fst h) hne) (·.1), fun h => Or.inr ⟨h, hne⟩⟩

theorem mem_wInsert_fresh {x : RPath × Entry} (habs : ∀ c, (p, c) ∉ s.ents) :
    x ∈ (wInsert s p e).ents ↔ x = (p, e) ∨ x ∈ s.ents :=
  mem_wInsert.trans (or_congr_right ⟨(·.1), fun h => ⟨h, fun hx => habs x.2 (by rw [← hx]; exact h)⟩⟩)

theorem mem_wInsert_self (s : St) (p : RPath) (e : Entry) : (p, e) ∈ (wInsert s p e).ents :=
  mem_wInsert.mpr (Or.inl rfl)

theorem inv_wInsert (inv : TreeInv s) (he : e.isDir = true → e.hl = 0) (hp : p ≠ [])
    (hpar : p.tail = [] ∨ ∃ d, (p.tail, d) ∈ s.ents ∧ d.isDir = true)
    (hty : ∀ e0, (p, e0) ∈ s.ents → e0.isDir = e.isDir) : TreeInv (wInsert s p e) := by
  refine ⟨?_, ?_, ?_, recFile_handleUpdate p inv.recFile he⟩
  · rw [ents_wInsert]
    exact nodup_put inv.nodup
  · intro x hx
    rcases mem_wInsert.mp hx with rfl | ⟨hx, hne⟩
    · exact ⟨hp, hpar.imp_right fun ⟨d, hd, hdd⟩ => ⟨d, mem_wInsert.mpr (Or.inr ⟨hd, tail_ne_self hp⟩), hdd⟩⟩
    · have P := inv.parent x hx
      refine ⟨P.1, P.2.imp_right fun ⟨d, hd, hdd⟩ => ?_⟩
      -- the parent of x stays, or is the path overwritten, with its kind
      by_cases hc : x.1.tail = p
      · exact ⟨e, hc ▸ mem_wInsert_self s p e, (hty d (hc ▸ hd)).symm.trans hdd⟩
      · exact ⟨d, mem_wInsert.mpr (Or.inr ⟨hd, hc⟩), hdd⟩
  · intro x hx
    rcases mem_wInsert.mp hx with rfl | ⟨hx, _⟩
    · exact he
    · exact inv.dirNoLink x hx

theorem inv_wInsert_over {e old : Entry} (inv : TreeInv s) (he : e.isDir = true → e.hl = 0)
    (hold : find s p = some old) (hty : old.isDir = e.isDir) : TreeInv (wInsert s p e) := by
  rcases find_stored inv hold with ⟨e0, hm, hk⟩
  refine inv_wInsert inv he (inv.parent _ hm).1 (inv.parent _ hm).2 fun e1 h1 => ?_
  rw [mem_unique inv.nodup h1 hm, hk, hty]

theorem wInsert_over_type_stable {e old : Entry} (inv : TreeInv s)
    (hold : find s p = some old) (hty : old.isDir = e.isDir) {q : RPath} {a b : Entry}
    (ha : (q, a) ∈ s.ents) (hb : (q, b) ∈ (wInsert s p e).ents) : a.isDir = b.isDir := by
  rcases mem_wInsert.mp hb with h | ⟨h, _⟩
  · cases h
    rcases find_stored inv hold with ⟨e0, hm, hk⟩
    rw [mem_unique inv.nodup ha hm, hk, hty]
  · rw [mem_unique inv.nodup ha h]

/-! ### ensureParentDirecotryEntry -/

theorem ensureParent_found {n : String} {q : RPath} {d : Entry} (e : Entry) (h : find s (n :: q) = some d) :
    ensureParent e (n :: q) s = (s, d.isDir) := by
  rw [ensureParent, h]

theorem ensureParent_absent {n : String} {q : RPath} (e : Entry) (h : find s (n :: q) = none) :
    ensureParent e (n :: q) s =
      if (ensureParent e q s).2 = true then (wInsert (ensureParent e q s).1 (n :: q) (mkdirEntry e), true)
      else ((ensureParent e q s).1, false) := by
  rw [ensureParent, h]
  rcases ensureParent e q s with ⟨s1, b⟩
  cases b <;> rfl

theorem ensureParent_frame_suffix (e : Entry) (q : RPath) : ∀ s (x : RPath × Entry), ¬ x.1 <:+ q →
    (x ∈ (ensureParent e q s).1.ents ↔ x ∈ s.ents) := by
  induction q with
  | nil => exact fun s x _ => Iff.rfl
  | cons n q ih =>
    intro s x hx
    have IH := ih s x fun h => hx (h.trans (List.suffix_cons n q))
    cases hf : find s (n :: q) with
    | some d => rw [ensureParent_found e hf]
    | none =>
      rw [ensureParent_absent e hf]
      split
      · rw [mem_wInsert_of_ne (ne_of_not_suffix hx), IH]
      · exact IH

theorem not_mem_ensureParent_of_find_none (e : Entry) {n : String} {q : RPath} (h : find s (n :: q) = none) :
    ∀ c, (n :: q, c) ∉ (ensureParent e q s).1.ents :=
  fun c hc => not_mem_of_find_none h c ((ensureParent_frame_suffix e q s _ (cons_not_suffix n q)).mp hc)

theorem inv_ensureParent (e : Entry) (q : RPath) : ∀ s, TreeInv s →
    TreeInv (ensureParent e q s).1
    ∧ ((ensureParent e q s).2 = true → q = [] ∨ ∃ d, (q, d) ∈ (ensureParent e q s).1.ents ∧ d.isDir = true) := by
  intro s inv
  induction q with
  | nil => exact ⟨inv, fun _ => Or.inl rfl⟩
  | cons n q ih =>
    cases hf : find s (n :: q) with
    | some d =>
      rw [ensureParent_found e hf]
      rcases find_stored inv hf with ⟨e0, hm, hk⟩
      exact ⟨inv, fun hdd => Or.inr ⟨e0, hm, hk.trans hdd⟩⟩
    | none =>
      rw [ensureParent_absent e hf]
      split
      · rename_i hb
        -- the path inserted was absent before: nothing changes its kind
        exact ⟨inv_wInsert ih.1 (fun _ => rfl) (List.cons_ne_nil n q) (ih.2 hb)
            fun e0 h0 => absurd h0 (not_mem_ensureParent_of_find_none e hf e0),
          fun _ => Or.inr ⟨mkdirEntry e, mem_wInsert_self _ _ _, rfl⟩⟩
      · exact ⟨ih.1, fun h => Bool.noConfusion h⟩

/-- ensureParent only adds: it inserts at paths that `find` does not show -/
theorem ensureParent_keeps (e : Entry) (q : RPath) : ∀ (s : St), ∀ x ∈ s.ents, x ∈ (ensureParent e q s).1.ents := by
  induction q with
  | nil => exact fun s x hx => hx
  | cons n q ih =>
    intro s x hx
    cases hf : find s (n :: q) with
    | some d => rw [ensureParent_found e hf]; exact hx
    | none =>
      rw [ensureParent_absent e hf]
      split
      · exact (mem_wInsert_fresh (not_mem_ensureParent_of_find_none e hf)).mpr (Or.inr (ih s x hx))
      · exact ih s x hx

theorem ensureParent_fail (e : Entry) (q : RPath) (s : St) (h : ¬ (ensureParent e q s).2 = true) :
    (ensureParent e q s).1 = s := by
  induction q with
  | nil => exact absurd rfl h
  | cons n q ih =>
    cases hf : find s (n :: q) with
    | some d => rw [ensureParent_found e hf]
    | none =>
      rw [ensureParent_absent e hf] at h ⊢
      split at h
      · exact absurd rfl h
      · rename_i hb
        rw [if_neg hb]
        exact ih hb

/-! ### Filer.CreateEntry / UpdateEntry -/

theorem createEntry_present {n : String} {par : RPath} {old : Entry} (e : Entry) (x : Bool)
    (h : find s (n :: par) = some old) :
    createEntry s (n :: par) e x =
      if x = true then (s, .err, []) else if (old.isDir != e.isDir) = true then (s, .err, [])
      else (wInsert s (n :: par) e, .ok, notNew old e) := by
  rw [createEntry, h]

theorem createEntry_absent {n : String} {par : RPath} (e : Entry) (x : Bool) (h : find s (n :: par) = none) :
    createEntry s (n :: par) e x =
      if (ensureParent e par s).2 = true then (wInsert (ensureParent e par s).1 (n :: par) e, .ok, [])
      else ((ensureParent e par s).1, .err, []) := by
  rw [createEntry, h]
  rcases ensureParent e par s with ⟨s1, b⟩
  cases b <;> rfl

/-- the ways Filer.CreateEntry ends: nothing happens (the root, O_EXCL or another kind of entry in the way, a file
    among the ancestors); the name is new and goes in after its implicit parents; the entry replaces one of its kind -/
theorem createEntry_cases (s : St) (p : RPath) (e : Entry) (x : Bool) :
    ((createEntry s p e x).1 = s ∧ (createEntry s p e x).2.2 = []) ∨
    (∃ n par, p = n :: par ∧ find s p = none ∧ (ensureParent e par s).2 = true ∧
      createEntry s p e x = (wInsert (ensureParent e par s).1 p e, .ok, [])) ∨
    (∃ old, find s p = some old ∧ old.isDir = e.isDir ∧
      createEntry s p e x = (wInsert s p e, .ok, notNew old e)) := by
  cases p with
  | nil => exact Or.inl ⟨rfl, rfl⟩
  | cons n par =>
    cases hf : find s (n :: par) with
    | some old =>
      rw [createEntry_present e x hf]
      by_cases hx : x = true
      · exact Or.inl (by rw [if_pos hx]; exact ⟨rfl, rfl⟩)
      · by_cases hty : (old.isDir != e.isDir) = true
        · exact Or.inl (by rw [if_neg hx, if_pos hty]; exact ⟨rfl, rfl⟩)
        · exact Or.inr (Or.inr ⟨old, rfl, by simpa using hty, by rw [if_neg hx, if_neg hty]⟩)
    | none =>
      rw [createEntry_absent e x hf]
      by_cases hb : (ensureParent e par s).2 = true
      · exact Or.inr (Or.inl ⟨n, par, rfl, rfl, hb, by rw [if_pos hb]⟩)
      · rw [if_neg hb]
        exact Or.inl ⟨ensureParent_fail e par s hb, rfl⟩

theorem inv_createEntry {x : Bool} (inv : TreeInv s) (he : e.isDir = true → e.hl = 0) :
    TreeInv (createEntry s p e x).1 := by
  rcases createEntry_cases s p e x with ⟨h, _⟩ | ⟨n, par, rfl, hf, hb, h⟩ | ⟨old, hold, hty, h⟩ <;> rw [h]
  · exact inv
  · obtain ⟨inv1, hpar⟩ := inv_ensureParent e par s inv
    exact inv_wInsert inv1 he (List.cons_ne_nil n par) (hpar hb)
      fun e0 h0 => absurd h0 (not_mem_ensureParent_of_find_none e hf e0)
  · exact inv_wInsert_over inv he hold hty

theorem createEntry_type_stable {x : Bool} (inv : TreeInv s) {q : RPath} {a b : Entry}
    (ha : (q, a) ∈ s.ents) (hb : (q, b) ∈ (createEntry s p e x).1.ents) : a.isDir = b.isDir := by
  rcases createEntry_cases s p e x with ⟨h, _⟩ | ⟨n, par, rfl, hf, _, h⟩ | ⟨old, hold, hty, h⟩ <;> rw [h] at hb
  · rw [mem_unique inv.nodup ha hb]
  · rcases mem_wInsert.mp hb with h1 | ⟨h1, _⟩
    · cases h1
      exact absurd ha (not_mem_of_find_none hf a)
    · rw [mem_unique (inv_ensureParent e par s inv).1.nodup (ensureParent_keeps e par s _ ha) h1]
  · exact wInsert_over_type_stable inv hold hty ha hb

theorem createEntry_frame {b : Bool} (x : RPath × Entry) (hx : ¬ x.1 <:+ p) :
    x ∈ (createEntry s p e b).1.ents ↔ x ∈ s.ents := by
  rcases createEntry_cases s p e b with ⟨h, _⟩ | ⟨n, par, rfl, _, _, h⟩ | ⟨_, _, _, h⟩ <;> rw [h]
  · rw [mem_wInsert_of_ne (ne_of_not_suffix hx)]
    exact ensureParent_frame_suffix e par s x fun h => hx (h.trans (List.suffix_cons n par))
  · exact mem_wInsert_of_ne (ne_of_not_suffix hx)

theorem createEntry_fresh (inv : TreeInv s) {new : RPath} (e : Entry) (x : Bool)
    (habs : ∀ c, (new, c) ∉ s.ents) (hnn : new ≠ [])
    (hpar : new.tail = [] ∨ ∃ d, (new.tail, d) ∈ s.ents ∧ d.isDir = true) :
    createEntry s new e x = (wInsert s new e, Res.ok, []) := by
  cases new with
  | nil => exact absurd rfl hnn
  | cons n par =>
    have hens : ensureParent e par s = (s, true) := by
      cases par with
      | nil => rfl
      | cons m q =>
        rcases hpar with h | ⟨d, hd, hdir⟩
        · cases h
        · rw [ensureParent_found e (find_dir_of_mem inv hd hdir), hdir]
    rw [createEntry_absent e x (find_none_of_absent habs), hens]
    rfl

theorem updateEntry_state (s : St) (p : RPath) (e : Entry) :
    (updateEntry s p e).1 = s ∨
    ∃ old, find s p = some old ∧ old.isDir = e.isDir ∧ (updateEntry s p e).1 = wInsert s p e := by
  unfold updateEntry
  split
  · exact Or.inl rfl
  · rename_i old hold
    split
    · exact Or.inl rfl
    · rename_i hty
      exact Or.inr ⟨old, hold, by simpa using hty, rfl⟩

theorem inv_updateEntry (inv : TreeInv s) (he : e.isDir = true → e.hl = 0) :
    TreeInv (updateEntry s p e).1 := by
  rcases updateEntry_state s p e with h | ⟨old, hold, hty, h⟩ <;> rw [h]
  · exact inv
  · exact inv_wInsert_over inv he hold hty

theorem updateEntry_type_stable (inv : TreeInv s) {q : RPath} {a b : Entry}
    (ha : (q, a) ∈ s.ents) (hb : (q, b) ∈ (updateEntry s p e).1.ents) : a.isDir = b.isDir := by
  rcases updateEntry_state s p e with h | ⟨old, hold, hty, h⟩ <;> rw [h] at hb
  · rw [mem_unique inv.nodup ha hb]
  · exact wInsert_over_type_stable inv hold hty ha hb

/-! ### listings

ListDirectoryEntries sorts by name: the listing of a directory is a permutation of what the store holds for it. -/

theorem perm_insertByName (x : String × Entry) (l : List (String × Entry)) : (insertByName x l).Perm (x :: l) := by
  induction l with
  | nil => exact List.Perm.refl _
  | cons y r ih =>
    rw [insertByName]
    split
    · exact List.Perm.refl _
    · exact ((List.perm_cons y).mpr ih).trans (List.Perm.swap x y r)

theorem perm_sortByName (l : List (String × Entry)) : (sortByName l).Perm l := by
  induction l with
  | nil => exact List.Perm.refl _
  | cons y r ih => exact (perm_insertByName y (sortByName r)).trans ((List.perm_cons y).mpr ih)

/-- the listing's filter: the entry as a child of d -/
def childOf (d : RPath) (x : RPath × Entry) : Option (String × Entry) :=
  match x.1 with
  | [] => none
  | n :: par => if par = d then some (n, x.2) else none

theorem children_eq (s : St) (d : RPath) : children s d = sortByName (s.ents.filterMap (childOf d)) := rfl

theorem childOf_eq_some {d : RPath} {x : RPath × Entry} {y : String × Entry} :
    childOf d x = some y ↔ x = (y.1 :: d, y.2) := by
  rcases x with ⟨p, e⟩
  cases p with
  | nil => exact ⟨nofun, nofun⟩
  | cons n par =>
    unfold childOf
    dsimp only
    by_cases h : par = d
    · subst h
      rw [if_pos rfl]
      exact ⟨fun h => by cases h; rfl, fun h => by cases h; rfl⟩
    · rw [if_neg h]
      exact ⟨nofun, fun h' => by cases h'; exact absurd rfl h⟩

theorem mem_children {d : RPath} {n : String} : (n, e) ∈ children s d ↔ (n :: d, e) ∈ s.ents := by
  rw [children_eq, (perm_sortByName _).mem_iff, List.mem_filterMap]
  simp only [childOf_eq_some]
  exact ⟨fun ⟨x, hm, hx⟩ => hx ▸ hm, fun h => ⟨_, h, rfl⟩⟩

/-- the child of d on the way down to a stored x is x itself or a listed directory -/
theorem child_on_path (inv : TreeInv s) {d : RPath} {x : RPath × Entry} (hx : x ∈ s.ents) (hpd : PD d x.1) :
    ∃ n, (x.1 = n :: d ∧ (n, x.2) ∈ children s d) ∨
      (PD (n :: d) x.1 ∧ ∃ c, (n, c) ∈ children s d ∧ c.isDir = true) := by
  rcases pd_child_on_path x.1 hpd with ⟨n, hn⟩
  by_cases heq : n :: d = x.1
  · exact ⟨n, Or.inl ⟨heq.symm, mem_children.mpr (heq ▸ hx)⟩⟩
  · rcases ancestors_of_inv inv x.1 x.2 hx (n :: d) (List.cons_ne_nil n d) hn heq with ⟨c, hc, hdir⟩
    exact ⟨n, Or.inr ⟨⟨hn, fun h => heq h.symm⟩, c, mem_children.mpr hc, hdir⟩⟩

theorem children_names_nodup {s : St} (nd : (s.ents.map (·.1)).Nodup) (d : RPath) : ((children s d).map (·.1)).Nodup := by
  rw [children_eq, ((perm_sortByName _).map _).nodup_iff]
  generalize s.ents = l at nd
  induction l with
  | nil => exact List.nodup_nil
  | cons x r ih =>
    rw [List.map_cons, List.nodup_cons] at nd
    rw [List.filterMap_cons]
    split
    · exact ih nd.2
    · rename_i y hy
      rw [List.map_cons, List.nodup_cons]
      refine ⟨fun hm => ?_, ih nd.2⟩
      -- another listed entry of that name has the path of x
      rcases List.mem_map.mp hm with ⟨z, hz, hzy⟩
      rcases List.mem_filterMap.mp hz with ⟨w, hw, hwz⟩
      refine nd.1 (List.mem_map.mpr ⟨w, hw, ?_⟩)
      rw [childOf_eq_some.mp hy, childOf_eq_some.mp hwz, hzy]

theorem below_listed_child_iff {s : St} (inv : TreeInv s) {d : RPath} {x : RPath × Entry} (hx : x ∈ s.ents) :
    (∃ it ∈ children s d, (it.1 :: d) <:+ x.1) ↔ PD d x.1 := by
  constructor
  · rintro ⟨it, _, hs⟩
    exact pd_of_cons_suffix hs
  · intro hpd
    rcases child_on_path inv hx hpd with ⟨k, ⟨heq, hk⟩ | ⟨hk, c, hc, _⟩⟩
    · exact ⟨(k, x.2), hk, heq ▸ List.suffix_refl _⟩
    · exact ⟨(k, c), hc, hk.1⟩

/-- leveldb2 DeleteFolderChildren of a directory whose listing is empty removes nothing -/
theorem delChildren_childless {d : RPath} (hk : children s d = []) : delChildren s.ents d = s.ents := by
  refine List.filter_eq_self.mpr fun x hx => ?_
  rcases x with ⟨p, e⟩
  cases p with
  | nil => rfl
  | cons a t =>
    refine decide_eq_true fun ht => ?_
    have : (a, e) ∈ children s d := mem_children.mpr (ht ▸ hx)
    exact List.ne_nil_of_mem this hk

/-! ### doBatchDeleteFolderMetaAndData

A call that returns removes, on a tree, exactly the proper descendants of its directory (`doBatch_spec`); the fuel only decides
whether it returns (`doBatch_isSome`). -/

theorem foldl_batch_none (rec : St → RPath → Option Batch) (d : RPath) (subs : List (String × Entry)) :
    subs.foldl (batchStep rec d) none = none := by
  induction subs with
  | nil => rfl
  | cons a t ih => exact ih

theorem batchStep_link {rec : St → RPath → Option Batch} {d : RPath} {sub : String × Entry} (hd : sub.2.isDir = false)
    (hh : sub.2.hl ≠ 0) (s : St) (cs hs : List Nat) :
    batchStep rec d (some (s, cs, hs)) sub = some (s, cs, hs ++ [sub.2.hl]) := by
  unfold batchStep
  rw [hd]
  dsimp only
  rw [if_neg Bool.false_ne_true, if_pos hh]

theorem batchStep_file {rec : St → RPath → Option Batch} {d : RPath} {sub : String × Entry} (hd : sub.2.isDir = false)
    (hh : sub.2.hl = 0) (s : St) (cs hs : List Nat) :
    batchStep rec d (some (s, cs, hs)) sub = some (s, cs ++ sub.2.chunks, hs) := by
  unfold batchStep
  rw [hd]
  dsimp only
  rw [if_neg Bool.false_ne_true, if_neg (not_not_intro hh)]

/-- a file leaves the state of the loop alone, whatever it adds to the two lists -/
theorem batchStep_nondir (rec : St → RPath → Option Batch) (d : RPath) {sub : String × Entry} (sa : St) (cs hs : List Nat)
    (h : sub.2.isDir = false) : ∃ cs' hs', batchStep rec d (some (sa, cs, hs)) sub = some (sa, cs', hs') := by
  by_cases hh : sub.2.hl = 0
  · exact ⟨_, _, batchStep_file h hh sa cs hs⟩
  · exact ⟨_, _, batchStep_link h hh sa cs hs⟩

theorem batchStep_dir {rec : St → RPath → Option Batch} {d : RPath} {sub : String × Entry} (hd : sub.2.isDir = true)
    (s : St) (cs hs : List Nat) :
    batchStep rec d (some (s, cs, hs)) sub = (rec s (sub.1 :: d)).map fun r => (r.1, cs ++ r.2.1, hs ++ r.2.2) := by
  unfold batchStep
  rw [hd]
  dsimp only
  rw [if_pos rfl]
  cases rec s (sub.1 :: d) <;> rfl

/-- induction along a loop of doBatch that returns: a file leaves the state alone, a directory hands it to the
    recursive call -/
theorem batch_loop_induction {rec : St → RPath → Option Batch} {d : RPath}
    {motive : List (String × Entry) → St → St → Prop}
    (nil : ∀ s, motive [] s s)
    (file : ∀ sub t sa sr, sub.2.isDir = false → motive t sa sr → motive (sub :: t) sa sr)
    (dir : ∀ sub t sa r1 sr, sub.2.isDir = true → rec sa (sub.1 :: d) = some r1 → motive t r1.1 sr →
      motive (sub :: t) sa sr) :
    ∀ (subs : List (String × Entry)) (acc r : Batch), subs.foldl (batchStep rec d) (some acc) = some r →
      motive subs acc.1 r.1 := by
  intro subs
  induction subs with
  | nil =>
    intro acc r h
    cases h
    exact nil _
  | cons sub t ih =>
    intro acc r h
    rcases acc with ⟨sa, cs, hs⟩
    rw [List.foldl_cons] at h
    cases hd : sub.2.isDir with
    | false =>
      rcases batchStep_nondir rec d sa cs hs hd with ⟨cs', hs', hstep⟩
      rw [hstep] at h
      exact file sub t sa r.1 hd (ih _ _ h)
    | true =>
      rw [batchStep_dir hd sa cs hs] at h
      cases hr : rec sa (sub.1 :: d) with
      | none => rw [hr, Option.map_none, foldl_batch_none] at h; cases h
      | some r1 =>
        rw [hr, Option.map_some] at h
        exact dir sub t sa r1 r.1 hd hr (ih (r1.1, cs ++ r1.2.1, hs ++ r1.2.2) _ h)

/-- a call of doBatch that returns: the records are untouched, entries are only removed, and only from properly below
    the directory; on a tree exactly those are removed -/
theorem doBatch_spec (f : Nat) : ∀ (s : St) (d : RPath) (r : Batch), doBatch f s d = some r →
    r.1.kv = s.kv ∧ r.1.ents.Sublist s.ents ∧ (∀ x : RPath × Entry, ¬ PD d x.1 → (x ∈ r.1.ents ↔ x ∈ s.ents)) ∧
    (TreeInv s → TreeInv r.1 ∧ ∀ x, x ∈ r.1.ents ↔ x ∈ s.ents ∧ ¬ PD d x.1) := by
  induction f with
  | zero => intro s d r h; cases h
  | succ f ih =>
    intro s d r h
    unfold doBatch at h
    split at h
    · cases h
    · rename_i s' cs hs hfold
      cases h
      -- the loop removes what lies properly below a listed directory
      have L := batch_loop_induction
        (motive := fun subs sa sr => sr.kv = sa.kv ∧ sr.ents.Sublist sa.ents ∧
          (∀ x : RPath × Entry, ¬ PD d x.1 → (x ∈ sr.ents ↔ x ∈ sa.ents)) ∧
          (TreeInv sa → TreeInv sr ∧
            ∀ x, x ∈ sr.ents ↔ x ∈ sa.ents ∧ ∀ sub ∈ subs, sub.2.isDir = true → ¬ PD (sub.1 :: d) x.1))
        (fun _ => ⟨rfl, List.Sublist.refl _, fun _ _ => Iff.rfl, fun inv => ⟨inv, fun _ => ⟨fun h => ⟨h, nofun⟩, (·.1)⟩⟩⟩)
        (fun sub t sa sr hd IH => ⟨IH.1, IH.2.1, IH.2.2.1, fun inv => ⟨(IH.2.2.2 inv).1, fun x => by
          rw [(IH.2.2.2 inv).2 x, List.forall_mem_cons, hd]
          exact and_congr_right fun _ => ⟨fun h => ⟨nofun, h⟩, (·.2)⟩⟩⟩)
        (fun sub t sa r1 sr hd hr IH => by
          obtain ⟨k1, s1, f1, e1⟩ := ih _ _ _ hr
          refine ⟨IH.1.trans k1, IH.2.1.trans s1, fun x hx => (IH.2.2.1 x hx).trans (f1 x fun hh => hx (pd_of_cons hh)),
            fun inv => ⟨(IH.2.2.2 (e1 inv).1).1, fun x => ?_⟩⟩
          rw [(IH.2.2.2 (e1 inv).1).2 x, (e1 inv).2 x, List.forall_mem_cons, and_assoc]
          exact and_congr_right fun _ => and_congr_left fun _ => ⟨fun h _ => h, fun h => h hd⟩)
        _ _ _ hfold
      dsimp only at L ⊢
      have hsub := (delChildren_sublist d _).trans L.2.1
      refine ⟨L.1, hsub, fun x hx => ?_, fun inv => ?_⟩
      · rw [mem_delChildren, L.2.2.1 x hx]
        refine ⟨(·.1), fun h => ⟨h, ?_⟩⟩
        by_cases hn : x.1 = []
        · exact Or.inl hn
        · exact Or.inr fun ht => hx (pd_of_tail hn ht)
      · have hmem : ∀ x, x ∈ delChildren s'.ents d ↔ x ∈ s.ents ∧ ¬ PD d x.1 := by
          intro x
          rw [mem_delChildren, (L.2.2.2 inv).2 x]
          constructor
          · rintro ⟨⟨hx, hkid⟩, htail⟩
            refine ⟨hx, fun hpd => ?_⟩
            -- x is a child of d, or lies below a listed directory
            rcases child_on_path inv hx hpd with ⟨n, ⟨hxn, _⟩ | ⟨hpd', c, hc, hdir⟩⟩
            · exact htail.elim (inv.parent x hx).1 (not_not_intro (congrArg List.tail hxn))
            · exact hkid (n, c) hc hdir hpd'
          · rintro ⟨hx, hn⟩
            exact ⟨⟨hx, fun sub _ _ hpd => hn (pd_of_cons hpd)⟩, Or.inr fun ht => hn (pd_of_tail (inv.parent x hx).1 ht)⟩
        refine ⟨inv_of_sublist inv hsub (L.1 ▸ inv.recFile) fun x hx dd hdd => ?_, hmem⟩
        exact (hmem _).mpr ⟨hdd, fun hpd => ((hmem x).mp hx).2 (pd_of_pd_tail hpd)⟩

theorem doBatch_subset {f : Nat} {d : RPath} {r : Batch} (h : doBatch f s d = some r) : ∀ x ∈ r.1.ents, x ∈ s.ents :=
  fun _ hx => (doBatch_spec f s d r h).2.1.subset hx

/-- the loop returns if the recursive call returns on every state it can meet. Such a state holds only entries of `s0`,
    so a bound on the depth of what `s0` stores carries over to it -/
theorem batch_loop_some (rec : St → RPath → Option Batch) (d : RPath) (s0 : St) :
    ∀ (subs : List (String × Entry)) (acc : Batch), (∀ x ∈ acc.1.ents, x ∈ s0.ents) →
      (∀ sub ∈ subs, sub.2.isDir = true → ∀ sa : St, (∀ x ∈ sa.ents, x ∈ s0.ents) →
        ∃ r, rec sa (sub.1 :: d) = some r ∧ ∀ x ∈ r.1.ents, x ∈ sa.ents) →
      ∃ r, subs.foldl (batchStep rec d) (some acc) = some r := by
  intro subs
  induction subs with
  | nil => exact fun acc _ _ => ⟨acc, rfl⟩
  | cons sub t ih =>
    intro acc hacc hrec
    rcases acc with ⟨sa, cs, hs⟩
    rw [List.foldl_cons]
    have hrec' := fun sub' hs' => hrec sub' (List.mem_cons_of_mem _ hs')
    cases hd : sub.2.isDir with
    | false =>
      rcases batchStep_nondir rec d sa cs hs hd with ⟨cs', hs', hstep⟩
      rw [hstep]
      exact ih _ hacc hrec'
    | true =>
      rcases hrec sub List.mem_cons_self hd sa hacc with ⟨r1, hr1, hsub⟩
      rw [batchStep_dir hd sa cs hs, hr1, Option.map_some]
      exact ih _ (fun x hx => hacc x (hsub x hx)) hrec'

theorem doBatch_childless {d : RPath} (f : Nat) (hk : children s d = []) : doBatch (f + 1) s d = some (s, [], []) := by
  rw [doBatch, hk]
  show some ({ s with ents := delChildren s.ents d }, [], []) = _
  rw [delChildren_childless hk]

/-- the fuel suffices when it exceeds the depth of what is stored below the directory -/
theorem doBatch_isSome (f : Nat) : ∀ (s : St) (d : RPath),
    (∀ x ∈ s.ents, d <:+ x.1 → x.1.length ≤ d.length + f) → ∃ r, doBatch (f + 1) s d = some r := by
  induction f with
  | zero =>
    intro s d hb
    have hkids : children s d = [] := by
      rw [List.eq_nil_iff_forall_not_mem]
      rintro ⟨n, e⟩ hne
      exact Nat.not_succ_le_self _ (hb _ (mem_children.mp hne) (List.suffix_cons n d))
    exact ⟨_, doBatch_childless 0 hkids⟩
  | succ f ih =>
    intro s d hb
    have hrec : ∀ sub ∈ children s d, sub.2.isDir = true → ∀ sa : St, (∀ x ∈ sa.ents, x ∈ s.ents) →
        ∃ r, doBatch (f + 1) sa (sub.1 :: d) = some r ∧ ∀ x ∈ r.1.ents, x ∈ sa.ents := by
      intro sub _ _ sa hsa
      rcases ih sa (sub.1 :: d) fun x hx hs =>
        Nat.succ_add_eq_add_succ _ _ ▸ hb x (hsa x hx) ((List.suffix_cons sub.1 d).trans hs)
        with ⟨r, hr⟩
      exact ⟨r, hr, doBatch_subset hr⟩
    rcases batch_loop_some (doBatch (f + 1)) d s (children s d) (s, [], []) (fun _ h => h) hrec with ⟨⟨s', cs, hs⟩, hr⟩
    rw [doBatch, hr]
    exact ⟨_, rfl⟩

/-! ### Filer.DeleteEntryMetaAndData -/

theorem deleteOne_ents (s : St) (p : RPath) (e : Entry) : (deleteOne s p e).ents = erase p s.ents := by
  unfold deleteOne
  split <;> simp

theorem inv_deleteOne (inv : TreeInv s) (hk : ∀ x ∈ s.ents, x.1.tail ≠ p) :
    TreeInv (deleteOne s p e) := by
  refine inv_of_sublist inv (deleteOne_ents s p e ▸ erase_sublist p _) ?_ fun x hx d hd => ?_
  · unfold deleteOne
    dsimp only
    split
    · exact recFile_deleteHardLink inv.recFile
    · exact inv.recFile
  · rw [deleteOne_ents, mem_erase] at hx ⊢
    exact ⟨hd, hk x hx.1⟩

/-- the end of DeleteEntryMetaAndData once the batch `(s1, dcs, hs)` has returned: doDeleteEntryMetaAndData of the entry,
    then — with data — the links and chunks collected -/
def delFinish (s1 : St) (p : RPath) (e : Entry) (dcs hs : List Nat) (dc : Bool) : St × Res × List Nat :=
  if dc then (hs.foldl deleteHardLink (deleteOne s1 p e), .ok, e.chunks ++ dcs) else (deleteOne s1 p e, .ok, [])

theorem delFinish_ents (s1 : St) (p : RPath) (e : Entry) (dcs hs : List Nat) (dc : Bool) :
    (delFinish s1 p e dcs hs dc).1.ents = erase p s1.ents := by
  cases dc
  · exact deleteOne_ents _ _ _
  · exact (foldl_deleteHardLink_ents _ _).trans (deleteOne_ents _ _ _)

theorem delFinish_res (s1 : St) (p : RPath) (e : Entry) (dcs hs : List Nat) (dc : Bool) :
    (delFinish s1 p e dcs hs dc).2.1 = Res.ok := by
  cases dc <;> rfl

theorem inv_delFinish {s1 : St} (e : Entry) (dcs hs : List Nat) (dc : Bool) (inv : TreeInv s1)
    (hk : ∀ x ∈ s1.ents, ¬ PD p x.1) : TreeInv (delFinish s1 p e dcs hs dc).1 := by
  have inv2 := inv_deleteOne (e := e) inv fun x hx ht => hk x hx (pd_of_tail (inv.parent x hx).1 ht)
  cases dc
  · exact inv2
  · exact inv_of_ents_eq inv2 (foldl_deleteHardLink_ents _ _) (recFile_foldl_deleteHardLink _ inv2.recFile)

theorem deleteEntry_notfound {n : String} {par : RPath} (r dc : Bool) (h : find s (n :: par) = none) :
    deleteEntry s (n :: par) r dc = (s, .notfound, []) := by
  unfold deleteEntry
  dsimp only
  rw [h]

theorem deleteEntry_found {n : String} {par : RPath} (r dc : Bool) (h : find s (n :: par) = some e) :
    deleteEntry s (n :: par) r dc =
      match (if e.isDir then
          (if !r && !(children s (n :: par)).isEmpty then none else doBatch (maxLen s.ents + 1) s (n :: par))
        else some (s, [], [])) with
      | none => (s, .err, [])
      | some (s1, dcs, hs) => delFinish s1 (n :: par) e dcs hs dc := by
  unfold deleteEntry
  dsimp only
  rw [h]
  rfl

/-- DeleteEntryMetaAndData changes nothing, or: the entry was found, a batch that returned removed what is below it
    (a file has no batch), and the delete finished -/
theorem deleteEntry_state (s : St) (p : RPath) (r dc : Bool) :
    (deleteEntry s p r dc).1 = s ∨
    ∃ e s1 dcs hs, find s p = some e ∧
      (e.isDir = true ∧ doBatch (maxLen s.ents + 1) s p = some (s1, dcs, hs) ∨ e.isDir = false ∧ (s1, dcs, hs) = (s, [], [])) ∧
      deleteEntry s p r dc = delFinish s1 p e dcs hs dc := by
  cases p with
  | nil => exact Or.inl rfl
  | cons n par =>
    cases hf : find s (n :: par) with
    | none => exact Or.inl (by rw [deleteEntry_notfound r dc hf])
    | some e =>
      rw [deleteEntry_found r dc hf]
      cases hd : e.isDir with
      | false => exact Or.inr ⟨e, s, [], [], rfl, Or.inr ⟨hd, rfl⟩, rfl⟩
      | true =>
        rw [if_pos rfl]
        split
        · exact Or.inl rfl
        · rename_i s1 dcs hs hr
          split at hr
          · cases hr
          · exact Or.inr ⟨e, s1, dcs, hs, rfl, Or.inl ⟨hd, hr⟩, rfl⟩

theorem deleteEntry_refused {n : String} {par : RPath} (dc : Bool)
    (h : find s (n :: par) = some e) (hd : e.isDir = true) (hc : children s (n :: par) ≠ []) :
    deleteEntry s (n :: par) false dc = (s, .err, []) := by
  rw [deleteEntry_found false dc h, if_pos hd, if_pos]
  cases hcs : children s (n :: par) with
  | nil => exact absurd hcs hc
  | cons a t => rfl

theorem deleteEntry_childless {n : String} {par : RPath} (r dc : Bool)
    (h : find s (n :: par) = some e) (hk : e.isDir = true → children s (n :: par) = []) :
    deleteEntry s (n :: par) r dc = delFinish s (n :: par) e [] [] dc := by
  rw [deleteEntry_found r dc h]
  cases hd : e.isDir with
  | false => rfl
  | true =>
    rw [if_pos rfl, hk hd, doBatch_childless _ (hk hd), if_neg]
    cases r <;> exact Bool.false_ne_true

theorem length_le_maxLen (l : List (RPath × Entry)) : ∀ x ∈ l, x.1.length ≤ maxLen l := by
  have gen : ∀ (l : List (RPath × Entry)) (m : Nat), m ≤ l.foldl (fun m x => max m x.1.length) m ∧
      ∀ x ∈ l, x.1.length ≤ l.foldl (fun m x => max m x.1.length) m := by
    intro l
    induction l with
    | nil => exact fun m => ⟨Nat.le_refl m, nofun⟩
    | cons y t ih =>
      intro m
      have I := ih (max m y.1.length)
      refine ⟨Nat.le_trans (Nat.le_max_left _ _) I.1, fun x hx => ?_⟩
      rcases List.mem_cons.mp hx with rfl | hx
      · exact Nat.le_trans (Nat.le_max_right _ _) I.1
      · exact I.2 x hx
  exact (gen l 0).2

/-- a recursive delete, on a tree, of a path that `find` shows: the batch returns (the fuel `maxLen + 1` always suffices), and what
    the delete leaves is exactly what is not under the path -/
theorem deleteEntry_recursive (inv : TreeInv s) {n : String} {par : RPath} (dc : Bool)
    (h : find s (n :: par) = some e) :
    ∃ s1 dcs hs, deleteEntry s (n :: par) true dc = delFinish s1 (n :: par) e dcs hs dc ∧
      (e.isDir = true ∧ doBatch (maxLen s.ents + 1) s (n :: par) = some (s1, dcs, hs) ∨
        e.isDir = false ∧ (s1, dcs, hs) = (s, [], [])) ∧
      ∀ x, x ∈ (delFinish s1 (n :: par) e dcs hs dc).1.ents ↔ x ∈ s.ents ∧ ¬ (n :: par) <:+ x.1 := by
  -- the batch leaves what is not properly below the path; the end of the delete takes the path itself
  have fin : ∀ s1 dcs hs, (∀ x, x ∈ s1.ents ↔ x ∈ s.ents ∧ ¬ PD (n :: par) x.1) →
      ∀ x, x ∈ (delFinish s1 (n :: par) e dcs hs dc).1.ents ↔ x ∈ s.ents ∧ ¬ (n :: par) <:+ x.1 :=
    fun s1 dcs hs hx x => by rw [delFinish_ents, mem_erase, hx x, and_assoc, not_suffix_iff]
  cases hd : e.isDir with
  | false =>
    rcases find_stored inv h with ⟨e0, hm, hk⟩
    exact ⟨s, [], [], deleteEntry_childless true dc h fun h' => absurd (hd.symm.trans h') Bool.false_ne_true,
      Or.inr ⟨rfl, rfl⟩, fin _ _ _ fun x => ⟨fun hx => ⟨hx, not_pd_file inv hm (hk.trans hd) x hx⟩, (·.1)⟩⟩
  | true =>
    rcases doBatch_isSome (maxLen s.ents) s (n :: par)
      fun x hx _ => Nat.le_trans (length_le_maxLen s.ents x hx) (Nat.le_add_left _ _) with ⟨⟨s1, dcs, hs⟩, hr⟩
    exact ⟨s1, dcs, hs, by rw [deleteEntry_found true dc h, if_pos hd, hr]; rfl, Or.inl ⟨rfl, hr⟩,
      fin _ _ _ ((doBatch_spec _ s _ _ hr).2.2.2 inv).2⟩

theorem inv_deleteEntry {recursive dc : Bool} (inv : TreeInv s) : TreeInv (deleteEntry s p recursive dc).1 := by
  rcases deleteEntry_state s p recursive dc with h | ⟨e, s1, dcs, hs, hf, hb, h⟩ <;> rw [h]
  · exact inv
  · rcases hb with ⟨_, hb⟩ | ⟨hd, hb⟩
    · obtain ⟨inv1, hx⟩ := (doBatch_spec _ s p _ hb).2.2.2 inv
      exact inv_delFinish e dcs hs dc inv1 fun x hx1 => ((hx x).mp hx1).2
    · cases hb
      rcases find_stored inv hf with ⟨e0, hm, hk⟩
      exact inv_delFinish e [] [] dc inv (not_pd_file inv hm (hk.trans hd))

theorem deleteEntry_leaf (inv : TreeInv s) (h : (p, e) ∈ s.ents) (hk : children s p = []) :
    ∃ s3, deleteEntry s p false false = (s3, Res.ok, []) ∧ TreeInv s3 ∧ ∀ x, x ∈ s3.ents ↔ x ∈ s.ents ∧ x.1 ≠ p := by
  rcases find_of_lookup inv (lookup_of_mem_nodup inv.nodup h) with ⟨e', hf, _⟩
  cases p with
  | nil => exact absurd rfl (inv.parent _ h).1
  | cons m q =>
    have hdel := deleteEntry_childless false false hf fun _ => hk
    refine ⟨deleteOne s (m :: q) e', hdel, ?_, fun x => ?_⟩
    · have := inv_deleteEntry (p := m :: q) (recursive := false) (dc := false) inv
      rwa [hdel] at this
    · rw [deleteOne_ents, mem_erase]

theorem deleteEntry_subset {recursive dc : Bool} :
    ∀ x ∈ (deleteEntry s p recursive dc).1.ents, x ∈ s.ents := by
  rcases deleteEntry_state s p recursive dc with h | ⟨e, s1, dcs, hs, _, hb, h⟩ <;> rw [h]
  · exact fun _ h => h
  · rw [delFinish_ents]
    intro x hx
    have hx := (mem_erase.mp hx).1
    rcases hb with ⟨_, hb⟩ | ⟨_, hb⟩
    · exact doBatch_subset hb _ hx
    · cases hb; exact hx

theorem deleteEntry_frame {r dc : Bool} (x : RPath × Entry) (hx : ¬ p <:+ x.1) :
    x ∈ (deleteEntry s p r dc).1.ents ↔ x ∈ s.ents := by
  rcases deleteEntry_state s p r dc with h | ⟨e, s1, dcs, hs, _, hb, h⟩ <;> rw [h]
  rw [delFinish_ents, mem_erase, and_iff_left (ne_of_not_suffix hx).symm]
  rcases hb with ⟨_, hb⟩ | ⟨_, hb⟩
  · exact (doBatch_spec _ s p _ hb).2.2.1 x fun h => hx h.1
  · cases hb; exact Iff.rfl

/-! ### AtomicRenameEntry -/

/-- what a move leaves at the target: the listed (stored) copy without link identity -/
def strip (e : Entry) : Entry := { e with hl := 0, cnt := 0 }

theorem moveEntry_succ (f : Nat) (s : St) (old : RPath) (e : Entry) (new : RPath) :
    moveEntry (f + 1) s old e new =
      if old = new then (s, Res.ok, []) else
      match createEntry s new (strip e) false with
      | (s1, .ok, q1) =>
        match (if e.isDir then (children s1 old).foldl (moveStep (moveEntry f) old new) (s1, .ok, []) else (s1, .ok, [])) with
        | (s2, .ok, q2) =>
          match deleteEntry s2 old false false with
          | (s3, .ok, _) => (s3, .ok, q1 ++ q2)
          | (s3, _, _) => (s3, .err, q1 ++ q2)
        | (s2, r2, q2) => (s2, r2, q1 ++ q2)
      | (s1, _, q1) => (s1, .err, q1) := by
  rw [moveEntry]
  rfl

/-- AtomicRenameEntry of a source that `find` shows; `renameFuel` is 64, spelt so that `moveEntry_succ` opens the first
    level of the recursion -/
theorem renameEntry_found {src dst : RPath} (h : find s src = some e) :
    renameEntry s src dst = moveEntry (63 + 1) s src e dst := by
  rw [renameEntry, h]
  rfl

theorem foldl_moveStep_stuck {rec : St → RPath → Entry → RPath → Mv} {old new : RPath} {r : Res} {q : List Nat}
    (hr : r ≠ Res.ok) (items : List (String × Entry)) : items.foldl (moveStep rec old new) (s, r, q) = (s, r, q) := by
  induction items with
  | nil => rfl
  | cons it t ih => cases r <;> first | exact absurd rfl hr | exact ih

theorem move_loop_rel {R : St → St → Prop} (refl : ∀ s, R s s) (trans : ∀ {a b c}, R a b → R b c → R a c)
    {rec : St → RPath → Entry → RPath → Mv} {old new : RPath}
    (hrec : ∀ sa n e, R sa (rec sa (n :: old) e (n :: new)).1) :
    ∀ (items : List (String × Entry)) (acc : Mv), R acc.1 (items.foldl (moveStep rec old new) acc).1 := by
  intro items
  induction items with
  | nil => exact fun acc => refl acc.1
  | cons it t ih =>
    intro acc
    refine trans ?_ (ih _)
    rcases acc with ⟨sa, ra, qa⟩
    cases ra <;> first | exact refl sa | exact hrec sa it.1 it.2

/-- a reflexive, transitive relation between states that holds across CreateEntry of the target and across the
    non-recursive DeleteEntry of the source holds across the move, however it ends: by induction on the fuel it holds
    across the moves of the children, one level down. `C` is what the relation needs to know of source and target; it
    passes from them to their children (`child`). -/
theorem moveEntry_rel {R : St → St → Prop} {C : RPath → RPath → Prop} (refl : ∀ s, R s s)
    (trans : ∀ {a b c}, R a b → R b c → R a c) (child : ∀ {old new} n, C old new → C (n :: old) (n :: new))
    (create : ∀ {old new}, C old new → ∀ s e, R s (createEntry s new (strip e) false).1)
    (delete : ∀ {old new}, C old new → ∀ s, R s (deleteEntry s old false false).1) :
    ∀ (f : Nat) (s : St) (old : RPath) (e : Entry) (new : RPath), C old new → R s (moveEntry f s old e new).1 := by
  intro f
  induction f with
  | zero => exact fun s _ _ _ _ => refl s
  | succ f ih =>
    intro s old e new hc
    rw [moveEntry_succ]
    split
    · exact refl s
    · have h1 := create hc s e
      split
      · rename_i s1 q1 hcr
        rw [hcr] at h1
        have h2 : R s1 (if e.isDir then (children s1 old).foldl (moveStep (moveEntry f) old new) (s1, .ok, [])
            else (s1, .ok, [])).1 := by
          split
          · exact move_loop_rel refl trans (fun sa n e' => ih sa _ e' _ (child n hc)) _ (s1, .ok, [])
          · exact refl s1
        split
        · rename_i s2 q2 hs2
          rw [hs2] at h2
          have h3 := delete hc s2
          rcases hde : deleteEntry s2 old false false with ⟨s3, r3, d3⟩
          rw [hde] at h3
          cases r3 <;> exact trans h1 (trans h2 h3)
        · rename_i s2 r2 q2 _ hs2
          rw [hs2] at h2
          exact trans h1 h2
      · rename_i s1 r1 q1 _ hcr
        rw [hcr] at h1
        exact h1

theorem inv_moveEntry {f : Nat} {old new : RPath} (inv : TreeInv s) : TreeInv (moveEntry f s old e new).1 :=
  moveEntry_rel (R := fun a b => TreeInv a → TreeInv b) (C := fun _ _ => True)
    (fun _ h => h) (fun h1 h2 h => h2 (h1 h)) (fun _ h => h)
    (fun _ _ _ inv => inv_createEntry inv fun _ => rfl) (fun _ _ inv => inv_deleteEntry inv) f s old e new trivial inv

/-- outside the source subtree, the target subtree and the target's ancestors -/
def Outside (old new : RPath) (x : RPath × Entry) : Prop := ¬ old <:+ x.1 ∧ ¬ new <:+ x.1 ∧ ¬ x.1 <:+ new

theorem outside_child {old new : RPath} {x : RPath × Entry} (n : String) (h : Outside old new x) :
    Outside (n :: old) (n :: new) x := by
  refine ⟨fun hh => h.1 ((List.suffix_cons n old).trans hh), fun hh => h.2.1 ((List.suffix_cons n new).trans hh), ?_⟩
  intro hh
  rcases List.suffix_cons_iff.mp hh with h1 | h1
  · exact h.2.1 (h1 ▸ List.suffix_cons n new)
  · exact h.2.2 h1

theorem moveEntry_frame {f : Nat} {old new : RPath} (x : RPath × Entry) (hx : Outside old new x) :
    x ∈ (moveEntry f s old e new).1.ents ↔ x ∈ s.ents :=
  moveEntry_rel (R := fun a b => x ∈ b.ents ↔ x ∈ a.ents) (C := fun old new => Outside old new x)
    (fun _ => Iff.rfl) (fun h1 h2 => h2.trans h1) outside_child
    (fun hc _ _ => createEntry_frame x hc.2.2) (fun hc _ => deleteEntry_frame x hc.1) f s old e new hx

/-- the client contract: directories are never given a link identity -/
def OpOk : Op → Prop
  | .create _ e _ => e.isDir = true → e.hl = 0
  | .update _ e => e.isDir = true → e.hl = 0
  | _ => True

instance : DecidablePred OpOk := fun op => by
  cases op <;> unfold OpOk <;> infer_instance

theorem inv_linkOp (inv : TreeInv s) (src dst : RPath) (hl : Nat) : TreeInv (linkOp s src dst hl).1 := by
  unfold linkOp
  split
  · exact inv
  · rename_i o ho
    split
    · exact inv
    · rename_i hc
      have hfile : o.isDir = false := (Bool.or_eq_false_iff.mp (eq_false_of_ne_true hc)).1
      have hl1 : (linked o hl).isDir = false := by unfold linked; split <;> exact hfile
      have he : (linked o hl).isDir = true → (linked o hl).hl = 0 := fun h => absurd (hl1.symm.trans h) Bool.false_ne_true
      exact inv_createEntry (inv_wInsert_over inv he ho (hfile.trans hl1.symm)) he

theorem inv_step {op : Op} (inv : TreeInv s) (ok : OpOk op) : TreeInv (step s op).1 := by
  cases op with
  | create p e x => exact inv_createEntry inv ok
  | update p e => exact inv_updateEntry inv ok
  | write p tag chunks =>
    refine inv_createEntry (s := s) (p := p) (x := false) inv ?_
    split <;> exact fun h => nomatch h
  | link src dst hl => exact inv_linkOp inv src dst hl
  | delete p r i dc => exact inv_deleteEntry inv
  | unlink p =>
    simp only [step]
    split
    · exact inv
    · exact inv_deleteEntry inv
  | rename src dst =>
    simp only [step, renameEntry]
    split
    · exact inv
    · exact inv_moveEntry inv

theorem inv_run (ops : List Op) : ∀ s, TreeInv s → (∀ op ∈ ops, OpOk op) → TreeInv (run s ops) := by
  induction ops with
  | nil => exact fun s inv _ => inv
  | cons op t ih =>
    exact fun s inv ok => ih _ (inv_step inv (ok op List.mem_cons_self)) fun o ho => ok o (List.mem_cons_of_mem _ ho)

end SwV.Lemmas.C18
