/-
C30 lemmas: the interval lists (structure, invariant, bytes).

The invariant (Props/C30 restates it; `inv_iff` there) and the dirty bytes of a buffer as an order-free relation:
`LHas l p b` / `Has lists p b`, "position p carries dirty byte b".  Under `LInv` this relation is a function and
`dirtyByte` (find? over the flattened lists) computes it.  A node cut out of another (`Part`) is usable and carries the
same bytes; `sliceNode` cuts such parts, and the tail merge of the temp-file list joins two parts of one node.  The few
facts about core's lists that the two lemma files need (`getD` against `[·]?`, uniqueness under `Pairwise`, `eraseIdx`
and `set` up to permutation) stand first.
-/
import SwV.Model.C30
namespace SwV.Lemmas.C30
open SwV.Model.C30

def NodeOk (tk : Bool) (temp : List Nat) (n : Node) : Prop :=
  0 < n.size ∧ (tk = false → n.data.length = n.size) ∧ (tk = true → n.tmp + n.size ≤ temp.length)

def Chained : LList → Prop
  | [] => True
  | [_] => True
  | a :: b :: r => a.off + a.size = b.off ∧ Chained (b :: r)

def ListOk (tk : Bool) (temp : List Nat) (l : LList) : Prop :=
  l ≠ [] ∧ (∀ n ∈ l, NodeOk tk temp n) ∧ Chained l

/-- what `LInv` asks of any two lists (`LInv` itself spells it out) -/
def Gap (a b : LList) : Prop := tailStop a < headOff b ∨ tailStop b < headOff a

def LInv (tk : Bool) (temp : List Nat) (lists : List LList) : Prop :=
  (∀ l ∈ lists, ListOk tk temp l) ∧ lists.Pairwise (fun a b => tailStop a < headOff b ∨ tailStop b < headOff a)

def nodeByte (tk : Bool) (temp : List Nat) (n : Node) (p : Nat) : Nat := (nodeBytes tk temp n).getD (p - n.off) 0

def dirtyByte (tk : Bool) (temp : List Nat) (lists : List LList) (p : Nat) : Option Nat :=
  (lists.flatten.find? (fun n => n.off ≤ p ∧ p < n.off + n.size)).map (fun n => (nodeBytes tk temp n).getD (p - n.off) 0)

def LHas (tk : Bool) (temp : List Nat) (l : LList) (p b : Nat) : Prop :=
  ∃ x ∈ l, x.off ≤ p ∧ p < x.off + x.size ∧ b = nodeByte tk temp x p

def Has (tk : Bool) (temp : List Nat) (lists : List LList) (p b : Nat) : Prop :=
  ∃ l ∈ lists, LHas tk temp l p b

variable {tk : Bool} {temp : List Nat}

theorem getElem?_eq_some_getD {α : Type} (l : List α) (k : Nat) (d : α) (h : k < l.length) : l[k]? = some (l.getD k d) := by
  simp [List.getD_eq_getElem?_getD, List.getElem?_eq_getElem h]

theorem getD_of_getElem? {α : Type} {l : List α} {k : Nat} {d b : α} (h : l[k]? = some b) : l.getD k d = b := by
  rw [List.getD_eq_getElem?_getD, h]
  rfl

theorem pairwise_unique {α : Type} {R : α → α → Prop} {C : α → Prop} (hex : ∀ x y, R x y → C x → C y → False) :
    ∀ {L : List α}, L.Pairwise R → ∀ x ∈ L, ∀ y ∈ L, C x → C y → x = y
  | [], _, x, hx, _, _, _, _ => by cases hx
  | a :: L, hp, x, hx, y, hy, cx, cy => by
    have hp' := List.pairwise_cons.1 hp
    rcases List.mem_cons.1 hx with rfl | hx1 <;> rcases List.mem_cons.1 hy with rfl | hy1
    · rfl
    · exact (hex _ _ (hp'.1 y hy1) cx cy).elim
    · exact (hex _ _ (hp'.1 x hx1) cy cx).elim
    · exact pairwise_unique hex hp'.2 x hx1 y hy1 cx cy

theorem eraseIdx_perm {α : Type} : ∀ (l : List α) (i : Nat) (h : i < l.length), l.Perm (l[i] :: l.eraseIdx i)
  | [], _, h => by simp at h
  | a :: l, 0, _ => List.Perm.refl _
  | a :: l, i + 1, h => by
    rw [List.eraseIdx_cons_succ]
    have := eraseIdx_perm l i (Nat.lt_of_succ_lt_succ h)
    simp only [List.getElem_cons_succ]
    exact (List.Perm.cons a this).trans (List.Perm.swap _ a _)

theorem set_perm {α : Type} (l : List α) (i : Nat) (x : α) (h : i < l.length) : (l.set i x).Perm (x :: l.eraseIdx i) := by
  have := eraseIdx_perm (l.set i x) i (by rwa [List.length_set])
  rwa [List.getElem_set_self, List.eraseIdx_set_eq] at this

theorem tailStop_singleton (a : Node) : tailStop [a] = a.off + a.size := rfl

theorem tailStop_cons_cons (a b : Node) (r : LList) : tailStop (a :: b :: r) = tailStop (b :: r) := by
  simp [tailStop, List.getLast?_cons_cons]

theorem tailStop_concat (l : LList) (t : Node) : tailStop (l ++ [t]) = t.off + t.size := by
  simp [tailStop]

theorem tailStop_append (a b : LList) (hb : b ≠ []) : tailStop (a ++ b) = tailStop b := by
  unfold tailStop
  rw [List.getLast?_append]
  cases h : b.getLast? with
  | none => exact absurd (List.getLast?_eq_none_iff.1 h) hb
  | some t => simp

theorem headOff_cons (a : Node) (l : LList) : headOff (a :: l) = a.off := rfl

theorem headOff_append (a b : LList) (ha : a ≠ []) : headOff (a ++ b) = headOff a := by
  cases a with
  | nil => exact absurd rfl ha
  | cons x xs => rfl

theorem chained_cons (a : Node) (l : LList) : Chained (a :: l) ↔ (l ≠ [] → a.off + a.size = headOff l) ∧ Chained l := by
  cases l with
  | nil => simp [Chained]
  | cons b r => simp [Chained, headOff_cons]

theorem chained_bounds : ∀ (l : LList), Chained l → ∀ x ∈ l, headOff l ≤ x.off ∧ x.off + x.size ≤ tailStop l
  | [], _, x, hx => by cases hx
  | [a], _, x, hx => by
    obtain rfl := List.mem_singleton.1 hx; simp [headOff_cons, tailStop_singleton]
  | a :: b :: r, hc, x, hx => by
    have ih := chained_bounds (b :: r) hc.2
    rw [tailStop_cons_cons]
    have h1 := hc.1
    rcases List.mem_cons.1 hx with rfl | hx
    · have := ih b List.mem_cons_self
      rw [headOff_cons]
      omega
    · have := ih x hx
      rw [headOff_cons] at this ⊢
      omega

theorem chained_sorted : ∀ (l : LList), Chained l → l.Pairwise (fun a b => a.off + a.size ≤ b.off)
  | [], _ => List.Pairwise.nil
  | [a], _ => by simp
  | a :: b :: r, hc => by
    have ih := chained_sorted (b :: r) hc.2
    refine List.pairwise_cons.2 ⟨?_, ih⟩
    intro x hx
    have := (chained_bounds (b :: r) hc.2 x hx).1
    have h1 := hc.1
    simp only [headOff] at this
    omega

theorem chained_cover : ∀ (l : LList), Chained l → ∀ p, headOff l ≤ p → p < tailStop l →
    ∃ x ∈ l, x.off ≤ p ∧ p < x.off + x.size
  | [], _, p, _, h2 => by simp [tailStop] at h2
  | [a], _, p, h1, h2 => ⟨a, List.mem_cons_self, h1, h2⟩
  | a :: b :: r, hc, p, h1, h2 => by
    by_cases h : p < a.off + a.size
    · exact ⟨a, List.mem_cons_self, h1, h⟩
    · rw [tailStop_cons_cons] at h2
      have hh := hc.1
      obtain ⟨x, hx, hx'⟩ := chained_cover (b :: r) hc.2 p (by simp only [headOff]; omega) h2
      exact ⟨x, List.mem_cons_of_mem _ hx, hx'⟩

theorem chained_append : ∀ (a b : LList), Chained (a ++ b) ↔
    Chained a ∧ Chained b ∧ (a ≠ [] → b ≠ [] → tailStop a = headOff b)
  | [], b => by simp [Chained]
  | [x], b => by
    rw [List.singleton_append, chained_cons]
    simp [Chained, tailStop_singleton]
    exact and_comm
  | x :: y :: r, b => by
    have ih := chained_append (y :: r) b
    show Chained (x :: y :: (r ++ b)) ↔ _
    simp only [Chained]
    rw [show y :: (r ++ b) = (y :: r) ++ b from rfl, ih, tailStop_cons_cons]
    simp
    exact and_assoc.symm

theorem ListOk.lt {l : LList} (h : ListOk tk temp l) : headOff l < tailStop l := by
  cases l with
  | nil => exact absurd rfl h.1
  | cons a r =>
    have := chained_bounds _ h.2.2 a List.mem_cons_self
    have := (h.2.1 a List.mem_cons_self).1
    simp only [headOff] at *
    omega

theorem ListOk.bounds {tk : Bool} {temp : List Nat} {l : LList} (h : ListOk tk temp l) :
    ∀ x ∈ l, headOff l ≤ x.off ∧ x.off + x.size ≤ tailStop l :=
  chained_bounds l h.2.2

theorem ListOk.lsize {l : LList} (h : ListOk tk temp l) :
    headOff l + lsize l = tailStop l := by
  have := h.lt
  -- the bare `lsize` is this theorem here, and in every later declaration named `ListOk.…`, not the model's function
  unfold SwV.Model.C30.lsize
  omega

theorem listOk_append {a b : LList} (ha : ListOk tk temp a) (hb : ListOk tk temp b)
    (h : tailStop a = headOff b) :
    ListOk tk temp (a ++ b) ∧ headOff (a ++ b) = headOff a ∧ tailStop (a ++ b) = tailStop b := by
  refine ⟨⟨List.append_ne_nil_of_left_ne_nil ha.1 _, List.forall_mem_append.2 ⟨ha.2.1, hb.2.1⟩, ?_⟩, headOff_append a b ha.1, tailStop_append a b hb.1⟩
  exact (chained_append a b).2 ⟨ha.2.2, hb.2.2, fun _ _ => h⟩

theorem listOk_singleton {n : Node} (hn : NodeOk tk temp n) : ListOk tk temp [n] :=
  ⟨by simp, List.forall_mem_singleton.2 hn, trivial⟩

theorem listOk_cons {n : Node} {b : LList} (hn : NodeOk tk temp n) (hb : ListOk tk temp b)
    (h : n.off + n.size = headOff b) :
    ListOk tk temp (n :: b) ∧ headOff (n :: b) = n.off ∧ tailStop (n :: b) = tailStop b :=
  listOk_append (listOk_singleton hn) hb h

theorem listOk_tail {t u : Node} {r : LList} (h : ListOk tk temp (t :: u :: r)) :
    ListOk tk temp (u :: r) :=
  ⟨by simp, fun n hn => h.2.1 n (List.mem_cons_of_mem _ hn), h.2.2.2⟩

theorem nodeByte_eq (tk : Bool) (temp : List Nat) {x : Node} {p : Nat} (h1 : x.off ≤ p) (h2 : p < x.off + x.size) :
    nodeByte tk temp x p = if tk then temp.getD (x.tmp + (p - x.off)) 0 else x.data.getD (p - x.off) 0 := by
  unfold nodeByte nodeBytes
  cases tk with
  | false => rfl
  | true =>
    simp only [if_true, List.getD_eq_getElem?_getD, List.getElem?_take, List.getElem?_drop]
    rw [if_pos (by omega)]

theorem nodeBytes_length (tk : Bool) (temp : List Nat) (x : Node) (hx : NodeOk tk temp x) :
    (nodeBytes tk temp x).length = x.size := by
  unfold nodeBytes
  cases tk with
  | false => exact hx.2.1 rfl
  | true =>
    have := hx.2.2 rfl
    simp only [if_true, List.length_take, List.length_drop]
    omega

theorem nodeBytes_getElem? {x : Node} (hx : NodeOk tk temp x) {p : Nat} (h1 : x.off ≤ p)
    (h2 : p < x.off + x.size) : (nodeBytes tk temp x)[p - x.off]? = some (nodeByte tk temp x p) :=
  getElem?_eq_some_getD _ _ 0 (by rw [nodeBytes_length tk temp x hx]; omega)

theorem nodeBytes_seg {x : Node} (hx : NodeOk tk temp x) {s e : Nat} (h1 : x.off ≤ s)
    (h2 : e ≤ x.off + x.size) :
    (((nodeBytes tk temp x).drop (s - x.off)).take (e - s)).length = e - s ∧
    ∀ p, s ≤ p → p < e →
      (((nodeBytes tk temp x).drop (s - x.off)).take (e - s))[p - s]? = some (nodeByte tk temp x p) := by
  refine ⟨by rw [List.length_take, List.length_drop, nodeBytes_length tk temp x hx]; omega, fun p hp1 hp2 => ?_⟩
  rw [List.getElem?_take, if_pos (Nat.sub_lt_sub_right hp1 hp2), List.getElem?_drop,
    ← nodeBytes_getElem? hx (Nat.le_trans h1 hp1) (Nat.lt_of_lt_of_le hp2 h2)]
  congr 1
  omega

/-- `t'` is the part of `t` at the positions `[t'.off, t'.off + t'.size)`: what `sliceNode` cuts out of a node, and
    what the two nodes merged by `addToTail` are of the merged one -/
def Part (tk : Bool) (t' t : Node) : Prop :=
  t.off ≤ t'.off ∧ t'.off + t'.size ≤ t.off + t.size ∧ 0 < t'.size ∧
  (tk = true → t'.tmp = t.tmp + (t'.off - t.off)) ∧
  (tk = false → t'.data = (t.data.drop (t'.off - t.off)).take t'.size)

theorem part_ok {t t' : Node} (ht : NodeOk tk temp t) (hp : Part tk t' t) :
    NodeOk tk temp t' := by
  obtain ⟨a1, a2, a3, a4, a5⟩ := hp
  refine ⟨a3, fun hk => ?_, fun hk => ?_⟩
  · have := ht.2.1 hk
    rw [a5 hk, List.length_take, List.length_drop]
    omega
  · have := ht.2.2 hk
    have := a4 hk
    omega

theorem part_byte {t t' : Node} (hp : Part tk t' t) {p : Nat} (h1 : t'.off ≤ p)
    (h2 : p < t'.off + t'.size) : nodeByte tk temp t' p = nodeByte tk temp t p := by
  obtain ⟨a1, a2, a3, a4, a5⟩ := hp
  have hidx : t'.off - t.off + (p - t'.off) = p - t.off := by omega
  rw [nodeByte_eq tk temp h1 h2, nodeByte_eq tk temp (Nat.le_trans a1 h1) (Nat.lt_of_lt_of_le h2 a2)]
  cases tk with
  | true => simp only [if_true, a4 rfl, Nat.add_assoc, hidx]
  | false =>
    simp only [Bool.false_eq_true, if_false, a5 rfl, List.getD_eq_getElem?_getD, List.getElem?_take, List.getElem?_drop]
    rw [if_pos (Nat.sub_lt_left_of_lt_add h1 h2), hidx]

theorem lhas_singleton (tk : Bool) (temp : List Nat) (x : Node) (p b : Nat) :
    LHas tk temp [x] p b ↔ x.off ≤ p ∧ p < x.off + x.size ∧ b = nodeByte tk temp x p := by
  simp [LHas]

theorem lhas_append (tk : Bool) (temp : List Nat) (a c : LList) (p b : Nat) :
    LHas tk temp (a ++ c) p b ↔ LHas tk temp a p b ∨ LHas tk temp c p b := by
  simp only [LHas, List.mem_append, or_and_right, exists_or]

abbrev Within (l : LList) (p : Nat) : Prop := headOff l ≤ p ∧ p < tailStop l

theorem lhas_range {l : LList} (h : ListOk tk temp l) {p b : Nat} (hb : LHas tk temp l p b) :
    Within l p := by
  obtain ⟨x, hx, h1, h2, _⟩ := hb
  have := h.bounds x hx
  omega

theorem lhas_unique {l : LList} (h : ListOk tk temp l) {p b b' : Nat}
    (hb : LHas tk temp l p b) (hb' : LHas tk temp l p b') : b = b' := by
  obtain ⟨x, hx, h1, h2, rfl⟩ := hb
  obtain ⟨y, hy, h3, h4, rfl⟩ := hb'
  have : x = y := pairwise_unique (C := fun n => n.off ≤ p ∧ p < n.off + n.size)
    (fun x y hr cx cy => by omega) (chained_sorted l h.2.2) x hx y hy ⟨h1, h2⟩ ⟨h3, h4⟩
  rw [this]

theorem linv_list_unique {lists : List LList} (h : LInv tk temp lists) {p : Nat}
    {l l' : LList} (hl : l ∈ lists) (hl' : l' ∈ lists) (h1 : Within l p) (h2 : Within l' p) : l = l' :=
  pairwise_unique (C := fun l => Within l p)
    (fun x y hr cx cy => by rcases hr with hr | hr <;> omega) h.2 l hl l' hl' h1 h2

theorem has_unique {lists : List LList} (h : LInv tk temp lists) {p b b' : Nat}
    (hb : Has tk temp lists p b) (hb' : Has tk temp lists p b') : b = b' := by
  obtain ⟨l, hl, hb⟩ := hb
  obtain ⟨l', hl', hb'⟩ := hb'
  have := linv_list_unique h hl hl' (lhas_range (h.1 l hl) hb) (lhas_range (h.1 l' hl') hb')
  subst this
  exact lhas_unique (h.1 l hl) hb hb'

theorem dirtyByte_eq_some {lists : List LList} (h : LInv tk temp lists) {p b : Nat} :
    dirtyByte tk temp lists p = some b ↔ Has tk temp lists p b := by
  -- the node `find?` stops at carries a byte of `p`; under the invariant there is only one such byte
  have hfound : ∀ x, lists.flatten.find? (fun n => n.off ≤ p ∧ p < n.off + n.size) = some x →
      Has tk temp lists p (nodeByte tk temp x p) := by
    intro x hf
    obtain ⟨l, hl, hx⟩ := List.mem_flatten.1 (List.mem_of_find?_eq_some hf)
    have hc := List.find?_some hf
    simp only [decide_eq_true_eq] at hc
    exact ⟨l, hl, x, hx, hc.1, hc.2, rfl⟩
  unfold dirtyByte
  rw [Option.map_eq_some_iff]
  constructor
  · rintro ⟨x, hf, rfl⟩
    exact hfound x hf
  · intro hh
    cases hf : lists.flatten.find? (fun n => n.off ≤ p ∧ p < n.off + n.size) with
    | none =>
      obtain ⟨l, hl, x, hx, h1, h2, _⟩ := hh
      have := List.find?_eq_none.1 hf x (List.mem_flatten.2 ⟨l, hl, hx⟩)
      simp only [decide_eq_true_eq] at this
      exact absurd ⟨h1, h2⟩ this
    | some x => exact ⟨x, rfl, has_unique h (hfound x hf) hh⟩

theorem dirtyByte_eq_none {lists : List LList} {p : Nat} :
    dirtyByte tk temp lists p = none ↔ ∀ l ∈ lists, ∀ x ∈ l, ¬ (x.off ≤ p ∧ p < x.off + x.size) := by
  unfold dirtyByte
  simp only [Option.map_eq_none_iff, List.find?_eq_none, decide_eq_true_eq]
  exact List.forall_mem_flatten

theorem has_nil (tk : Bool) (temp : List Nat) (p b : Nat) : ¬ Has tk temp [] p b := by
  simp [Has]

theorem has_singleton (tk : Bool) (temp : List Nat) (l : LList) (p b : Nat) : Has tk temp [l] p b ↔ LHas tk temp l p b := by
  simp [Has]

theorem has_cons (tk : Bool) (temp : List Nat) (l : LList) (ls : List LList) (p b : Nat) :
    Has tk temp (l :: ls) p b ↔ LHas tk temp l p b ∨ Has tk temp ls p b := by
  simp [Has]

theorem has_append (tk : Bool) (temp : List Nat) (l1 l2 : List LList) (p b : Nat) :
    Has tk temp (l1 ++ l2) p b ↔ Has tk temp l1 p b ∨ Has tk temp l2 p b := by
  simp only [Has, List.mem_append, or_and_right, exists_or]

theorem has_perm {l1 l2 : List LList} (hp : l1.Perm l2) (p b : Nat) :
    Has tk temp l1 p b ↔ Has tk temp l2 p b := by
  simp only [Has, hp.mem_iff]

theorem linv_nil : LInv tk temp [] := ⟨List.forall_mem_nil _, List.Pairwise.nil⟩

theorem linv_cons {l : LList} {ls : List LList} :
    LInv tk temp (l :: ls) ↔ ListOk tk temp l ∧
      (∀ l' ∈ ls, tailStop l < headOff l' ∨ tailStop l' < headOff l) ∧ LInv tk temp ls := by
  unfold LInv
  rw [List.pairwise_cons, List.forall_mem_cons]
  exact and_and_and_comm.trans and_assoc

theorem linv_perm {l1 l2 : List LList} (hp : l1.Perm l2) (h : LInv tk temp l1) :
    LInv tk temp l2 :=
  ⟨fun l hl => h.1 l (hp.mem_iff.2 hl), (List.Perm.pairwise_iff (fun {_ _} h => h.symm) hp).1 h.2⟩

theorem linv_head_unique {lists : List LList} (h : LInv tk temp lists)
    {l l' : LList} (hl : l ∈ lists) (hl' : l' ∈ lists) (he : headOff l = headOff l') : l = l' := by
  have h1 := (h.1 l hl).lt
  have h2 := (h.1 l' hl').lt
  exact linv_list_unique (p := headOff l) h hl hl' ⟨Nat.le_refl _, h1⟩ ⟨Nat.le_of_eq he.symm, by rw [he]; exact h2⟩

theorem linv_tail_unique {tk : Bool} {temp : List Nat} {lists : List LList} (h : LInv tk temp lists)
    {l l' : LList} (hl : l ∈ lists) (hl' : l' ∈ lists) (he : tailStop l = tailStop l') : l = l' := by
  have h1 := (h.1 l hl).lt
  have h2 := (h.1 l' hl').lt
  have hp : tailStop l - 1 < tailStop l := Nat.sub_one_lt_of_lt h1
  exact linv_list_unique (p := tailStop l - 1) h hl hl' ⟨Nat.le_sub_one_of_lt h1, hp⟩
    ⟨by rw [he]; exact Nat.le_sub_one_of_lt h2, by rw [← he]; exact hp⟩

theorem dirtyByte_nil (tk : Bool) (temp : List Nat) (p : Nat) : dirtyByte tk temp [] p = none := rfl

theorem sliceNode_eq (lo hi : Nat) (t : Node) : sliceNode lo hi t =
    if max lo t.off < min hi (t.off + t.size) then
      some { off := max lo t.off, size := min hi (t.off + t.size) - max lo t.off, tmp := t.tmp + (max lo t.off - t.off),
             data := (t.data.drop (max lo t.off - t.off)).take (min hi (t.off + t.size) - max lo t.off) }
    else none := rfl

theorem sliceNode_isSome {lo hi : Nat} {t : Node} (h : max lo t.off < min hi (t.off + t.size)) :
    ∃ t', sliceNode lo hi t = some t' :=
  ⟨_, (sliceNode_eq lo hi t).trans (if_pos h)⟩

theorem sliceNode_none {lo hi : Nat} {t : Node} (h : ¬ max lo t.off < min hi (t.off + t.size)) :
    sliceNode lo hi t = none :=
  (sliceNode_eq lo hi t).trans (if_neg h)

theorem sliceNode_some {lo hi : Nat} {t t' : Node} (h : sliceNode lo hi t = some t') :
    t'.off = max lo t.off ∧ t'.off + t'.size = min hi (t.off + t.size) ∧ ∀ tk, Part tk t' t := by
  rw [sliceNode_eq] at h
  split at h
  · cases h
    rename_i hlt
    have e2 : max lo t.off + (min hi (t.off + t.size) - max lo t.off) = min hi (t.off + t.size) :=
      Nat.add_sub_of_le (Nat.le_of_lt hlt)
    exact ⟨rfl, e2, fun _ => ⟨Nat.le_max_right _ _, Nat.le_trans (Nat.le_of_eq e2) (Nat.min_le_right ..),
      Nat.sub_pos_of_lt hlt, fun _ => rfl, fun _ => rfl⟩⟩
  · cases h

theorem sliceNode_cover {lo hi : Nat} {t t' : Node} (h : sliceNode lo hi t = some t') (p : Nat) :
    (t'.off ≤ p ∧ p < t'.off + t'.size) ↔ (lo ≤ p ∧ p < hi) ∧ t.off ≤ p ∧ p < t.off + t.size := by
  obtain ⟨e1, e2, -⟩ := sliceNode_some h
  rw [e2, e1, Nat.max_le, Nat.lt_min, and_and_and_comm]

theorem lhas_subList (l : LList) (lo hi p b : Nat) :
    LHas tk temp (subList l lo hi) p b ↔ lo ≤ p ∧ p < hi ∧ LHas tk temp l p b := by
  constructor
  · rintro ⟨x', hx', h1, h2, rfl⟩
    obtain ⟨x, hx, hs⟩ := List.mem_filterMap.1 hx'
    obtain ⟨⟨c1, c2⟩, c3, c4⟩ := (sliceNode_cover hs p).1 ⟨h1, h2⟩
    exact ⟨c1, c2, x, hx, c3, c4, part_byte ((sliceNode_some hs).2.2 tk) h1 h2⟩
  · rintro ⟨hlo, hhi, x, hx, h1, h2, rfl⟩
    obtain ⟨x', hs⟩ := sliceNode_isSome (lo := lo) (hi := hi) (t := x) (by omega)
    obtain ⟨c1, c2⟩ := (sliceNode_cover hs p).2 ⟨⟨hlo, hhi⟩, h1, h2⟩
    exact ⟨x', List.mem_filterMap.2 ⟨x, hx, hs⟩, c1, c2, (part_byte ((sliceNode_some hs).2.2 tk) c1 c2).symm⟩

theorem subList_eq_nil {l : LList} {lo hi : Nat} (h : ∀ x ∈ l, hi ≤ x.off ∨ x.off + x.size ≤ lo) :
    subList l lo hi = [] :=
  List.filterMap_eq_nil_iff.2 fun x hx => sliceNode_none (by have := h x hx; omega)

theorem subList_cons_none {lo hi : Nat} {t : Node} (l : LList) (h : sliceNode lo hi t = none) :
    subList (t :: l) lo hi = subList l lo hi :=
  List.filterMap_cons_none h

theorem subList_cons_some {lo hi : Nat} {t b : Node} (l : LList) (h : sliceNode lo hi t = some b) :
    subList (t :: l) lo hi = b :: subList l lo hi :=
  List.filterMap_cons_some h

theorem subList_ok : ∀ (l : LList), ListOk tk temp l → ∀ lo hi,
    max lo (headOff l) < min hi (tailStop l) →
    ListOk tk temp (subList l lo hi) ∧ headOff (subList l lo hi) = max lo (headOff l) ∧
      tailStop (subList l lo hi) = min hi (tailStop l)
  | [], h, _, _, _ => absurd rfl h.1
  | [t], h, lo, hi, hw => by
    obtain ⟨t', hs⟩ := sliceNode_isSome (t := t) hw
    obtain ⟨e1, e2, hp⟩ := sliceNode_some hs
    rw [subList_cons_some [] hs]
    exact ⟨listOk_singleton (part_ok (h.2.1 t List.mem_cons_self) (hp tk)), e1, e2⟩
  | t :: u :: r, h, lo, hi, hw => by
    have hr : ListOk tk temp (u :: r) := listOk_tail h
    have hlink : t.off + t.size = u.off := h.2.2.1
    have htpos := (h.2.1 t List.mem_cons_self).1
    have hrlt : u.off < tailStop (u :: r) := hr.lt
    have ih : max lo u.off < min hi (tailStop (u :: r)) → _ := subList_ok (u :: r) hr lo hi
    rw [tailStop_cons_cons] at hw ⊢
    change max lo t.off < _ at hw
    change _ ∧ _ = max lo t.off ∧ _
    -- by the position of the window against the boundary between `t` and the rest; in each case the clamps are known
    by_cases hA : hi ≤ u.off
    · have hmin1 : min hi (t.off + t.size) = hi := Nat.min_eq_left (hlink ▸ hA)
      rw [Nat.min_eq_left (Nat.le_trans hA (Nat.le_of_lt hrlt))] at hw ⊢
      have hnil : subList (u :: r) lo hi = [] :=
        subList_eq_nil fun x hx => Or.inl (Nat.le_trans hA (hr.bounds x hx).1)
      obtain ⟨t', hs⟩ := sliceNode_isSome (lo := lo) (hi := hi) (t := t) (by rw [hmin1]; exact hw)
      obtain ⟨e1, e2, hp⟩ := sliceNode_some hs
      rw [subList_cons_some _ hs, hnil]
      exact ⟨listOk_singleton (part_ok (h.2.1 t List.mem_cons_self) (hp tk)), e1, e2.trans hmin1⟩
    · by_cases hB : u.off ≤ lo
      · have hmax2 : max lo u.off = lo := Nat.max_eq_left hB
        rw [Nat.max_eq_left (Nat.le_trans (hlink ▸ Nat.le_add_right ..) hB)] at hw ⊢
        rw [subList_cons_none _ (sliceNode_none (Nat.not_lt.2
          (Nat.le_trans (Nat.min_le_right ..) (Nat.le_trans (Nat.le_of_eq hlink) (Nat.le_trans hB (Nat.le_max_left ..))))))]
        obtain ⟨i1, i2, i3⟩ := ih (by rw [hmax2]; exact hw)
        exact ⟨i1, i2.trans hmax2, i3⟩
      · have hmin1 : min hi (t.off + t.size) = u.off := by
          rw [hlink]; exact Nat.min_eq_right (Nat.le_of_lt (Nat.lt_of_not_le hA))
        have hmax2 : max lo u.off = u.off := Nat.max_eq_right (Nat.le_of_lt (Nat.lt_of_not_le hB))
        obtain ⟨t', hs⟩ := sliceNode_isSome (lo := lo) (hi := hi) (t := t)
          (by rw [hmin1]; exact Nat.max_lt.2 ⟨Nat.lt_of_not_le hB, hlink ▸ Nat.lt_add_of_pos_right htpos⟩)
        obtain ⟨e1, e2, hp⟩ := sliceNode_some hs
        obtain ⟨i1, i2, i3⟩ := ih (by rw [hmax2]; exact Nat.lt_min.2 ⟨Nat.lt_of_not_le hA, hrlt⟩)
        have hc := listOk_cons (part_ok (h.2.1 t List.mem_cons_self) (hp tk)) i1 (by rw [i2, e2, hmin1]; exact hmax2.symm)
        rw [subList_cons_some _ hs]
        exact ⟨hc.1, hc.2.1.trans e1, hc.2.2.trans i3⟩

theorem subList_ok_inside {l : LList} (hl : ListOk tk temp l) {lo hi : Nat}
    (h1 : headOff l ≤ lo) (h2 : hi ≤ tailStop l) (h : lo < hi) :
    ListOk tk temp (subList l lo hi) ∧ headOff (subList l lo hi) = lo ∧ tailStop (subList l lo hi) = hi := by
  have := subList_ok l hl lo hi (by rw [Nat.max_eq_left h1, Nat.min_eq_left h2]; exact h)
  rwa [Nat.max_eq_left h1, Nat.min_eq_left h2] at this

theorem lhas_tiled {t a c : Node} (ha : Part tk a t) (hc : Part tk c t) (h1 : a.off = t.off)
    (h2 : a.off + a.size = c.off) (h3 : c.off + c.size = t.off + t.size) (p b : Nat) :
    LHas tk temp [t] p b ↔ LHas tk temp [a] p b ∨ LHas tk temp [c] p b := by
  rw [lhas_singleton, lhas_singleton, lhas_singleton]
  constructor
  · rintro ⟨q1, q2, rfl⟩
    by_cases hp : p < c.off
    · have c1 := Nat.le_trans (Nat.le_of_eq h1) q1
      have c2 := Nat.lt_of_lt_of_le hp (Nat.le_of_eq h2.symm)
      exact Or.inl ⟨c1, c2, (part_byte ha c1 c2).symm⟩
    · have c1 := Nat.le_of_not_lt hp
      have c2 := Nat.lt_of_lt_of_le q2 (Nat.le_of_eq h3.symm)
      exact Or.inr ⟨c1, c2, (part_byte hc c1 c2).symm⟩
  · rintro (⟨c1, c2, rfl⟩ | ⟨c1, c2, rfl⟩)
    · exact ⟨Nat.le_trans ha.1 c1, Nat.lt_of_lt_of_le c2 ha.2.1, part_byte ha c1 c2⟩
    · exact ⟨Nat.le_trans hc.1 c1, Nat.lt_of_lt_of_le c2 hc.2.1, part_byte hc c1 c2⟩

/-- `{ t with size := t.size + n.size }` is the node `addToTail` puts in the place of the tail `t` when `n` continues it
    in the temp file -/
theorem merged_parts {t n : Node} (ht : NodeOk true temp t) (hn : NodeOk true temp n)
    (hadj : t.off + t.size = n.off) (hm : t.tmp + t.size = n.tmp) :
    NodeOk true temp { t with size := t.size + n.size } ∧ Part true t { t with size := t.size + n.size } ∧
    Part true n { t with size := t.size + n.size } := by
  have htt := ht.2.2 rfl
  have hnt := hn.2.2 rfl
  exact ⟨⟨Nat.add_pos_left ht.1 _, nofun, fun _ => by show t.tmp + (t.size + n.size) ≤ temp.length; omega⟩,
    ⟨Nat.le_refl _, Nat.add_le_add_left (Nat.le_add_right _ _) _, ht.1, fun _ => by simp, nofun⟩,
    ⟨hadj ▸ Nat.le_add_right _ _, by show n.off + n.size ≤ t.off + (t.size + n.size); omega, hn.1,
      fun _ => by show n.tmp = t.tmp + (n.off - t.off); omega, nofun⟩⟩

theorem listOk_replace_last {ys : LList} {t m : Node} (h : ListOk tk temp (ys ++ [t])) (hm : NodeOk tk temp m)
    (ho : m.off = t.off) : ListOk tk temp (ys ++ [m]) ∧ headOff (ys ++ [m]) = headOff (ys ++ [t]) := by
  have hch := (chained_append ys [t]).1 h.2.2
  refine ⟨⟨by simp, List.forall_mem_append.2 ⟨(List.forall_mem_append.1 h.2.1).1, List.forall_mem_singleton.2 hm⟩,
    (chained_append ys _).2 ⟨hch.1, trivial, fun h1 _ => (hch.2.2 h1 (by simp)).trans ho.symm⟩⟩, ?_⟩
  cases ys
  · exact ho
  · rfl

theorem addToTail_spec {l : LList} {n : Node} (h : ListOk tk temp l) (hn : NodeOk tk temp n)
    (hadj : tailStop l = n.off) :
    ListOk tk temp (addToTail tk l n) ∧ headOff (addToTail tk l n) = headOff l ∧
    tailStop (addToTail tk l n) = n.off + n.size ∧
    ∀ p b, LHas tk temp (addToTail tk l n) p b ↔ LHas tk temp l p b ∨ LHas tk temp [n] p b := by
  have plain : ListOk tk temp (l ++ [n]) ∧ headOff (l ++ [n]) = headOff l ∧ tailStop (l ++ [n]) = n.off + n.size ∧
      ∀ p b, LHas tk temp (l ++ [n]) p b ↔ LHas tk temp l p b ∨ LHas tk temp [n] p b := by
    have := listOk_append h (listOk_singleton hn) hadj
    exact ⟨this.1, this.2.1, this.2.2, fun p b => lhas_append tk temp l [n] p b⟩
  unfold addToTail
  cases hl : l.getLast? with
  | none => exact plain
  | some t =>
    simp only
    by_cases hm : tk = true ∧ t.tmp + t.size = n.tmp
    · rw [if_pos hm]
      obtain ⟨ys, rfl⟩ := List.getLast?_eq_some_iff.1 hl
      obtain ⟨rfl, hm⟩ := hm
      rw [List.dropLast_concat]
      rw [tailStop_concat] at hadj
      obtain ⟨hmok, pt, pn⟩ := merged_parts (h.2.1 t List.mem_concat_self) hn hadj hm
      obtain ⟨r1, r2⟩ := listOk_replace_last h hmok rfl
      refine ⟨r1, r2, ?_, fun p b => ?_⟩
      · rw [tailStop_concat, ← hadj]; exact (Nat.add_assoc _ _ _).symm
      · rw [lhas_append, lhas_append, or_assoc,
          lhas_tiled pt pn rfl hadj (by show n.off + n.size = t.off + (t.size + n.size); omega)]
    · rw [if_neg hm]
      exact plain

end SwV.Lemmas.C30
