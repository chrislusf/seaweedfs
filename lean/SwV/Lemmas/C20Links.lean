/-
C20 — chunk GC in the world WITH hard links: what every live name shows (`Shows`), ownership
(`ExclL`: a chunk is shown by one plain name or by the names of one link identity), the one state
transition behind the operations that are not recorded findings (`gcS_tr`: the touched names that remain
are names of one owner and show one list, every other name shows what it showed), and what the store
shim's operations do to `Shows`.
-/
import SwV.Model.C18
import SwV.Lemmas.C18
import SwV.Lemmas.C20
import SwV.Lemmas.C21
namespace SwV.Lemmas.C20Links
open SwV.Model.C18 SwV.Lemmas.C18 SwV.Lemmas.C20 SwV.Lemmas.C21

/-- the stored name p carries link identity k (0 = plain) and shows the chunk list cs through FindEntry:
    its own chunks when plain, the chunks of the identity's record when linked -/
def Shows (s : St) (p : RPath) (k : Nat) (cs : List Nat) : Prop :=
  ∃ e, (p, e) ∈ s.ents ∧ e.hl = k ∧ ((k = 0 ∧ cs = e.chunks) ∨ (k ≠ 0 ∧ ∃ r, kvGet s k = some r ∧ cs = r.chunks))

def RefS (s : St) (c : Nat) : Prop := ∃ p k cs, Shows s p k cs ∧ c ∈ cs

theorem shows_fun {s : St} (inv : TreeInv s) {p : RPath} {k k' : Nat} {cs cs' : List Nat}
    (h : Shows s p k cs) (h' : Shows s p k' cs') : k = k' ∧ cs = cs' := by
  rcases h with ⟨e, hm, hk, hc⟩
  rcases h' with ⟨e', hm', hk', hc'⟩
  have := mem_unique inv.nodup hm hm'
  subst this
  have hkk : k = k' := hk.symm.trans hk'
  subst hkk
  refine ⟨rfl, ?_⟩
  rcases hc with ⟨h0, rfl⟩ | ⟨h0, r, hr, rfl⟩
  · rcases hc' with ⟨_, rfl⟩ | ⟨h1, _⟩
    · rfl
    · exact absurd h0 h1
  · rcases hc' with ⟨h1, _⟩ | ⟨_, r', hr', rfl⟩
    · exact absurd h1 h0
    · rw [hr] at hr'; cases hr'; rfl

theorem shows_of_find {s : St} (inv : TreeInv s) {p : RPath} {ex o : Entry} (hm : (p, ex) ∈ s.ents)
    (c : ex.hl ≠ 0 → Cons s ex.hl) (hf : find s p = some o) : Shows s p ex.hl o.chunks := by
  rcases find_cases inv hm c hf with ⟨h0, rfl⟩ | ⟨h0, hg, _⟩
  · exact ⟨o, hm, rfl, Or.inl ⟨h0, rfl⟩⟩
  · exact ⟨ex, hm, rfl, Or.inr ⟨h0, o, hg, rfl⟩⟩

theorem find_of_shows {s : St} (inv : TreeInv s) {p : RPath} {k : Nat} {cs : List Nat} (h : Shows s p k cs) :
    ∃ v, find s p = some v ∧ v.chunks = cs := by
  rcases h with ⟨e, hm, rfl, ⟨h0, rfl⟩ | ⟨h0, r, hr, rfl⟩⟩
  · exact ⟨e, find_plain_of_mem inv hm h0, rfl⟩
  · exact ⟨r, find_of_lookup_linked (lookup_of_mem_nodup inv.nodup hm) h0 hr, rfl⟩

/-- with consistent identities, "referenced by a live name" (through FindEntry) is "shown by a stored name" -/
theorem referenced_shows {s : St} (inv : TreeInv s) (c : ∀ x ∈ s.ents, x.2.hl ≠ 0 → Cons s x.2.hl) (ch : Nat) :
    Referenced s ch ↔ RefS s ch := by
  constructor
  · rintro ⟨p, e, v, hm, hf, hc⟩
    exact ⟨p, e.hl, v.chunks, shows_of_find inv hm (c _ hm) hf, hc⟩
  · rintro ⟨p, k, cs, hs, hc⟩
    rcases find_of_shows inv hs with ⟨v, hf, rfl⟩
    rcases hs with ⟨e, hm, _⟩
    exact ⟨p, e, v, hm, hf, hc⟩

/-- ownership: two names that are not names of one link identity never show the same chunk -/
def ExclL (s : St) : Prop :=
  ∀ p q k k' cs cs', Shows s p k cs → Shows s q k' cs' → p ≠ q → ¬ (k ≠ 0 ∧ k = k') → ∀ c ∈ cs, c ∉ cs'

/-- client contract for new content written at / through the name p: its chunks are shown by no name of ANOTHER owner
    (it may share chunks with the old version: append, partial rewrite) -/
def FreshL (s : St) (p : RPath) (new : List Nat) : Prop :=
  ∀ q k' cs', Shows s q k' cs' → q ≠ p → (∀ kp csp, Shows s p kp csp → ¬ (kp ≠ 0 ∧ kp = k')) → ∀ c ∈ new, c ∉ cs'

/-- the obligations of one step on the `Shows` level. `req`: the operation asked for data deletion; only then is
    it owed that everything no longer shown is in `E` -/
def GcS (s s' : St) (E : List Nat) (req : Bool) : Prop :=
  ExclL s' ∧ (∀ c ∈ E, ¬ RefS s' c) ∧ (req = true → ∀ c, RefS s c → ¬ RefS s' c → c ∈ E)

theorem gcS_refl {s : St} (ex : ExclL s) (req : Bool) : GcS s s [] req :=
  ⟨ex, List.forall_mem_nil _, fun _ _ h h' => absurd h h'⟩

/-- where "shown" is "referenced" before and after, the obligations of a step are gc_safe and gc_complete -/
theorem gcS_referenced {s s' : St} {E : List Nat} {req : Bool} (R : ∀ c, Referenced s c ↔ RefS s c)
    (R' : ∀ c, Referenced s' c ↔ RefS s' c) (G : GcS s s' E req) :
    (∀ c ∈ E, ¬ Referenced s' c) ∧ (req = true → ∀ c, Referenced s c → ¬ Referenced s' c → c ∈ E) :=
  ⟨fun c hc hr => G.2.1 c hc ((R' c).mp hr), fun hreq c hr hn => G.2.2 hreq c ((R c).mp hr) fun h => hn ((R' c).mpr h)⟩

/-- The one transition of the link world. An operation touches the stored names in `T` (the name written or removed;
    all names of the identity whose record is rewritten; source and new name of Dir.Link). Of these, the names in `A`
    are stored afterwards, and each of them carries identity `k` (0 = plain) and shows the chunk list `new`; every
    name outside `T` shows what it showed (`tr`). `E` is what the operation hands to the deletion sinks.
    `one`: the names in `A` have one owner: they are names of one identity, or there is a single plain name.
    `fresh`: no untouched name of another owner shows a chunk of `new` (the client contract `FreshL`, or ownership
    in `s` when `new` is what a touched name showed already).
    `hE`: a chunk handed over is not shown afterwards: not by the touched names (it is not in `new`, or `A` is empty),
    not by an untouched name.
    `hC`: when data deletion was asked for, a chunk a touched name showed is still shown by `A` or is handed over.
    Instances: a plain entry put at p: `T = A = (· = p)`, `k = 0` (`gcS_put`);
    a write through a name of identity k: `T = A =` the names of k, `new` = the chunks of the new record;
    Dir.Link: `T = A = {dst, src}`, `new` = what src showed, `E = []`;
    the removal of the name p: `T = (· = p)`, `A` empty, `new = []`, `E` = what p showed, or `[]`. -/
theorem gcS_tr {s s' : St} (ex : ExclL s) {T A : RPath → Prop} {k : Nat} {new E : List Nat} {req : Bool}
    (tr : ∀ q k' cs, Shows s' q k' cs ↔ (A q ∧ k' = k ∧ cs = new) ∨ (¬ T q ∧ Shows s q k' cs))
    (one : ∀ a b, A a → A b → a ≠ b → k ≠ 0)
    (fresh : ∀ b k' cs', ¬ T b → Shows s b k' cs' → ¬ (k ≠ 0 ∧ k = k') → ∀ c ∈ new, c ∉ cs')
    (hE : ∀ c ∈ E, (c ∈ new → ∀ a, ¬ A a) ∧ ∀ b k' cs', ¬ T b → Shows s b k' cs' → c ∉ cs')
    (hC : req = true → ∀ q k' cs, T q → Shows s q k' cs → ∀ c ∈ cs, (c ∈ new ∧ ∃ a, A a) ∨ c ∈ E) :
    GcS s s' E req := by
  refine ⟨?_, ?_, ?_⟩
  · -- two names afterwards: both touched (one owner), one touched (`fresh`), none touched (ownership before)
    intro a b ka kb cs cs' ha hb hne hown c hc
    rcases (tr a ka cs).mp ha with ⟨hAa, rfl, rfl⟩ | ⟨hTa, ha0⟩
    · rcases (tr b kb cs').mp hb with ⟨hAb, rfl, rfl⟩ | ⟨hTb, hb0⟩
      · exact absurd ⟨one a b hAa hAb hne, rfl⟩ hown
      · exact fresh b kb cs' hTb hb0 hown c hc
    · rcases (tr b kb cs').mp hb with ⟨hAb, rfl, rfl⟩ | ⟨hTb, hb0⟩
      · intro hcn
        exact fresh a ka cs hTa ha0 (fun h => hown ⟨h.2 ▸ h.1, h.2.symm⟩) c hcn hc
      · exact ex a b ka kb cs cs' ha0 hb0 hne hown c hc
  · intro c hc ⟨q, k', cs, hq, hcq⟩
    rcases (tr q k' cs).mp hq with ⟨hAq, _, rfl⟩ | ⟨hTq, hq0⟩
    · exact (hE c hc).1 hcq q hAq
    · exact (hE c hc).2 q k' cs hTq hq0 hcq
  · intro hr c ⟨q, k', cs, hq, hcq⟩ hn
    by_cases hT : T q
    · rcases hC hr q k' cs hT hq c hcq with ⟨hcn, a, hA⟩ | h
      · exact absurd ⟨a, k, new, (tr a k new).mpr (Or.inl ⟨hA, rfl, rfl⟩), hcn⟩ hn
      · exact h
    · exact absurd ⟨q, k', cs, (tr q k' cs).mpr (Or.inr ⟨hT, hq⟩), hcq⟩ hn

/-- a plain entry with chunks `new` is put at p (absent, or a plain name) -/
theorem gcS_put {s s' : St} (ex : ExclL s) {p : RPath} {new E : List Nat}
    (tr : ∀ q k cs, Shows s' q k cs ↔ (q = p ∧ k = 0 ∧ cs = new) ∨ (q ≠ p ∧ Shows s q k cs))
    (hplain : ∀ k cs, Shows s p k cs → k = 0)
    (fr : FreshL s p new)
    (hE : ∀ c, c ∈ E ↔ ∃ cs, Shows s p 0 cs ∧ c ∈ cs ∧ c ∉ new) (req : Bool) : GcS s s' E req := by
  refine gcS_tr ex (T := (· = p)) (A := (· = p)) (k := 0) (new := new) tr
    (fun a b ha hb hne => absurd (ha.trans hb.symm) hne)
    (fun b k' cs' hb hs _ => fr b k' cs' hs hb fun kp csp hp h => h.1 (hplain kp csp hp)) ?_ ?_
  · intro c hc
    rcases (hE c).mp hc with ⟨cs0, hp0, hc0, hcn⟩
    exact ⟨fun h => absurd h hcn,
      fun b k' cs' hb hs => ex p b 0 k' cs0 cs' hp0 hs (Ne.symm hb) (fun h => h.1 rfl) c hc0⟩
  · rintro _ q k' cs rfl hq c hcq
    cases hplain k' cs hq
    by_cases hcn : c ∈ new
    · exact Or.inl ⟨hcn, q, rfl⟩
    · exact Or.inr ((hE c).mpr ⟨cs, hq, hcq, hcn⟩)

/-- what a stored entry e shows in s: its identity k and the chunk list FindEntry returns for it
    (`Shows s p k cs` is `∃ e, (p, e) ∈ s.ents ∧ View s e k cs`) -/
def View (s : St) (e : Entry) (k : Nat) (cs : List Nat) : Prop :=
  e.hl = k ∧ ((k = 0 ∧ cs = e.chunks) ∨ (k ≠ 0 ∧ ∃ r, kvGet s k = some r ∧ cs = r.chunks))

theorem view_plain {s : St} {e : Entry} (h0 : e.hl = 0) (k : Nat) (cs : List Nat) :
    View s e k cs ↔ k = 0 ∧ cs = e.chunks := by
  constructor
  · rintro ⟨rfl, ⟨_, h⟩ | ⟨hk, _⟩⟩
    · exact ⟨h0, h⟩
    · exact absurd h0 hk
  · rintro ⟨rfl, rfl⟩
    exact ⟨h0, Or.inl ⟨rfl, rfl⟩⟩

theorem view_linked {s : St} {e r : Entry} {k0 : Nat} (he : e.hl = k0) (hk : k0 ≠ 0) (hr : kvGet s k0 = some r)
    (k : Nat) (cs : List Nat) : View s e k cs ↔ k = k0 ∧ cs = r.chunks := by
  constructor
  · rintro ⟨rfl, ⟨h0, _⟩ | ⟨_, r', hr', rfl⟩⟩
    · exact absurd (he.symm.trans h0) hk
    · subst he
      rw [hr] at hr'
      cases hr'
      exact ⟨rfl, rfl⟩
  · rintro ⟨rfl, rfl⟩
    exact ⟨he, Or.inr ⟨hk, r, hr, rfl⟩⟩

theorem view_congr {s s' : St} {k : Nat} {e : Entry} {cs : List Nat}
    (h : e.hl = k → (kvGet s' k).map (·.chunks) = (kvGet s k).map (·.chunks)) : View s' e k cs ↔ View s e k cs := by
  have one : ∀ {s s' : St}, (kvGet s' k).map (·.chunks) = (kvGet s k).map (·.chunks) → View s e k cs → View s' e k cs := by
    rintro s s' h ⟨he, h0 | ⟨hk, r, hr, rfl⟩⟩
    · exact ⟨he, Or.inl h0⟩
    · rw [hr] at h
      cases hr' : kvGet s' k with
      | none => rw [hr'] at h; cases h
      | some r' =>
        rw [hr'] at h
        exact ⟨he, Or.inr ⟨hk, r', hr', (Option.some.inj h).symm⟩⟩
  exact ⟨fun hv => one (h hv.1).symm hv, fun hv => one (h hv.1) hv⟩

theorem shows_wInsert_plain {s : St} {p : RPath} {e : Entry} (he : e.hl = 0) (q : RPath) (k : Nat) (cs : List Nat) :
    Shows (wInsert s p e) q k cs ↔ (q = p ∧ k = 0 ∧ cs = e.chunks) ∨ (q ≠ p ∧ Shows s q k cs) := by
  have hv : ∀ e', View (wInsert s p e) e' k cs ↔ View s e' k cs :=
    fun e' => view_congr fun _ => by rw [kvGet_wInsert_plain he]
  constructor
  · rintro ⟨e', hm, hc⟩
    rcases mem_wInsert.mp hm with h | ⟨h, hne⟩
    · cases h
      exact Or.inl ⟨rfl, (view_plain he k cs).mp hc⟩
    · exact Or.inr ⟨hne, e', h, (hv e').mp hc⟩
  · rintro (⟨rfl, h⟩ | ⟨hne, e', hm, hc⟩)
    · exact ⟨e, mem_wInsert_self s q e, (view_plain he k cs).mpr h⟩
    · exact ⟨e', (mem_wInsert_of_ne hne).mpr hm, (hv e').mpr hc⟩

theorem shows_wInsert_linked {s : St} (inv : TreeInv s) {p : RPath} {e ex r0 : Entry} (hk : e.hl ≠ 0)
    (hm : (p, ex) ∈ s.ents) (hex : ex.hl = e.hl) (hr0 : kvGet s e.hl = some r0) (q : RPath) (k' : Nat) (cs : List Nat) :
    Shows (wInsert s p e) q k' cs ↔
      ((∃ cs0, Shows s q e.hl cs0) ∧ k' = e.hl ∧ cs = e.chunks) ∨ ((¬ ∃ cs0, Shows s q e.hl cs0) ∧ Shows s q k' cs) := by
  have hkv : ∀ k', kvGet (wInsert s p e) k' = if k' = e.hl then some e else kvGet s k' :=
    kvGet_wInsert_linked hk fun y hy => Or.inl (mem_unique inv.nodup hy hm ▸ hex)
  have hnew : kvGet (wInsert s p e) e.hl = some e := by rw [hkv, if_pos rfl]
  have hother : ∀ e', k' ≠ e.hl → (View (wInsert s p e) e' k' cs ↔ View s e' k' cs) :=
    fun e' hkk => view_congr fun _ => by rw [hkv, if_neg hkk]
  constructor
  · rintro ⟨e', hm', hc⟩
    by_cases hkk : k' = e.hl
    · -- a name of the identity shows the new record; it was a name of the identity before (p through `ex`)
      have he' : e'.hl = e.hl := hc.1.trans hkk
      refine Or.inl ⟨⟨r0.chunks, ?_⟩, hkk, ((view_linked he' hk hnew k' cs).mp hc).2⟩
      rcases mem_wInsert.mp hm' with h | ⟨h, _⟩
      · cases h
        exact ⟨ex, hm, (view_linked hex hk hr0 _ _).mpr ⟨rfl, rfl⟩⟩
      · exact ⟨e', h, (view_linked he' hk hr0 _ _).mpr ⟨rfl, rfl⟩⟩
    · rcases mem_wInsert.mp hm' with h | ⟨h, _⟩
      · cases h
        exact absurd hc.1.symm hkk
      · have hq : Shows s q k' cs := ⟨e', h, (hother e' hkk).mp hc⟩
        exact Or.inr ⟨fun ⟨_, h0⟩ => hkk (shows_fun inv hq h0).1, hq⟩
  · rintro (⟨⟨cs0, e', hm', hc⟩, rfl, rfl⟩ | ⟨hnot, e', hm', hc⟩)
    · by_cases hqp : q = p
      · subst hqp
        exact ⟨e, mem_wInsert_self s q e, (view_linked rfl hk hnew _ _).mpr ⟨rfl, rfl⟩⟩
      · exact ⟨e', (mem_wInsert_of_ne hqp).mpr hm', (view_linked hc.1 hk hnew _ _).mpr ⟨rfl, rfl⟩⟩
    · have hkk : k' ≠ e.hl := fun h => hnot ⟨cs, e', hm', h ▸ hc⟩
      have hqp : q ≠ p := by
        rintro rfl
        rw [mem_unique inv.nodup hm' hm] at hc
        exact hkk (hc.1.symm.trans hex)
      exact ⟨e', (mem_wInsert_of_ne hqp).mpr hm', (hother e' hkk).mpr hc⟩

/-- one name goes (DeleteOneEntry with what FindEntry returned): every other name shows what it showed -/
theorem shows_deleteOne {s : St} (inv : TreeInv s) {p : RPath} {ex o : Entry} (hm : (p, ex) ∈ s.ents)
    (c : ex.hl ≠ 0 → Cons s ex.hl) (hf : find s p = some o) (q : RPath) (k' : Nat) (cs : List Nat) :
    Shows (deleteOne s p o) q k' cs ↔ (q ≠ p ∧ Shows s q k' cs) := by
  have hv : ∀ e', (q, e') ∈ s.ents → q ≠ p → (View (deleteOne s p o) e' k' cs ↔ View s e' k' cs) := by
    intro e' hm' hne
    refine view_congr fun hk' => ?_
    rcases find_cases inv hm c hf with ⟨h0, rfl⟩ | ⟨h0, hg, hrl, _, hrc⟩
    · rw [kvGet_deleteOne_plain h0]
    · rw [← hrl] at hg hrc
      rw [kvGet_deleteOne_linked (hrl ▸ h0) hg p]
      by_cases hkk : k' = o.hl
      · -- another name of the identity is left, so its record stays, with the counter decremented
        have h2 := two_names inv.nodup hm hm' hne hrl.symm (hk'.trans hkk)
        have hle : ¬ o.cnt - 1 ≤ 0 := by rw [hrc]; omega
        rw [if_pos hkk, if_neg hle, hkk, hg]
        rfl
      · rw [if_neg hkk]
  constructor
  · rintro ⟨e', hm', hc⟩
    rw [deleteOne_ents, mem_erase] at hm'
    exact ⟨hm'.2, e', hm'.1, (hv e' hm'.1 hm'.2).mp hc⟩
  · rintro ⟨hne, e', hm', hc⟩
    exact ⟨e', by rw [deleteOne_ents, mem_erase]; exact ⟨hm', hne⟩, (hv e' hm' hne).mpr hc⟩

/-- Dir.Link: the new name and the source are names of k showing what the source showed; the rest is as it was -/
theorem shows_link {s : St} {src dst : RPath} {L ex o : Entry} {k : Nat}
    (H : Linked s src dst L ex o k) (q : RPath) (k' : Nat) (cs : List Nat) :
    Shows (wInsert (wInsert s src L) dst L) q k' cs ↔
      ((q = dst ∨ q = src) ∧ k' = k ∧ cs = L.chunks) ∨ (¬ (q = dst ∨ q = src) ∧ Shows s q k' cs) := by
  have hL : View (wInsert (wInsert s src L) dst L) L k' cs ↔ k' = k ∧ cs = L.chunks :=
    view_linked H.id_eq H.id_ne (by rw [H.kv, if_pos rfl]) k' cs
  -- the names k had before show the record that `L` copies
  have hv : ∀ e', (q, e') ∈ s.ents → (View (wInsert (wInsert s src L) dst L) e' k' cs ↔ View s e' k' cs) := by
    intro e' hm'
    refine view_congr fun hk' => ?_
    rw [H.kv]
    by_cases hkk : k' = k
    · rcases H.src_id with ⟨_, hg⟩ | ⟨_, h1⟩
      · rw [if_pos hkk, hkk, hg]
        exact congrArg some H.chunks
      · exact absurd h1 (nameCount_pos_of_mem hm' (hk'.trans hkk))
    · rw [if_neg hkk]
  constructor
  · rintro ⟨e', hm', hc⟩
    rcases mem_wInsert.mp hm' with h | ⟨hm1, hnd⟩
    · cases h
      exact Or.inl ⟨Or.inl rfl, hL.mp hc⟩
    · rcases mem_wInsert.mp hm1 with h | ⟨hm0, hns⟩
      · cases h
        exact Or.inl ⟨Or.inr rfl, hL.mp hc⟩
      · exact Or.inr ⟨fun h => h.elim hnd hns, e', hm0, (hv e' hm0).mp hc⟩
  · rintro (⟨hq, hkc⟩ | ⟨hn, e', hm0, hc⟩)
    · refine ⟨L, ?_, hL.mpr hkc⟩
      rcases hq with rfl | rfl
      · exact mem_wInsert_self _ q L
      · exact (mem_wInsert_of_ne H.dst_ne.symm).mpr (mem_wInsert_self s q L)
    · exact ⟨e', (mem_wInsert_of_ne fun h => hn (Or.inl h)).mpr ((mem_wInsert_of_ne fun h => hn (Or.inr h)).mpr hm0),
        (hv e' hm0).mpr hc⟩

end SwV.Lemmas.C20Links
