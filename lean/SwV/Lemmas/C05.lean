/-
C05 — the ordered-scan primitives of the section model.  On strictly sorted lists the early-exit
scans (`findDesc`, `findAsc`) are plain key lookups, the early-exit updates (`updDesc`, `delAsc`)
are a plain `map` that changes the entry of one key, and the insertions keep the list sorted (`insertDesc`
for a key not in it) while binding exactly the new key; `setAsc` and `delAsc` keep a property of all entries if their rewriting of
one entry keeps it (and, for `setAsc`, the new entry has it).  The last lemmas are about positions in a strictly descending key list:
the cell at index `m - 1` (where `values[lookBackIndex]` sits) bounds `take m`, the look-back window,
from below.
-/
import SwV.Model.C05
namespace SwV.Lemmas.C05
open SwV.Model.C05

/-- a function is its own update at `a` with the value it has there: the form in which an operation
    that changes nothing meets the statements `g' x = if x = a then v else g x` of the others -/
theorem ite_self_eq {α β : Type} [DecidableEq α] (g : α → β) (a : α) {v : β} (hv : g a = v) (x : α) :
    g x = if x = a then v else g x :=
  (ite_eq_right_iff.mpr fun h => h ▸ hv.symm).symm

def getK (k : Nat) (l : List Ent) : Option Ent := l.find? (fun e => e.key == k)

def keys (l : List Ent) : List Nat := l.map (·.key)
def DescSorted (l : List Ent) : Prop := (keys l).Pairwise (· > ·)
def AscSorted (l : List Ent) : Prop := (keys l).Pairwise (· < ·)

theorem getK_cons (k : Nat) (e : Ent) (l : List Ent) :
    getK k (e :: l) = if e.key = k then some e else getK k l := by
  unfold getK
  by_cases h : e.key = k
  · rw [if_pos h, List.find?_cons_of_pos (by simpa using h)]
  · rw [if_neg h, List.find?_cons_of_neg (by simpa using h)]

theorem getK_cons_symm (n : Ent) (k : Nat) (l : List Ent) :
    getK k (n :: l) = if k = n.key then some n else getK k l := by
  rw [getK_cons]
  by_cases hk : k = n.key
  · rw [if_pos hk, if_pos hk.symm]
  · rw [if_neg hk, if_neg fun h => hk h.symm]

theorem getK_eq_none_iff {k : Nat} {l : List Ent} : getK k l = none ↔ k ∉ keys l := by
  unfold getK keys
  rw [List.find?_eq_none]
  simp

theorem getK_key {k : Nat} {l : List Ent} {e : Ent} (h : getK k l = some e) : e.key = k ∧ k ∈ keys l := by
  have h1 : e.key = k := by simpa using List.find?_some h
  exact ⟨h1, h1 ▸ List.mem_map_of_mem (List.mem_of_find?_eq_some h)⟩

theorem getK_none_of_lt (k : Nat) (l : List Ent) (h : ∀ x ∈ keys l, x < k) : getK k l = none :=
  getK_eq_none_iff.mpr fun hk => Nat.lt_irrefl k (h k hk)

theorem getK_none_of_gt (k : Nat) (l : List Ent) (h : ∀ x ∈ keys l, x > k) : getK k l = none :=
  getK_eq_none_iff.mpr fun hk => Nat.lt_irrefl k (h k hk)

theorem findDesc_eq {k : Nat} {l : List Ent} (h : DescSorted l) : findDesc k l = getK k l := by
  induction l with
  | nil => rfl
  | cons e rest ih =>
    obtain ⟨hlt, hs⟩ := List.pairwise_cons.mp h
    rw [getK_cons]; unfold findDesc
    by_cases h1 : e.key = k
    · rw [if_pos h1, if_pos h1]
    · rw [if_neg h1, if_neg h1]
      by_cases h2 : e.key < k
      · rw [if_pos h2, getK_none_of_lt k rest fun x hx => Nat.lt_trans (hlt x hx) h2]
      · rw [if_neg h2]; exact ih hs

theorem findAsc_eq {k : Nat} {l : List Ent} (h : AscSorted l) : findAsc k l = getK k l := by
  induction l with
  | nil => rfl
  | cons e rest ih =>
    obtain ⟨hlt, hs⟩ := List.pairwise_cons.mp h
    rw [getK_cons]; unfold findAsc
    by_cases h1 : e.key = k
    · rw [if_pos h1, if_pos h1]
    · rw [if_neg h1, if_neg h1]
      by_cases h2 : e.key > k
      · rw [if_pos h2, getK_none_of_gt k rest fun x hx => Nat.lt_trans h2 (hlt x hx)]
      · rw [if_neg h2]; exact ih hs

def updKey (k : Nat) (f : Ent → Ent) (e : Ent) : Ent := if e.key = k then f e else e

section updKey
variable (k : Nat) (f : Ent → Ent)

theorem updKey_key (hf : ∀ e, (f e).key = e.key) (e : Ent) : (updKey k f e).key = e.key := by
  unfold updKey; split
  · exact hf e
  · rfl

theorem keys_map_updKey (hf : ∀ e, (f e).key = e.key) (l : List Ent) : keys (l.map (updKey k f)) = keys l := by
  unfold keys
  rw [List.map_map]
  exact List.map_congr_left fun e _ => updKey_key k f hf e

theorem map_updKey_of_not_mem (l : List Ent) (h : k ∉ keys l) : l.map (updKey k f) = l := by
  refine (List.map_congr_left fun e he => ?_).trans (List.map_id l)
  exact if_neg fun (hk : e.key = k) => h (hk ▸ List.mem_map_of_mem he)

theorem getK_map_updKey (hf : ∀ e, (f e).key = e.key) (k' : Nat) (l : List Ent) :
    getK k' (l.map (updKey k f)) = if k' = k then (getK k l).map f else getK k' l := by
  induction l with
  | nil => split <;> rfl
  | cons e rest ih =>
    rw [List.map_cons, getK_cons, getK_cons, getK_cons, updKey_key k f hf, ih]
    by_cases h3 : e.key = k'
    · rw [if_pos h3, if_pos h3]
      unfold updKey
      by_cases hk : k' = k
      · rw [if_pos hk, if_pos (h3.trans hk), if_pos (h3.trans hk)]; rfl
      · rw [if_neg hk, if_neg fun h => hk (h3.symm.trans h)]
    · rw [if_neg h3, if_neg h3]
      by_cases hk : k' = k
      · rw [if_pos hk, if_pos hk, if_neg fun h => h3 (h.trans hk.symm)]
      · rw [if_neg hk, if_neg hk]

theorem updDesc_eq_map (l : List Ent) (h : DescSorted l) : updDesc k f l = l.map (updKey k f) := by
  induction l with
  | nil => rfl
  | cons e rest ih =>
    obtain ⟨hlt, hs⟩ := List.pairwise_cons.mp h
    rw [List.map_cons]; unfold updDesc
    by_cases h1 : e.key = k
    · rw [if_pos h1, updKey, if_pos h1, map_updKey_of_not_mem k f rest fun hk => Nat.lt_irrefl k (h1 ▸ hlt k hk)]
    · rw [if_neg h1, updKey, if_neg h1]
      by_cases h2 : e.key < k
      · rw [if_pos h2, map_updKey_of_not_mem k f rest fun hk => Nat.lt_asymm h2 (hlt k hk)]
      · rw [if_neg h2, ih hs]

theorem delAsc_eq_map (l : List Ent) (h : AscSorted l) :
    delAsc k l = l.map (updKey k fun e => if e.size > 0 then { e with size := -e.size } else e) := by
  induction l with
  | nil => rfl
  | cons e rest ih =>
    obtain ⟨hlt, hs⟩ := List.pairwise_cons.mp h
    rw [List.map_cons]; unfold delAsc
    by_cases h1 : e.key = k
    · rw [if_pos h1, updKey, if_pos h1, map_updKey_of_not_mem k _ rest fun hk => Nat.lt_irrefl k (h1 ▸ hlt k hk)]
    · rw [if_neg h1, updKey, if_neg h1]
      by_cases h2 : e.key > k
      · rw [if_pos h2, map_updKey_of_not_mem k _ rest fun hk => Nat.lt_asymm h2 (hlt k hk)]
      · rw [if_neg h2, ih hs]

end updKey

theorem keys_updDesc (k : Nat) (f : Ent → Ent) (hf : ∀ e, (f e).key = e.key) (l : List Ent) (h : DescSorted l) :
    keys (updDesc k f l) = keys l := by
  rw [updDesc_eq_map k f l h, keys_map_updKey k f hf]

theorem getK_updDesc (k k' : Nat) (f : Ent → Ent) (hf : ∀ e, (f e).key = e.key) (l : List Ent) (h : DescSorted l) :
    getK k' (updDesc k f l) = if k' = k then (getK k l).map f else getK k' l := by
  rw [updDesc_eq_map k f l h, getK_map_updKey k f hf]

theorem keys_delAsc (k : Nat) (l : List Ent) (h : AscSorted l) : keys (delAsc k l) = keys l := by
  rw [delAsc_eq_map k l h, keys_map_updKey]
  intro e; split <;> rfl

theorem getK_delAsc (k k' : Nat) (l : List Ent) (h : AscSorted l) :
    getK k' (delAsc k l) =
      if k' = k then (getK k l).map (fun e => if e.size > 0 then { e with size := -e.size } else e)
      else getK k' l := by
  rw [delAsc_eq_map k l h, getK_map_updKey]
  intro e; split <;> rfl

theorem getK_insertDesc (n : Ent) (k' : Nat) (l : List Ent) :
    getK k' (insertDesc n l) = if k' = n.key then some n else getK k' l := by
  induction l with
  | nil => exact getK_cons_symm n k' []
  | cons e rest ih =>
    unfold insertDesc
    by_cases h1 : e.key > n.key
    · rw [if_pos h1, getK_cons k' e (insertDesc n rest), ih, getK_cons k' e rest]
      by_cases h3 : e.key = k'
      · rw [if_pos h3, if_pos h3, if_neg fun h => Nat.lt_irrefl _ (h ▸ h3 ▸ h1)]
      · rw [if_neg h3, if_neg h3]
    · rw [if_neg h1]; exact getK_cons_symm n k' _

theorem insertDesc_eq_cons (n : Ent) (l : List Ent) (h : 0 < l.length → ¬ (l.headD default).key > n.key) :
    insertDesc n l = n :: l := by
  cases l with
  | nil => rfl
  | cons e rest => exact if_neg (h (Nat.succ_pos _))

theorem mem_keys_insertDesc (n : Ent) (l : List Ent) (x : Nat) :
    x ∈ keys (insertDesc n l) ↔ x = n.key ∨ x ∈ keys l := by
  induction l with
  | nil => exact List.mem_cons
  | cons e rest ih =>
    unfold insertDesc
    by_cases h1 : e.key > n.key
    · rw [if_pos h1]
      show x ∈ e.key :: keys (insertDesc n rest) ↔ x = n.key ∨ x ∈ e.key :: keys rest
      rw [List.mem_cons, List.mem_cons, ih]; exact or_left_comm
    · rw [if_neg h1]; exact List.mem_cons

theorem descSorted_insertDesc (n : Ent) (l : List Ent) (h : DescSorted l) (hn : n.key ∉ keys l) :
    DescSorted (insertDesc n l) := by
  induction l with
  | nil => exact List.pairwise_singleton _ _
  | cons e rest ih =>
    obtain ⟨hlt, hs⟩ := List.pairwise_cons.mp h
    have hne : n.key ≠ e.key := fun x => hn (x ▸ List.mem_cons_self ..)
    unfold insertDesc
    by_cases h1 : e.key > n.key
    · rw [if_pos h1]
      refine List.pairwise_cons.mpr ⟨fun x hx => ?_, ih hs fun x => hn (List.mem_cons_of_mem _ x)⟩
      rcases (mem_keys_insertDesc n rest x).mp hx with hx | hx
      · exact hx ▸ h1
      · exact hlt x hx
    · rw [if_neg h1]
      have hlt' : n.key > e.key := Nat.lt_of_le_of_ne (Nat.le_of_not_lt h1) (Ne.symm hne)
      refine List.pairwise_cons.mpr ⟨fun x hx => ?_, h⟩
      rcases List.mem_cons.mp hx with hx | hx
      · exact hx ▸ hlt'
      · exact Nat.lt_trans (hlt x hx) hlt'

theorem length_insertDesc (n : Ent) (l : List Ent) : (insertDesc n l).length = l.length + 1 := by
  induction l with
  | nil => rfl
  | cons e rest ih =>
    unfold insertDesc
    split
    · rw [List.length_cons, ih]; rfl
    · rfl

theorem mem_take_insertDesc (n : Ent) (l : List Ent) (m x : Nat)
    (hx : x ∈ (keys (insertDesc n l)).take m) : x = n.key ∨ x ∈ (keys l).take m := by
  induction l generalizing m with
  | nil => exact Or.inl (List.mem_singleton.mp (List.mem_of_mem_take hx))
  | cons e rest ih =>
    cases m with
    | zero => cases hx
    | succ m =>
      unfold insertDesc at hx
      by_cases h1 : e.key > n.key
      · rw [if_pos h1] at hx
        rcases List.mem_cons.mp hx with hx | hx
        · exact Or.inr (hx ▸ List.mem_cons_self ..)
        · exact (ih m hx).imp id (List.mem_cons_of_mem _)
      · rw [if_neg h1] at hx
        rcases List.mem_cons.mp hx with hx | hx
        · exact Or.inl hx
        · exact Or.inr (List.take_subset_take_left _ (Nat.le_succ m) hx)

theorem getK_setAsc (n : Ent) (k' : Nat) (l : List Ent) (h : AscSorted l) :
    getK k' (setAsc n l) =
      if k' = n.key then some (match getK n.key l with
        | some e => { e with off := n.off, size := n.size }
        | none => n)
      else getK k' l := by
  -- both places where `n` goes in as a new entry put it in front of a list that does not bind `n.key`
  have hn (l : List Ent) (hl : getK n.key l = none) : getK k' (n :: l) =
      if k' = n.key then some (match getK n.key l with
        | some e => { e with off := n.off, size := n.size }
        | none => n) else getK k' l := by
    rw [hl]; exact getK_cons_symm n k' l
  induction l with
  | nil => exact hn [] rfl
  | cons e rest ih =>
    obtain ⟨hlt, hs⟩ := List.pairwise_cons.mp h
    unfold setAsc
    by_cases h1 : e.key = n.key
    · rw [if_pos h1, getK_cons, getK_cons n.key, if_pos h1, getK_cons]
      show (if e.key = k' then _ else _) = _
      by_cases hk : k' = n.key
      · rw [if_pos hk, if_pos (h1.trans hk.symm)]
      · rw [if_neg hk, if_neg fun h => hk (h.symm.trans h1), if_neg fun h => hk (h.symm.trans h1)]
    · rw [if_neg h1]
      by_cases h2 : e.key > n.key
      · rw [if_pos h2]
        refine hn (e :: rest) ?_
        rw [getK_cons, if_neg h1]
        exact getK_none_of_gt _ _ fun x hx => Nat.lt_trans h2 (hlt x hx)
      · rw [if_neg h2, getK_cons k' e (setAsc n rest), ih hs, getK_cons n.key e rest, if_neg h1, getK_cons k' e rest]
        by_cases h3 : e.key = k'
        · rw [if_pos h3, if_pos h3, if_neg fun h => h1 (h3.trans h)]
        · rw [if_neg h3, if_neg h3]

theorem mem_keys_setAsc (n : Ent) (l : List Ent) (x : Nat) :
    x ∈ keys (setAsc n l) ↔ x = n.key ∨ x ∈ keys l := by
  induction l with
  | nil => exact List.mem_cons
  | cons e rest ih =>
    unfold setAsc
    by_cases h1 : e.key = n.key
    · rw [if_pos h1]
      show x ∈ e.key :: keys rest ↔ x = n.key ∨ x ∈ e.key :: keys rest
      rw [List.mem_cons, h1]
      exact ⟨Or.inr, fun h => h.elim Or.inl id⟩
    · rw [if_neg h1]
      by_cases h2 : e.key > n.key
      · rw [if_pos h2]; exact List.mem_cons
      · rw [if_neg h2]
        show x ∈ e.key :: keys (setAsc n rest) ↔ x = n.key ∨ x ∈ e.key :: keys rest
        rw [List.mem_cons, List.mem_cons, ih]; exact or_left_comm

theorem ascSorted_setAsc (n : Ent) (l : List Ent) (h : AscSorted l) : AscSorted (setAsc n l) := by
  induction l with
  | nil => exact List.pairwise_singleton _ _
  | cons e rest ih =>
    obtain ⟨hlt, hs⟩ := List.pairwise_cons.mp h
    unfold setAsc
    by_cases h1 : e.key = n.key
    · rw [if_pos h1]; exact h
    · rw [if_neg h1]
      by_cases h2 : e.key > n.key
      · rw [if_pos h2]
        refine List.pairwise_cons.mpr ⟨fun x hx => ?_, h⟩
        rcases List.mem_cons.mp hx with hx | hx
        · exact hx ▸ h2
        · exact Nat.lt_trans h2 (hlt x hx)
      · rw [if_neg h2]
        refine List.pairwise_cons.mpr ⟨fun x hx => ?_, ih hs⟩
        rcases (mem_keys_setAsc n rest x).mp hx with hx | hx
        · exact hx ▸ Nat.lt_of_le_of_ne (Nat.le_of_not_lt h2) h1
        · exact hlt x hx

theorem forall_setAsc (P : Ent → Prop) (n : Ent) (l : List Ent) (hn : P n)
    (hupd : ∀ e, P e → P { e with off := n.off, size := n.size }) (h : ∀ e, e ∈ l → P e) :
    ∀ e, e ∈ setAsc n l → P e := by
  induction l with
  | nil => exact List.forall_mem_cons.mpr ⟨hn, h⟩
  | cons a rest ih =>
    obtain ⟨ha, hr⟩ := List.forall_mem_cons.mp h
    unfold setAsc
    split
    · exact List.forall_mem_cons.mpr ⟨hupd a ha, hr⟩
    · split
      · exact List.forall_mem_cons.mpr ⟨hn, h⟩
      · exact List.forall_mem_cons.mpr ⟨ha, ih hr⟩

theorem forall_delAsc (P : Ent → Prop) (k : Nat) (l : List Ent)
    (hupd : ∀ e, P e → P { e with size := -e.size }) (h : ∀ e, e ∈ l → P e) :
    ∀ e, e ∈ delAsc k l → P e := by
  induction l with
  | nil => exact h
  | cons a rest ih =>
    obtain ⟨ha, hr⟩ := List.forall_mem_cons.mp h
    unfold delAsc
    split
    · refine List.forall_mem_cons.mpr ⟨?_, hr⟩
      split
      · exact hupd a ha
      · exact ha
    · split
      · exact h
      · exact List.forall_mem_cons.mpr ⟨ha, ih hr⟩

theorem desc_take_ge (L : List Nat) (h : L.Pairwise (· > ·)) (m i : Nat) (hm : m - 1 ≤ i) (hi : i < L.length) :
    ∀ y ∈ L.take m, L.getD i 0 ≤ y := by
  induction L generalizing m i with
  | nil => exact absurd hi (Nat.not_lt_zero _)
  | cons a L ih =>
    obtain ⟨hlt, hs⟩ := List.pairwise_cons.mp h
    intro y hy
    cases m with
    | zero => cases hy
    | succ m =>
      rcases List.mem_cons.mp hy with rfl | hy
      · cases i with
        | zero => exact Nat.le_refl _
        | succ i =>
          have hi' : i < L.length := Nat.lt_of_succ_lt_succ hi
          exact Nat.le_of_lt (hlt _ (List.getElem_eq_getD (h := hi') 0 ▸ List.getElem_mem hi'))
      · cases i with
        | zero => exact absurd hy (by rw [show m = 0 from Nat.le_zero.mp hm]; exact List.not_mem_nil)
        | succ i => exact ih hs m i (Nat.sub_le_of_le_add hm) (Nat.lt_of_succ_lt_succ hi) y hy

theorem getD_mem_take (L : List Nat) (i m : Nat) (hi : i < m) (hm : m ≤ L.length) : L.getD i 0 ∈ L.take m := by
  rw [← List.getElem_eq_getD (h := Nat.lt_of_lt_of_le hi hm), List.mem_take_iff_getElem]
  exact ⟨i, Nat.lt_min.mpr ⟨hi, Nat.lt_of_lt_of_le hi hm⟩, rfl⟩

theorem headD_key (l : List Ent) : (l.headD default).key = (keys l).getD 0 0 := by
  cases l <;> rfl

theorem keys_getD (l : List Ent) (i : Nat) : (l.getD i default).key = (keys l).getD i 0 := by
  induction l generalizing i with
  | nil => rfl
  | cons e rest ih =>
    cases i with
    | zero => rfl
    | succ i => exact ih i

end SwV.Lemmas.C05
