/-
C27 — lemmas for the RECURSIVE listing (delimiter ""): closed form of the receive loop when
directories are descended into (`recv_pairs`), of a sub-directory listing (`sub_listing`), and of one page
from a marker that is empty or a top-level file name (`page_top`), or `dir/name` (`page_dir`); every
position of the depth-first key stream is a continuation point (`Cursor`, `cursor_of_split`),
which is what carries a marker from one page to the next (`cursor_drop`); the pagination (`walk_rec`) is
`walk_items` over that stream.
-/
import SwV.Lemmas.C27
namespace SwV.Lemmas.C27
open SwV.Model.C19 (Bytes ltB isPrefix)
open SwV.Model.C27
open SwV.Lemmas.C19

/-- an emitted object key with the marker it leaves behind: (next-marker, key) -/
abbrev Pair := Bytes × Bytes

/-- result of a sub-listing that emits the pairs `P` under the budget `b` -/
def subRes (P : List Pair) (b : Nat) : Res :=
  { counter := (P.take b).length, trunc := decide (P.length > b),
    next := (((P.take b).getLast?).map (·.1)).getD [], keys := (P.take b).map (·.2), pfxs := [], deleted := [] }

/-- what one entry of the listed directory `r` contributes: a file its own pair; a directory the pairs `dirP e`
    that its recursive listing emits, their markers put under the directory's name -/
def entryPairs (r : Bytes) (dirP : Ent → List Pair) (e : Ent) : List Pair :=
  if e.expired then (dirP e).map (fun p => (e.key ++ [slash] ++ p.1, p.2)) else [(e.key, keyOf r e.key)]

/-- the loop's state after emitting the first `b` pairs of `Z` -/
def afterPairs (st : Res) (Z : List Pair) (b : Nat) : Res :=
  { counter := st.counter + (Z.take b).length, trunc := st.trunc || decide (Z.length > b),
    next := (((Z.take b).getLast?).map (·.1)).getD st.next, keys := st.keys ++ (Z.take b).map (·.2),
    pfxs := st.pfxs, deleted := st.deleted }

theorem afterPairs_nil (st : Res) (b : Nat) : afterPairs st [] b = st := by
  simp [afterPairs]

theorem afterPairs_zero (st : Res) (Z : List Pair) (h : Z ≠ []) : afterPairs st Z 0 = { st with trunc := true } := by
  have : Z.length > 0 := List.length_pos_iff.2 h
  simp [afterPairs, this]

theorem afterPairs_singleton (st : Res) (p : Pair) (b : Nat) (hb : 0 < b) :
    afterPairs st [p] b = { st with counter := st.counter + 1, next := p.1, keys := st.keys ++ [p.2] } := by
  obtain ⟨b, rfl⟩ : ∃ b', b = b' + 1 := Nat.exists_eq_add_one.2 hb
  simp [afterPairs]

theorem afterPairs_zero_of_trunc (st : Res) (Z : List Pair) (h : st.trunc = true) : afterPairs st Z 0 = st := by
  cases st
  simp only at h
  simp [afterPairs, h]

theorem afterPairs_eq_subRes (P : List Pair) (b : Nat) : afterPairs {} P b = subRes P b := by
  simp [afterPairs, subRes]

theorem afterPairs_append (st : Res) (A Z : List Pair) (b : Nat) :
    afterPairs st (A ++ Z) b = afterPairs (afterPairs st A b) Z (b - A.length) := by
  by_cases h : A.length ≤ b
  · have ht : (A ++ Z).take b = A ++ Z.take (b - A.length) := by
      rw [List.take_append, List.take_of_length_le h]
    simp only [afterPairs, ht, List.take_of_length_le h, List.length_append, List.map_append, List.append_assoc,
      Nat.add_assoc, decide_eq_false (Nat.not_lt.2 h), Bool.or_false, List.getLast?_append, gt_iff_lt]
    congr 1
    · congr 1; exact decide_eq_decide.2 (Nat.sub_lt_iff_lt_add' h).symm
    · cases (Z.take (b - A.length)).getLast? <;> rfl
  · -- `A` alone uses the budget up
    have hlt : b < A.length := Nat.not_le.1 h
    have h0 : b - A.length = 0 := Nat.sub_eq_zero_of_le (Nat.le_of_lt hlt)
    have ht : (A ++ Z).take b = A.take b := List.take_append_of_le_length (Nat.le_of_lt hlt)
    have hA : decide (A.length > b) = true := decide_eq_true hlt
    have hAZ : decide ((A ++ Z).length > b) = true :=
      decide_eq_true (by rw [List.length_append]; exact Nat.lt_add_right _ hlt)
    rw [h0, afterPairs_zero_of_trunc _ _ (by simp only [afterPairs, hA, Bool.or_true])]
    simp only [afterPairs, ht, hA, hAZ]

/-- the pairs of a sub-listing `P` of the directory `name`, seen from the listing above it: the loop's update
    after a recursive call that returned `subRes P b` -/
theorem afterPairs_sub (st : Res) (name : Bytes) (P : List Pair) (b : Nat) (hb : 0 < b) (hP : P ≠ []) :
    afterPairs st (P.map fun p => (name ++ [slash] ++ p.1, p.2)) b =
      (let s := subRes P b
       { st with counter := st.counter + s.counter, trunc := st.trunc || s.trunc, next := name ++ [slash] ++ s.next,
                 keys := st.keys ++ s.keys, pfxs := st.pfxs ++ s.pfxs, deleted := st.deleted ++ s.deleted }) := by
  obtain ⟨x, hl⟩ := getLast?_take P b hb hP
  simp only [afterPairs, subRes, ← List.map_take, List.length_map, List.getLast?_map, hl, Option.map_some, Option.getD_some,
    List.map_map, List.append_nil]
  rfl

theorem subRes_budget (P : List Pair) (b : Nat) : b - (subRes P b).counter = b - P.length := by
  rcases Nat.le_total P.length b with h | h
  · rw [show (subRes P b).counter = P.length from congrArg List.length (List.take_of_length_le h)]
  · rw [Nat.sub_eq_zero_of_le h, show (subRes P b).counter = b from List.length_take_of_le h,
      Nat.sub_self]

theorem entryPairs_file (r : Bytes) (dirP : Ent → List Pair) {e : Ent} (h : e.expired = false) :
    entryPairs r dirP e = [(e.key, keyOf r e.key)] := by
  rw [entryPairs, h]; rfl

theorem entryPairs_dir (r : Bytes) (dirP : Ent → List Pair) {e : Ent} (h : e.expired = true) :
    entryPairs r dirP e = (dirP e).map fun p => (e.key ++ [slash] ++ p.1, p.2) := by
  rw [entryPairs, h]; rfl

theorem entryPairs_ne_nil (r : Bytes) (dirP : Ent → List Pair) (e : Ent) (h : e.expired = true → dirP e ≠ []) :
    entryPairs r dirP e ≠ [] := by
  cases hexp : e.expired with
  | false => rw [entryPairs_file r dirP hexp]; exact List.cons_ne_nil _ _
  | true => rw [entryPairs_dir r dirP hexp, Ne, List.map_eq_nil_iff]; exact h hexp

/-- Closed form of the receive loop for delimiter "": the pairs of the entries, in order, cut at the budget
    (`afterPairs_append` hands each entry what the entries before it left). `dirP e` is what the recursive call
    emits for the directory `e`; it must not be empty: a directory that arrives with the budget used up sets
    IsTruncated, and a sub-listing that emits nothing still moves the next marker to `name/`, neither of which
    an empty list of pairs records. The `.uploads` skip is excluded by hypothesis, not described. -/
theorem recv_pairs (ks : List (List Bytes)) (sub : Bytes → Nat → Res) (r : Bytes) (dirP : Ent → List Pair) (maxKeys : Nat) :
    ∀ (L : List Ent) (st : Res),
      (∀ e ∈ L, e.expired = true → e.key ≠ uploadsName ∧ dirP e ≠ [] ∧
        ∀ b, 0 < b → sub (r ++ [slash] ++ e.key) b = subRes (dirP e) b) →
      recvLoop ks sub false r maxKeys L st = afterPairs st (L.flatMap (entryPairs r dirP)) (maxKeys - st.counter) := by
  intro L
  induction L with
  | nil => intro st _; rw [List.flatMap_nil, afterPairs_nil]; rfl
  | cons e rest ih =>
    intro st hd
    have ih := fun st' => ih st' fun x hx => hd x (List.mem_cons_of_mem _ hx)
    have hde := hd e List.mem_cons_self
    rw [List.flatMap_cons]
    by_cases hc : st.counter ≥ maxKeys
    · rw [recvLoop_full hc, Nat.sub_eq_zero_of_le hc, afterPairs_zero]
      simp [entryPairs_ne_nil r dirP e fun hexp => (hde hexp).2.1]
    · have hlt : st.counter < maxKeys := Nat.not_le.1 hc
      have hb : 0 < maxKeys - st.counter := Nat.sub_pos_of_lt hlt
      rw [afterPairs_append]
      cases hexp : e.expired with
      | false =>
        rw [recvLoop_file hlt hexp, ih, entryPairs_file r dirP hexp, afterPairs_singleton _ _ _ hb]
        rfl
      | true =>
        obtain ⟨hnu, hnn, hsub⟩ := hde hexp
        rw [recvLoop_descend hlt hexp hnu, hsub _ hb, entryPairs_dir r dirP hexp,
          afterPairs_sub st e.key _ _ hb hnn, List.length_map]
        dsimp only
        by_cases hover : (dirP e).length > maxKeys - st.counter
        · -- the sub-listing is truncated: the loop ends here
          have htr : (subRes (dirP e) (maxKeys - st.counter)).trunc = true := decide_eq_true hover
          rw [htr, if_pos rfl, Bool.or_true, Nat.sub_eq_zero_of_le (Nat.le_of_lt hover),
            afterPairs_zero_of_trunc _ _ rfl]
        · have htr : (subRes (dirP e) (maxKeys - st.counter)).trunc = false := decide_eq_false hover
          rw [htr, if_neg Bool.false_ne_true, Bool.or_false, ih, Nat.sub_add_eq, subRes_budget]

theorem length_le_flatMap {α β : Type} (f : α → List β) (D : List α) (h : ∀ e ∈ D, f e ≠ []) :
    D.length ≤ (D.flatMap f).length := by
  induction D with
  | nil => exact Nat.le_refl _
  | cons e D ih =>
    rw [List.flatMap_cons, List.length_append, List.length_cons, Nat.add_comm]
    exact Nat.add_le_add (List.length_pos_iff.2 (h e List.mem_cons_self)) (ih fun x hx => h x (List.mem_cons_of_mem _ hx))

/-- The `maxKeys+1` request window `w` does not matter when every entry yields at least one item: the first `w`
    entries already yield at least `w > b` items, so entries beyond them do not reach the first `b` items. -/
theorem flatMap_window {α β : Type} (f : α → List β) (D : List α) (b w : Nat) (hne : ∀ e ∈ D, f e ≠ []) (hbw : b < w) :
    ((D.take w).flatMap f).take b = (D.flatMap f).take b ∧
    (((D.take w).flatMap f).length > b ↔ (D.flatMap f).length > b) := by
  by_cases hw : D.length ≤ w
  · rw [List.take_of_length_le hw]
    exact ⟨rfl, Iff.rfl⟩
  · have hlen : b < ((D.take w).flatMap f).length := by
      have := length_le_flatMap f (D.take w) fun e he => hne e (List.mem_of_mem_take he)
      rw [List.length_take_of_le (Nat.le_of_not_ge hw)] at this
      exact Nat.lt_of_lt_of_le hbw this
    have hD : D.flatMap f = (D.take w).flatMap f ++ (D.drop w).flatMap f := by
      rw [← List.flatMap_append, List.take_append_drop]
    rw [hD, List.take_append_of_le_length (Nat.le_of_lt hlen), List.length_append]
    exact ⟨rfl, fun _ => Nat.lt_add_right _ hlen, fun _ => hlen⟩

theorem afterPairs_window (st : Res) (f : Ent → List Pair) (D : List Ent) (b w : Nat) (hne : ∀ e ∈ D, f e ≠ [])
    (hbw : b < w) : afterPairs st ((D.take w).flatMap f) b = afterPairs st (D.flatMap f) b := by
  obtain ⟨h1, h2⟩ := flatMap_window f D b w hne hbw
  unfold afterPairs
  rw [h1]
  congr 2
  exact decide_eq_decide.2 h2

/-- The recursive listing of a sorted directory `D` from the marker `m`: the entries after `m` emit their pairs
    until the budget is used up; `dirP` describes what the recursive call returns for the directories of `D`. -/
theorem recv_listing (ks : List (List Bytes)) (sub : Bytes → Nat → Res) (r : Bytes) (dirP : Ent → List Pair) (mk : Nat)
    (D : List Ent) (hs : SortedDb D)
    (hd : ∀ e ∈ D, e.expired = true → e.key ≠ uploadsName ∧ dirP e ≠ [] ∧
      ∀ b, 0 < b → sub (r ++ [slash] ++ e.key) b = subRes (dirP e) b)
    (m : Bytes) (st : Res) :
    recvLoop ks sub false r mk (listPrim D [] m (mk + 1)) st =
      afterPairs st ((D.filter fun e => ltB m e.key).flatMap (entryPairs r dirP)) (mk - st.counter) := by
  have hD : ∀ e ∈ D.filter fun e => ltB m e.key, e ∈ D := fun e he => (List.mem_filter.1 he).1
  have hall : D.filter (fun e => isPrefix [] e.key) = D := List.filter_eq_self.2 fun e _ => isPrefix_nil e.key
  rw [listPrim_sorted D hs [] m _ (Or.inr (isPrefix_nil m)), hall,
    recv_pairs ks sub r dirP mk _ st fun e he => hd e (hD e (List.mem_of_mem_take he))]
  exact afterPairs_window _ _ _ _ _ (fun e he => entryPairs_ne_nil r dirP e fun hexp => (hd e (hD e he) hexp).2.1)
    (Nat.sub_lt_succ _ _)

theorem cutFirstSlash_cons_none (a : Nat) (d : Bytes) :
    cutFirstSlash (a :: d) = none ↔ a ≠ slash ∧ cutFirstSlash d = none := by
  by_cases ha : a = slash
  · simp [cutFirstSlash, ha]
  · cases hd : cutFirstSlash d <;> simp [cutFirstSlash, ha, hd]

theorem noslash_of_cut : ∀ (d : Bytes), cutFirstSlash d = none → slash ∉ d
  | [], _ => List.not_mem_nil
  | a :: d, h => by
    obtain ⟨ha, hd⟩ := (cutFirstSlash_cons_none a d).1 h
    exact List.not_mem_cons_of_ne_of_not_mem ha.symm (noslash_of_cut d hd)

theorem cut_dir_marker : ∀ (d x : Bytes), cutFirstSlash d = none → cutFirstSlash (d ++ [slash] ++ x) = some (d, x) := by
  intro d
  induction d with
  | nil => intro x _; simp [cutFirstSlash]
  | cons a d ih =>
    intro x h
    obtain ⟨ha, hd⟩ := (cutFirstSlash_cons_none a d).1 h
    have := ih x hd
    simp only [List.cons_append, cutFirstSlash, ha, if_false] at this ⊢
    rw [this]

theorem splitSlash_of_cut : ∀ (d : Bytes), cutFirstSlash d = none → splitSlash d = [d]
  | [], _ => rfl
  | a :: d, h => by
    obtain ⟨ha, hd⟩ := (cutFirstSlash_cons_none a d).1 h
    simp only [splitSlash, splitSlash_of_cut d hd, ha, if_false]

theorem dirEntries_root (ks : List (List Bytes)) : dirEntries ks [] = children ks [] := by
  simp [dirEntries, dirSegments]

theorem dirEntries_sub (ks : List (List Bytes)) (d : Bytes) (hne : d ≠ []) (hc : cutFirstSlash d = none) :
    dirEntries ks (slash :: d) = children ks [d] := by
  have hlast : (slash :: d).getLast? ≠ some slash := by
    intro h
    cases d with
    | nil => exact hne rfl
    | cons a d =>
      rw [List.getLast?_cons_cons] at h
      exact noslash_of_cut _ hc (List.mem_of_getLast? h)
  have hany : ([d].any fun s => decide (s = [])) = false := by simp [hne]
  simp only [dirEntries, dirSegments, hlast, if_false, if_true, splitSlash_of_cut d hc, hany, Bool.false_eq_true]

theorem keyOf_sub (d n : Bytes) : keyOf (slash :: d) n = d ++ [slash] ++ n := by
  simp [keyOf]

/-- the pairs of a directory `d` that holds only the files `S`: the marker is the name, the key is `d/name` -/
def filePairs (d : Bytes) (S : List Ent) : List Pair := S.map fun c => (c.key, d ++ [slash] ++ c.key)

/-- a directory view that holds only files (what `Tree2` asks of every top-level directory) -/
structure FilesDir (S : List Ent) : Prop where
  sorted : SortedDb S
  files : ∀ c ∈ S, c.expired = false
  names : ∀ c ∈ S, c.key ≠ []

theorem flatMap_files (d : Bytes) (dirP : Ent → List Pair) (X : List Ent) (h : ∀ e ∈ X, e.expired = false) :
    X.flatMap (entryPairs (slash :: d) dirP) = filePairs d X := by
  induction X with
  | nil => rfl
  | cons e X ih =>
    rw [List.flatMap_cons, entryPairs_file _ _ (h e List.mem_cons_self), keyOf_sub,
      ih fun x hx => h x (List.mem_cons_of_mem _ hx)]
    rfl

theorem sub_listing (ks : List (List Bytes)) (d : Bytes) (hne : d ≠ []) (hc : cutFirstSlash d = none)
    (hS : FilesDir (children ks [d])) (fuel b : Nat) (hb : 0 < b) (m : Bytes) (hm : cutFirstSlash m = none) :
    doList ks false (fuel + 1) (slash :: d) [] b m =
      subRes (filePairs d ((children ks [d]).filter fun c => ltB m c.key)) b := by
  rw [doList_plain ks false fuel (slash :: d) [] b m (by simp) (Nat.ne_of_gt hb) hm, dirEntries_sub ks d hne hc,
    recv_listing ks _ (slash :: d) (fun _ => []) b _ hS.sorted
      (fun e he hexp => absurd hexp (ne_true_of_eq_false (hS.files e he))),
    flatMap_files d _ _ fun e he => hS.files e (List.mem_filter.1 he).1]
  exact afterPairs_eq_subRes _ _

/-- The inputs of the recursive theorem: the top directory and every directory in it are sorted with non-empty,
    slash-free names; the top directory holds no `.uploads` DIRECTORY (a file of that name is admitted), and every
    directory in it is non-empty and holds only files (depth ≤ 2 = no marker with two '/' = outside the class
    `nested-marker-drops-sub-count`). -/
structure Tree2 (ks : List (List Bytes)) : Prop where
  sorted : SortedDb (children ks [])
  names : ∀ e ∈ children ks [], e.key ≠ [] ∧ cutFirstSlash e.key = none
  noUploads : ∀ e ∈ children ks [], e.expired = true → e.key ≠ uploadsName
  sub : ∀ e ∈ children ks [], e.expired = true → children ks [e.key] ≠ [] ∧ FilesDir (children ks [e.key]) ∧
    ∀ c ∈ children ks [e.key], cutFirstSlash c.key = none

instance (S : List Ent) : Decidable (SortedDb S) := by unfold SortedDb; exact inferInstance

instance (S : List Ent) : Decidable (FilesDir S) :=
  decidable_of_iff (SortedDb S ∧ (∀ c ∈ S, c.expired = false) ∧ ∀ c ∈ S, c.key ≠ [])
    ⟨fun h => ⟨h.1, h.2.1, h.2.2⟩, fun h => ⟨h.sorted, h.files, h.names⟩⟩

instance (ks : List (List Bytes)) : Decidable (Tree2 ks) :=
  decidable_of_iff
    (SortedDb (children ks []) ∧ (∀ e ∈ children ks [], e.key ≠ [] ∧ cutFirstSlash e.key = none) ∧
      (∀ e ∈ children ks [], e.expired = true → e.key ≠ uploadsName) ∧
      (∀ e ∈ children ks [], e.expired = true → children ks [e.key] ≠ [] ∧ FilesDir (children ks [e.key]) ∧
        ∀ c ∈ children ks [e.key], cutFirstSlash c.key = none))
    ⟨fun h => ⟨h.1, h.2.1, h.2.2.1, h.2.2.2⟩, fun h => ⟨h.sorted, h.names, h.noUploads, h.sub⟩⟩

/-- the object keys below one entry of the top directory, in listing order -/
def entryKeys (ks : List (List Bytes)) (e : Ent) : List Bytes :=
  if e.expired then (children ks [e.key]).map (fun c => e.key ++ [slash] ++ c.key) else [e.key]

/-- depth-first key stream of a list of top-level entries -/
def streamOf (ks : List (List Bytes)) (L : List Ent) : List Bytes := L.flatMap (entryKeys ks)

theorem streamOf_cons (ks : List (List Bytes)) (e : Ent) (B : List Ent) : streamOf ks (e :: B) = entryKeys ks e ++ streamOf ks B :=
  List.flatMap_cons

theorem streamOf_append (ks : List (List Bytes)) (A B : List Ent) : streamOf ks (A ++ B) = streamOf ks A ++ streamOf ks B :=
  List.flatMap_append

/-- every object key of a bucket of depth ≤ 2 that holds no key next to a key below it (`allKeys_complete`; of
    `bucket ["a", "a/b"]` it holds `a/b` only), in listing order (in a deeper one the entries of a top-level
    directory are all taken for files: `d/e` stands for the keys below `d/e`) -/
def allKeys (ks : List (List Bytes)) : List Bytes := streamOf ks (children ks [])

/-- the `dirP` of the top directory of a `Tree2` bucket: the files of the directory `e` -/
def topDirP (ks : List (List Bytes)) (e : Ent) : List Pair := filePairs e.key (children ks [e.key])

/-- at the top level the marker a key leaves behind is the key itself -/
theorem entryPairs_top (ks : List (List Bytes)) (e : Ent) :
    entryPairs [] (topDirP ks) e = (entryKeys ks e).map fun k => (k, k) := by
  unfold entryPairs entryKeys topDirP filePairs
  cases e.expired <;> simp [keyOf_root]

theorem pairs_top (ks : List (List Bytes)) (L : List Ent) :
    L.flatMap (entryPairs [] (topDirP ks)) = (streamOf ks L).map fun k => (k, k) := by
  rw [streamOf, List.map_flatMap]
  exact congrArg (fun f => L.flatMap f) (funext (entryPairs_top ks))

/-- what one page must look like when `Z` is the stream of keys still to be listed -/
def pageOfStream (maxKeys : Nat) (Z : List Bytes) : Page :=
  ⟨decide (Z.length > maxKeys), if Z.length > maxKeys then ((Z.take maxKeys).getLast?).getD [] else [], Z.take maxKeys, []⟩

theorem pageOfStream_eq (mk : Nat) (Z : List Bytes) : pageOfStream mk Z = pageOfItems id id (fun _ => []) mk Z := by
  simp [pageOfStream, pageOfItems]

theorem top_listing (ks : List (List Bytes)) (h : Tree2 ks) (fuel mk : Nat) (m : Bytes) (st : Res) :
    recvLoop ks (fun r' budget => doList ks false (fuel + 1) r' [] budget []) false [] mk
        (listPrim (dirEntries ks []) [] m (mk + 1)) st =
      afterPairs st (((children ks []).filter fun e => ltB m e.key).flatMap (entryPairs [] (topDirP ks))) (mk - st.counter) := by
  rw [dirEntries_root]
  refine recv_listing ks _ [] (topDirP ks) mk _ h.sorted (fun e he hexp => ?_) m st
  -- a directory of the top level is listed as its files
  obtain ⟨hne, hfd, _⟩ := h.sub e he hexp
  refine ⟨h.noUploads e he hexp, mt List.map_eq_nil_iff.1 hne, fun b hb =>
    (sub_listing ks e.key (h.names e he).1 (h.names e he).2 hfd fuel b hb [] rfl).trans ?_⟩
  rw [filter_ltB_nil hfd.names]
  rfl

theorem page_of_afterPairs (Zs : List Bytes) (mk : Nat) :
    pageOf (clearNext (afterPairs {} (Zs.map fun k => (k, k)) mk)) = pageOfStream mk Zs := by
  rw [pageOf_clearNext]
  by_cases hbig : Zs.length > mk <;>
    simp [afterPairs, pageOfStream, hbig, ← List.map_take, List.getLast?_map, Function.comp_def]

/-- one page from a marker without '/' (empty, or the name of a top-level file) -/
theorem page_top (ks : List (List Bytes)) (h : Tree2 ks) (mk : Nat) (hmk : 0 < mk) (m : Bytes) (hm : cutFirstSlash m = none) :
    pageOf (listFiler ks [] mk m false) =
      pageOfStream mk (streamOf ks ((children ks []).filter fun e => ltB m e.key)) ∧
    (listFiler ks [] mk m false).deleted = [] := by
  rw [listFiler_nodir ks [] mk m false (by decide),
    doList_plain ks false 11 [] [] mk m (by simp) (Nat.ne_of_gt hmk) hm, top_listing ks h 10, clearNext_deleted, pairs_top]
  exact ⟨page_of_afterPairs _ mk, rfl⟩

/-- The page that starts inside a directory. The marker branch of `doList` resumes the level above with the
    counter reset (hence `- 0`) and the budget reduced by what the sub-listing `P` emitted; for the page this is
    the same as emitting the pairs of `P` under the directory's name and then `Z`. -/
theorem page_of_sub (P Z : List Pair) (dk : Bytes) (mk : Nat) (hmk : 0 < mk) (Zs : List Bytes)
    (h : (P.map fun p => (dk ++ [slash] ++ p.1, p.2)) ++ Z = Zs.map fun k => (k, k)) :
    pageOf (clearNext (let s := subRes P mk
        afterPairs { counter := 0, trunc := s.trunc, next := dk ++ [slash] ++ s.next, keys := s.keys, pfxs := s.pfxs,
                     deleted := s.deleted } Z (mk - s.counter - 0))) = pageOfStream mk Zs := by
  dsimp only
  rw [← page_of_afterPairs Zs mk, ← h, afterPairs_append, pageOf_clearNext, pageOf_clearNext, Nat.sub_zero, subRes_budget,
    List.length_map]
  cases P with
  | nil =>
    rw [List.map_nil, afterPairs_nil]
    simp only [afterPairs, subRes, List.take_nil, List.length_nil, List.map_nil, List.getLast?_nil, Option.map_none,
      Option.getD_none, Nat.sub_zero, List.nil_append, Nat.not_lt_zero, decide_false, gt_iff_lt, Bool.false_or]
    by_cases hz : mk < Z.length
    · obtain ⟨l, hl⟩ := getLast?_take Z mk hmk (List.ne_nil_of_length_pos (Nat.zero_lt_of_lt hz))
      simp only [hz, decide_true, if_true, hl, Option.map_some, Option.getD_some]
    · simp only [hz, decide_false, Bool.false_eq_true, if_false]
  | cons p P =>
    rw [afterPairs_sub _ dk _ mk hmk (List.cons_ne_nil p P)]
    simp only [afterPairs, Bool.false_or, List.nil_append]
    rfl

/-- one page from a marker `dir/name`: the rest of `dir` after `name`, then the top directory after `dir` -/
theorem page_dir (ks : List (List Bytes)) (h : Tree2 ks) (mk : Nat) (hmk : 0 < mk) (d : Ent) (hd : d ∈ children ks [])
    (hexp : d.expired = true) (x : Bytes) (hx : cutFirstSlash x = none) :
    pageOf (listFiler ks [] mk (d.key ++ [slash] ++ x) false) =
      pageOfStream mk ((((children ks [d.key]).filter fun c => ltB x c.key).map fun c => d.key ++ [slash] ++ c.key) ++
        streamOf ks ((children ks []).filter fun e => ltB d.key e.key)) ∧
    (listFiler ks [] mk (d.key ++ [slash] ++ x) false).deleted = [] := by
  obtain ⟨_, hfd, _⟩ := h.sub d hd hexp
  rw [listFiler_nodir ks [] mk _ false (by decide),
    doList_marker ks false 11 [] [] mk _ d.key x (by simp) (Nat.ne_of_gt hmk) (cut_dir_marker d.key x (h.names d hd).2),
    clearNext_deleted]
  simp only [List.nil_append, List.singleton_append]
  rw [sub_listing ks d.key (h.names d hd).1 (h.names d hd).2 hfd 10 mk hmk x hx]
  simp only [subRes, removeDirs_nil]
  rw [top_listing ks h 10]
  refine ⟨page_of_sub _ _ d.key mk hmk _ ?_, rfl⟩
  rw [List.map_append, pairs_top, filePairs, List.map_map, List.map_map]; rfl

/-- `Cursor ks m Z`: the marker `m` is the empty marker, the name of a top-level file, or `dir/name`
    for a file of a top-level directory, and `Z` is the stream of keys listed after it. -/
inductive Cursor (ks : List (List Bytes)) : Bytes → List Bytes → Prop
  | start : Cursor ks [] (allKeys ks)
  | file (T1 : List Ent) (e : Ent) (T2 : List Ent) : children ks [] = T1 ++ e :: T2 → e.expired = false →
      Cursor ks e.key (streamOf ks T2)
  | dir (T1 : List Ent) (d : Ent) (T2 : List Ent) (S1 : List Ent) (x : Ent) (S2 : List Ent) :
      children ks [] = T1 ++ d :: T2 → d.expired = true → children ks [d.key] = S1 ++ x :: S2 →
      Cursor ks (d.key ++ [slash] ++ x.key) ((S2.map fun c => d.key ++ [slash] ++ c.key) ++ streamOf ks T2)

theorem cursor_suffix (ks : List (List Bytes)) (m : Bytes) (Z : List Bytes) (hc : Cursor ks m Z) : Z <:+ allKeys ks := by
  cases hc with
  | start => exact List.suffix_refl _
  | file T1 e T2 hT hexp =>
    unfold allKeys
    rw [hT, streamOf_append, streamOf_cons]
    exact List.suffix_append_of_suffix (List.suffix_append _ _)
  | dir T1 d T2 S1 x S2 hT hexp hS =>
    unfold allKeys
    rw [hT, streamOf_append, streamOf_cons]
    simp only [entryKeys, hexp, if_true, hS, List.map_append, List.map_cons]
    exact ⟨streamOf ks T1 ++ (S1.map fun c => d.key ++ [slash] ++ c.key) ++ [d.key ++ [slash] ++ x.key], by simp⟩

/-- Every position of the key stream is a continuation point: the key before the cut is the marker, the keys
    behind it are what the marker stands for. -/
theorem cursor_of_split (ks : List (List Bytes)) (z : Bytes) (Z A : List Bytes) (h : allKeys ks = A ++ z :: Z) :
    Cursor ks z Z := by
  suffices ∀ (T2 Tpre : List Ent) (A : List Bytes), children ks [] = Tpre ++ T2 → streamOf ks T2 = A ++ z :: Z →
      Cursor ks z Z from this _ [] A rfl h
  intro T2
  induction T2 with
  | nil => intro _ A _ hz; cases A <;> cases hz
  | cons e T2 ih =>
    intro Tpre A hT hz
    have ih := fun A => ih (Tpre ++ [e]) A (hT.trans (List.append_cons _ _ _))
    rw [streamOf_cons] at hz
    -- the cut falls behind the keys of `e`, or inside them
    rcases List.append_eq_append_iff.1 hz with ⟨A', _, hS⟩ | ⟨C, hE, hC⟩
    · exact ih A' hS
    · cases C with
      | nil => exact ih [] hC.symm
      | cons c C =>
        obtain ⟨rfl, rfl⟩ := List.cons.inj hC
        unfold entryKeys at hE
        cases hexp : e.expired with
        | false =>
          rw [hexp, if_neg Bool.false_ne_true] at hE
          cases A with
          | nil => obtain ⟨rfl, rfl⟩ := List.cons.inj hE; exact Cursor.file Tpre e T2 hT hexp
          | cons a A => cases A <;> cases (List.cons.inj hE).2
        | true =>
          rw [hexp, if_pos rfl] at hE
          obtain ⟨S1, S', hS, -, h2⟩ := List.map_eq_append_iff.1 hE
          obtain ⟨x, S2, rfl, rfl, rfl⟩ := List.map_eq_cons_iff.1 h2
          exact Cursor.dir Tpre e T2 S1 x S2 hT hexp hS

/-- the marker a page of `n` keys returns stands for the keys behind that page -/
theorem cursor_drop (ks : List (List Bytes)) (n : Nat) (m : Bytes) (Z : List Bytes) (l : Bytes) (hc : Cursor ks m Z)
    (hl : (Z.take n).getLast? = some l) : Cursor ks l (Z.drop n) := by
  obtain ⟨pre, hpre⟩ := cursor_suffix ks m Z hc
  obtain ⟨ini, hini⟩ := List.getLast?_eq_some_iff.1 hl
  refine cursor_of_split ks l _ (pre ++ ini) ?_
  calc allKeys ks = pre ++ (Z.take n ++ Z.drop n) := by rw [List.take_append_drop, hpre]
    _ = (pre ++ ini) ++ l :: Z.drop n := by rw [hini, List.append_assoc, List.append_assoc]; rfl

theorem page_at_cursor (ks : List (List Bytes)) (h : Tree2 ks) (mk : Nat) (hmk : 0 < mk) (m : Bytes) (Z : List Bytes)
    (hc : Cursor ks m Z) :
    pageOf (listFiler ks [] mk m false) = pageOfItems id id (fun _ => []) mk Z ∧
    (listFiler ks [] mk m false).deleted = [] := by
  rw [← pageOfStream_eq]
  cases hc with
  | start =>
    have := page_top ks h mk hmk [] rfl
    rwa [filter_ltB_nil (fun e he => (h.names e he).1)] at this
  | file T1 e T2 hT hexp =>
    have he : e ∈ children ks [] := hT ▸ List.mem_append_cons_self
    have := page_top ks h mk hmk e.key (h.names e he).2
    rwa [filter_after_last_by (fun e : Ent => e.key) hT h.sorted] at this
  | dir T1 d T2 S1 x S2 hT hexp hS =>
    have hd : d ∈ children ks [] := hT ▸ List.mem_append_cons_self
    obtain ⟨_, hfd, hsl⟩ := h.sub d hd hexp
    have hx : x ∈ children ks [d.key] := hS ▸ List.mem_append_cons_self
    have := page_dir ks h mk hmk d hd hexp x.key (hsl x hx)
    rwa [filter_after_last_by (fun e : Ent => e.key) hS hfd.sorted,
      filter_after_last_by (fun e : Ent => e.key) hT h.sorted] at this

/-- what a complete, exact recursive pagination looks like -/
structure RecExact (maxKeys : Nat) (want : List Bytes) (pages : List Page) : Prop where
  keys : pages.flatMap (·.keys) = want
  pfxs : pages.flatMap (·.pfxs) = []
  small : ∀ p ∈ pages, p.keys.length + p.pfxs.length ≤ maxKeys
  ends : pages.getLast?.map (·.trunc) = some false

theorem walk_rec (ks : List (List Bytes)) (h : Tree2 ks) (mk : Nat) (hmk : 0 < mk) :
    ∀ (fuel : Nat) (m : Bytes) (Z : List Bytes), Cursor ks m Z → Z.length < fuel →
      ∃ pages, walk [] mk false true fuel ks m = (pages, ks) ∧ RecExact mk Z pages := by
  intro fuel m Z hc hlen
  obtain ⟨pages, hw, hk, hp, hs, he⟩ :=
    walk_items ks [] false mk hmk id id (fun _ => []) (fun _ _ => rfl) (fun _ _ => rfl) (fun _ => rfl) (Cursor ks)
      (page_at_cursor ks h mk hmk) (cursor_drop ks mk) fuel m Z hc hlen
  exact ⟨pages, hw, hk, hp, hs, he⟩

end SwV.Lemmas.C27
