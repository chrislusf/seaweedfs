/-
C18 — rename of a DIRECTORY with children: the model's fuel-bounded recursion (moveEntry: create the
target, move every listed child, delete the source entry) computes exactly the spec's subtree move,
whenever the store satisfies `TreeInv`, the target is fresh, has a parent, and is neither inside nor above the source, and the fuel
exceeds the height of the source subtree (`moveEntry_exact`). The move is stated as a relation between the two
stores (`MovedBy`), so that the moves of the children compose (`movedBy_trans`); `mem_specRenameStrip` reads it as
membership in `specRenameStrip`, the spec's `specRename` with the link identity of the moved entries dropped.
With a child of the source as target no fuel is enough, shown for a source with nothing below it
(`moveEntry_into_child_diverges`).
-/
import SwV.Model.C18
import SwV.Spec.C18
import SwV.Lemmas.C18
namespace SwV.Lemmas.C18
open SwV.Model.C18 SwV.Spec.C18

theorem reroot_append (t o n : RPath) : reroot o n (t ++ o) = t ++ n := by
  simp [reroot]

theorem reroot_self (o n : RPath) : reroot o n o = n :=
  reroot_append [] o n

theorem suffix_reroot {o n p : RPath} (h : o <:+ p) : n <:+ reroot o n p := by
  rcases h with ⟨t, rfl⟩
  rw [reroot_append]
  exact List.suffix_append t n

theorem reroot_child {k : String} {o n p : RPath} (h : (k :: o) <:+ p) :
    reroot (k :: o) (k :: n) p = reroot o n p ∧ (k :: n) <:+ reroot o n p := by
  rcases h with ⟨t, rfl⟩
  constructor
  · rw [reroot_append, List.append_cons t k o, reroot_append]; exact List.append_cons t k n
  · rw [List.append_cons t k o, reroot_append]; exact ⟨t, List.append_cons t k n⟩

theorem not_cons_suffix_cons {a b : RPath} (k : String) (h : ¬ a <:+ b) : ¬ (k :: a) <:+ (k :: b) :=
  fun hs => (List.suffix_cons_iff.mp hs).elim (fun he => ne_of_not_suffix h (List.cons.inj he).2)
    fun hs => h ((List.suffix_cons k a).trans hs)

theorem cons_suffix_cons {a b : String} {l : RPath} (h : (a :: l) <:+ (b :: l)) : b = a := by
  rcases List.suffix_cons_iff.mp h with h | h
  · cases h; rfl
  · exact absurd h (cons_not_suffix a l)

/-- two suffixes of one path are comparable: with incomparable `old`, `new` no image of a path under `old` lies under `old` -/
theorem reroot_not_under {old new p : RPath} (hon : ¬ old <:+ new) (hno : ¬ new <:+ old) (h : old <:+ p) :
    ¬ old <:+ reroot old new p :=
  fun h' => (List.suffix_or_suffix_of_suffix h' (suffix_reroot h)).elim hon hno

/-- `s'` is `s` with exactly the entries whose path satisfies `M` re-rooted from `old` to `new` -/
def MovedBy (M : RPath → Prop) (old new : RPath) (s s' : St) : Prop :=
  ∀ x, x ∈ s'.ents ↔ (x ∈ s.ents ∧ ¬ M x.1) ∨ (∃ y ∈ s.ents, M y.1 ∧ x = (reroot old new y.1, strip y.2))

theorem movedBy_trans {M1 M2 M3 : RPath → Prop} {old new : RPath} {s s1 s2 : St}
    (h1 : MovedBy M1 old new s s1) (h2 : MovedBy M2 old new s1 s2)
    (h3 : ∀ p, M3 p ↔ M1 p ∨ M2 p)
    (hi : ∀ y ∈ s.ents, M1 y.1 → ¬ M2 (reroot old new y.1)) : MovedBy M3 old new s s2 := by
  intro x
  rw [h2 x]
  constructor
  · rintro (⟨hx, hn2⟩ | ⟨y, hy, hm2, rfl⟩)
    · rcases (h1 x).mp hx with ⟨hx0, hn1⟩ | ⟨y, hy, hm1, rfl⟩
      · exact Or.inl ⟨hx0, fun h => ((h3 _).mp h).elim hn1 hn2⟩
      · exact Or.inr ⟨y, hy, (h3 _).mpr (Or.inl hm1), rfl⟩
    · rcases (h1 y).mp hy with ⟨hy0, hn1⟩ | ⟨z, hz, hm1, rfl⟩
      · exact Or.inr ⟨y, hy0, (h3 _).mpr (Or.inr hm2), rfl⟩
      · exact absurd hm2 (hi z hz hm1)
  · rintro (⟨hx, hn3⟩ | ⟨y, hy, hm3, rfl⟩)
    · exact Or.inl ⟨(h1 x).mpr (Or.inl ⟨hx, fun h => hn3 ((h3 _).mpr (Or.inl h))⟩), fun h => hn3 ((h3 _).mpr (Or.inr h))⟩
    · by_cases hm1 : M1 y.1
      · exact Or.inl ⟨(h1 _).mpr (Or.inr ⟨y, hy, hm1, rfl⟩), hi y hy hm1⟩
      · have hm2 : M2 y.1 := ((h3 _).mp hm3).resolve_left hm1
        exact Or.inr ⟨y, (h1 y).mpr (Or.inl ⟨hy, hm1⟩), hm2, rfl⟩

theorem movedBy_congr {M : RPath → Prop} {o n o' n' : RPath} {s s' : St}
    (hr : ∀ p, M p → reroot o n p = reroot o' n' p) (h : MovedBy M o n s s') : MovedBy M o' n' s s' := fun x =>
  (h x).trans (or_congr_right (exists_congr fun y => and_congr_right fun _ => and_congr_right fun hm => by rw [hr _ hm]))

theorem movedBy_of_iff {M M' : RPath → Prop} {o n : RPath} {s s' : St}
    (hM : ∀ y ∈ s.ents, M y.1 ↔ M' y.1) (h : MovedBy M o n s s') : MovedBy M' o n s s' := fun x =>
  (h x).trans (or_congr (and_congr_right fun hx => not_congr (hM x hx))
    (exists_congr fun y => and_congr_right fun hy => and_congr_left fun _ => hM y hy))

theorem movedBy_refl {M : RPath → Prop} {o n : RPath} {s : St} (h : ∀ x ∈ s.ents, ¬ M x.1) : MovedBy M o n s s := fun _ =>
  ⟨fun hx => Or.inl ⟨hx, h _ hx⟩, fun h' => h'.elim (·.1) fun ⟨y, hy, hm, _⟩ => absurd hm (h y hy)⟩

theorem movedBy_under_old {M : RPath → Prop} {old new : RPath} {s s' : St} (mv : MovedBy M old new s s')
    (hM : ∀ p, M p → old <:+ p) (hon : ¬ old <:+ new) (hno : ¬ new <:+ old)
    {x : RPath × Entry} (hx : x ∈ s'.ents) (hs : old <:+ x.1) : x ∈ s.ents ∧ ¬ M x.1 := by
  rcases (mv x).mp hx with h | ⟨y, _, hm, rfl⟩
  · exact h
  · exact absurd hs (reroot_not_under hon hno (hM _ hm))

theorem children_nil_of_moved {old new : RPath} {s s' : St} (mv : MovedBy (PD old) old new s s')
    (hon : ¬ old <:+ new) (hno : ¬ new <:+ old) : children s' old = [] := by
  rw [List.eq_nil_iff_forall_not_mem]
  rintro ⟨k, c⟩ hkc
  exact (movedBy_under_old mv (fun _ h => h.1) hon hno (mem_children.mp hkc) (List.suffix_cons k old)).2 (pd_child k old)

/-- moveEntry's three steps seen from outside: the target created from the source entry, everything properly below the
    source moved, the source entry deleted — together the whole subtree has moved -/
theorem movedBy_subtree {old new : RPath} {e : Entry} {s s1 s2 s3 : St} (nd : (s.ents.map (·.1)).Nodup)
    (hm : (old, e) ∈ s.ents) (hon : ¬ old <:+ new) (hno : ¬ new <:+ old)
    (mem1 : ∀ x, x ∈ s1.ents ↔ x = (new, strip e) ∨ x ∈ s.ents) (mv2 : MovedBy (PD old) old new s1 s2)
    (mem3 : ∀ x, x ∈ s3.ents ↔ x ∈ s2.ents ∧ x.1 ≠ old) : MovedBy (fun p => old <:+ p) old new s s3 := by
  have hnew : ¬ PD old new := fun h => hon h.1
  intro x
  rw [mem3 x, mv2 x]
  constructor
  · rintro ⟨⟨h1, hn⟩ | ⟨y, hy, hpd, rfl⟩, hxo⟩
    · rcases (mem1 _).mp h1 with h | h
      · exact Or.inr ⟨(old, e), hm, List.suffix_refl _, by rw [h, reroot_self]⟩
      · exact Or.inl ⟨h, fun hs => hn ⟨hs, hxo⟩⟩
    · rcases (mem1 _).mp hy with h | h
      · subst h
        exact absurd hpd hnew
      · exact Or.inr ⟨y, h, hpd.1, rfl⟩
  · rintro (⟨h, hn⟩ | ⟨y, hy, hs, rfl⟩)
    · exact ⟨Or.inl ⟨(mem1 _).mpr (Or.inr h), fun hpd => hn hpd.1⟩, (ne_of_not_suffix hn).symm⟩
    · by_cases hyo : y.1 = old
      · -- the source entry itself: its image is the created target
        obtain ⟨y1, y2⟩ := y
        subst hyo
        rw [mem_unique nd hy hm, reroot_self]
        exact ⟨Or.inl ⟨(mem1 _).mpr (Or.inl rfl), hnew⟩, (ne_of_not_suffix hon).symm⟩
      · exact ⟨Or.inr ⟨y, (mem1 _).mpr (Or.inr hy), ⟨hs, hyo⟩, rfl⟩,
          fun h => reroot_not_under hon hno hs ⟨[], h.symm⟩⟩

theorem create_target {s : St} (inv : TreeInv s) (e : Entry) {new : RPath} (habs : ∀ c, (new, c) ∉ s.ents) (hnn : new ≠ [])
    (hpar : new.tail = [] ∨ ∃ d, (new.tail, d) ∈ s.ents ∧ d.isDir = true) :
    ∃ s1, createEntry s new (strip e) false = (s1, Res.ok, []) ∧ TreeInv s1 ∧
      ∀ x, x ∈ s1.ents ↔ x = (new, strip e) ∨ x ∈ s.ents :=
  ⟨_, createEntry_fresh inv (strip e) false habs hnn hpar,
    inv_wInsert inv (fun _ => rfl) hnn hpar fun c hc => absurd hc (habs c), fun _ => mem_wInsert_fresh habs⟩

/-- `rec` carries out the subtree move whenever the store satisfies `TreeInv`, the target is fresh, has a parent, is neither inside nor above the source,
    and `f` exceeds the height of the source subtree -/
def MovesSubtree (rec : St → RPath → Entry → RPath → Mv) (f : Nat) : Prop :=
  ∀ (s : St) (old : RPath) (e : Entry) (new : RPath), TreeInv s →
    (old, e) ∈ s.ents → (∀ c, (new, c) ∉ s.ents) → new ≠ [] →
    (new.tail = [] ∨ ∃ d, (new.tail, d) ∈ s.ents ∧ d.isDir = true) →
    ¬ old <:+ new → ¬ new <:+ old →
    (∀ x ∈ s.ents, old <:+ x.1 → x.1.length < old.length + f) →
    ∃ s', rec s old e new = (s', Res.ok, []) ∧ TreeInv s' ∧ MovedBy (fun p => old <:+ p) old new s s'

theorem move_loop_exact {rec : St → RPath → Entry → RPath → Mv} {old new : RPath} {f : Nat}
    (hon : ¬ old <:+ new) (hno : ¬ new <:+ old) (hrec : MovesSubtree rec f) :
    ∀ (items : List (String × Entry)) (sa : St), TreeInv sa → (items.map (·.1)).Nodup →
      (∀ it ∈ items, (it.1 :: old, it.2) ∈ sa.ents) → (∀ it ∈ items, ∀ c, (it.1 :: new, c) ∉ sa.ents) →
      (∃ d, (new, d) ∈ sa.ents ∧ d.isDir = true) →
      (∀ x ∈ sa.ents, old <:+ x.1 → x.1.length < old.length + (f + 1)) →
      ∃ s', items.foldl (moveStep rec old new) (sa, Res.ok, []) = (s', Res.ok, []) ∧ TreeInv s' ∧
        MovedBy (fun p => ∃ it ∈ items, (it.1 :: old) <:+ p) old new sa s' := by
  intro items
  induction items with
  | nil => exact fun sa inv _ _ _ _ _ => ⟨sa, rfl, inv, fun x => by simp⟩
  | cons it t ih =>
    intro sa inv nd h2 h3 h4 h5
    rw [List.map_cons, List.nodup_cons] at nd
    have hup : ∀ p, (it.1 :: old) <:+ p → old <:+ p := fun p => (List.suffix_cons it.1 old).trans
    have hb1 : ∀ x ∈ sa.ents, (it.1 :: old) <:+ x.1 → x.1.length < (it.1 :: old).length + f := fun x hx hs => by
      rw [List.length_cons, Nat.add_right_comm]
      exact h5 x hx (hup _ hs)
    -- the first item: one level down the roots are it.1 :: old and it.1 :: new, the images the same
    rcases hrec sa (it.1 :: old) it.2 (it.1 :: new) inv (h2 it List.mem_cons_self) (h3 it List.mem_cons_self)
      (List.cons_ne_nil _ _) (Or.inr h4) (not_cons_suffix_cons it.1 hon) (not_cons_suffix_cons it.1 hno) hb1
      with ⟨s1, hr1, inv1, mv1⟩
    replace mv1 : MovedBy (fun p => (it.1 :: old) <:+ p) old new sa s1 :=
      movedBy_congr (fun p hp => (reroot_child hp).1) mv1
    have hstep : moveStep rec old new (sa, Res.ok, []) it = (s1, Res.ok, []) := by
      simp [moveStep, hr1]
    rw [List.foldl_cons, hstep]
    -- what the remaining items need still holds: the first move touched only it.1 :: old and it.1 :: new
    have hnk : ∀ it' ∈ t, it'.1 ≠ it.1 := fun it' hit' heq => nd.1 (List.mem_map.mpr ⟨it', hit', heq⟩)
    have g2 : ∀ it' ∈ t, (it'.1 :: old, it'.2) ∈ s1.ents := fun it' hit' =>
      (mv1 _).mpr (Or.inl ⟨h2 it' (List.mem_cons_of_mem _ hit'), fun hs => hnk it' hit' (cons_suffix_cons hs)⟩)
    have g3 : ∀ it' ∈ t, ∀ c, (it'.1 :: new, c) ∉ s1.ents := by
      intro it' hit' c hc
      rcases (mv1 _).mp hc with ⟨hc0, _⟩ | ⟨y, hy, hm, heq⟩
      · exact h3 it' (List.mem_cons_of_mem _ hit') c hc0
      · have := (reroot_child (n := new) hm).2
        rw [← (Prod.mk.inj heq).1] at this
        exact hnk it' hit' (cons_suffix_cons this)
    have g4 : ∃ d, (new, d) ∈ s1.ents ∧ d.isDir = true :=
      h4.imp fun _ h => ⟨(mv1 _).mpr (Or.inl ⟨h.1, fun hs => hon (hup _ hs)⟩), h.2⟩
    have g5 : ∀ x ∈ s1.ents, old <:+ x.1 → x.1.length < old.length + (f + 1) := fun x hx hs =>
      h5 x (movedBy_under_old mv1 hup hon hno hx hs).1 hs
    rcases ih s1 inv1 nd.2 g2 g3 g4 g5 with ⟨s', hfold, inv', mv'⟩
    refine ⟨s', hfold, inv', movedBy_trans mv1 mv' ?_ ?_⟩
    · exact fun p => by simp only [List.mem_cons, exists_eq_or_imp]
    · rintro y hy hm ⟨it', _, hs⟩
      exact reroot_not_under hon hno (hup _ hm) ((List.suffix_cons it'.1 old).trans hs)

theorem move_children_exact {rec : St → RPath → Entry → RPath → Mv} {old new : RPath} {f : Nat}
    (hon : ¬ old <:+ new) (hno : ¬ new <:+ old) (hrec : MovesSubtree rec f) {s : St} (inv : TreeInv s) {e : Entry}
    (hm : (old, e) ∈ s.ents) (h3 : ∀ k c, (k :: new, c) ∉ s.ents)
    (h4 : e.isDir = true → ∃ d, (new, d) ∈ s.ents ∧ d.isDir = true)
    (h5 : ∀ x ∈ s.ents, old <:+ x.1 → x.1.length < old.length + (f + 1)) :
    ∃ s', (if e.isDir = true then (children s old).foldl (moveStep rec old new) (s, Res.ok, []) else (s, Res.ok, [])) =
      (s', Res.ok, []) ∧ TreeInv s' ∧ MovedBy (PD old) old new s s' := by
  by_cases hd : e.isDir = true
  · rw [if_pos hd]
    rcases move_loop_exact hon hno hrec (children s old) s inv (children_names_nodup inv.nodup old)
      (fun _ hit => mem_children.mp hit) (fun it _ => h3 it.1) (h4 hd) h5 with ⟨s', hf, inv', mv⟩
    exact ⟨s', hf, inv', movedBy_of_iff (fun _ hy => below_listed_child_iff inv hy) mv⟩
  · rw [if_neg hd]
    exact ⟨s, rfl, inv, movedBy_refl (not_pd_file inv hm (Bool.eq_false_iff.mpr hd))⟩

theorem moveEntry_exact (f : Nat) : MovesSubtree (moveEntry f) f := by
  induction f with
  | zero =>
    intro s old e new _ hm _ _ _ _ _ hb
    exact absurd (hb _ hm (List.suffix_refl _)) (Nat.lt_irrefl _)
  | succ f ih =>
    intro s old e new inv hm habs hnn hpar hon hno hb
    rcases create_target inv e habs hnn hpar with ⟨s1, hcreate, inv1, mem1⟩
    have hfresh : ∀ k c, (k :: new, c) ∉ s1.ents := by
      intro k c hc
      rcases (mem1 _).mp hc with h | h
      · exact List.cons_ne_self k new (Prod.mk.inj h).1
      · rcases (inv.parent _ h).2 with h0 | ⟨d, hd0, _⟩
        · exact hnn h0
        · exact habs d hd0
    have hb1 : ∀ x ∈ s1.ents, old <:+ x.1 → x.1.length < old.length + (f + 1) := by
      intro x hx hs
      rcases (mem1 _).mp hx with h | h
      · subst h
        exact absurd hs hon
      · exact hb x h hs
    rcases move_children_exact hon hno ih inv1 ((mem1 _).mpr (Or.inr hm)) hfresh
      (fun hd => ⟨strip e, (mem1 _).mpr (Or.inl rfl), hd⟩) hb1 with ⟨s2, hloop, inv2, mv2⟩
    -- the source entry is still there, childless
    have hm2 : (old, e) ∈ s2.ents := (mv2 _).mpr (Or.inl ⟨(mem1 _).mpr (Or.inr hm), fun h => h.2 rfl⟩)
    rcases deleteEntry_leaf inv2 hm2 (children_nil_of_moved mv2 hon hno) with ⟨s3, hdel, inv3, mem3⟩
    refine ⟨s3, ?_, inv3, movedBy_subtree inv.nodup hm hon hno mem1 mv2 mem3⟩
    rw [moveEntry_succ, if_neg (ne_of_not_suffix hon)]
    simp only [hcreate, hloop, hdel, List.append_nil]

/-- a directory with nothing below it, renamed to a child of itself: the move creates the child, lists it as the first
    entry of the source and moves it to a child of itself in turn, at every depth — whatever the fuel, it runs out -/
theorem moveEntry_into_child_diverges (c : String) : ∀ (f : Nat) (s : St) (old : RPath) (e : Entry), TreeInv s →
    (old, e) ∈ s.ents → e.isDir = true → (∀ x ∈ s.ents, ¬ PD old x.1) →
    (moveEntry f s old e (c :: old)).2.1 = Res.diverge := by
  intro f
  induction f with
  | zero => intros; rfl
  | succ f ih =>
    intro s old e inv hm hdir hleaf
    have hne : old ≠ c :: old := (List.cons_ne_self c old).symm
    have habs : ∀ y, (c :: old, y) ∉ s.ents := fun y hy => hleaf _ hy (pd_child c old)
    rcases create_target inv e habs (List.cons_ne_nil c old) (Or.inr ⟨e, hm, hdir⟩) with ⟨s1, hcreate, inv1, mem1⟩
    have hself : (c :: old, strip e) ∈ s1.ents := (mem1 _).mpr (Or.inl rfl)
    -- the child just created is the only thing below `old`, and nothing is below the child
    have hmem : ∀ x ∈ s1.ents, PD old x.1 → x = (c :: old, strip e) :=
      fun x hx hpd => ((mem1 x).mp hx).resolve_right fun h => hleaf x h hpd
    have hrec := ih s1 (c :: old) (strip e) inv1 hself hdir fun x hx hpd =>
      hpd.2 (by rw [hmem x hx (pd_of_cons hpd)])
    have hkids : ∃ t, children s1 old = (c, strip e) :: t := by
      cases hk : children s1 old with
      | nil =>
        exact absurd hk (List.ne_nil_of_mem (mem_children.mpr hself))
      | cons it t =>
        have := hmem _ (mem_children.mp (hk ▸ List.mem_cons_self)) (pd_child it.1 old)
        simp only [Prod.mk.injEq, List.cons.injEq, and_true] at this
        exact ⟨t, by rw [← this.1, ← this.2]⟩
    rcases hkids with ⟨t, hkids⟩
    rw [moveEntry_succ, if_neg hne, hcreate]
    simp only [hdir, if_true, hkids, List.foldl_cons, moveStep]
    generalize moveEntry f s1 (c :: old) (strip e) (c :: c :: old) = m at hrec
    rcases m with ⟨sb, rb, qb⟩
    cases hrec
    dsimp only
    rw [foldl_moveStep_stuck (r := .diverge) (by decide)]

/-- `specRename` with the moved entries' link identity dropped (moveSelfEntry creates the target from the LISTED copy with
    HardLinkId cleared); equal to `specRename` when no entry of the subtree carries a link id or a link counter -/
def specRenameStrip (l : List (RPath × Entry)) (src dst : RPath) : List (RPath × Entry) :=
  l.map fun x => if under src x.1 then (reroot src dst x.1, strip x.2) else x

theorem mem_specRenameStrip {l : List (RPath × Entry)} {src dst : RPath} {x : RPath × Entry} :
    x ∈ specRenameStrip l src dst ↔
      (x ∈ l ∧ ¬ src <:+ x.1) ∨ (∃ y ∈ l, src <:+ y.1 ∧ x = (reroot src dst y.1, strip y.2)) := by
  simp only [specRenameStrip, under, List.mem_map, List.isSuffixOf_iff_suffix]
  constructor
  · rintro ⟨y, hy, rfl⟩
    by_cases hu : src <:+ y.1
    · exact Or.inr ⟨y, hy, hu, by rw [if_pos hu]⟩
    · exact Or.inl (by rw [if_neg hu]; exact ⟨hy, hu⟩)
  · rintro (⟨hx, hu⟩ | ⟨y, hy, hu, rfl⟩)
    · exact ⟨x, hx, if_neg hu⟩
    · exact ⟨y, hy, if_pos hu⟩

theorem specRenameStrip_eq_specRename {l : List (RPath × Entry)} {src dst : RPath}
    (h : ∀ x ∈ l, src <:+ x.1 → x.2.hl = 0 ∧ x.2.cnt = 0) : specRenameStrip l src dst = specRename l src dst := by
  unfold specRenameStrip specRename
  apply List.map_congr_left
  intro x hx
  by_cases hu : under src x.1 = true
  · rw [if_pos hu, if_pos hu]
    have := h x hx (List.isSuffixOf_iff_suffix.mp hu)
    rcases x with ⟨p, e⟩
    rcases e with ⟨a, b, c, d, g⟩
    simp only at this
    simp [strip, this.1, this.2]
  · rw [if_neg hu, if_neg hu]

end SwV.Lemmas.C18
