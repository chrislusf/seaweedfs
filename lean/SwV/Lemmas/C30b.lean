/-
C30 lemmas, part 2: the operations.

AddInterval in two steps: the first loop keeps of every list what sticks out of the new node, the second links the node
to the lists it touches (the fast path for a single list is a shortcut to the same result); invariant and bytes do not
depend on the order of the lists, so the cases of the second step (`joined_spec`) are stated up to permutation.
RemoveLargestIntervalLinkedList takes a list of maximal size out of the buffer (`lfold`: its scan).  ReadDataAt delivers
the dirty bytes of its window.  A buffer alone is compared with POSIX through `Tracks`, which every "last write wins"
step keeps.  The stored entry is read through C17's chunk resolution.  The open file carries `PInv`: the state against
the POSIX file, with the positions a saver under way has saved (`SInv`: no saver under way); every saver is `pinv_push`
(one more chunk) for each upload, followed by `pinv_finish` (drop the saved lists).
-/
import SwV.Lemmas.C30
import SwV.Spec.C30
import SwV.Props.C17
namespace SwV.Lemmas.C30
open SwV.Model.C30 SwV.Spec.C30

variable {tk : Bool} {temp : List Nat}

/-- the list lies left or right of the node and may touch it: what the first loop leaves of every list -/
def Sep (n : Node) (l : LList) : Prop := tailStop l ≤ n.off ∨ n.off + n.size ≤ headOff l

theorem keepParts_eq (n : Node) (l : LList) : keepParts n l =
    (if tailStop l ≤ n.off then [l] else []) ++ (if n.off + n.size ≤ headOff l then [l] else []) ++
    (if headOff l < n.off ∧ n.off < tailStop l then [subList l (headOff l) n.off] else []) ++
    (if headOff l < n.off + n.size ∧ n.off + n.size < tailStop l then [subList l (n.off + n.size) (tailStop l)] else []) := rfl

theorem keepParts_out {n : Node} {l : LList} (hlt : headOff l < tailStop l) (h : Sep n l) :
    keepParts n l = [l] := by
  rw [keepParts_eq]
  rcases h with h | h
  · rw [if_pos h, if_neg (by omega), if_neg (by omega), if_neg (by omega)]; rfl
  · rw [if_neg (by omega), if_pos h, if_neg (by omega), if_neg (by omega)]; rfl

/-- what `keepParts` keeps of a list on one side of a node that reaches into it: the part in `[lo, hi)`, if there is one -/
def sidePart (l : LList) (lo hi : Nat) : List LList := if lo < hi then [subList l lo hi] else []

theorem keepParts_in {n : Node} {l : LList} (h1 : n.off < tailStop l) (h2 : headOff l < n.off + n.size) :
    keepParts n l = sidePart l (headOff l) n.off ++ sidePart l (n.off + n.size) (tailStop l) := by
  rw [keepParts_eq, if_neg (Nat.not_le_of_lt h1), if_neg (Nat.not_le_of_lt h2)]
  simp only [sidePart, List.nil_append, h1, h2, and_true, true_and]

theorem sidePart_spec {l : LList} (hl : ListOk tk temp l) {lo hi : Nat} (h1 : headOff l ≤ lo) (h2 : hi ≤ tailStop l) :
    (∀ k ∈ sidePart l lo hi, ListOk tk temp k ∧ headOff k = lo ∧ tailStop k = hi) ∧
    (sidePart l lo hi).Pairwise Gap ∧
    ∀ p b, Has tk temp (sidePart l lo hi) p b ↔ lo ≤ p ∧ p < hi ∧ LHas tk temp l p b := by
  unfold sidePart
  by_cases h : lo < hi
  · simp only [if_pos h, List.mem_singleton, forall_eq, has_singleton, lhas_subList, List.pairwise_singleton,
      implies_true, and_true]
    exact subList_ok_inside hl h1 h2 h
  · simp only [if_neg h, List.not_mem_nil, has_nil, false_imp_iff, implies_true, List.Pairwise.nil, true_and,
      false_iff]
    exact fun p b hp => h (Nat.lt_of_le_of_lt hp.1 hp.2.1)

theorem keepParts_spec {n : Node} {l : LList} (hn : 0 < n.size) (hl : ListOk tk temp l) :
    (∀ k ∈ keepParts n l, ListOk tk temp k ∧ Sep n k ∧ headOff l ≤ headOff k ∧ tailStop k ≤ tailStop l) ∧
    (keepParts n l).Pairwise Gap ∧
    (∀ p b, Has tk temp (keepParts n l) p b ↔ ¬ (n.off ≤ p ∧ p < n.off + n.size) ∧ LHas tk temp l p b) := by
  have hlt := hl.lt
  by_cases hs : Sep n l
  · rw [keepParts_out hlt hs]
    refine ⟨List.forall_mem_singleton.2 ⟨hl, hs, Nat.le_refl _, Nat.le_refl _⟩, List.pairwise_singleton _ _, ?_⟩
    intro p b
    rw [has_singleton]
    refine ⟨fun h => ⟨fun hc => ?_, h⟩, fun h => h.2⟩
    have := lhas_range hl h
    exact hs.elim (fun h' => Nat.not_le.2 (Nat.lt_of_le_of_lt hc.1 this.2) h')
      (fun h' => Nat.not_le.2 (Nat.lt_of_lt_of_le hc.2 h') this.1)
  · have h1 : n.off < tailStop l := Nat.lt_of_not_le fun h => hs (Or.inl h)
    have h2 : headOff l < n.off + n.size := Nat.lt_of_not_le fun h => hs (Or.inr h)
    obtain ⟨L1, L2, L3⟩ := sidePart_spec hl (Nat.le_refl _) (Nat.le_of_lt h1)
    obtain ⟨R1, R2, R3⟩ := sidePart_spec hl (Nat.le_of_lt h2) (Nat.le_refl _)
    rw [keepParts_in h1 h2]
    refine ⟨fun k hk => ?_, List.pairwise_append.2 ⟨L2, R2, fun a ha c hc => ?_⟩, fun p b => ?_⟩
    · rcases List.mem_append.1 hk with hk | hk
      · obtain ⟨a1, a2, a3⟩ := L1 k hk
        exact ⟨a1, Or.inl (Nat.le_of_eq a3), Nat.le_of_eq a2.symm, Nat.le_trans (Nat.le_of_eq a3) (Nat.le_of_lt h1)⟩
      · obtain ⟨a1, a2, a3⟩ := R1 k hk
        exact ⟨a1, Or.inr (Nat.le_of_eq a2.symm), Nat.le_trans (Nat.le_of_lt h2) (Nat.le_of_eq a2.symm), Nat.le_of_eq a3⟩
    · unfold Gap
      rw [(L1 a ha).2.2, (R1 c hc).2.1]
      exact Or.inl (Nat.lt_add_of_pos_right hn)
    · rw [has_append, L3, R3]
      constructor
      · rintro (⟨_, h3, hh⟩ | ⟨h3, _, hh⟩)
        · exact ⟨fun hc => Nat.not_le.2 h3 hc.1, hh⟩
        · exact ⟨fun hc => Nat.not_le.2 hc.2 h3, hh⟩
      · rintro ⟨hnp, hh⟩
        have hr := lhas_range hl hh
        by_cases hp : p < n.off
        · exact Or.inl ⟨hr.1, hp, hh⟩
        · exact Or.inr ⟨Nat.le_of_not_lt fun h => hnp ⟨Nat.le_of_not_lt hp, h⟩, hr.2, hh⟩

/-- the first loop of AddInterval -/
theorem addInterval_cut {n : Node} (hn : 0 < n.size) : ∀ (lists : List LList), LInv tk temp lists →
    LInv tk temp (lists.flatMap (keepParts n)) ∧
    (∀ k ∈ lists.flatMap (keepParts n), Sep n k ∧ ∃ l ∈ lists, headOff l ≤ headOff k ∧ tailStop k ≤ tailStop l) ∧
    (∀ p b, Has tk temp (lists.flatMap (keepParts n)) p b ↔
      ¬ (n.off ≤ p ∧ p < n.off + n.size) ∧ Has tk temp lists p b)
  | [], _ => by
    refine ⟨linv_nil, List.forall_mem_nil _, ?_⟩
    intro p b
    simp [has_nil]
  | l :: ls, h => by
    obtain ⟨hl, hg, hls⟩ := linv_cons.1 h
    obtain ⟨i1, i2, i3⟩ := addInterval_cut hn ls hls
    obtain ⟨k1, k2, k3⟩ := keepParts_spec (n := n) hn hl
    rw [List.flatMap_cons]
    refine ⟨⟨?_, ?_⟩, ?_, ?_⟩
    · exact List.forall_mem_append.2 ⟨fun k hk => (k1 k hk).1, i1.1⟩
    · rw [List.pairwise_append]
      refine ⟨k2, i1.2, ?_⟩
      intro a ha b hb
      obtain ⟨_, l', hl', c1, c2⟩ := i2 b hb
      obtain ⟨_, _, d1, d2⟩ := k1 a ha
      -- the parts lie inside their lists, which keep a gap
      exact (hg l' hl').imp (fun h => Nat.lt_of_le_of_lt d2 (Nat.lt_of_lt_of_le h c1))
        (fun h => Nat.lt_of_le_of_lt c2 (Nat.lt_of_lt_of_le h d1))
    · intro k hk
      rcases List.mem_append.1 hk with hk | hk
      · obtain ⟨_, d0, d1, d2⟩ := k1 k hk
        exact ⟨d0, l, List.mem_cons_self, d1, d2⟩
      · obtain ⟨d0, l', hl', c1, c2⟩ := i2 k hk
        exact ⟨d0, l', List.mem_cons_of_mem _ hl', c1, c2⟩
    · intro p b
      rw [has_append, i3, has_cons, k3, and_or_left]

theorem removeByOffset_spec (L : List LList) (o : Nat) :
    (removeByOffset L o = L ∧ ∀ l ∈ L, headOff l ≠ o) ∨
    ∃ k, ∃ h : k < L.length, headOff L[k] = o ∧ removeByOffset L o = L.eraseIdx k := by
  unfold removeByOffset
  cases hg : ((List.range L.length).filter fun k => headOff (L.getD k []) == o).getLast? with
  | none =>
    left
    refine ⟨rfl, ?_⟩
    refine List.forall_mem_iff_forall_getElem.2 fun i hi => ?_
    have := List.getLast?_eq_none_iff.1 hg
    have := List.filter_eq_nil_iff.1 this i (List.mem_range.2 hi)
    rw [← List.getElem_eq_getD (h := hi)] at this
    simpa using this
  | some k =>
    right
    have hm := List.mem_of_getLast? hg
    obtain ⟨h1, h2⟩ := List.mem_filter.1 hm
    have hk := List.mem_range.1 h1
    refine ⟨k, hk, ?_, rfl⟩
    rw [← List.getElem_eq_getD (h := hk)] at h2
    exact eq_of_beq h2

/-- where exactly one list starts at the offset, removeList drops that list -/
theorem removeByOffset_perm {L : List LList} {x : LList} {o : Nat} (hx : x ∈ L) (hxo : headOff x = o)
    (huniq : ∀ y ∈ L, headOff y = o → y = x) : (removeByOffset L o).Perm (L.erase x) := by
  rcases removeByOffset_spec L o with ⟨_, hno⟩ | ⟨k, hk, hkh, hke⟩
  · exact absurd hxo (hno x hx)
  · have hX := eraseIdx_perm L k hk
    rw [huniq _ (List.getElem_mem hk) hkh] at hX
    rw [hke]
    exact (hX.symm.trans (List.perm_cons_erase hx)).cons_inv

/-- AddInterval behind its first loop (the two searches, then the linking): `addGeneral` behind its
    `flatMap (keepParts n)` -/
def link (tk : Bool) (nl : List LList) (n : Node) : List LList :=
  match nl.findIdx? (fun l => headOff l + lsize l == n.off), nl.findIdx? (fun l => headOff l == n.off + n.size) with
  | some p, some q => removeByOffset (nl.set p (addToTail tk (nl.getD p []) n ++ nl.getD q [])) (n.off + n.size)
  | some p, none => nl.set p (addToTail tk (nl.getD p []) n)
  | none, some q => nl.set q (n :: nl.getD q [])
  | none, none => nl ++ [[n]]

theorem addGeneral_eq (tk : Bool) (lists : List LList) (n : Node) :
    addGeneral tk lists n = link tk (lists.flatMap (keepParts n)) n := rfl

theorem find_none {nl : List LList} {g : LList → Nat} {o : Nat}
    (hf : nl.findIdx? (fun l => g l == o) = none) : ∀ l ∈ nl, g l ≠ o := by
  intro l hl
  have := List.findIdx?_eq_none_iff.1 hf l hl
  exact beq_eq_false_iff_ne.1 this

theorem find_some {nl : List LList} {g : LList → Nat} {o : Nat} {i : Nat}
    (hf : nl.findIdx? (fun l => g l == o) = some i) : ∃ hi : i < nl.length, g nl[i] = o := by
  obtain ⟨hi, hp, _⟩ := List.findIdx?_eq_some_iff_getElem.1 hf
  exact ⟨hi, eq_of_beq hp⟩

theorem find_prev_none {nl : List LList} {n : Node} (h : LInv tk temp nl)
    (hf : nl.findIdx? (fun l => headOff l + lsize l == n.off) = none) : ∀ l ∈ nl, tailStop l ≠ n.off := by
  intro l hl
  have := find_none hf l hl
  rwa [(h.1 l hl).lsize] at this

theorem find_prev_some {nl : List LList} {n : Node} (h : LInv tk temp nl) {i : Nat}
    (hf : nl.findIdx? (fun l => headOff l + lsize l == n.off) = some i) : ∃ hi : i < nl.length, tailStop nl[i] = n.off := by
  obtain ⟨hi, hp⟩ := find_some hf
  rw [(h.1 _ (List.getElem_mem hi)).lsize] at hp
  exact ⟨hi, hp⟩

/-- the lists `used` of a buffer that lies clear of the node replaced by one list `M` holding their bytes and the
    node's.  `M` has to reach from the head of the list that ends at the node (from the node, if no list ends there)
    to the stop of the list that starts at the node's stop (to that stop, if none starts there): then the lists left
    over, each of which lies left or right of the node, keep their gap to `M`. -/
theorem joined_spec {n : Node} {nl used rest L : List LList} {M : LList} (h : LInv tk temp nl)
    (hsep : ∀ k ∈ nl, Sep n k) (hperm : nl.Perm (used ++ rest)) (hL : L.Perm (M :: rest)) (hM : ListOk tk temp M)
    (hprev : (headOff M = n.off ∧ ∀ e ∈ nl, tailStop e ≠ n.off) ∨
      ∃ P ∈ used, tailStop P = n.off ∧ headOff M = headOff P)
    (hnext : (tailStop M = n.off + n.size ∧ ∀ e ∈ nl, headOff e ≠ n.off + n.size) ∨
      ∃ Q ∈ used, headOff Q = n.off + n.size ∧ tailStop M = tailStop Q)
    (hbytes : ∀ p b, LHas tk temp M p b ↔ LHas tk temp [n] p b ∨ Has tk temp used p b) :
    LInv tk temp L ∧ ∀ p b, Has tk temp L p b ↔ LHas tk temp [n] p b ∨ Has tk temp nl p b := by
  have h' := linv_perm hperm h
  have hpw := List.pairwise_append.1 h'.2
  refine ⟨linv_perm hL.symm (linv_cons.2 ⟨hM, fun e he => ?_, fun l hl => h'.1 l (List.mem_append_right _ hl), hpw.2.1⟩),
    fun p b => by rw [has_perm hL, has_cons, hbytes, has_perm hperm, has_append, or_assoc]⟩
  have hemem : e ∈ nl := hperm.mem_iff.2 (List.mem_append_right _ he)
  have helt := (h.1 e hemem).lt
  refine (hsep e hemem).elim (fun hle => Or.inr ?_) (fun hle => Or.inl ?_)
  · rcases hprev with ⟨e1, hnp⟩ | ⟨P, hP, htail, e1⟩
    · rw [e1]; exact Nat.lt_of_le_of_ne hle (hnp e hemem)
    · rw [e1]
      have := hpw.2.2 P hP e he
      omega
  · rcases hnext with ⟨e1, hnn⟩ | ⟨Q, hQ, hhead, e1⟩
    · rw [e1]; exact Nat.lt_of_le_of_ne hle (hnn e hemem).symm
    · rw [e1]
      have := hpw.2.2 Q hQ e he
      omega

/-- previous list `nl[i]` and next list `Q` taken out of the buffer; with the joined list `M` put in the place of the
    previous one, removeList finds `Q` only: `M` does not start at the offset (in `addInterval_link` it starts where
    the previous list started) -/
theorem removeByOffset_set {nl : List LList} {i : Nat} (hi : i < nl.length) {M Q : LList} {o : Nat}
    (hM : headOff M ≠ o) (hQ : Q ∈ nl) (hne : Q ≠ nl[i]) (hQo : headOff Q = o)
    (huniq : ∀ y ∈ nl, headOff y = o → y = Q) :
    nl.Perm ([nl[i], Q] ++ (nl.eraseIdx i).erase Q) ∧
    (removeByOffset (nl.set i M) o).Perm (M :: (nl.eraseIdx i).erase Q) := by
  have hperm1 := eraseIdx_perm nl i hi
  have hQE : Q ∈ nl.eraseIdx i := (List.mem_cons.1 (hperm1.mem_iff.1 hQ)).resolve_left hne
  have hpermL := set_perm nl i M hi
  refine ⟨hperm1.trans ((List.perm_cons_erase hQE).cons _), ?_⟩
  refine (removeByOffset_perm (hpermL.mem_iff.2 (List.mem_cons_of_mem _ hQE)) hQo fun y hy hyo => ?_).trans ?_
  · rcases List.mem_cons.1 (hpermL.mem_iff.1 hy) with rfl | h1
    · exact absurd hyo hM
    · exact huniq y (hperm1.mem_iff.2 (List.mem_cons_of_mem _ h1)) hyo
  · have hMQ : M ≠ Q := fun he => hM ((congrArg headOff he).trans hQo)
    have := hpermL.erase Q
    rwa [List.erase_cons_tail (by simpa using hMQ)] at this

theorem addInterval_link {n : Node} (hn : NodeOk tk temp n) {nl : List LList}
    (h : LInv tk temp nl) (hsep : ∀ k ∈ nl, Sep n k) :
    LInv tk temp (link tk nl n) ∧
    ∀ p b, Has tk temp (link tk nl n) p b ↔ LHas tk temp [n] p b ∨ Has tk temp nl p b := by
  -- by what the two searches find; every case is `joined_spec` with `used` the lists found
  unfold link
  cases hpi : nl.findIdx? (fun l => headOff l + lsize l == n.off) with
  | none =>
    have hnp := find_prev_none h hpi
    cases hni : nl.findIdx? (fun l => headOff l == n.off + n.size) with
    | none =>
      exact joined_spec h hsep (used := []) (List.Perm.refl _) (List.perm_append_singleton _ _) (listOk_singleton hn)
        (Or.inl ⟨rfl, hnp⟩) (Or.inl ⟨rfl, find_none hni⟩) fun p b => (or_iff_left (has_nil tk temp p b)).symm
    | some q =>
      obtain ⟨hq, hhead⟩ := find_some hni
      simp only
      rw [← List.getElem_eq_getD (h := hq)]
      have hM := listOk_cons hn (h.1 _ (List.getElem_mem hq)) hhead.symm
      exact joined_spec h hsep (used := [nl[q]]) (eraseIdx_perm nl q hq) (set_perm nl q _ hq) hM.1
        (Or.inl ⟨hM.2.1, hnp⟩) (Or.inr ⟨_, List.mem_singleton_self _, hhead, hM.2.2⟩) fun p b => by
          rw [has_singleton]; exact lhas_append tk temp [n] nl[q] p b
  | some i =>
    obtain ⟨hi, htail⟩ := find_prev_some h hpi
    have hprev_ok := h.1 _ (List.getElem_mem hi)
    obtain ⟨t1, t2, t3, t4⟩ := addToTail_spec hprev_ok hn htail
    cases hni : nl.findIdx? (fun l => headOff l == n.off + n.size) with
    | none =>
      simp only
      rw [← List.getElem_eq_getD (h := hi)]
      exact joined_spec h hsep (used := [nl[i]]) (eraseIdx_perm nl i hi) (set_perm nl i _ hi) t1
        (Or.inr ⟨_, List.mem_singleton_self _, htail, t2⟩) (Or.inl ⟨t3, find_none hni⟩) fun p b => by
          rw [has_singleton, t4]; exact or_comm
    | some j =>
      obtain ⟨hj, hhead⟩ := find_some hni
      simp only
      rw [← List.getElem_eq_getD (h := hi), ← List.getElem_eq_getD (h := hj)]
      have hnext_ok := h.1 _ (List.getElem_mem hj)
      have hM := listOk_append t1 hnext_ok (t3.trans hhead.symm)
      -- the joined list starts where the previous list started, and the next list is not the previous one: it starts
      -- where that one has long stopped
      have hplt := hprev_ok.lt
      have hMhead : headOff (addToTail tk nl[i] n ++ nl[j]) ≠ n.off + n.size := by rw [hM.2.1, t2]; omega
      have hne : nl[j] ≠ nl[i] := fun he => by rw [he] at hhead; omega
      obtain ⟨q1, q2⟩ := removeByOffset_set hi hMhead (List.getElem_mem hj) hne hhead fun y hy hyo =>
        linv_head_unique h hy (List.getElem_mem hj) (hyo.trans hhead.symm)
      exact joined_spec h hsep (used := [nl[i], nl[j]]) q1 q2
        hM.1 (Or.inr ⟨_, List.mem_cons_self, htail, hM.2.1.trans t2⟩)
        (Or.inr ⟨_, List.mem_cons_of_mem _ (List.mem_singleton_self _), hhead, hM.2.2⟩) fun p b => by
          rw [lhas_append, t4, has_cons, has_singleton, or_comm (a := LHas tk temp nl[i] p b), or_assoc]

/-- the fast path of AddInterval (a single list, which stops where the node starts) is a shortcut: the general path
    keeps that list whole, finds it as the previous list and no next one -/
theorem addInterval_eq_general {n : Node} {lists : List LList} (h : LInv tk temp lists) :
    addInterval tk lists n = addGeneral tk lists n := by
  unfold addInterval
  split
  · rename_i l
    by_cases ht : tailStop l = n.off
    · have hl := h.1 l (List.mem_singleton_self l)
      have hlt := hl.lt
      have e1 : [l].findIdx? (fun l => headOff l + lsize l == n.off) = some 0 := by
        rw [List.findIdx?_cons, hl.lsize, ht, beq_self_eq_true, if_pos rfl]
      have e2 : [l].findIdx? (fun l => headOff l == n.off + n.size) = none :=
        List.findIdx?_eq_none_iff.2 fun x hx => by
          rw [List.mem_singleton.1 hx, beq_eq_false_iff_ne]
          omega
      rw [if_pos ht, addGeneral_eq, List.flatMap_singleton, keepParts_out hlt (Or.inl (Nat.le_of_eq ht))]
      unfold link
      rw [e1, e2]
      rfl
    · rw [if_neg ht]
  · rfl

/-- AddInterval keeps the invariant and is "last write wins" on bytes -/
theorem addInterval_spec {n : Node} (hn : NodeOk tk temp n) (lists : List LList)
    (h : LInv tk temp lists) :
    LInv tk temp (addInterval tk lists n) ∧
    ∀ p b, Has tk temp (addInterval tk lists n) p b ↔
      LHas tk temp [n] p b ∨ (¬ (n.off ≤ p ∧ p < n.off + n.size) ∧ Has tk temp lists p b) := by
  rw [addInterval_eq_general h, addGeneral_eq]
  obtain ⟨i1, i2, i3⟩ := addInterval_cut (n := n) hn.1 lists h
  obtain ⟨j1, j2⟩ := addInterval_link hn i1 (fun k hk => (i2 k hk).1)
  exact ⟨j1, fun p b => by rw [j2, i3]⟩

/-- the scan of `largestIdx` over the first `m` lists -/
def lfold (lists : List LList) (m : Nat) : Nat × Option Nat :=
  (List.range m).foldl (fun (acc : Nat × Option Nat) k =>
      if acc.1 ≤ lsize (lists.getD k []) then (lsize (lists.getD k []), some k) else acc) (0, none)

theorem lfold_succ (lists : List LList) (m : Nat) : lfold lists (m + 1) =
    if (lfold lists m).1 ≤ lsize (lists.getD m []) then (lsize (lists.getD m []), some m) else lfold lists m := by
  unfold lfold
  rw [List.range_succ, List.foldl_append]
  rfl

theorem largestIdx_eq (lists : List LList) : largestIdx lists =
    if (lfold lists lists.length).1 = 0 then none else (lfold lists lists.length).2 := rfl

theorem lfold_spec (lists : List LList) : ∀ (m : Nat),
    (∀ k, k < m → lsize (lists.getD k []) ≤ (lfold lists m).1) ∧ ((lfold lists m).2 = none → (lfold lists m).1 = 0) ∧
    (∀ k, (lfold lists m).2 = some k → k < m ∧ lsize (lists.getD k []) = (lfold lists m).1)
  | 0 => by simp [lfold]
  | m + 1 => by
    obtain ⟨i1, i2, i3⟩ := lfold_spec lists m
    rw [lfold_succ]
    by_cases hc : (lfold lists m).1 ≤ lsize (lists.getD m [])
    · rw [if_pos hc]
      refine ⟨Nat.forall_lt_succ_right.2 ⟨fun k hk => Nat.le_trans (i1 k hk) hc, Nat.le_refl _⟩, by simp, ?_⟩
      intro k hk
      simp only [Option.some.injEq] at hk
      subst hk
      exact ⟨Nat.lt_succ_self _, rfl⟩
    · rw [if_neg hc]
      refine ⟨Nat.forall_lt_succ_right.2 ⟨i1, Nat.le_of_not_le hc⟩, i2, ?_⟩
      intro k hk
      have := i3 k hk
      exact ⟨Nat.lt_succ_of_lt this.1, this.2⟩

theorem largestIdx_none {lists : List LList} (h : largestIdx lists = none) : ∀ l ∈ lists, lsize l = 0 := by
  obtain ⟨i1, i2, _⟩ := lfold_spec lists lists.length
  rw [largestIdx_eq] at h
  have h0 : (lfold lists lists.length).1 = 0 :=
    Decidable.byContradiction fun hc => hc (i2 (by rwa [if_neg hc] at h))
  refine List.forall_mem_iff_forall_getElem.2 fun k hk => ?_
  have := i1 k hk
  rw [← List.getElem_eq_getD (h := hk), h0] at this
  exact Nat.le_zero.1 this

theorem largestIdx_some (lists : List LList) (k : Nat) (h : largestIdx lists = some k) :
    ∃ hk : k < lists.length, ∀ l ∈ lists, lsize l ≤ lsize lists[k] := by
  obtain ⟨i1, i2, i3⟩ := lfold_spec lists lists.length
  rw [largestIdx_eq] at h
  by_cases hc : (lfold lists lists.length).1 = 0
  · rw [if_pos hc] at h; cases h
  · rw [if_neg hc] at h
    obtain ⟨hk, he⟩ := i3 k h
    refine ⟨hk, ?_⟩
    refine List.forall_mem_iff_forall_getElem.2 fun j hj => ?_
    have := i1 j hj
    rw [← List.getElem_eq_getD (h := hj)] at this
    rw [← List.getElem_eq_getD (h := hk)] at he
    omega

theorem removeLargest_spec {lists : List LList} (h : LInv tk temp lists) {l : LList}
    {rest : List LList} (hr : removeLargest lists = some (l, rest)) :
    ListOk tk temp l ∧ LInv tk temp rest ∧ lists.Perm (l :: rest) ∧ (∀ l' ∈ rest, lsize l' ≤ lsize l) := by
  unfold removeLargest at hr
  cases hk : largestIdx lists with
  | none => rw [hk] at hr; cases hr
  | some k =>
    rw [hk] at hr
    obtain ⟨hlt, hmax⟩ := largestIdx_some lists k hk
    simp only [Option.some.injEq, Prod.mk.injEq] at hr
    rw [← List.getElem_eq_getD (h := hlt)] at hr
    obtain ⟨rfl, rfl⟩ := hr
    have hperm := eraseIdx_perm lists k hlt
    have hinv := linv_perm hperm h
    obtain ⟨a1, _, a3⟩ := linv_cons.1 hinv
    exact ⟨a1, a3, hperm, fun l' hl' => hmax l' (hperm.mem_iff.2 (List.mem_cons_of_mem _ hl'))⟩

theorem removeLargest_none_iff {lists : List LList} (h : LInv tk temp lists) :
    removeLargest lists = none ↔ lists = [] := by
  refine ⟨fun h0 => ?_, fun h0 => h0 ▸ rfl⟩
  have h1 : largestIdx lists = none := by
    unfold removeLargest at h0
    cases hk : largestIdx lists with
    | none => rfl
    | some k => rw [hk] at h0; cases h0
  cases lists with
  | nil => rfl
  | cons l ls =>
    have := largestIdx_none h1 l List.mem_cons_self
    have hl := h.1 l List.mem_cons_self
    have := hl.lsize
    have := hl.lt
    omega

/-- a middle part of a list replaced by a list of the same length: `writeAt` into a buffer, `pwrite` into the padded file -/
theorem splice_length {α : Type} {a m : List α} {k : Nat} (h : k + m.length ≤ a.length) :
    (a.take k ++ m ++ a.drop (k + m.length)).length = a.length := by
  rw [List.length_append, List.length_append, List.length_take, List.length_drop]
  omega

theorem splice_getElem? {α : Type} {a m : List α} {k : Nat} (h : k + m.length ≤ a.length) (i : Nat) :
    (a.take k ++ m ++ a.drop (k + m.length))[i]? = if k ≤ i ∧ i < k + m.length then m[i - k]? else a[i]? := by
  have hk : (a.take k).length = k := List.length_take_of_le (Nat.le_trans (Nat.le_add_right ..) h)
  have hkm : (a.take k ++ m).length = k + m.length := by rw [List.length_append, hk]
  by_cases h1 : i < k
  · rw [if_neg fun hc => Nat.not_le.2 h1 hc.1, List.append_assoc, List.getElem?_append_left (hk.symm ▸ h1),
      List.getElem?_take, if_pos h1]
  · by_cases h2 : i < k + m.length
    · rw [if_pos ⟨Nat.le_of_not_lt h1, h2⟩, List.getElem?_append_left (hkm.symm ▸ h2),
        List.getElem?_append_right (hk.symm ▸ Nat.le_of_not_lt h1), hk]
    · rw [if_neg fun hc => h2 hc.2, List.getElem?_append_right (hkm.symm ▸ Nat.le_of_not_lt h2), hkm,
        List.getElem?_drop, Nat.add_sub_of_le (Nat.le_of_not_lt h2)]

theorem writeAt_eq {buf : List (Option Nat)} {pos : Nat} {bs : List Nat} (hfit : pos + bs.length ≤ buf.length) :
    writeAt buf pos bs = buf.take pos ++ bs.map some ++ buf.drop (pos + (bs.map some).length) := by
  have e : (bs.map some).take (buf.length - pos) = bs.map some :=
    List.take_of_length_le (by rw [List.length_map]; omega)
  unfold writeAt
  rw [e, List.length_map]

theorem writeAt_length {buf : List (Option Nat)} {pos : Nat} {bs : List Nat} (hfit : pos + bs.length ≤ buf.length) :
    (writeAt buf pos bs).length = buf.length := by
  rw [writeAt_eq hfit, splice_length (by rw [List.length_map]; exact hfit)]

theorem writeAt_getElem? {buf : List (Option Nat)} {pos : Nat} {bs : List Nat} (hfit : pos + bs.length ≤ buf.length)
    (i : Nat) : (writeAt buf pos bs)[i]? = if pos ≤ i ∧ i < pos + bs.length then (bs[i - pos]?).map some else buf[i]? := by
  rw [writeAt_eq hfit, splice_getElem? (by rw [List.length_map]; exact hfit), List.length_map,
    List.getElem?_map]

/-- `writeAt` into a buffer that stands for the positions from `off` on, in terms of positions -/
theorem writeAt_window (b : List (Option Nat)) {off s : Nat} (seg : List Nat) (hs : off ≤ s)
    (hfit : s + seg.length ≤ off + b.length) :
    (writeAt b (s - off) seg).length = b.length ∧
    ∀ i, (writeAt b (s - off) seg)[i]? =
      if s ≤ off + i ∧ off + i < s + seg.length then (seg[off + i - s]?).map some else b[i]? := by
  obtain ⟨k, rfl⟩ := Nat.exists_eq_add_of_le hs
  rw [Nat.add_sub_cancel_left]
  have hfit' : k + seg.length ≤ b.length := by omega
  refine ⟨writeAt_length hfit', fun i => ?_⟩
  rw [writeAt_getElem? hfit', Nat.add_assoc, Nat.add_sub_add_left]
  simp only [Nat.add_le_add_iff_left, Nat.add_lt_add_iff_left]

/-- one node of ReadData -/
def nstep (tk : Bool) (temp : List Nat) (start stop base : Nat) (b : List (Option Nat)) (t : Node) : List (Option Nat) :=
  if max start t.off < min stop (t.off + t.size) then
    writeAt b (max start t.off - base)
      (((nodeBytes tk temp t).drop (max start t.off - t.off)).take (min stop (t.off + t.size) - max start t.off))
  else b

theorem readList_eq (tk : Bool) (temp : List Nat) (l : LList) (start stop base : Nat) (buf : List (Option Nat)) :
    readList tk temp l start stop base buf = l.foldl (nstep tk temp start stop base) buf := rfl

theorem nstep_spec {t : Node} (ht : NodeOk tk temp t) {off len start stop : Nat}
    (h1 : off ≤ start) (h2 : stop ≤ off + len) {b : List (Option Nat)} (hb : b.length = len) :
    (nstep tk temp start stop off b t).length = len ∧
    ∀ i, (nstep tk temp start stop off b t)[i]? =
      if (start ≤ off + i ∧ off + i < stop) ∧ t.off ≤ off + i ∧ off + i < t.off + t.size then
        some (some (nodeByte tk temp t (off + i)))
      else b[i]? := by
  unfold nstep
  -- the node cut to the window: `[s, e)`, inside the node and inside the buffer
  obtain ⟨s, hs⟩ : ∃ s, s = max start t.off := ⟨_, rfl⟩
  obtain ⟨e, he⟩ : ∃ e, e = min stop (t.off + t.size) := ⟨_, rfl⟩
  rw [← hs, ← he]
  have hcov : ∀ q, (start ≤ q ∧ q < stop) ∧ t.off ≤ q ∧ q < t.off + t.size ↔ s ≤ q ∧ q < e := fun q => by
    rw [hs, he, Nat.max_le, Nat.lt_min, and_and_and_comm]
  simp only [hcov]
  have hs1 : t.off ≤ s := hs ▸ Nat.le_max_right ..
  have hs2 : off ≤ s := Nat.le_trans h1 (hs ▸ Nat.le_max_left ..)
  have he1 : e ≤ t.off + t.size := he ▸ Nat.min_le_right ..
  have he2 : e ≤ off + len := Nat.le_trans (he ▸ Nat.min_le_left ..) h2
  clear hs he hcov
  by_cases hc : s < e
  · rw [if_pos hc]
    obtain ⟨g1, g2⟩ := nodeBytes_seg ht hs1 he1
    generalize ((nodeBytes tk temp t).drop (s - t.off)).take (e - s) = seg at g1 g2
    have hse : s + seg.length = e := by rw [g1]; exact Nat.add_sub_of_le (Nat.le_of_lt hc)
    obtain ⟨w1, w2⟩ := writeAt_window b seg hs2 (by rw [hse, hb]; exact he2)
    refine ⟨w1.trans hb, fun i => ?_⟩
    rw [w2, hse]
    split
    · rename_i hi
      rw [g2 _ hi.1 hi.2]
      rfl
    · rfl
  · rw [if_neg hc]
    exact ⟨hb, fun i => by rw [if_neg fun hi => hc (Nat.lt_of_le_of_lt hi.1 hi.2)]⟩

theorem readList_spec {off len start stop : Nat} (h1 : off ≤ start) (h2 : stop ≤ off + len) :
    ∀ (l : LList) (buf : List (Option Nat)), (∀ x ∈ l, NodeOk tk temp x) →
    l.Pairwise (fun a b => a.off + a.size ≤ b.off) → buf.length = len →
    (readList tk temp l start stop off buf).length = len ∧
    (∀ i b, start ≤ off + i → off + i < stop → LHas tk temp l (off + i) b →
      (readList tk temp l start stop off buf)[i]? = some (some b)) ∧
    (∀ i, (∀ x ∈ l, ¬ (x.off ≤ off + i ∧ off + i < x.off + x.size)) →
      (readList tk temp l start stop off buf)[i]? = buf[i]?)
  | [], buf, _, _, hb => ⟨hb, fun _ _ _ _ hh => hh.elim fun _ hx => (nomatch hx.1), fun _ _ => rfl⟩
  | t :: l, buf, hok, hpw, hb => by
    obtain ⟨s1, s2⟩ := nstep_spec (hok t List.mem_cons_self) h1 h2 hb (start := start) (stop := stop)
    have hpw' := List.pairwise_cons.1 hpw
    obtain ⟨i1, i2, i3⟩ := readList_spec h1 h2 l (nstep tk temp start stop off buf t)
      (fun x hx => hok x (List.mem_cons_of_mem _ hx)) hpw'.2 s1
    rw [readList_eq, List.foldl_cons, ← readList_eq]
    refine ⟨i1, ?_, ?_⟩
    · rintro i b hs he ⟨x, hx, c1, c2, rfl⟩
      rcases List.mem_cons.1 hx with rfl | hx
      · -- the later nodes lie behind this one and leave its bytes alone
        rw [i3 i fun y hy hc => Nat.lt_irrefl _ (Nat.lt_of_lt_of_le c2 (Nat.le_trans (hpw'.1 y hy) hc.1)), s2 i,
          if_pos ⟨⟨hs, he⟩, c1, c2⟩]
      · exact i2 i _ hs he ⟨x, hx, c1, c2, rfl⟩
    · intro i hno
      rw [i3 i (fun x hx => hno x (List.mem_cons_of_mem _ hx)), s2 i, if_neg fun h => hno t List.mem_cons_self h.2]

/-- one list of ReadDataAt -/
def lstep (tk : Bool) (temp : List Nat) (off len : Nat) (acc : Nat × List (Option Nat)) (l : LList) : Nat × List (Option Nat) :=
  if max off (headOff l) < min (off + len) (headOff l + lsize l) then
    (max acc.1 (min (off + len) (headOff l + lsize l)),
      readList tk temp l (max off (headOff l)) (min (off + len) (headOff l + lsize l)) off acc.2)
  else acc

theorem readDataAt_eq (tk : Bool) (temp : List Nat) (lists : List LList) (off len : Nat) :
    readDataAt tk temp lists off len = lists.foldl (lstep tk temp off len) (0, List.replicate len none) := rfl

theorem lhas_in_window {l : LList} (hl : ListOk tk temp l) {off len i b : Nat} (hi : i < len)
    (hh : LHas tk temp l (off + i) b) :
    max off (headOff l) ≤ off + i ∧ off + i < min (off + len) (tailStop l) :=
  ⟨Nat.max_le.2 ⟨Nat.le_add_right .., (lhas_range hl hh).1⟩,
    Nat.lt_min.2 ⟨Nat.add_lt_add_left hi _, (lhas_range hl hh).2⟩⟩

theorem lstep_spec {off len : Nat} {l : LList} (hl : ListOk tk temp l)
    {acc : Nat × List (Option Nat)} (hb : acc.2.length = len) :
    (lstep tk temp off len acc l).2.length = len ∧
    (∀ i b, i < len → LHas tk temp l (off + i) b → (lstep tk temp off len acc l).2[i]? = some (some b)) ∧
    (∀ i, (∀ x ∈ l, ¬ (x.off ≤ off + i ∧ off + i < x.off + x.size)) → (lstep tk temp off len acc l).2[i]? = acc.2[i]?) := by
  unfold lstep
  rw [hl.lsize]
  by_cases hc : max off (headOff l) < min (off + len) (tailStop l)
  · rw [if_pos hc]
    obtain ⟨i1, i2, i3⟩ := readList_spec (tk := tk) (temp := temp) (Nat.le_max_left off (headOff l))
      (Nat.min_le_left (off + len) (tailStop l)) l acc.2 hl.2.1 (chained_sorted l hl.2.2) hb
    exact ⟨i1, fun i b hi hh => i2 i b (lhas_in_window hl hi hh).1 (lhas_in_window hl hi hh).2 hh, i3⟩
  · rw [if_neg hc]
    exact ⟨hb, fun i b hi hh => absurd (Nat.lt_of_le_of_lt (lhas_in_window hl hi hh).1 (lhas_in_window hl hi hh).2) hc,
      fun i _ => rfl⟩

theorem readDataAt_fold {off len : Nat} : ∀ (lists : List LList) (acc : Nat × List (Option Nat)),
    LInv tk temp lists → acc.2.length = len →
    (lists.foldl (lstep tk temp off len) acc).2.length = len ∧
    (∀ i b, i < len → Has tk temp lists (off + i) b → (lists.foldl (lstep tk temp off len) acc).2[i]? = some (some b)) ∧
    (∀ i, (∀ l ∈ lists, ∀ x ∈ l, ¬ (x.off ≤ off + i ∧ off + i < x.off + x.size)) →
      (lists.foldl (lstep tk temp off len) acc).2[i]? = acc.2[i]?)
  | [], acc, _, hb => by
    refine ⟨hb, ?_, fun i _ => rfl⟩
    intro i b _ hh
    exact absurd hh (has_nil tk temp _ _)
  | l :: ls, acc, h, hb => by
    obtain ⟨a1, a2, a3⟩ := linv_cons.1 h
    obtain ⟨s1, s2, s3⟩ := lstep_spec (off := off) a1 hb
    obtain ⟨i1, i2, i3⟩ := readDataAt_fold (off := off) (len := len) ls (lstep tk temp off len acc l) a3 s1
    rw [List.foldl_cons]
    refine ⟨i1, ?_, ?_⟩
    · intro i b hi hh
      rcases (has_cons tk temp l ls _ _).1 hh with hh | hh
      · -- the later lists keep a gap to this one and leave its bytes alone
        rw [i3 i, s2 i b hi hh]
        intro l' hl' x hx hcov
        have := lhas_range a1 hh
        have := (a3.1 l' hl').bounds x hx
        have := a2 l' hl'
        omega
      · exact i2 i b hi hh
    · intro i hno
      rw [i3 i (fun l' hl' => hno l' (List.mem_cons_of_mem _ hl')), s3 i (hno l List.mem_cons_self)]

theorem readDataAt_bytes {lists : List LList} (h : LInv tk temp lists) (off len : Nat) :
    (readDataAt tk temp lists off len).2 = (List.range len).map (fun i => dirtyByte tk temp lists (off + i)) := by
  obtain ⟨i1, i2, i3⟩ := readDataAt_fold (off := off) (len := len) lists (0, List.replicate len none) h List.length_replicate
  rw [readDataAt_eq]
  apply List.ext_getElem?
  intro i
  by_cases hi : i < len
  · rw [List.getElem?_map, List.getElem?_range hi, Option.map_some]
    cases hd : dirtyByte tk temp lists (off + i) with
    | none =>
      rw [i3 i (dirtyByte_eq_none.1 hd)]
      exact List.getElem?_replicate_of_lt hi
    | some b =>
      exact i2 i b hi ((dirtyByte_eq_some h).1 hd)
  · rw [List.getElem?_eq_none (by omega), List.getElem?_eq_none (by simp; omega)]

/-- maxStop: at least the start value and the (clamped) stop of every list that meets the window, and either the start
    value (0 in ReadDataAt) or one of these stops -/
theorem readDataAt_max_fold {off len : Nat} : ∀ (lists : List LList) (acc : Nat × List (Option Nat)),
    LInv tk temp lists →
    acc.1 ≤ (lists.foldl (lstep tk temp off len) acc).1 ∧
    (∀ l ∈ lists, max off (headOff l) < min (off + len) (tailStop l) →
      min (off + len) (tailStop l) ≤ (lists.foldl (lstep tk temp off len) acc).1) ∧
    ((lists.foldl (lstep tk temp off len) acc).1 = acc.1 ∨
      ∃ l ∈ lists, max off (headOff l) < min (off + len) (tailStop l) ∧
        (lists.foldl (lstep tk temp off len) acc).1 = min (off + len) (tailStop l))
  | [], acc, _ => by simp
  | l :: ls, acc, h => by
    obtain ⟨a1, a2, a3⟩ := linv_cons.1 h
    obtain ⟨i1, i2, i3⟩ := readDataAt_max_fold (off := off) (len := len) ls (lstep tk temp off len acc l) a3
    rw [List.foldl_cons]
    by_cases hc : max off (headOff l) < min (off + len) (tailStop l)
    · have hs : (lstep tk temp off len acc l).1 = max acc.1 (min (off + len) (tailStop l)) := by
        unfold lstep
        rw [a1.lsize, if_pos hc]
      rw [hs] at i1 i3
      refine ⟨Nat.le_trans (Nat.le_max_left ..) i1,
        List.forall_mem_cons.2 ⟨fun _ => Nat.le_trans (Nat.le_max_right ..) i1, i2⟩, ?_⟩
      rcases i3 with i3 | ⟨l', hl', hc', he⟩
      · rcases Nat.le_total acc.1 (min (off + len) (tailStop l)) with hm | hm
        · exact Or.inr ⟨l, List.mem_cons_self, hc, i3.trans (Nat.max_eq_right hm)⟩
        · exact Or.inl (i3.trans (Nat.max_eq_left hm))
      · exact Or.inr ⟨l', List.mem_cons_of_mem _ hl', hc', he⟩
    · have hs : (lstep tk temp off len acc l).1 = acc.1 := by
        unfold lstep
        rw [a1.lsize, if_neg hc]
      rw [hs] at i1 i3
      exact ⟨i1, List.forall_mem_cons.2 ⟨fun hc' => absurd hc' hc, i2⟩,
        i3.imp id fun ⟨l', hl', hc', he⟩ => ⟨l', List.mem_cons_of_mem _ hl', hc', he⟩⟩

theorem addInterval_dirtyByte {n : Node} (hn : NodeOk tk temp n) (lists : List LList)
    (h : LInv tk temp lists) :
    LInv tk temp (addInterval tk lists n) ∧
    ∀ p, dirtyByte tk temp (addInterval tk lists n) p =
      if n.off ≤ p ∧ p < n.off + n.size then some ((nodeBytes tk temp n).getD (p - n.off) 0) else dirtyByte tk temp lists p := by
  obtain ⟨hinv, hbytes⟩ := addInterval_spec hn lists h
  refine ⟨hinv, fun p => ?_⟩
  apply Option.ext
  intro b
  rw [dirtyByte_eq_some hinv, hbytes, lhas_singleton]
  by_cases hc : n.off ≤ p ∧ p < n.off + n.size
  · rw [if_pos hc, or_iff_left fun h' => h'.1 hc, and_iff_right hc.1, and_iff_right hc.2, Option.some.injEq]
    exact eq_comm
  · rw [if_neg hc, dirtyByte_eq_some h, or_iff_right fun h' => hc ⟨h'.1, h'.2.1⟩, and_iff_right hc]

theorem nodeOk_temp_append {temp : List Nat} (more : List Nat) {x : Node} (h : NodeOk tk temp x) :
    NodeOk tk (temp ++ more) x :=
  ⟨h.1, h.2.1, fun hk => by have := h.2.2 hk; simp only [List.length_append]; omega⟩

theorem listOk_temp_append {temp : List Nat} (more : List Nat) {l : LList} (h : ListOk tk temp l) :
    ListOk tk (temp ++ more) l :=
  ⟨h.1, fun n hn => nodeOk_temp_append more (h.2.1 n hn), h.2.2⟩

theorem linv_temp_append {temp : List Nat} (more : List Nat) {lists : List LList} (h : LInv tk temp lists) :
    LInv tk (temp ++ more) lists :=
  ⟨fun l hl => listOk_temp_append more (h.1 l hl), h.2⟩

theorem nodeByte_temp_append {temp : List Nat} (more : List Nat) {x : Node} (h : NodeOk true temp x) (p : Nat)
    (h1 : x.off ≤ p) (h2 : p < x.off + x.size) : nodeByte true (temp ++ more) x p = nodeByte true temp x p := by
  rw [nodeByte_eq true _ h1 h2, nodeByte_eq true _ h1 h2]
  have := h.2.2 rfl
  simp only [if_true, List.getD_eq_getElem?_getD]
  rw [List.getElem?_append_left (by omega)]

theorem has_temp_append {temp : List Nat} (more : List Nat) {lists : List LList} (h : LInv true temp lists) (p b : Nat) :
    Has true (temp ++ more) lists p b ↔ Has true temp lists p b := by
  constructor
  · rintro ⟨l, hl, x, hx, h1, h2, rfl⟩
    exact ⟨l, hl, x, hx, h1, h2, nodeByte_temp_append more ((h.1 l hl).2.1 x hx) p h1 h2⟩
  · rintro ⟨l, hl, x, hx, h1, h2, rfl⟩
    exact ⟨l, hl, x, hx, h1, h2, (nodeByte_temp_append more ((h.1 l hl).2.1 x hx) p h1 h2).symm⟩

theorem dirtyByte_temp_append {temp : List Nat} (more : List Nat) {lists : List LList} (h : LInv true temp lists) (p : Nat) :
    dirtyByte true (temp ++ more) lists p = dirtyByte true temp lists p := by
  apply Option.ext
  intro b
  rw [dirtyByte_eq_some (linv_temp_append more h), dirtyByte_eq_some h, has_temp_append more h]

/-- AddPage's AddInterval, in-memory buffer: the node carries the written bytes -/
theorem addInterval_page_mem {temp : List Nat} {ls : List LList} (h : LInv false temp ls) (off : Nat) {d : List Nat} (hd : d ≠ []) :
    LInv false temp (addInterval false ls { off := off, size := d.length, tmp := 0, data := d }) ∧
    ∀ p, dirtyByte false temp (addInterval false ls { off := off, size := d.length, tmp := 0, data := d }) p =
      if off ≤ p ∧ p < off + d.length then some (d.getD (p - off) 0) else dirtyByte false temp ls p :=
  have hn : NodeOk false temp { off := off, size := d.length, tmp := 0, data := d } :=
    ⟨List.length_pos_iff.2 hd, fun _ => rfl, nofun⟩
  addInterval_dirtyByte hn ls h

/-- AddPage's AddInterval, temp-file buffer: the written bytes go to the end of the temp file, the node points there -/
theorem addInterval_page_tmp {temp : List Nat} {ls : List LList} (h : LInv true temp ls) (off : Nat) {d : List Nat} (hd : d ≠ []) :
    LInv true (temp ++ d) (addInterval true ls { off := off, size := d.length, tmp := temp.length, data := [] }) ∧
    ∀ p, dirtyByte true (temp ++ d) (addInterval true ls { off := off, size := d.length, tmp := temp.length, data := [] }) p =
      if off ≤ p ∧ p < off + d.length then some (d.getD (p - off) 0) else dirtyByte true temp ls p := by
  have hn : NodeOk true (temp ++ d) { off := off, size := d.length, tmp := temp.length, data := [] } :=
    ⟨List.length_pos_iff.2 hd, nofun, fun _ => by simp⟩
  have h' := linv_temp_append d h
  have hb : nodeBytes true (temp ++ d) { off := off, size := d.length, tmp := temp.length, data := [] } = d := by
    simp [nodeBytes]
  obtain ⟨a1, a2⟩ := addInterval_dirtyByte hn ls h'
  refine ⟨a1, fun p => ?_⟩
  rw [a2 p, dirtyByte_temp_append d h, hb]

theorem pad_getD (f : List Nat) (k p : Nat) : (f ++ List.replicate k 0).getD p 0 = f.getD p 0 := by
  simp only [List.getD_eq_getElem?_getD, List.getElem?_append]
  by_cases h : p < f.length
  · rw [if_pos h]
  · rw [if_neg h, List.getElem?_replicate, List.getElem?_eq_none (Nat.le_of_not_lt h)]
    split <;> rfl

theorem pwrite_eq (f : File) (off : Nat) (d : List Nat) (hd : d ≠ []) :
    pwrite f off d = (f ++ List.replicate (off + d.length - f.length) 0).take off ++ d ++
      (f ++ List.replicate (off + d.length - f.length) 0).drop (off + d.length) := by
  unfold pwrite
  rw [if_neg (by simpa using hd)]

theorem pwrite_length_pad (f : File) (off : Nat) (d : List Nat) (hd : d ≠ []) :
    (pwrite f off d).length = (f ++ List.replicate (off + d.length - f.length) 0).length := by
  rw [pwrite_eq f off d hd, splice_length (by rw [List.length_append, List.length_replicate]; omega)]

theorem pwrite_length (f : File) (off : Nat) (d : List Nat) (hd : d ≠ []) :
    (pwrite f off d).length = max f.length (off + d.length) := by
  rw [pwrite_length_pad f off d hd, List.length_append, List.length_replicate]
  omega

theorem pwrite_getD (f : File) (off : Nat) (d : List Nat) (hd : d ≠ []) (p : Nat) :
    (pwrite f off d).getD p 0 = if off ≤ p ∧ p < off + d.length then d.getD (p - off) 0 else f.getD p 0 := by
  rw [pwrite_eq f off d hd, ← pad_getD f (off + d.length - f.length) p]
  simp only [List.getD_eq_getElem?_getD]
  rw [splice_getElem? (by rw [List.length_append, List.length_replicate]; omega)]
  split <;> rfl

/-- a dirty map against the POSIX file while nothing is stored: a dirty position lies in the file and carries its byte,
    any other position is a hole -/
def Tracks (db : Nat → Option Nat) (f : File) : Prop :=
  ∀ p, (db p = none → f.getD p 0 = 0) ∧ ∀ b, db p = some b → p < f.length ∧ f.getD p 0 = b

theorem tracks_nil : Tracks (dirtyByte tk temp []) [] :=
  fun _ => ⟨fun _ => rfl, nofun⟩

theorem tracks_pwrite {db db' : Nat → Option Nat} {f : File} (h : Tracks db f) (off : Nat) {d : List Nat} (hd : d ≠ [])
    (hdb : ∀ p, db' p = if off ≤ p ∧ p < off + d.length then some (d.getD (p - off) 0) else db p) :
    Tracks db' (pwrite f off d) := by
  intro p
  rw [hdb, pwrite_getD f off d hd, pwrite_length f off d hd]
  by_cases hc : off ≤ p ∧ p < off + d.length
  · rw [if_pos hc, if_pos hc]
    exact ⟨nofun, fun b hb => ⟨Nat.lt_of_lt_of_le hc.2 (Nat.le_max_right ..), Option.some.inj hb⟩⟩
  · rw [if_neg hc, if_neg hc]
    exact ⟨(h p).1, fun b hb => ⟨Nat.lt_of_lt_of_le ((h p).2 b hb).1 (Nat.le_max_left ..), ((h p).2 b hb).2⟩⟩

/-- a buffer whose step is "last write wins" on the dirty map (`addInterval_page_mem`, `addInterval_page_tmp`) keeps
    track of the POSIX file along any sequence of non-empty writes -/
theorem tracks_fold {σ : Type} {step : σ → Nat × List Nat → σ} {I : σ → Prop} {db : σ → Nat → Option Nat}
    (hstep : ∀ s (w : Nat × List Nat), I s → w.2 ≠ [] → I (step s w) ∧
      ∀ p, db (step s w) p = if w.1 ≤ p ∧ p < w.1 + w.2.length then some (w.2.getD (p - w.1) 0) else db s p) :
    ∀ (ws : List (Nat × List Nat)) (s : σ) (f : File), I s → Tracks (db s) f → (∀ w ∈ ws, w.2 ≠ []) →
      I (ws.foldl step s) ∧ Tracks (db (ws.foldl step s)) (ws.foldl (fun f w => pwrite f w.1 w.2) f)
  | [], _, _, hi, ht, _ => ⟨hi, ht⟩
  | w :: ws, s, _, hi, ht, hne => by
    obtain ⟨a1, a2⟩ := hstep s w hi (hne w List.mem_cons_self)
    exact tracks_fold hstep ws _ _ a1 (tracks_pwrite ht w.1 (hne w List.mem_cons_self) a2)
      fun w' hw' => hne w' (List.mem_cons_of_mem _ hw')

theorem pread_pad (f : File) (off len : Nat) :
    pread f off len ++ List.replicate (len - (pread f off len).length) 0 = (List.range len).map (fun i => f.getD (off + i) 0) := by
  apply List.ext_getElem?
  intro i
  have hl : (pread f off len).length = min len (f.length - off) := by
    unfold pread; simp only [List.length_take, List.length_drop]
  by_cases hi : i < len
  · rw [List.getElem?_map, List.getElem?_range hi, Option.map_some, List.getElem?_append]
    by_cases h2 : i < (pread f off len).length
    · rw [if_pos h2]
      unfold pread
      rw [List.getElem?_take, if_pos hi, List.getElem?_drop]
      exact getElem?_eq_some_getD _ _ 0 (by omega)
    · rw [if_neg h2, List.getElem?_replicate, if_pos (by omega), List.getD_eq_getElem?_getD,
        List.getElem?_eq_none (by omega)]
      rfl
  · rw [List.getElem?_eq_none (by simp only [List.length_append, List.length_replicate]; omega),
      List.getElem?_eq_none (by simp; omega)]

open SwV.Model.C17 (Chunk maxInt64 compact)
open SwV.Spec.C17 (ByteOk covers)
open SwV.Props.C17 (KeysDistinct)

def toC17Chunk (c : SChunk) : Chunk := { off := c.off, size := c.size, mtime := (c.mt : Int), fid := c.mt, key := c.mt }

theorem toC17_eq (cs : List SChunk) : toC17 cs = cs.map toC17Chunk := rfl

def MtDistinct (cs : List SChunk) : Prop := cs.Pairwise (fun a b => a.mt ≠ b.mt)

theorem mt_unique {cs : List SChunk} (hd : MtDistinct cs) {a b : SChunk} (ha : a ∈ cs) (hb : b ∈ cs) (h : a.mt = b.mt) :
    a = b :=
  pairwise_unique (C := fun c => c.mt = a.mt) (fun _ _ hr cx cy => hr (cx.trans cy.symm)) hd a ha b hb rfl h.symm

theorem dataOf_mem {cs : List SChunk} (hd : MtDistinct cs) {c : SChunk} (hc : c ∈ cs) (i : Nat) :
    dataOf cs c.mt i = c.data.getD i 0 := by
  unfold dataOf
  cases hf : cs.find? (fun c' => c'.mt == c.mt) with
  | none =>
    have := List.find?_eq_none.1 hf c hc
    simp at this
  | some c' =>
    have hm := List.mem_of_find?_eq_some hf
    have hp := List.find?_some hf
    simp only [beq_iff_eq] at hp
    rw [mt_unique hd hm hc hp]

theorem keysDistinct_toC17 {cs : List SChunk} (hd : MtDistinct cs) : KeysDistinct (toC17 cs) := by
  refine List.forall_mem_map.2 fun c1 h1 => List.forall_mem_map.2 fun c2 h2 _ hk => ?_
  have : c1.mt = c2.mt := hk
  rw [mt_unique hd h1 h2 this]

theorem dataOf_append_left {cs : List SChunk} (more : List SChunk) {c : SChunk} (hc : c ∈ cs) (i : Nat) :
    dataOf (cs ++ more) c.mt i = dataOf cs c.mt i := by
  unfold dataOf
  rw [List.find?_append]
  cases hf : cs.find? (fun c' => c'.mt == c.mt) with
  | none =>
    have := List.find?_eq_none.1 hf c hc
    simp at this
  | some c' => rfl

theorem byteOk_append_cover {cs : List SChunk} {c : SChunk} (hd : MtDistinct (cs ++ [c])) (hlt : ∀ c' ∈ cs, c'.mt < c.mt)
    {p : Nat} (hc : c.off ≤ p ∧ p < c.off + c.size) :
    ByteOk (dataOf (cs ++ [c])) (toC17 (cs ++ [c])) p (c.data.getD (p - c.off) 0) := by
  left
  refine ⟨toC17Chunk c, ⟨List.mem_map_of_mem List.mem_concat_self, (show covers (toC17Chunk c) p from hc), ?_⟩,
    (dataOf_mem hd List.mem_concat_self _).symm⟩
  refine List.forall_mem_map.2 fun s hs _ => ?_
  rcases List.mem_append.1 hs with hs | hs
  · left
    show (s.mt : Int) < (c.mt : Int)
    have := hlt s hs
    omega
  · simp only [List.mem_singleton] at hs
    subst hs
    exact SwV.Lemmas.C17.keyLe_refl _

theorem byteOk_append_nocover {cs : List SChunk} {c : SChunk} {p b : Nat} (hnc : ¬ (c.off ≤ p ∧ p < c.off + c.size))
    (h : ByteOk (dataOf cs) (toC17 cs) p b) : ByteOk (dataOf (cs ++ [c])) (toC17 (cs ++ [c])) p b := by
  rw [toC17_eq, List.map_append]
  refine (SwV.Lemmas.C17.byteOk_append_iff _ fun x hx => ?_).2
    (SwV.Lemmas.C17.byteOk_congr_data (List.forall_mem_map.2 fun s hs i => (dataOf_append_left [c] hs i).symm) h)
  rw [List.mem_singleton.1 hx]
  exact hnc

/-- the chunk list `flush` keeps is C17's compacted list -/
theorem compact_filter (cs : List SChunk) :
    toC17 (cs.filter fun c => ((compact (toC17 cs)).1.map (·.fid)).contains c.mt) = (compact (toC17 cs)).1 := by
  -- `compact` keeps the chunks whose fid lies in a list `F` (the fids of the visible intervals).  Which list plays no
  -- part: filtering by the fids of what such a filter keeps is the filter itself (`toC17Chunk` makes `mt` the fid)
  have hc : ∃ F : List Nat, (compact (toC17 cs)).1 = (toC17 cs).filter (fun c => F.contains c.fid) := ⟨_, rfl⟩
  obtain ⟨F, hF⟩ := hc
  rw [hF, toC17_eq, toC17_eq, List.filter_map]
  congr 1
  apply List.filter_congr
  intro c hc
  show (List.map (·.fid) (List.map toC17Chunk (List.filter ((fun c => F.contains c.fid) ∘ toC17Chunk) cs))).contains c.mt
    = F.contains c.mt
  rw [Bool.eq_iff_iff]
  simp only [List.contains_eq_mem, decide_eq_true_eq]
  constructor
  · intro h
    obtain ⟨x, hx, he⟩ := List.mem_map.1 h
    obtain ⟨s, hs, rfl⟩ := List.mem_map.1 hx
    obtain ⟨_, hs2⟩ := List.mem_filter.1 hs
    simp only [Function.comp, decide_eq_true_eq] at hs2
    have he' : s.mt = c.mt := he
    rw [← he']
    exact hs2
  · intro h
    refine List.mem_map_of_mem (List.mem_map_of_mem (List.mem_filter.2 ⟨hc, ?_⟩))
    simp only [Function.comp, decide_eq_true_eq]
    exact h

theorem mtDistinct_filter {cs : List SChunk} (hd : MtDistinct cs) (g : SChunk → Bool) : MtDistinct (cs.filter g) :=
  List.Pairwise.sublist List.filter_sublist hd

/-- CompactFileChunks as `flush` applies it keeps the content byte of every position below 2^63 − 1 (`maxInt64`) -/
theorem byteOk_compact {cs : List SChunk} (hd : MtDistinct cs) {p b : Nat} (hp : p < maxInt64)
    (h : ByteOk (dataOf cs) (toC17 cs) p b) :
    ByteOk (dataOf (cs.filter fun c => ((compact (toC17 cs)).1.map (·.fid)).contains c.mt))
      (toC17 (cs.filter fun c => ((compact (toC17 cs)).1.map (·.fid)).contains c.mt)) p b := by
  have h1 := (SwV.Props.C17.compact_preserves (dataOf cs) (toC17 cs) (keysDistinct_toC17 hd) p hp b).2 h
  rw [← compact_filter] at h1
  apply SwV.Lemmas.C17.byteOk_congr_data _ h1
  refine List.forall_mem_map.2 fun s hs i => ?_
  show dataOf cs s.mt i = dataOf _ s.mt i
  rw [dataOf_mem hd (List.mem_filter.1 hs).1, dataOf_mem (mtDistinct_filter hd _) hs]

theorem extent_le (cs : List SChunk) (B : Nat) (h : ∀ c ∈ cs, c.off + c.size ≤ B) : extent cs ≤ B :=
  SwV.Lemmas.C17.foldl_max_le (fun c : SChunk => c.off + c.size) B cs 0 (Nat.zero_le _) h

/-- a fresh reader of an entry of `f`'s length (at most `maxInt64`), chunk mtimes distinct, no chunk reaching beyond it,
    whose every position p has the legal content byte f[p] reads exactly f -/
theorem resolve_eq {st : St} {f : File} (hd : MtDistinct st.chunks) (hfs : st.fileSize = f.length)
    (hin : ∀ c ∈ st.chunks, c.off + c.size ≤ st.fileSize) (hmax : f.length ≤ maxInt64)
    (hcontent : ∀ p, ByteOk (dataOf st.chunks) (toC17 st.chunks) p (f.getD p 0)) : resolve st = f := by
  have hext := extent_le st.chunks st.fileSize hin
  unfold resolve
  have htot : max (extent st.chunks) st.fileSize = f.length := by omega
  simp only [htot]
  by_cases h0 : f.length = 0
  · rw [if_pos h0]
    exact (List.length_eq_zero_iff.1 h0).symm
  · rw [if_neg h0]
    obtain ⟨hl, hb⟩ := SwV.Props.C17.readAcc_whole (dataOf st.chunks) (toC17 st.chunks) (size := f.length)
      (List.forall_mem_map.2 fun s hs => hfs ▸ hin s hs) hmax
    refine List.ext_getElem hl fun i _ hi => ?_
    rw [List.getElem_eq_getD 0, List.getElem_eq_getD 0]
    exact SwV.Props.C17.byteOk_unique (dataOf st.chunks) (keysDistinct_toC17 hd) (hb i hi) (hcontent i)

/-- the state of the open file against the POSIX file `f`.  `S` holds the positions whose dirty byte a saver under way
    has already saved: there the stored entry shows the file's byte although the position is still dirty.  Between
    operations `S` is empty (`SInv`). -/
structure PInv (st : St) (f : File) (S : Nat → Prop) : Prop where
  inv : LInv st.tk st.temp st.lists
  fs : st.fileSize = f.length
  dirtyIn : ∀ p b, dirtyByte st.tk st.temp st.lists p = some b → p < st.fileSize
  mtLt : ∀ c ∈ st.chunks, c.mt < st.nextMt
  mtD : MtDistinct st.chunks
  cin : ∀ c ∈ st.chunks, c.off + c.size ≤ st.fileSize
  dirty : ∀ p b, dirtyByte st.tk st.temp st.lists p = some b → f.getD p 0 = b
  clean : ∀ p, (dirtyByte st.tk st.temp st.lists p = none ∨ S p) →
    ByteOk (dataOf st.chunks) (toC17 st.chunks) p (f.getD p 0)
  tempOk : st.tk = true → st.hasTemp = false → st.lists = []
  lim : 0 < st.limit

abbrev SInv (st : St) (f : File) : Prop := PInv st f (fun _ => False)

/-- `h.clean` finds this for `h : SInv st f`, the field (with the disjunction) for `h : PInv st f S` -/
theorem SInv.clean {st : St} {f : File} (h : SInv st f) (p : Nat) (hp : dirtyByte st.tk st.temp st.lists p = none) :
    ByteOk (dataOf st.chunks) (toC17 st.chunks) p (f.getD p 0) :=
  PInv.clean h p (Or.inl hp)

theorem PInv.mono {st : St} {f : File} {S S' : Nat → Prop} (h : PInv st f S) (hs : ∀ p, S' p → S p) : PInv st f S' :=
  { h with clean := fun p hp => h.clean p (hp.imp_right (hs p)) }

theorem PInv.toSInv {st : St} {f : File} {S : Nat → Prop} (h : PInv st f S) : SInv st f :=
  h.mono nofun

/-- the savers leave the handle's configuration alone -/
structure Same (st st' : St) : Prop where
  tk : st'.tk = st.tk
  limit : st'.limit = st.limit

theorem Same.refl (st : St) : Same st st := ⟨rfl, rfl⟩

theorem Same.trans {a b c : St} (h1 : Same a b) (h2 : Same b c) : Same a c :=
  ⟨h2.tk.trans h1.tk, h2.limit.trans h1.limit⟩

theorem PInv.byte {st : St} {f : File} {S : Nat → Prop} (h : PInv st f S) {l : LList} (hl : l ∈ st.lists) {p : Nat}
    (h1 : headOff l ≤ p) (h2 : p < tailStop l) : ∃ v, LHas st.tk st.temp l p v ∧ f.getD p 0 = v := by
  obtain ⟨x, hx, c1, c2⟩ := chained_cover l (h.inv.1 l hl).2.2 p h1 h2
  have hh : LHas st.tk st.temp l p (nodeByte st.tk st.temp x p) := ⟨x, hx, c1, c2, rfl⟩
  exact ⟨_, hh, h.dirty p _ ((dirtyByte_eq_some h.inv).2 ⟨l, hl, hh⟩)⟩

theorem PInv.tailStop_le {st : St} {f : File} {S : Nat → Prop} (h : PInv st f S) {l : LList} (hl : l ∈ st.lists) :
    tailStop l ≤ st.fileSize := by
  have hlt := (h.inv.1 l hl).lt
  -- the last position of the list is dirty
  obtain ⟨v, hh, -⟩ := h.byte hl (Nat.le_sub_one_of_lt hlt) (Nat.sub_one_lt_of_lt hlt)
  exact Nat.le_of_pred_lt (h.dirtyIn (tailStop l - 1) v ((dirtyByte_eq_some h.inv).2 ⟨l, hl, hh⟩))

theorem listBytes_spec : ∀ (l : LList), ListOk tk temp l →
    (listBytes tk temp l).length = lsize l ∧
    ∀ p b, LHas tk temp l p b → (listBytes tk temp l)[p - headOff l]? = some b
  | [], h => absurd rfl h.1
  | [t], h => by
    have ht := h.2.1 t List.mem_cons_self
    have e : listBytes tk temp [t] = nodeBytes tk temp t := List.flatMap_singleton ..
    rw [e]
    refine ⟨(nodeBytes_length tk temp t ht).trans (Nat.add_sub_cancel_left ..).symm, ?_⟩
    intro p b hh
    obtain ⟨h1, h2, rfl⟩ := (lhas_singleton ..).1 hh
    exact nodeBytes_getElem? ht h1 h2
  | t :: u :: r, h => by
    have hr := listOk_tail h
    obtain ⟨i1, i2⟩ := listBytes_spec (u :: r) hr
    have ht := h.2.1 t List.mem_cons_self
    have hlink : t.off + t.size = u.off := h.2.2.1
    have hlen := nodeBytes_length tk temp t ht
    have hlt : u.off < tailStop (u :: r) := hr.lt
    have e : listBytes tk temp (t :: u :: r) = nodeBytes tk temp t ++ listBytes tk temp (u :: r) := List.flatMap_cons ..
    rw [e]
    refine ⟨?_, ?_⟩
    · rw [List.length_append, hlen, i1]
      unfold lsize
      rw [tailStop_cons_cons]
      show t.size + (tailStop (u :: r) - u.off) = tailStop (u :: r) - t.off
      omega
    · rintro p b ⟨x, hx, h1, h2, rfl⟩
      show (_ ++ _)[p - t.off]? = _
      rcases List.mem_cons.1 hx with rfl | hx
      · rw [List.getElem?_append_left (by rw [hlen]; exact Nat.sub_lt_left_of_lt_add h1 h2)]
        exact nodeBytes_getElem? ht h1 h2
      · have hb : t.off + t.size ≤ p := hlink ▸ Nat.le_trans (hr.bounds x hx).1 h1
        rw [List.getElem?_append_right (by rw [hlen]; exact Nat.le_sub_of_add_le' hb), hlen, Nat.sub_sub, hlink]
        exact i2 p _ ⟨x, hx, h1, h2, rfl⟩

/-- one more chunk, with the next mtime, behind the entry's chunks, showing bytes of `f'` (`f` outside the chunk): its
    positions are saved -/
theorem pinv_push {st : St} {f f' : File} {S : Nat → Prop} (h : PInv st f S) (c : SChunk) (hmt : c.mt = st.nextMt)
    (hfit : c.off + c.size ≤ st.fileSize) (hlen : f'.length = f.length)
    (hin : ∀ p, c.off ≤ p → p < c.off + c.size → f'.getD p 0 = c.data.getD (p - c.off) 0)
    (hout : ∀ p, ¬ (c.off ≤ p ∧ p < c.off + c.size) → f'.getD p 0 = f.getD p 0)
    (hdirty : ∀ p b, dirtyByte st.tk st.temp st.lists p = some b → f'.getD p 0 = b) :
    PInv { st with chunks := st.chunks ++ [c], nextMt := st.nextMt + 1 } f'
      (fun p => S p ∨ (c.off ≤ p ∧ p < c.off + c.size)) := by
  have hlt : ∀ c' ∈ st.chunks, c'.mt < c.mt := fun c' hc' => hmt ▸ h.mtLt c' hc'
  have hmtD : MtDistinct (st.chunks ++ [c]) := List.pairwise_append.2 ⟨h.mtD, List.pairwise_singleton _ _, fun a ha b hb =>
    List.mem_singleton.1 hb ▸ Nat.ne_of_lt (hlt a ha)⟩
  refine ⟨h.inv, h.fs.trans hlen.symm, h.dirtyIn, ?_, hmtD, List.forall_mem_append.2 ⟨h.cin, List.forall_mem_singleton.2 hfit⟩,
    hdirty, ?_, h.tempOk, h.lim⟩
  · exact List.forall_mem_append.2 ⟨fun c' hc' => Nat.lt_succ_of_lt (h.mtLt c' hc'),
      List.forall_mem_singleton.2 (Nat.lt_succ_of_le (Nat.le_of_eq hmt))⟩
  · intro p hp
    show ByteOk (dataOf (st.chunks ++ [c])) (toC17 (st.chunks ++ [c])) p (f'.getD p 0)
    by_cases hc : c.off ≤ p ∧ p < c.off + c.size
    · rw [hin p hc.1 hc.2]
      exact byteOk_append_cover hmtD hlt hc
    · rw [hout p hc]
      exact byteOk_append_nocover hc (h.clean p (hp.imp_right fun hs => hs.resolve_right hc))

/-- what every saver does: the bytes `B` at the positions `[a, a + B.length)` of a dirty list become one more chunk -/
theorem pinv_push_part {st : St} {f : File} {S : Nat → Prop} (h : PInv st f S) {l : LList} (hl : l ∈ st.lists)
    {a : Nat} {B : List Nat} (ha : headOff l ≤ a) (hb : a + B.length ≤ tailStop l)
    (hB : ∀ p v, a ≤ p → p < a + B.length → LHas st.tk st.temp l p v → B[p - a]? = some v) :
    PInv { st with chunks := st.chunks ++ [⟨a, B.length, st.nextMt, B⟩], nextMt := st.nextMt + 1 } f
      (fun p => S p ∨ (a ≤ p ∧ p < a + B.length)) :=
  pinv_push h ⟨a, B.length, st.nextMt, B⟩ rfl (Nat.le_trans hb (h.tailStop_le hl)) rfl
    (fun p h1 h2 => by
      obtain ⟨v, hh, hv⟩ := h.byte hl (Nat.le_trans ha h1) (Nat.lt_of_lt_of_le h2 hb)
      show f.getD p 0 = B.getD (p - a) 0
      rw [getD_of_getElem? (hB p v h1 h2 hh)]
      exact hv)
    (fun _ _ => rfl) h.dirty

/-- the dirty lists replaced by lists that hold a part of their bytes, the rest of which is saved -/
theorem pinv_finish {st : St} {f : File} {S : Nat → Prop} (h : PInv st f S) {temp' : List Nat} {lists' : List LList}
    {ht : Bool} (hinv : LInv st.tk temp' lists')
    (hsub : ∀ p b, dirtyByte st.tk temp' lists' p = some b → dirtyByte st.tk st.temp st.lists p = some b)
    (hsaved : ∀ p, dirtyByte st.tk temp' lists' p = none → dirtyByte st.tk st.temp st.lists p = none ∨ S p)
    (htemp : st.tk = true → ht = false → lists' = []) :
    SInv { st with temp := temp', lists := lists', hasTemp := ht } f :=
  ⟨hinv, h.fs, fun p b hb => h.dirtyIn p b (hsub p b hb), h.mtLt, h.mtD, h.cin,
   fun p b hb => h.dirty p b (hsub p b hb), fun p hp => h.clean p (hsaved p (hp.resolve_right id)), htemp, h.lim⟩

theorem saveChunk_whole (st : St) (bytes : List Nat) (off : Nat) {size : Int} (h : (bytes.length : Int) ≤ size) :
    saveChunk st bytes off size =
      { st with chunks := st.chunks ++ [⟨off, bytes.length, st.nextMt, bytes⟩], nextMt := st.nextMt + 1 } := by
  unfold saveChunk
  rw [List.take_of_length_le (Int.toNat_natCast _ ▸ Int.toNat_le_toNat h)]

/-- a dirty list saved whole as one more chunk and dropped from the buffer -/
theorem sinv_save_list {st : St} {f : File} (h : SInv st f) {l : LList} {rest : List LList}
    (hperm : st.lists.Perm (l :: rest)) :
    SInv { st with lists := rest, chunks := st.chunks ++ [⟨headOff l, (listBytes st.tk st.temp l).length, st.nextMt,
      listBytes st.tk st.temp l⟩], nextMt := st.nextMt + 1 } f := by
  have hlmem : l ∈ st.lists := hperm.mem_iff.2 List.mem_cons_self
  obtain ⟨hl, _, hrest⟩ := linv_cons.1 (linv_perm hperm h.inv)
  obtain ⟨b1, b2⟩ := listBytes_spec l hl
  have hstop : headOff l + (listBytes st.tk st.temp l).length = tailStop l := by rw [b1, hl.lsize]
  have hP := pinv_push_part h hlmem (Nat.le_refl _) (Nat.le_of_eq hstop) fun p v _ _ hh => b2 p v hh
  refine pinv_finish hP hrest ?_ ?_ ?_
  · intro p b hb
    rw [dirtyByte_eq_some hrest] at hb
    rw [dirtyByte_eq_some h.inv, has_perm hperm, has_cons]
    exact Or.inr hb
  · intro p hp
    by_cases hc : headOff l ≤ p ∧ p < headOff l + (listBytes st.tk st.temp l).length
    · exact Or.inr (Or.inr hc)
    · left
      rw [dirtyByte_eq_none] at hp ⊢
      intro l' hl' x hx hcov
      rcases List.mem_cons.1 (hperm.mem_iff.1 hl') with rfl | hl''
      · have := hl.bounds x hx
        exact hc ⟨Nat.le_trans this.1 hcov.1, hstop ▸ Nat.lt_of_lt_of_le hcov.2 this.2⟩
      · exact hp l' hl'' x hx hcov
  · intro h1 h2
    rw [h.tempOk h1 h2] at hlmem
    cases hlmem

theorem saveLargest_sinv {st : St} {f : File} (h : SInv st f) :
    SInv (saveLargest st).1 f ∧ Same st (saveLargest st).1 ∧
    ((saveLargest st).2 = true → (saveLargest st).1.lists.length + 1 = st.lists.length) ∧
    ((saveLargest st).2 = false → (saveLargest st).1.lists = []) := by
  unfold saveLargest
  cases hr : removeLargest st.lists with
  | none => exact ⟨h, Same.refl st, nofun, fun _ => (removeLargest_none_iff h.inv).1 hr⟩
  | some lr =>
    obtain ⟨l, rest⟩ := lr
    obtain ⟨hl, -, hperm, -⟩ := removeLargest_spec h.inv hr
    have htl := h.tailStop_le (hperm.mem_iff.2 List.mem_cons_self)
    have hsz := hl.lsize
    have hlt := hl.lt
    have hlen := (listBytes_spec (tk := st.tk) (temp := st.temp) l hl).1
    -- all dirty bytes lie below FileSize, so the clamp is the identity: the list is saved whole
    have hcs : min (lsize l : Int) ((st.fileSize : Int) - (headOff l : Int)) =
        ((listBytes st.tk st.temp l).length : Int) := by omega
    simp only [hcs]
    rw [if_neg (by omega), saveChunk_whole _ _ _ (Int.le_refl _)]
    exact ⟨sinv_save_list h hperm, ⟨rfl, rfl⟩, fun _ => hperm.length_eq.symm, nofun⟩

theorem saveAll_sinv {f : File} : ∀ (fuel : Nat) (st : St), SInv st f → st.lists.length < fuel →
    SInv (saveAll fuel st) f ∧ Same st (saveAll fuel st) ∧ (saveAll fuel st).lists = []
  | 0, st, _, hf => by omega
  | fuel + 1, st, h, hf => by
    obtain ⟨s1, s2, s3, s4⟩ := saveLargest_sinv h
    unfold saveAll
    simp only
    cases hm : (saveLargest st).2 with
    | false =>
      simp only [Bool.false_eq_true, if_false]
      exact ⟨s1, s2, s4 hm⟩
    | true =>
      simp only [if_true]
      have := s3 hm
      obtain ⟨i1, i2, i3⟩ := saveAll_sinv fuel (saveLargest st).1 s1 (by omega)
      exact ⟨i1, s2.trans i2, i3⟩

/-- FileSize = max(offset+len, FileSize): the POSIX file zero-extended -/
theorem sinv_extend {st : St} {f : File} (h : SInv st f) (n : Nat) :
    SInv { st with fileSize := max n st.fileSize, dirtyMeta := true } (f ++ List.replicate (n - f.length) 0) := by
  have hfs := h.fs
  refine ⟨h.inv, ?_, fun p b hb => Nat.lt_of_lt_of_le (h.dirtyIn p b hb) (Nat.le_max_right ..), h.mtLt, h.mtD,
    fun c hc => Nat.le_trans (h.cin c hc) (Nat.le_max_right ..), ?_, ?_, h.tempOk, h.lim⟩
  · show max n st.fileSize = _
    rw [List.length_append, List.length_replicate]; omega
  · intro p b hb
    rw [pad_getD]; exact h.dirty p b hb
  · intro p hp
    rw [pad_getD]; exact PInv.clean h p hp

/-- AddPage's AddInterval: temp file and lists replaced so that the new bytes `d` at `off` lie over the old dirty
    bytes; against a file that differs from the old one in just this way -/
theorem sinv_add {s : St} {g g' : File} (h : SInv s g) {k : Bool} (hk : s.tk = k) {temp' : List Nat} {lists' : List LList}
    {off : Nat} {d : List Nat} (hinv : LInv k temp' lists')
    (hdb : ∀ p, dirtyByte k temp' lists' p =
      if off ≤ p ∧ p < off + d.length then some (d.getD (p - off) 0) else dirtyByte k s.temp s.lists p)
    (hfit : off + d.length ≤ s.fileSize) (hlen : g'.length = g.length)
    (hg : ∀ p, g'.getD p 0 = if off ≤ p ∧ p < off + d.length then d.getD (p - off) 0 else g.getD p 0)
    {ht : Bool} (htemp : k = true → ht = false → lists' = []) :
    SInv { s with temp := temp', lists := lists', hasTemp := ht } g' := by
  subst hk
  refine ⟨hinv, h.fs.trans hlen.symm, ?_, h.mtLt, h.mtD, h.cin, ?_, ?_, htemp, h.lim⟩
  · intro p b hb
    have hb' := (hdb p).symm.trans hb
    show p < s.fileSize
    split at hb'
    · omega
    · exact h.dirtyIn p b hb'
  · intro p b hb
    have hb' := (hdb p).symm.trans hb
    rw [hg]
    by_cases hc : off ≤ p ∧ p < off + d.length
    · rw [if_pos hc] at hb' ⊢
      exact Option.some.inj hb'
    · rw [if_neg hc] at hb' ⊢
      exact h.dirty p b hb'
  · intro p hp
    have hp' := (hdb p).symm.trans (hp.resolve_right id)
    show ByteOk (dataOf s.chunks) (toC17 s.chunks) p (g'.getD p 0)
    rw [hg]
    by_cases hc : off ≤ p ∧ p < off + d.length
    · rw [if_pos hc] at hp'
      cases hp'
    · rw [if_neg hc] at hp' ⊢
      exact h.clean p hp'

/-- AddPage up to the auto-save: (a write longer than the limit: save everything, upload the data,) add the interval -/
def memAddPageHead (s : St) (off : Nat) (d : List Nat) : St :=
  let st1 := if d.length > s.limit then saveChunk (saveAll (s.lists.length + 1) s) d off d.length else s
  { st1 with lists := addInterval false st1.lists { off := off, size := d.length, tmp := 0, data := d } }

theorem memAddPage_eq (s : St) (off : Nat) (d : List Nat) : memAddPage s off d =
    if totalSize (memAddPageHead s off d).lists ≥ (memAddPageHead s off d).limit then
      (saveLargest (memAddPageHead s off d)).1
    else memAddPageHead s off d := rfl

theorem sinv_add_mem {s : St} {g g' : File} (h : SInv s g) (htk : s.tk = false) (off : Nat) (d : List Nat) (hd : d ≠ [])
    (hfit : off + d.length ≤ s.fileSize) (hlen : g'.length = g.length)
    (hg : ∀ p, g'.getD p 0 = if off ≤ p ∧ p < off + d.length then d.getD (p - off) 0 else g.getD p 0) :
    SInv { s with lists := addInterval false s.lists { off := off, size := d.length, tmp := 0, data := d } } g' := by
  have hinv := h.inv
  rw [htk] at hinv
  obtain ⟨a1, a2⟩ := addInterval_page_mem hinv off hd
  exact sinv_add h htk (ht := s.hasTemp) a1 a2 hfit hlen hg nofun

theorem memAddPage_sinv {s : St} {g g' : File} (h : SInv s g) (htk : s.tk = false) (off : Nat) (d : List Nat) (hd : d ≠ [])
    (hfit : off + d.length ≤ s.fileSize) (hlen : g'.length = g.length)
    (hg : ∀ p, g'.getD p 0 = if off ≤ p ∧ p < off + d.length then d.getD (p - off) 0 else g.getD p 0) :
    SInv (memAddPage s off d) g' := by
  have h2 : SInv (memAddPageHead s off d) g' := by
    unfold memAddPageHead
    by_cases hbig : d.length > s.limit
    · simp only [if_pos hbig]
      obtain ⟨a1, a2, a3⟩ := saveAll_sinv (f := g) (s.lists.length + 1) s h (Nat.lt_succ_self _)
      generalize saveAll (s.lists.length + 1) s = sA at a1 a2 a3
      rw [saveChunk_whole _ _ _ (Int.le_refl _)]
      have hfit' : off + d.length ≤ sA.fileSize := (a1.fs.trans h.fs.symm) ▸ hfit
      have hno : ∀ p b, dirtyByte sA.tk sA.temp sA.lists p = some b → g'.getD p 0 = b := by
        rw [a3]; exact nofun
      -- the data goes to the entry first: nothing is dirty, the chunk shows the new bytes
      have hB := (pinv_push a1 ⟨off, d.length, sA.nextMt, d⟩ rfl hfit' hlen
        (fun p h1 h2 => by rw [hg, if_pos ⟨h1, h2⟩]) (fun p hnc => by rw [hg, if_neg hnc]) hno).toSInv
      exact sinv_add_mem hB (a2.tk.trans htk) off d hd hfit' rfl (fun p => by rw [hg]; split <;> rfl)
    · simp only [if_neg hbig]
      exact sinv_add_mem h htk off d hd hfit hlen hg
  rw [memAddPage_eq]
  split
  · exact (saveLargest_sinv h2).1
  · exact h2

theorem tmpAddPage_sinv {s : St} {g g' : File} (h : SInv s g) (htk : s.tk = true) (off : Nat) (d : List Nat) (hd : d ≠ [])
    (hfit : off + d.length ≤ s.fileSize) (hlen : g'.length = g.length)
    (hg : ∀ p, g'.getD p 0 = if off ≤ p ∧ p < off + d.length then d.getD (p - off) 0 else g.getD p 0) :
    SInv (tmpAddPage s off d) g' := by
  -- the state after the temp file has been (re)created: without a temp file there are no lists
  have h1 : ∃ s1 : St, (if s.hasTemp then s else { s with hasTemp := true, temp := [] }) = s1 ∧ SInv s1 g ∧ s1.tk = true ∧
      s1.hasTemp = true ∧ s1.fileSize = s.fileSize := by
    by_cases hh : s.hasTemp = true
    · exact ⟨s, by rw [if_pos hh], h, htk, hh, rfl⟩
    · have hl := h.tempOk htk (eq_false_of_ne_true hh)
      refine ⟨{ s with hasTemp := true, temp := [] }, by rw [if_neg hh], ?_, htk, rfl, rfl⟩
      refine pinv_finish h ?_ ?_ ?_ nofun
      · show LInv s.tk [] s.lists
        rw [hl]; exact linv_nil
      · show ∀ p b, dirtyByte s.tk [] s.lists p = some b → _
        rw [hl]; exact nofun
      · rw [hl]; exact fun _ _ => Or.inl rfl
  obtain ⟨s1, e1, hs1, htk1, hht1, hfs1⟩ := h1
  unfold tmpAddPage
  simp only [e1]
  have hinv := hs1.inv
  rw [htk1] at hinv
  obtain ⟨a1, a2⟩ := addInterval_page_tmp hinv off hd
  refine sinv_add hs1 htk1 (ht := s1.hasTemp) a1 a2 (hfs1 ▸ hfit) hlen hg ?_
  intro _ hf
  rw [hht1] at hf
  cases hf

/-- FileHandle.Write against POSIX pwrite, both buffers -/
theorem write_sinv {st : St} {f : File} (h : SInv st f) (off : Nat) (d : List Nat) (hd : d ≠ []) :
    SInv (write st off d) (pwrite f off d) := by
  have h0 := sinv_extend h (off + d.length)
  have hlen := pwrite_length_pad f off d hd
  have hg : ∀ p, (pwrite f off d).getD p 0 =
      if off ≤ p ∧ p < off + d.length then d.getD (p - off) 0 else (f ++ List.replicate (off + d.length - f.length) 0).getD p 0 := by
    intro p
    rw [pwrite_getD f off d hd p, pad_getD]
  have hfit : off + d.length ≤ ({ st with fileSize := max (off + d.length) st.fileSize, dirtyMeta := true } : St).fileSize :=
    Nat.le_max_left ..
  unfold write
  by_cases htk : st.tk = true
  · simp only [if_pos htk]
    exact tmpAddPage_sinv h0 htk off d hd hfit hlen hg
  · simp only [if_neg htk]
    exact memAddPage_sinv h0 (eq_false_of_ne_true htk) off d hd hfit hlen hg

/-- ToReader(start, stop) reads the bytes of the sublist `subList` would cut -/
theorem sectionBytes_eq (temp : List Nat) (start stop : Nat) : ∀ (l : LList),
    sectionBytes temp l start stop = listBytes true temp (subList l start stop)
  | [] => rfl
  | t :: l => by
    have ih := sectionBytes_eq temp start stop l
    unfold sectionBytes listBytes subList at ih ⊢
    rw [List.flatMap_cons, List.filterMap_cons, ih, sliceNode_eq]
    simp only [Nat.max_comm t.off, Nat.min_comm (t.off + t.size), Nat.add_comm _ t.tmp]
    split <;> rfl

theorem sectionBytes_spec {temp : List Nat} {l : LList} (hl : ListOk true temp l) {a b : Nat} (h1 : headOff l ≤ a)
    (h2 : b ≤ tailStop l) (h : a < b) :
    (sectionBytes temp l a b).length = b - a ∧
    ∀ p v, a ≤ p → p < b → LHas true temp l p v → (sectionBytes temp l a b)[p - a]? = some v := by
  obtain ⟨o1, o2, o3⟩ := subList_ok_inside hl h1 h2 h
  obtain ⟨b1, b2⟩ := listBytes_spec _ o1
  rw [sectionBytes_eq]
  refine ⟨by rw [b1]; unfold lsize; rw [o2, o3], fun p v hp1 hp2 hh => ?_⟩
  have := b2 p v ((lhas_subList l a b p v).2 ⟨hp1, hp2, hh⟩)
  rwa [o2] at this

/-- the temp-file saver leaves the lists as well, until `tmpFlush` drops them all at the end -/
def SameLists (st st' : St) : Prop := Same st st' ∧ st'.lists = st.lists

theorem SameLists.refl (st : St) : SameLists st st := ⟨Same.refl st, rfl⟩

theorem SameLists.trans {a b c : St} (h1 : SameLists a b) (h2 : SameLists b c) : SameLists a c :=
  ⟨h1.1.trans h2.1, h2.2.trans h1.2⟩

/-- one round of the page loop: the window `[up, up + limit)`, cut to the list, goes to the entry -/
def tround (l : LList) (up : Nat) (s : St) : St :=
  let start := max (headOff l) up
  let stop := min (headOff l + lsize l) (up + s.limit)
  if start < stop then saveChunk s (sectionBytes s.temp l start stop) start ((stop : Int) - (start : Int)) else s

theorem tmpSaveList_succ (l : LList) (fuel up : Nat) (s : St) : tmpSaveList l (fuel + 1) up s =
    if up < headOff l + lsize l then tmpSaveList l fuel (up + s.limit) (tround l up s) else s := rfl

theorem tround_pinv {f : File} {l : LList} {s : St} {S : Nat → Prop} (h : PInv s f S) (hl : l ∈ s.lists)
    (htk : s.tk = true) (up : Nat) :
    PInv (tround l up s) f (fun p => S p ∨ (Within l p ∧ up ≤ p ∧ p < up + s.limit)) ∧ SameLists s (tround l up s) := by
  have hok : ListOk true s.temp l := htk ▸ h.inv.1 l hl
  simp only [tround, hok.lsize]
  -- the window cut to the list: `[a, b)`
  generalize ha : max (headOff l) up = a
  generalize hb : min (tailStop l) (up + s.limit) = b
  have hwin : ∀ p, Within l p ∧ up ≤ p ∧ p < up + s.limit → a ≤ p ∧ p < b := fun p hp =>
    ⟨ha ▸ Nat.max_le.2 ⟨hp.1.1, hp.2.1⟩, hb ▸ Nat.lt_min.2 ⟨hp.1.2, hp.2.2⟩⟩
  by_cases hc : a < b
  · rw [if_pos hc]
    obtain ⟨b1, b2⟩ := sectionBytes_spec hok (ha ▸ Nat.le_max_left ..) (hb ▸ Nat.min_le_left ..) hc
    generalize sectionBytes s.temp l a b = B at b1 b2 ⊢
    rw [saveChunk_whole s B a (by rw [b1]; omega)]
    have hab : a + B.length = b := by rw [b1]; exact Nat.add_sub_of_le (Nat.le_of_lt hc)
    exact ⟨(pinv_push_part h hl (ha ▸ Nat.le_max_left ..) (hab ▸ hb ▸ Nat.min_le_left ..) fun p v h1 h2 hh =>
        b2 p v h1 (hab ▸ h2) (htk ▸ hh)).mono fun p hp => hp.imp_right fun hw => hab ▸ hwin p hw,
      ⟨rfl, rfl⟩, rfl⟩
  · rw [if_neg hc]
    exact ⟨h.mono fun p hp => hp.elim id fun hw => absurd (Nat.lt_of_le_of_lt (hwin p hw).1 (hwin p hw).2) hc, SameLists.refl s⟩

/-- the page loop over one list: the rounds so far have saved the list below `up`; enough rounds save it all -/
theorem tmpSaveList_pinv {f : File} {l : LList} {L : Nat} : ∀ (fuel up : Nat) (s : St) (S : Nat → Prop),
    PInv s f S → l ∈ s.lists → s.tk = true → s.limit = L →
    (∀ p, Within l p → p < up → S p) → tailStop l / L + 2 ≤ up / L + fuel →
    PInv (tmpSaveList l fuel up s) f (fun p => S p ∨ Within l p) ∧ SameLists s (tmpSaveList l fuel up s)
  | 0, up, s, S, h, _, _, _, hS, hfuel => by
    have := Nat.lt_of_div_lt_div (show tailStop l / L < up / L by omega)
    exact ⟨h.mono fun p hp => hp.elim id fun hw => hS p hw (by have := hw.2; omega), SameLists.refl s⟩
  | fuel + 1, up, s, S, h, hl, htk, hlim, hS, hfuel => by
    have hL : 0 < L := hlim ▸ h.lim
    rw [tmpSaveList_succ, (htk ▸ h.inv.1 l hl : ListOk true s.temp l).lsize]
    by_cases hup : up < tailStop l
    · rw [if_pos hup]
      obtain ⟨r1, r2⟩ := tround_pinv h hl htk up
      obtain ⟨q1, q2⟩ := tmpSaveList_pinv fuel (up + s.limit) (tround l up s) _ r1 (by rw [r2.2]; exact hl)
        (r2.1.tk.trans htk) (r2.1.limit.trans hlim)
        (fun p hw h3 => (Nat.lt_or_ge p up).elim (fun hpu => Or.inl (hS p hw hpu)) fun hpu => Or.inr ⟨hw, hpu, h3⟩)
        (by rw [hlim, Nat.add_div_right up hL]; omega)
      exact ⟨q1.mono fun p hp => hp.imp_left Or.inl, r2.trans q2⟩
    · rw [if_neg hup]
      exact ⟨h.mono fun p hp => hp.elim id fun hw => hS p hw (by have := hw.2; omega), SameLists.refl s⟩

/-- the page loop of one list, as `tmpFlush` calls it -/
def tstep (s : St) (l : LList) : St := tmpSaveList l ((headOff l + lsize l) / (max s.limit 1) + 2) 0 s

theorem tmpFlush_eq (st : St) : tmpFlush st =
    if (st.lists.foldl tstep st).hasTemp then { (st.lists.foldl tstep st) with lists := [], hasTemp := false, temp := [] }
    else st.lists.foldl tstep st := rfl

theorem tstep_fold_pinv {f : File} : ∀ (ls : List LList) (s : St) (S : Nat → Prop), PInv s f S → (∀ l ∈ ls, l ∈ s.lists) →
    s.tk = true →
    PInv (ls.foldl tstep s) f (fun p => S p ∨ ∃ l ∈ ls, Within l p) ∧ SameLists s (ls.foldl tstep s)
  | [], s, S, h, _, _ => ⟨h.mono fun p hp => hp.elim id nofun, SameLists.refl s⟩
  | l :: ls, s, S, h, hsub, htk => by
    have hl := hsub l List.mem_cons_self
    have hmax : max s.limit 1 = s.limit := Nat.max_eq_left h.lim
    obtain ⟨a1, a2⟩ := tmpSaveList_pinv (f := f) (l := l) ((headOff l + lsize l) / (max s.limit 1) + 2) 0 s S
      h hl htk rfl (fun p _ h3 => absurd h3 (Nat.not_lt_zero p)) (by rw [hmax, (h.inv.1 l hl).lsize, Nat.zero_div]; omega)
    obtain ⟨b1, b2⟩ := tstep_fold_pinv ls (tstep s l) _ a1
      (fun l' hl' => by
        show l' ∈ (tmpSaveList l ((headOff l + lsize l) / (max s.limit 1) + 2) 0 s).lists
        rw [a2.2]; exact hsub l' (List.mem_cons_of_mem _ hl'))
      (a2.1.tk.trans htk)
    rw [List.foldl_cons]
    refine ⟨b1.mono fun p hp => ?_, SameLists.trans a2 b2⟩
    rcases hp with hp | ⟨l', hl', hw⟩
    · exact Or.inl (Or.inl hp)
    · rcases List.mem_cons.1 hl' with rfl | hl'
      · exact Or.inl (Or.inr hw)
      · exact Or.inr ⟨l', hl', hw⟩

theorem tmpFlush_sinv {st : St} {f : File} (h : SInv st f) (htk : st.tk = true) :
    SInv (tmpFlush st) f ∧ (tmpFlush st).lists = [] := by
  obtain ⟨a1, a2⟩ := tstep_fold_pinv st.lists st _ h (fun l hl => hl) htk
  rw [tmpFlush_eq]
  generalize st.lists.foldl tstep st = st1 at a1 a2
  by_cases hht : st1.hasTemp = true
  · rw [if_pos hht]
    refine ⟨pinv_finish a1 linv_nil nofun ?_ (fun _ _ => rfl), rfl⟩
    · -- every dirty position lies in one of the lists, all of which are saved
      intro p _
      cases hd : dirtyByte st1.tk st1.temp st1.lists p with
      | none => exact Or.inl rfl
      | some b =>
        obtain ⟨l, hl, hh⟩ := (dirtyByte_eq_some a1.inv).1 hd
        exact Or.inr (Or.inr ⟨l, a2.2 ▸ hl, lhas_range (a1.inv.1 l hl) hh⟩)
  · rw [if_neg hht]
    exact ⟨a1.toSInv, a1.tempOk (a2.1.tk.trans htk) (eq_false_of_ne_true hht)⟩

/-- the part of doFlush behind FlushData: CompactFileChunks + the entry goes to the filer -/
def flushTail (st1 : St) : St × Option (List SChunk) :=
  if st1.dirtyMeta then
    let keep := (SwV.Model.C17.compact (toC17 st1.chunks)).1.map (·.fid)
    let cs := st1.chunks.filter fun c => keep.contains c.mt
    ({ st1 with chunks := cs, dirtyMeta := false }, some cs)
  else (st1, none)

theorem flush_eq (st : St) :
    flush st = flushTail (if st.tk then tmpFlush st else saveAll (st.lists.length + 1) st) := rfl

theorem flushTail_sinv {st1 : St} {f : File} (h : SInv st1 f) (hmax : f.length ≤ maxInt64) :
    SInv (flushTail st1).1 f ∧ (flushTail st1).1.lists = st1.lists := by
  unfold flushTail
  by_cases hdm : st1.dirtyMeta = true
  · rw [if_pos hdm]
    refine ⟨⟨h.inv, h.fs, h.dirtyIn, fun c hc => h.mtLt c (List.mem_filter.1 hc).1, mtDistinct_filter h.mtD _,
      fun c hc => h.cin c (List.mem_filter.1 hc).1, h.dirty, ?_, h.tempOk, h.lim⟩, rfl⟩
    intro p hp
    have hold := h.clean p (hp.resolve_right id)
    by_cases hpm : p < maxInt64
    · exact byteOk_compact h.mtD hpm hold
    · -- from `maxInt64` on there is neither a chunk nor a byte of the file
      right
      refine ⟨?_, ?_⟩
      · refine List.forall_mem_map.2 fun s hs hcov => ?_
        have := h.cin s (List.mem_filter.1 hs).1
        have hfs := h.fs
        have hcov' : s.off ≤ p ∧ p < s.off + s.size := hcov
        omega
      · rw [List.getD_eq_getElem?_getD, List.getElem?_eq_none (by omega)]
        rfl
  · rw [if_neg hdm]
    exact ⟨h, rfl⟩

/-- doFlush, both buffers: the invariant survives and no dirty page is left -/
theorem flush_sinv {st : St} {f : File} (h : SInv st f) (hmax : f.length ≤ maxInt64) :
    SInv (flush st).1 f ∧ (flush st).1.lists = [] := by
  have h1 : ∃ st1, (if st.tk = true then tmpFlush st else saveAll (st.lists.length + 1) st) = st1 ∧ SInv st1 f ∧
      st1.lists = [] := by
    by_cases htk : st.tk = true
    · rw [if_pos htk]
      exact ⟨_, rfl, tmpFlush_sinv h htk⟩
    · rw [if_neg htk]
      obtain ⟨a1, _, a3⟩ := saveAll_sinv (f := f) (st.lists.length + 1) st h (Nat.lt_succ_self _)
      exact ⟨_, rfl, a1, a3⟩
  obtain ⟨st1, e, a1, a2⟩ := h1
  rw [flush_eq, e]
  obtain ⟨b1, b2⟩ := flushTail_sinv a1 hmax
  exact ⟨b1, b2.trans a2⟩

/-- a flushed entry read back by a fresh reader -/
theorem resolve_of_sinv {st : St} {f : File} (h : SInv st f) (hl : st.lists = []) (hmax : f.length ≤ maxInt64) :
    resolve st = f :=
  resolve_eq h.mtD h.fs h.cin hmax (fun p => h.clean p (hl ▸ dirtyByte_nil ..))

theorem sinv_init (tk : Bool) (limit : Nat) (hl : 0 < limit) : SInv { tk := tk, limit := limit } [] :=
  ⟨linv_nil, rfl, nofun, nofun, List.Pairwise.nil, nofun, nofun, fun _ _ => Or.inr ⟨nofun, rfl⟩, fun _ _ => rfl, hl⟩

end SwV.Lemmas.C30
