/-
C06 — the rebuilder's chunk loop on shard lengths (`rebuildLen`, used by the driver for shards far above
the chunk size): for shard files of one common length that is a multiple of the chunk size it writes exactly
that length whenever at least `k` (> 0) shards are present (`rebuildLen_uniform`).  Core Lean only.
-/
import SwV.Model.C06
namespace SwV.Lemmas.C06
open SwV.Model.C06

/-- shard files of one common length; `mask[i] = true` = shard `i` is present -/
def uniformLens (len : Nat) (mask : List Bool) : List (Option Nat) :=
  mask.map fun p => if p then some len else none

/-- one pass over the shard files while bytes are left (`n = min C (len - start) ≠ 0`): every present shard returns
    `n` bytes, be it the first pass (`ibds = 0`, some shard present) or a later one (`ibds = n`) -/
theorem reads_uniform (C start len ibds : Nat) (mask : List Bool) (hn : min C (len - start) ≠ 0)
    (hib : ibds = 0 ∨ ibds = min C (len - start)) (hp : ibds = 0 → mask.any id = true) :
    rebuildReadsLen C start (uniformLens len mask) ibds = .ok (min C (len - start)) := by
  induction mask generalizing ibds with
  | nil =>
    rcases hib with h | h
    · exact absurd (hp h) Bool.false_ne_true
    · rw [h]; rfl
  | cons b rest ih =>
    cases b with
    | false => simpa [uniformLens, rebuildReadsLen] using ih ibds hib (by simpa using hp)
    | true =>
      have hib' : (if ibds = 0 then min C (len - start) else ibds) = min C (len - start) := by
        rcases hib with h | h <;> simp [h]
      simp only [uniformLens, List.map_cons, if_true, rebuildReadsLen, hn, if_false, hib', ne_eq, not_true_eq_false]
      exact ih _ (Or.inr rfl) (fun h => absurd h hn)

theorem reads_uniform_stop (C start len ibds : Nat) (mask : List Bool) (hn : min C (len - start) = 0)
    (hp : mask.any id = true) :
    rebuildReadsLen C start (uniformLens len mask) ibds = .stop := by
  induction mask with
  | nil => simp at hp
  | cons b rest ih =>
    cases b with
    | false =>
      have : rest.any id = true := by simpa using hp
      simpa [uniformLens, rebuildReadsLen] using ih this
    | true => simp [uniformLens, rebuildReadsLen, hn]

theorem uniform_present_count (len : Nat) (mask : List Bool) :
    ((uniformLens len mask).filter Option.isSome).length = (mask.filter id).length := by
  induction mask with
  | nil => rfl
  | cons b rest ih => cases b <;> simp [uniformLens] at ih ⊢ <;> exact ih

/-- `j` chunks are written and `d` are still to come; induction on `d` -/
theorem loop_uniform (k C q : Nat) (mask : List Bool) (hC : 0 < C)
    (hk : k ≤ (mask.filter id).length) (hp : mask.any id = true) :
    ∀ (d j fuel ibds : Nat), ibds = 0 ∨ ibds = C → j + d = q → d < fuel →
      rebuildLenLoop k C (uniformLens (q * C) mask) fuel (j * C) ibds = some (q * C) := by
  intro d
  induction d with
  | zero =>
    intro j fuel ibds _ hj hf
    obtain ⟨f, rfl⟩ : ∃ f, fuel = f + 1 := Nat.exists_eq_add_one.mpr hf
    obtain rfl : j = q := by omega
    simp only [rebuildLenLoop, reads_uniform_stop C (j * C) (j * C) ibds mask (by simp) hp]
  | succ d ih =>
    intro j fuel ibds hib hj hf
    obtain ⟨f, rfl⟩ : ∃ f, fuel = f + 1 := Nat.exists_eq_add_one.mpr (Nat.zero_lt_of_lt hf)
    have hmin : min C (q * C - j * C) = C := by
      rw [← hj, Nat.add_mul, Nat.add_sub_cancel_left, Nat.succ_mul]
      exact Nat.min_eq_left (Nat.le_add_left C _)
    have hr := reads_uniform C (j * C) (q * C) ibds mask (by omega) (by rwa [hmin]) (fun _ => hp)
    have hcnt : ¬ ((uniformLens (q * C) mask).filter Option.isSome).length < k := by
      rw [uniform_present_count]; omega
    rw [hmin] at hr
    simp only [rebuildLenLoop, hr, hcnt, if_false]
    rw [← Nat.succ_mul]
    exact ih (j + 1) f C (Or.inr rfl) (by omega) (by omega)

theorem uniform_maxLen (len : Nat) (mask : List Bool) (a : Nat) :
    (uniformLens len mask).foldl (fun a o => max a (o.getD 0)) a = if mask.any id then max a len else a := by
  induction mask generalizing a with
  | nil => rfl
  | cons b rest ih =>
    cases b with
    | false => simpa [uniformLens] using ih a
    | true =>
      have := ih (max a len)
      simp only [uniformLens, List.map_cons, if_true, List.foldl_cons, Option.getD_some] at this ⊢
      rw [this, Nat.max_assoc, Nat.max_self]
      simp only [List.any_cons, id, Bool.true_or, if_true, ite_self]

/-- shards of one common length `q * C`, at least `k` (> 0) of them present: the loop returns without
    error and has written exactly `q * C` bytes to every regenerated shard -/
theorem rebuildLen_uniform (k C q : Nat) (mask : List Bool) (hC : 0 < C) (hk0 : 0 < k)
    (hk : k ≤ (mask.filter id).length) :
    rebuildLen k C (uniformLens (q * C) mask) = some (q * C) := by
  have hp : mask.any id = true :=
    List.any_eq_true.mpr (List.length_filter_pos_iff.mp (Nat.lt_of_lt_of_le hk0 hk))
  unfold rebuildLen
  simp only [uniform_maxLen, hp, if_true]
  have := loop_uniform k C q mask hC hk hp q 0 (max 0 (q * C) + 1) 0 (Or.inl rfl) (Nat.zero_add q)
    (Nat.lt_succ_of_le (Nat.le_trans (Nat.le_mul_of_pos_right q hC) (Nat.le_max_right _ _)))
  rwa [Nat.zero_mul] at this

end SwV.Lemmas.C06
