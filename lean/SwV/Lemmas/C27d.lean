/-
C27 — the depth-first key stream of a depth-≤2 tree (`allKeys`) lists no key twice, hence neither does what a
continuation point (`Cursor`) stands for, a suffix of it. Used by the theorem that the model passes the
start-after judge (`resumeJudge`: no item twice, last page in time).
-/
import SwV.Spec.C27
import SwV.Lemmas.C27b
namespace SwV.Lemmas.C27
open SwV.Model.C19 (Bytes ltB isPrefix)
open SwV.Model.C27 SwV.Spec.C27 SwV.Lemmas.C19

/-- first segment of a key: the name of the top-level entry that emitted it (`headSeg_entryKeys`), which is what
    keeps the keys of different entries apart -/
def headSeg (k : Bytes) : Bytes :=
  match cutFirstSlash k with
  | some (d, _) => d
  | none => k

theorem sorted_keys_nodup {S : List Ent} (h : SortedDb S) : (S.map (·.key)).Nodup := by
  unfold SortedDb at h
  rw [List.nodup_iff_pairwise_ne, List.pairwise_map]
  refine List.Pairwise.imp ?_ h
  intro a b hab heq
  rw [heq, ltB_irrefl] at hab
  cases hab

theorem headSeg_entryKeys (ks : List (List Bytes)) (e : Ent) (hn : cutFirstSlash e.key = none) :
    ∀ k ∈ entryKeys ks e, headSeg k = e.key := by
  intro k hk
  unfold entryKeys at hk
  cases hexp : e.expired with
  | false =>
    simp only [hexp, Bool.false_eq_true, if_false, List.mem_singleton] at hk
    subst hk
    simp only [headSeg, hn]
  | true =>
    simp only [hexp, if_true, List.mem_map] at hk
    obtain ⟨c, _, rfl⟩ := hk
    simp only [headSeg, cut_dir_marker e.key c.key hn]

theorem entryKeys_nodup (ks : List (List Bytes)) (e : Ent) (hs : e.expired = true → SortedDb (children ks [e.key])) :
    (entryKeys ks e).Nodup := by
  unfold entryKeys
  cases hexp : e.expired with
  | false => simp
  | true =>
    rw [if_pos rfl]
    have := List.Pairwise.map (S := (· ≠ ·)) (fun n => e.key ++ [slash] ++ n)
      (fun a b hab heq => hab (List.append_cancel_left heq)) (sorted_keys_nodup (hs hexp))
    rwa [List.map_map] at this

theorem allKeys_nodup (ks : List (List Bytes)) (h : Tree2 ks) : (allKeys ks).Nodup := by
  unfold allKeys streamOf
  rw [List.nodup_iff_pairwise_ne, List.pairwise_flatMap]
  refine ⟨fun e he => entryKeys_nodup ks e fun hexp => (h.sub e he hexp).2.1.sorted, ?_⟩
  -- the order together with membership: `Tree2.names` speaks of the entries of the top directory
  refine List.Pairwise.imp_of_mem ?_ h.sorted
  intro a b ha hb hab k hka k' hkb hkk
  subst hkk
  have h1 := headSeg_entryKeys ks a (h.names a ha).2 k hka
  have h2 := headSeg_entryKeys ks b (h.names b hb).2 k hkb
  rw [h1] at h2
  rw [h2, ltB_irrefl] at hab
  cases hab

theorem cursor_nodup (ks : List (List Bytes)) (h : Tree2 ks) (m : Bytes) (Z : List Bytes) (hc : Cursor ks m Z) : Z.Nodup :=
  List.Nodup.sublist (cursor_suffix ks m Z hc).sublist (allKeys_nodup ks h)

theorem finishedWalk_of_ends (pages : List Page) (h : pages.getLast?.map (·.trunc) = some false) :
    finishedWalk pages = true := by
  unfold finishedWalk
  cases hl : pages.getLast? with
  | none => rw [hl] at h; cases h
  | some p =>
    rw [hl, Option.map_some, Option.some.injEq] at h
    simp only [h, Bool.not_false]

theorem noRepeat_of_nodup : ∀ (l : List Bytes), l.Nodup → noRepeat l = true
  | [], _ => rfl
  | x :: r, h => by
    rw [List.nodup_cons] at h
    simp only [noRepeat, Bool.and_eq_true, Bool.not_eq_true', noRepeat_of_nodup r h.2, and_true]
    cases hc : r.contains x with
    | false => rfl
    | true => exact absurd (List.contains_iff_mem.mp hc) h.1

end SwV.Lemmas.C27
