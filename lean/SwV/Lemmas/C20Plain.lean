/-
C20 — the plain world (no link identities) as the special case of the link world: there every name shows its
own chunks, so `ExclL` is `Excl`, `FreshL` follows from `FreshFor`, and "shown" is "referenced"; a create and a
file delete then keep `GcOk` because they keep `GcS`.
-/
import SwV.Lemmas.C20LinksStep
namespace SwV.Lemmas.C20
open SwV.Model.C18 SwV.Lemmas.C18 SwV.Lemmas.C20Links

theorem shows_plain {s : St} (pl : Plain s) {p : RPath} {k : Nat} {cs : List Nat} :
    Shows s p k cs ↔ k = 0 ∧ ∃ e, (p, e) ∈ s.ents ∧ cs = e.chunks := by
  constructor
  · rintro ⟨e, hm, hk, hc⟩
    have h0 : k = 0 := hk.symm.trans (pl _ hm)
    rcases hc with ⟨_, hcs⟩ | ⟨hn, _⟩
    · exact ⟨h0, e, hm, hcs⟩
    · exact absurd h0 hn
  · rintro ⟨rfl, e, hm, rfl⟩
    exact ⟨e, hm, pl _ hm, Or.inl ⟨rfl, rfl⟩⟩

theorem exclL_iff_excl {s : St} (pl : Plain s) : ExclL s ↔ Excl s := by
  constructor
  · intro h p q a b ha hb hne
    exact h p q 0 0 a.chunks b.chunks ((shows_plain pl).mpr ⟨rfl, a, ha, rfl⟩) ((shows_plain pl).mpr ⟨rfl, b, hb, rfl⟩)
      hne fun h => h.1 rfl
  · intro h p q k k' cs cs' hp hq hne _
    rcases (shows_plain pl).mp hp with ⟨_, a, ha, rfl⟩
    rcases (shows_plain pl).mp hq with ⟨_, b, hb, rfl⟩
    exact h p q a b ha hb hne

theorem freshL_of_freshFor {s : St} (pl : Plain s) {p : RPath} {e : Entry} (fr : FreshFor s p e) : FreshL s p e.chunks := by
  intro q k' cs' hq hqp _
  rcases (shows_plain pl).mp hq with ⟨_, b, hb, rfl⟩
  exact fr q b hb hqp

theorem referenced_shows_plain {s : St} (inv : TreeInv s) (pl : Plain s) (c : Nat) : Referenced s c ↔ RefS s c :=
  referenced_shows inv (fun x hx h => absurd (pl x hx) h) c

theorem gcOk_of_gcS {s s' : St} {E : List Nat} (inv : TreeInv s) (inv' : TreeInv s') (pl : Plain s) (pl' : Plain s')
    (G : GcS s s' E true) : GcOk s s' E :=
  have R := gcS_referenced (referenced_shows_plain inv pl) (referenced_shows_plain inv' pl') G
  ⟨pl', (exclL_iff_excl pl').mp G.1, R.1, R.2 rfl⟩

theorem gcOk_createEntry {s : St} (inv : TreeInv s) (pl : Plain s) (ex : Excl s) (p : RPath) (e : Entry) (x : Bool)
    (he : e.hl = 0) (fr : FreshFor s p e) :
    GcOk s (createEntry s p e x).1 (createEntry s p e x).2.2 :=
  gcOk_of_gcS inv (inv_createEntry inv fun _ => he) pl (plain_createEntry pl he)
    (gcS_createEntry_plain inv ((exclL_iff_excl pl).mpr ex) p e x he (fun _ ha => pl _ ha) (freshL_of_freshFor pl fr) true)

theorem gcOk_deleteFile {s : St} (inv : TreeInv s) (pl : Plain s) (ex : Excl s) {n : String} {par : RPath} {a : Entry}
    (hm : (n :: par, a) ∈ s.ents) (hfile : a.isDir = false) (r : Bool) :
    GcOk s (deleteEntry s (n :: par) r true).1 (deleteEntry s (n :: par) r true).2.2 := by
  have h0 : a.hl = 0 := pl _ hm
  refine gcOk_of_gcS inv (inv_deleteEntry inv) pl (fun y hy => pl y (deleteEntry_subset y hy)) ?_
  exact gcS_deleteFile inv ((exclL_iff_excl pl).mpr ex) hm (fun h => absurd h0 h) (find_plain inv pl hm) hfile r true
    fun _ h => absurd h0 h

end SwV.Lemmas.C20
