/-
C16 — free shard slots: the planner's counter `freeEcSlot` against the RECOUNT from where the shards are
(capacity − shards held by the bitmaps).  `addEcVolumeShards` / `deleteEcVolumeShards` change the counter
by exactly the number of shards the bitmaps gain / lose (the addition for a shard id below 14), so `free + total`
of a server does not change (`add_slack`, `del_slack`), and a layout whose counters equal the recount (`SlackOk`) is
still one after either update of one server.  Moves, picks and sequences of them are put together in `Props/C16`
(`moves_keep_counter_exact`).
-/
import SwV.Lemmas.C16
namespace SwV.Lemmas.C16Slots
open SwV.Model.C16 SwV.Spec.C16 SwV.Lemmas.C16

def tot (l : List (Nat × Nat)) : Nat := (l.map fun s => popc s.2).sum

theorem total_eq (n : ENode) : n.total = if n.hdd then tot n.shards else 0 := rfl

theorem popc_delBit_le (b s : Nat) : popc (delBit b s) ≤ popc b := by
  unfold popc shardIds
  rw [← List.countP_eq_length_filter, ← List.countP_eq_length_filter]
  apply List.countP_mono_left
  intro j _ hj
  rw [hasBit_delBit] at hj
  simp at hj
  exact hj.1

theorem popc_two_pow : ∀ s, s < 14 → popc (2 ^ s) = 1 := by decide +kernel

theorem tot_cons (v b : Nat) (l : List (Nat × Nat)) : tot ((v, b) :: l) = popc b + tot l := rfl

theorem tot_setFirst (vid : Nat) (f : Nat → Nat) (l : List (Nat × Nat)) (e : Nat × Nat)
    (h : l.find? (·.1 == vid) = some e) : tot (setFirst vid f l) + popc e.2 = popc (f e.2) + tot l := by
  induction l with
  | nil => simp at h
  | cons a l ih =>
    obtain ⟨v, b⟩ := a
    rw [List.find?_cons] at h
    rw [setFirst]
    split at h
    next hv =>
      cases h
      rw [if_pos hv, tot_cons, tot_cons, Nat.add_assoc, Nat.add_comm (tot l)]
    next hv =>
      rw [if_neg (ne_true_of_eq_false hv), tot_cons, tot_cons, Nat.add_assoc, ih h, Nat.add_left_comm]

theorem tot_append (a b : List (Nat × Nat)) : tot (a ++ b) = tot a + tot b := by
  simp [tot, List.map_append, List.sum_append]

theorem tot_map_del (vid s : Nat) (l : List (Nat × Nat)) :
    tot (l.map fun e => if e.1 == vid then (e.1, delBit e.2 s) else e) +
      ((l.filter (·.1 == vid)).map fun e => popc e.2 - popc (delBit e.2 s)).sum = tot l := by
  induction l with
  | nil => rfl
  | cons a l ih =>
    obtain ⟨v, b⟩ := a
    rw [List.map_cons, List.filter_cons, tot_cons]
    dsimp only
    split
    · rw [tot_cons, List.map_cons, List.sum_cons, Nat.add_add_add_comm,
        Nat.add_sub_cancel' (popc_delBit_le b s), ih]
    · rw [tot_cons, Nat.add_assoc, ih]

/-- `addEcVolumeShards` (one shard id below 14): counter + held shards is unchanged -/
theorem add_slack (vid s : Nat) (hs : s < 14) (n : ENode) :
    (n.add vid s).free + ((n.add vid s).total : Int) = n.free + (n.total : Int) := by
  unfold ENode.add
  split
  next he =>
    obtain ⟨hh, e, hf⟩ := entry_of_hasEntry he
    have hb : n.bits vid = e.2 := by simp [ENode.bits, hh, hf]
    have := tot_setFirst vid (addBit · s) n.shards e hf
    simp only [total_eq, hh, hb, if_true]
    omega
  next =>
    have : tot [(vid, 2 ^ s)] = 1 := by simp [tot, popc_two_pow s hs]
    have hb : n.total = tot (if n.hdd then n.shards else []) := by unfold ENode.total; split <;> rfl
    rw [hb]
    simp only [total_eq, if_true, tot_append, this]
    omega

/-- `deleteEcVolumeShards` (one shard id): counter + held shards is unchanged — the counter is credited
    with exactly the shards the bitmaps lose (nothing when the shard was not there) -/
theorem del_slack (vid s : Nat) (n : ENode) :
    (n.del vid s).free + ((n.del vid s).total : Int) = n.free + (n.total : Int) := by
  unfold ENode.del
  by_cases hh : n.hdd = true
  · have := tot_map_del vid s n.shards
    simp only [hh, Bool.not_true, Bool.false_eq_true, if_false, total_eq, if_true]
    omega
  · have hh2 : n.hdd = false := eq_false_of_ne_true hh
    simp [hh2]

/-- the counter of every server equals the recount: capacity − shards held -/
def SlackOk (cap : Nat → Int) (st : ESt) : Prop := ∀ n ∈ st.nodes, n.free = recountFree cap n

theorem slackOk_upd (cap : Nat → Int) (st : ESt) (id : Nat) {f : ENode → ENode}
    (hid : ∀ n, (f n).id = n.id) (hsl : ∀ n, (f n).free + ((f n).total : Int) = n.free + (n.total : Int))
    (h : SlackOk cap st) : SlackOk cap (st.upd id f) := by
  intro m hm
  simp only [ESt.upd, List.mem_map] at hm
  obtain ⟨n, hn, rfl⟩ := hm
  have := h n hn
  split
  · have e1 := hid n
    have e2 := hsl n
    unfold recountFree at this ⊢
    rw [e1]; omega
  · exact this

theorem slackOk_add (cap : Nat → Int) (st : ESt) (id vid s : Nat) (hs : s < 14) (h : SlackOk cap st) :
    SlackOk cap (st.upd id (·.add vid s)) :=
  slackOk_upd cap st id (add_id vid s) (add_slack vid s hs) h

theorem slackOk_del (cap : Nat → Int) (st : ESt) (id vid s : Nat) (h : SlackOk cap st) :
    SlackOk cap (st.upd id (·.del vid s)) :=
  slackOk_upd cap st id (del_id vid s) (del_slack vid s) h

end SwV.Lemmas.C16Slots
