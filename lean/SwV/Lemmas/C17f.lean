/-
Facts about the content predicate `ByteOk` itself.  The executable content test `byteOk` (what the judges run)
accepts every byte the specification `ByteOk` allows — so a theorem stated with `ByteOk` about the model's output
makes the content test of the corresponding judge pass on it.  `ByteOk` at p looks only at the chunks covering p, and at the
blobs only through the file ids of the chunks.
-/
import SwV.Spec.C17
namespace SwV.Lemmas.C17
open SwV.Model.C17 SwV.Spec.C17

theorem byteOk_of_ByteOk (data : Nat → Nat → Nat) (cs : List Chunk) (p b : Nat) (h : ByteOk data cs p b) :
    byteOk data cs p b = true := by
  unfold byteOk
  rcases h with ⟨c, ⟨hc, hcov, hnew⟩, hb⟩ | ⟨hno, hb⟩
  · have hmem : c ∈ cs.filter (fun c => decide (covers c p)) := List.mem_filter.2 ⟨hc, decide_eq_true hcov⟩
    have hne : (cs.filter (fun c => decide (covers c p))).isEmpty = false :=
      List.isEmpty_eq_false_iff_exists_mem.2 ⟨c, hmem⟩
    simp only [hne, Bool.false_eq_true, if_false]
    rw [List.any_eq_true]
    refine ⟨c, hmem, ?_⟩
    rw [Bool.and_eq_true, List.all_eq_true]
    refine ⟨fun c' hc' => ?_, beq_iff_eq.2 hb⟩
    have hm := List.mem_filter.1 hc'
    exact decide_eq_true (hnew c' hm.1 (of_decide_eq_true hm.2))
  · have hnil : cs.filter (fun c => decide (covers c p)) = [] :=
      List.filter_eq_nil_iff.2 (fun c hc => mt of_decide_eq_true (hno c hc))
    simp [hnil, hb]

theorem newest_congr {cs cs' : List Chunk} {p : Nat} (h : ∀ c, covers c p → (c ∈ cs ↔ c ∈ cs')) {c : Chunk}
    (hn : Newest cs p c) : Newest cs' p c :=
  ⟨(h c hn.2.1).1 hn.1, hn.2.1, fun c' hc' hv => hn.2.2 c' ((h c' hv).2 hc') hv⟩

/-- the content at p sees of the chunk list only which chunks cover p -/
theorem byteOk_congr (data : Nat → Nat → Nat) {cs cs' : List Chunk} {p : Nat}
    (h : ∀ c, covers c p → (c ∈ cs ↔ c ∈ cs')) {b : Nat} : ByteOk data cs p b ↔ ByteOk data cs' p b := by
  have one : ∀ {cs cs' : List Chunk}, (∀ c, covers c p → (c ∈ cs ↔ c ∈ cs')) → ByteOk data cs p b → ByteOk data cs' p b := by
    rintro cs cs' h (⟨c, hn, e⟩ | ⟨hn, e⟩)
    · exact Or.inl ⟨c, newest_congr h hn, e⟩
    · exact Or.inr ⟨fun c hc hv => hn c ((h c hv).2 hc) hv, e⟩
  exact ⟨one h, one fun c hv => (h c hv).symm⟩

/-- chunks that do not cover p have no say in the content at p -/
theorem byteOk_append_iff (data : Nat → Nat → Nat) {a b : List Chunk} {p x : Nat} (hnc : ∀ c ∈ b, ¬ covers c p) :
    ByteOk data (a ++ b) p x ↔ ByteOk data a p x :=
  byteOk_congr data fun c hc =>
    ⟨fun h => (List.mem_append.1 h).resolve_right fun hb => hnc c hb hc, List.mem_append_left b⟩

theorem byteOk_congr_data {data data' : Nat → Nat → Nat} {cs : List Chunk} {p b : Nat}
    (he : ∀ c ∈ cs, ∀ i, data c.fid i = data' c.fid i) (h : ByteOk data cs p b) : ByteOk data' cs p b := by
  rcases h with ⟨c0, hc0, rfl⟩ | ⟨hn, rfl⟩
  · exact Or.inl ⟨c0, hc0, he c0 hc0.1 _⟩
  · exact Or.inr ⟨hn, rfl⟩

end SwV.Lemmas.C17
