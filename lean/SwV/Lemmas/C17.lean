/-
MergeIntoVisibles of a chunk of positive size keeps the invariant `VInv`: the intervals are non-empty, sorted, disjoint, and denote the
last-writer-wins overlay (`specOf`) of the chunks merged so far.
-/
import SwV.Model.C17
namespace SwV.Lemmas.C17
open SwV.Model.C17

/-- what a visible interval shows at p: (file id, mtime, chunk size, offset inside the chunk) -/
abbrev Shown := Nat × Int × Nat × Nat

def cov (v : Vis) (p : Nat) : Prop := v.start ≤ p ∧ p < v.stop
def val (v : Vis) (p : Nat) : Shown := (v.fid, v.mtime, v.csize, v.coff + (p - v.start))
def shows (c : Chunk) (p : Nat) : Shown := (c.fid, c.mtime, c.size, p - c.off)

def stepSpec (c : Chunk) (f : Nat → Option Shown) : Nat → Option Shown :=
  fun p => if c.off ≤ p ∧ p < c.stop then some (shows c p) else f p

def specOf (cs : List Chunk) : Nat → Option Shown :=
  cs.foldl (fun f c => stepSpec c f) (fun _ => none)

structure VInv (vs : List Vis) (f : Nat → Option Shown) : Prop where
  pos : ∀ v ∈ vs, v.start < v.stop
  sorted : vs.Pairwise (fun a b => a.stop ≤ b.start)
  sem : ∀ p r, (∃ v ∈ vs, cov v p ∧ val v p = r) ↔ f p = some r

theorem mem_bubbleRev {xs : List Vis} {n v : Vis} : v ∈ bubbleRev xs n ↔ v = n ∨ v ∈ xs := by
  induction xs with
  | nil => simp [bubbleRev]
  | cons x xs ih =>
    unfold bubbleRev; split
    · simp [ih]; constructor <;> (intro h; rcases h with h | h | h <;> simp [h])
    · simp

theorem mem_bubble {xs : List Vis} {n v : Vis} : v ∈ bubble xs n ↔ v = n ∨ v ∈ xs := by
  simp [bubble, mem_bubbleRev]

theorem mem_pieces {o e : Nat} {v w : Vis} : w ∈ pieces o e v ↔
    (w = { v with stop := o } ∧ v.start < o ∧ o < v.stop) ∨
    (w = { v with start := e, coff := v.coff + (e - v.start) } ∧ v.start < e ∧ e < v.stop) ∨
    (w = v ∧ (e ≤ v.start ∨ v.stop ≤ o)) := by
  simp only [pieces, List.mem_append, List.mem_ite_nil_right, List.mem_singleton, or_assoc, and_comm]

theorem pieces_sem {o e : Nat} (v : Vis) (p : Nat) (r : Shown) (hp : ¬ (o ≤ p ∧ p < e)) :
    (∃ w ∈ pieces o e v, cov w p ∧ val w p = r) ↔ (cov v p ∧ val v p = r) := by
  constructor
  · rintro ⟨w, hw, hc, hv⟩
    rcases mem_pieces.1 hw with ⟨rfl, h1, h2⟩ | ⟨rfl, h1, h2⟩ | ⟨rfl, _⟩
    · exact ⟨⟨hc.1, Nat.lt_trans hc.2 h2⟩, hv⟩
    · have h3 : e ≤ p := hc.1
      refine ⟨⟨Nat.le_of_lt (Nat.lt_of_lt_of_le h1 h3), hc.2⟩, ?_⟩
      rw [← hv]
      exact (congrArg (fun x => (v.fid, v.mtime, v.csize, x))
        (by rw [Nat.add_assoc, Nat.add_comm (e - v.start), Nat.sub_add_sub_cancel h3 (Nat.le_of_lt h1)])).symm
    · exact ⟨hc, hv⟩
  · rintro ⟨hc, hv⟩
    -- the piece of v that holds p: the part below o, the part from e on, or v itself
    by_cases h1 : p < o
    · by_cases h2 : o < v.stop
      · exact ⟨_, mem_pieces.2 (Or.inl ⟨rfl, Nat.lt_of_le_of_lt hc.1 h1, h2⟩), ⟨hc.1, h1⟩, hv⟩
      · exact ⟨v, mem_pieces.2 (Or.inr (Or.inr ⟨rfl, Or.inr (Nat.le_of_not_lt h2)⟩)), hc, hv⟩
    · have h3 : e ≤ p := Nat.le_of_not_lt fun h => hp ⟨Nat.le_of_not_lt h1, h⟩
      by_cases h2 : v.start < e
      · refine ⟨_, mem_pieces.2 (Or.inr (Or.inl ⟨rfl, h2, Nat.lt_of_le_of_lt h3 hc.2⟩)), ⟨h3, hc.2⟩, ?_⟩
        rw [← hv]
        exact congrArg (fun x => (v.fid, v.mtime, v.csize, x))
          (by rw [Nat.add_assoc, Nat.add_comm (e - v.start), Nat.sub_add_sub_cancel h3 (Nat.le_of_lt h2)])
      · exact ⟨v, mem_pieces.2 (Or.inr (Or.inr ⟨rfl, Or.inl (Nat.le_of_not_lt h2)⟩)), hc, hv⟩

theorem pieces_within {o e : Nat} {v w : Vis} (hw : w ∈ pieces o e v) : v.start ≤ w.start ∧ w.stop ≤ v.stop := by
  rcases mem_pieces.1 hw with ⟨rfl, -, h2⟩ | ⟨rfl, h1, -⟩ | ⟨rfl, -⟩
  · exact ⟨Nat.le_refl _, Nat.le_of_lt h2⟩
  · exact ⟨Nat.le_of_lt h1, Nat.le_refl _⟩
  · exact ⟨Nat.le_refl _, Nat.le_refl _⟩

theorem pieces_outside {o e : Nat} {v w : Vis} (hv : v.start < v.stop) (hw : w ∈ pieces o e v) :
    w.start < w.stop ∧ (w.stop ≤ o ∨ e ≤ w.start) := by
  rcases mem_pieces.1 hw with ⟨rfl, h1, -⟩ | ⟨rfl, -, h2⟩ | ⟨rfl, h⟩
  · exact ⟨h1, Or.inl (Nat.le_refl _)⟩
  · exact ⟨h2, Or.inr (Nat.le_refl _)⟩
  · exact ⟨hv, h.symm⟩

abbrev R (a b : Vis) : Prop := a.stop ≤ b.start

theorem pieces_pairwise {o e : Nat} (hoe : o ≤ e) (v : Vis) : (pieces o e v).Pairwise R := by
  have one : ∀ (c : Prop) [Decidable c] (x : Vis), (if c then [x] else []).Pairwise R := fun c _ x => by
    split
    · exact List.pairwise_singleton _ _
    · exact List.Pairwise.nil
  unfold pieces
  rw [List.pairwise_append, List.pairwise_append]
  simp only [List.mem_append, List.mem_ite_nil_right, List.mem_singleton]
  refine ⟨⟨one _ _, one _ _, ?_⟩, one _ _, ?_⟩
  · rintro a ⟨-, rfl⟩ b ⟨-, rfl⟩
    exact hoe
  · -- an interval that is cut is not kept whole
    rintro a (⟨⟨h1, h2⟩, rfl⟩ | ⟨⟨h1, h2⟩, rfl⟩) b ⟨h3, rfl⟩ <;> omega

theorem flatMap_pairwise {o e : Nat} (hoe : o ≤ e) (vs : List Vis) (hs : vs.Pairwise R) :
    (vs.flatMap (pieces o e)).Pairwise R := by
  induction vs with
  | nil => simp
  | cons v vs ih =>
    rw [List.flatMap_cons, List.pairwise_append]
    rw [List.pairwise_cons] at hs
    refine ⟨pieces_pairwise hoe v, ih hs.2, ?_⟩
    intro a ha b hb
    rw [List.mem_flatMap] at hb
    obtain ⟨v', hv', hb⟩ := hb
    have h1 := pieces_within ha
    have h2 := pieces_within hb
    have h3 : v.stop ≤ v'.start := hs.1 v' hv'
    show a.stop ≤ b.start
    omega

theorem bubbleRev_pairwise (ys : List Vis) (n : Vis) (hn : n.start < n.stop)
    (hfree : ∀ y ∈ ys, y.start < y.stop ∧ (y.stop ≤ n.start ∨ n.stop ≤ y.start))
    (hs : ys.Pairwise (fun a b => b.stop ≤ a.start)) :
    (bubbleRev ys n).Pairwise (fun a b => b.stop ≤ a.start) := by
  induction ys with
  | nil => simp [bubbleRev]
  | cons y ys ih =>
    rw [List.pairwise_cons] at hs
    have hy := hfree y List.mem_cons_self
    -- y and n are apart (hfree), so the test on the starts tells on which side of y all of n lies
    unfold bubbleRev; split
    · rename_i hlt
      rw [List.pairwise_cons]
      refine ⟨?_, ih (fun w hw => hfree w (List.mem_cons_of_mem _ hw)) hs.2⟩
      intro z hz
      rw [mem_bubbleRev] at hz
      rcases hz with rfl | hz
      · omega
      · exact hs.1 z hz
    · rename_i hge
      rw [List.pairwise_cons]
      refine ⟨?_, List.pairwise_cons.2 hs⟩
      intro z hz
      rcases List.mem_cons.1 hz with rfl | hz
      · omega
      · have := hs.1 z hz; omega

theorem bubble_pairwise (xs : List Vis) (n : Vis) (hn : n.start < n.stop)
    (hfree : ∀ y ∈ xs, y.start < y.stop ∧ (y.stop ≤ n.start ∨ n.stop ≤ y.start))
    (hs : xs.Pairwise R) : (bubble xs n).Pairwise R := by
  unfold bubble
  rw [List.pairwise_reverse]
  apply bubbleRev_pairwise _ _ hn
  · intro y hy; exact hfree y (List.mem_reverse.1 hy)
  · rw [List.pairwise_reverse]; exact hs

theorem stop_le_last (vs : List Vis) (last : Vis) (hl : vs.getLast? = some last)
    (hpos : ∀ v ∈ vs, v.start < v.stop) (hs : vs.Pairwise R) :
    ∀ v ∈ vs, v.stop ≤ last.stop := by
  intro v hv
  obtain ⟨ys, rfl⟩ := List.getLast?_eq_some_iff.1 hl
  rw [List.pairwise_append] at hs
  rcases List.mem_append.1 hv with h | h
  · have h1 : v.stop ≤ last.start := hs.2.2 v h last List.mem_cons_self
    have h2 := hpos last List.mem_concat_self
    omega
  · exact List.mem_singleton.1 h ▸ Nat.le_refl _

theorem val_newVis (c : Chunk) (p : Nat) : val (newVis c) p = shows c p := by
  simp [val, newVis, shows]

/-- the interval of a new chunk c joins intervals that keep out of [c.off, c.stop) and show f outside it -/
theorem VInv.insert {M L : List Vis} {f : Nat → Option Shown} {c : Chunk} (hc : c.off < c.stop)
    (hmem : ∀ w, w ∈ L ↔ w = newVis c ∨ w ∈ M)
    (hfree : ∀ w ∈ M, w.start < w.stop ∧ (w.stop ≤ c.off ∨ c.stop ≤ w.start)) (hsorted : L.Pairwise R)
    (hsem : ∀ p r, ¬ (c.off ≤ p ∧ p < c.stop) → ((∃ w ∈ M, cov w p ∧ val w p = r) ↔ f p = some r)) :
    VInv L (stepSpec c f) := by
  refine ⟨fun v hv => ?_, hsorted, fun p r => ?_⟩
  · rcases (hmem v).1 hv with rfl | hv
    · exact hc
    · exact (hfree v hv).1
  · unfold stepSpec
    split
    · rename_i hin
      constructor
      · rintro ⟨v, hv, hcv, hvv⟩
        rcases (hmem v).1 hv with rfl | hv
        · rw [← hvv, val_newVis]
        · have := hfree v hv
          unfold cov at hcv
          omega
      · intro hr
        exact ⟨newVis c, (hmem _).2 (Or.inl rfl), hin, (val_newVis c p).trans (Option.some.inj hr)⟩
    · rename_i hout
      rw [← hsem p r hout]
      constructor
      · rintro ⟨w, hw, hcw, hvw⟩
        rcases (hmem w).1 hw with rfl | hw
        · exact absurd hcw hout
        · exact ⟨w, hw, hcw, hvw⟩
      · rintro ⟨w, hw, hcw, hvw⟩
        exact ⟨w, (hmem w).2 (Or.inr hw), hcw, hvw⟩

theorem step_inv (vs : List Vis) (f : Nat → Option Shown) (c : Chunk) (hc : 0 < c.size)
    (h : VInv vs f) : VInv (mergeInto vs c) (stepSpec c f) := by
  have hoe : c.off < c.stop := Nat.lt_add_of_pos_right hc
  unfold mergeInto
  split
  · -- no interval yet
    rename_i hnone
    have hnil : vs = [] := List.getLast?_eq_none_iff.1 hnone
    subst hnil
    exact VInv.insert hoe (M := []) (fun _ => List.mem_cons) nofun (List.pairwise_singleton _ _) (fun p r _ => h.sem p r)
  · rename_i last hl
    split
    · -- fast path: the chunk starts behind the last interval, hence behind all
      rename_i hfast
      have hle : ∀ w ∈ vs, w.stop ≤ c.off := fun w hw =>
        Nat.le_trans (stop_le_last vs last hl h.pos h.sorted w hw) hfast
      refine VInv.insert hoe (M := vs) (fun w => by rw [List.mem_append, List.mem_singleton, or_comm])
        (fun w hw => ⟨h.pos w hw, Or.inl (hle w hw)⟩) ?_ (fun p r _ => h.sem p r)
      rw [List.pairwise_append]
      refine ⟨h.sorted, List.pairwise_singleton _ _, fun a ha b hb => ?_⟩
      rw [List.mem_singleton.1 hb]
      exact hle a ha
    · -- general path: every interval is cut around the chunk, the chunk's interval is sorted in
      have hP : ∀ w ∈ vs.flatMap (pieces c.off c.stop), w.start < w.stop ∧ (w.stop ≤ c.off ∨ c.stop ≤ w.start) := by
        intro w hw
        obtain ⟨v, hv, hw⟩ := List.mem_flatMap.1 hw
        exact pieces_outside (h.pos v hv) hw
      refine VInv.insert hoe (fun _ => mem_bubble) hP
        (bubble_pairwise _ _ hoe hP (flatMap_pairwise (Nat.le_of_lt hoe) vs h.sorted)) (fun p r hout => ?_)
      rw [← h.sem p r]
      constructor
      · rintro ⟨w, hw, hcw, hvw⟩
        obtain ⟨v, hv, hw⟩ := List.mem_flatMap.1 hw
        exact ⟨v, hv, (pieces_sem v p r hout).1 ⟨w, hw, hcw, hvw⟩⟩
      · rintro ⟨v, hv, hcv, hvv⟩
        obtain ⟨w, hw, hcw, hvw⟩ := (pieces_sem v p r hout).2 ⟨hcv, hvv⟩
        exact ⟨w, List.mem_flatMap.2 ⟨v, hv, hw⟩, hcw, hvw⟩

/-- the visible intervals of every list of positive-size chunks denote exactly its last-writer-wins overlay -/
theorem visibles_eq_overlay (cs : List Chunk) (hcs : ∀ c ∈ cs, 0 < c.size) :
    VInv (visibles cs) (specOf cs) := by
  -- both sides are folds over cs, and each step keeps VInv, whatever the fold starts from
  have gen : ∀ (vs : List Vis) (f : Nat → Option Shown), VInv vs f →
      VInv (cs.foldl mergeInto vs) (cs.foldl (fun f c => stepSpec c f) f) := by
    induction cs with
    | nil => exact fun _ _ h => h
    | cons c cs ih =>
      exact fun vs f h => ih (fun c' hc' => hcs c' (List.mem_cons_of_mem _ hc')) _ _ (step_inv vs f c (hcs c List.mem_cons_self) h)
  exact gen [] (fun _ => none) ⟨List.forall_mem_nil _, List.Pairwise.nil, by simp⟩

end SwV.Lemmas.C17
