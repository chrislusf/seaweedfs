/-
The write loop of StreamContent (the version that writes zeros into the gaps).  Over a sorted view list
inside [a, b) the loop writes exactly the bytes the views denote on [a, b) — zeros in the gaps before,
between and after the views.  Without a window end (size = MaxInt64) it stops at the end of the last view.
Last, the bounds of a `foldl` of `max` and of `min` over a list (chunk extents here, in C25 and in C30; the extent
mergeIntoManifest writes).
-/
import SwV.Lemmas.C17b
namespace SwV.Lemmas.C17
open SwV.Model.C17

theorem zeros_eq_viewByte (data : Nat → Nat → Nat) (ws : List View) (a n : Nat)
    (h : ∀ p, a ≤ p → p < a + n → ∀ w ∈ ws, ¬ vcov w p) :
    List.replicate n 0 = (List.range' a n).map (viewByte data ws) :=
  (map_range'_zero _ n a fun p h1 h2 => viewByte_uncovered data (h p h1 h2)).symm

theorem streamLoop_spec (data : Nat → Nat → Nat) (b : Nat) : ∀ (ws : List View) (a : Nat), VSorted ws →
    (∀ w ∈ ws, a ≤ w.logic ∧ w.logic + w.size ≤ b) →
    streamLoop data b ws a = (List.range' a (b - a)).map (viewByte data ws)
  | [], a, _, _ => zeros_eq_viewByte data [] a (b - a) (fun _ _ _ => nofun)
  | w :: ws, a, hs, hw => by
    have hs' := List.pairwise_cons.1 hs
    have hw0 := hw w List.mem_cons_self
    have ih := streamLoop_spec data b ws (w.logic + w.size) hs'.2
      (fun x hx => ⟨hs'.1 x hx, (hw x (List.mem_cons_of_mem _ hx)).2⟩)
    -- the three pieces are the denoted bytes of [a, w.logic), [w.logic, w.logic + w.size) and [w.logic + w.size, b)
    have h0 : List.replicate (w.logic - a) 0 = (List.range' a (w.logic - a)).map (viewByte data (w :: ws)) := by
      refine zeros_eq_viewByte _ _ _ _ fun p hp1 hp2 x hx hc => ?_
      have := vcov_head_le hs hx hc
      omega
    have h1 : (List.range' w.off w.size).map (data w.fid) =
        (List.range' w.logic (w.logic + w.size - w.logic)).map (viewByte data (w :: ws)) := by
      rw [Nat.add_sub_cancel_left]
      refine map_range'_shift _ fun i hi => ?_
      rw [viewByte_head data w ws ⟨Nat.le_add_right _ _, Nat.add_lt_add_left hi _⟩, Nat.add_sub_cancel_left]
    have h2 : (List.range' (w.logic + w.size) (b - (w.logic + w.size))).map (viewByte data ws) =
        (List.range' (w.logic + w.size) (b - (w.logic + w.size))).map (viewByte data (w :: ws)) :=
      List.map_congr_left fun p hp =>
        (viewByte_tail data w ws fun hc => Nat.lt_irrefl _ (Nat.lt_of_lt_of_le hc.2 (List.mem_range'_1.1 hp).1)).symm
    unfold streamLoop
    rw [Nat.max_eq_right hw0.1, ih, h0, h1, h2, ← List.map_append, ← List.map_append,
      range'_append_range' hw0.1 (Nat.le_add_right _ _), range'_append_range' (Nat.le_trans hw0.1 (Nat.le_add_right _ _)) hw0.2]

/-- the offset at which the loop arrives after the last view -/
def streamEnd : List View → Nat → Nat
  | [], pos => pos
  | v :: vs, pos => streamEnd vs (max pos v.logic + v.size)

theorem streamEnd_ge : ∀ (ws : List View) (a : Nat), a ≤ streamEnd ws a ∧ ∀ w ∈ ws, w.logic + w.size ≤ streamEnd ws a
  | [], a => ⟨Nat.le_refl _, List.forall_mem_nil _⟩
  | v :: vs, a => by
    have ih := streamEnd_ge vs (max a v.logic + v.size)
    unfold streamEnd
    refine ⟨by omega, ?_⟩
    intro w hw
    rcases List.mem_cons.1 hw with rfl | hw
    · omega
    · exact ih.2 w hw

theorem streamEnd_le (B : Nat) : ∀ (ws : List View) (a : Nat), VSorted ws →
    (∀ w ∈ ws, a ≤ w.logic ∧ w.logic + w.size ≤ B) → a ≤ B → streamEnd ws a ≤ B
  | [], a, _, _, h => h
  | v :: vs, a, hs, hw, _ => by
    have hs' := List.pairwise_cons.1 hs
    have hv := hw v List.mem_cons_self
    unfold streamEnd
    rw [Nat.max_eq_right hv.1]
    exact streamEnd_le B vs _ hs'.2 (fun x hx => ⟨hs'.1 x hx, (hw x (List.mem_cons_of_mem _ hx)).2⟩) hv.2

theorem streamLoop_stop (data : Nat → Nat → Nat) (s : Nat) : ∀ (ws : List View) (a : Nat), s ≤ streamEnd ws a →
    streamLoop data s ws a = streamLoop data (streamEnd ws a) ws a
  | [], a, h => by
    unfold streamEnd at h
    simp [streamLoop, streamEnd, Nat.sub_eq_zero_of_le h]
  | v :: vs, a, h => by
    unfold streamEnd at h
    unfold streamLoop
    rw [streamLoop_stop data s vs _ h]
    rfl

/-- no window end (size = MaxInt64): the loop writes the denoted bytes from a up to the end of the last view -/
theorem streamLoop_open (data : Nat → Nat → Nat) (ws : List View) (a : Nat) (hs : VSorted ws)
    (hw : ∀ w ∈ ws, a ≤ w.logic) :
    streamLoop data 0 ws a = (List.range' a (streamEnd ws a - a)).map (viewByte data ws) := by
  have hge := streamEnd_ge ws a
  rw [streamLoop_stop data 0 ws a (Nat.zero_le _)]
  exact streamLoop_spec data _ ws a hs fun w h => ⟨hw w h, hge.2 w h⟩

theorem le_foldl_max {α : Type} (f : α → Nat) : ∀ (l : List α) (init : Nat),
    init ≤ l.foldl (fun m x => max m (f x)) init ∧ ∀ x ∈ l, f x ≤ l.foldl (fun m x => max m (f x)) init
  | [], _ => ⟨Nat.le_refl _, nofun⟩
  | d :: l, init => by
    have ih := le_foldl_max f l (max init (f d))
    refine ⟨Nat.le_trans (Nat.le_max_left _ _) ih.1, fun x hx => ?_⟩
    rcases List.mem_cons.1 hx with rfl | hx
    · exact Nat.le_trans (Nat.le_max_right _ _) ih.1
    · exact ih.2 x hx

theorem foldl_max_le {α : Type} (f : α → Nat) (B : Nat) : ∀ (l : List α) (init : Nat), init ≤ B → (∀ x ∈ l, f x ≤ B) →
    l.foldl (fun m x => max m (f x)) init ≤ B
  | [], _, h, _ => h
  | d :: l, _, h, hl =>
    foldl_max_le f B l _ (Nat.max_le.2 ⟨h, hl d List.mem_cons_self⟩) (fun x hx => hl x (List.mem_cons_of_mem _ hx))

theorem foldl_min_le {α : Type} (f : α → Nat) : ∀ (l : List α) (init : Nat),
    l.foldl (fun m x => min m (f x)) init ≤ init ∧ ∀ x ∈ l, l.foldl (fun m x => min m (f x)) init ≤ f x
  | [], _ => ⟨Nat.le_refl _, nofun⟩
  | d :: l, init => by
    have ih := foldl_min_le f l (min init (f d))
    refine ⟨Nat.le_trans ih.1 (Nat.min_le_left _ _), fun x hx => ?_⟩
    rcases List.mem_cons.1 hx with rfl | hx
    · exact Nat.le_trans ih.1 (Nat.min_le_right _ _)
    · exact ih.2 x hx

end SwV.Lemmas.C17
