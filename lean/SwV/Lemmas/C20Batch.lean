/-
C20 — chunk accounting of the recursive delete (doBatchDeleteFolderMetaAndData): a call that returns has
collected chunks of entries it removes only (sound), and those of every plain file it removes (complete).
That the call returns, and what it leaves in the store, is `doBatch_isSome` / `doBatch_spec` of Lemmas/C18.
-/
import SwV.Model.C18
import SwV.Lemmas.C18
namespace SwV.Lemmas.C20Batch
open SwV.Model.C18 SwV.Lemmas.C18

/-- every collected chunk is a chunk of a stored entry properly below d -/
def Sound (s0 : St) (d : RPath) (cs : List Nat) : Prop :=
  ∀ c ∈ cs, ∃ q b, (q, b) ∈ s0.ents ∧ PD d q ∧ c ∈ b.chunks

theorem Sound.append {s0 : St} {d : RPath} {cs cs' : List Nat} (h : Sound s0 d cs) (h' : Sound s0 d cs') :
    Sound s0 d (cs ++ cs') :=
  fun c hc => (List.mem_append.mp hc).elim (h c) (h' c)

theorem Sound.of_child {sa s0 : St} {d : RPath} {n : String} {cs : List Nat} (hsub : ∀ x ∈ sa.ents, x ∈ s0.ents)
    (h : Sound sa (n :: d) cs) : Sound s0 d cs := fun c hc =>
  let ⟨q, b, hq, hpd, hcb⟩ := h c hc
  ⟨q, b, hsub _ hq, pd_of_cons hpd, hcb⟩

/-- every plain file stored properly below d has its chunks collected -/
def Complete (s0 : St) (d : RPath) (cs : List Nat) : Prop :=
  ∀ q b, (q, b) ∈ s0.ents → PD d q → b.isDir = false → b.hl = 0 → ∀ c ∈ b.chunks, c ∈ cs

/-- the child `sub` of d stands for the stored file (q, b): it is that file, or a directory above it -/
def StandsFor (d : RPath) (sub : String × Entry) (q : RPath) (b : Entry) : Prop :=
  (sub.2.isDir = true ∧ PD (sub.1 :: d) q) ∨ (sub.2.isDir = false ∧ q = sub.1 :: d ∧ sub.2 = b)

theorem standsFor_of_below {s : St} (inv : TreeInv s) {d q : RPath} {b : Entry} (hq : (q, b) ∈ s.ents) (hpd : PD d q)
    (hf : b.isDir = false) : ∃ sub ∈ children s d, StandsFor d sub q b := by
  rcases child_on_path inv hq hpd with ⟨n, ⟨heq, hn⟩ | ⟨hpd', c, hc, hdir⟩⟩
  · exact ⟨(n, b), hn, Or.inr ⟨hf, heq, rfl⟩⟩
  · exact ⟨(n, c), hc, Or.inl ⟨hdir, hpd'⟩⟩

theorem standsFor_dir {d : RPath} {sub : String × Entry} (hd : sub.2.isDir = true) (q : RPath) (b : Entry) :
    StandsFor d sub q b ↔ PD (sub.1 :: d) q :=
  ⟨fun h => h.elim (·.2) fun h' => absurd hd (ne_true_of_eq_false h'.1), fun h => Or.inl ⟨hd, h⟩⟩

theorem standsFor_file {d : RPath} {sub : String × Entry} (hd : sub.2.isDir = false) (q : RPath) (b : Entry) :
    StandsFor d sub q b ↔ q = sub.1 :: d ∧ sub.2 = b :=
  ⟨fun h => h.elim (fun h' => absurd hd (ne_false_of_eq_true h'.1)) (·.2), fun h => Or.inr ⟨hd, h⟩⟩

/-- what a recursive call that returned has done -/
def Cleared (sa : St) (d : RPath) (r : Batch) : Prop :=
  (TreeInv r.1 ∧ ∀ x, x ∈ r.1.ents ↔ x ∈ sa.ents ∧ ¬ PD d x.1) ∧ Sound sa d r.2.1 ∧ Complete sa d r.2.1

/-- one child that the loop got past: the step only removes entries and only adds chunks, all of them chunks of entries
    below d; a plain file the child stands for has its chunks collected, any other is still stored -/
theorem batchStep_chunks {rec : St → RPath → Option Batch} {d : RPath} {s0 : St} (sub : String × Entry) (acc a1 : Batch)
    (inv : TreeInv acc.1) (hsub : ∀ x ∈ acc.1.ents, x ∈ s0.ents) (hmem : (sub.1 :: d, sub.2) ∈ s0.ents)
    (hrec : ∀ r, rec acc.1 (sub.1 :: d) = some r → Cleared acc.1 (sub.1 :: d) r)
    (h : batchStep rec d (some acc) sub = some a1) :
    TreeInv a1.1 ∧ (∀ x ∈ a1.1.ents, x ∈ acc.1.ents) ∧ (Sound s0 d acc.2.1 → Sound s0 d a1.2.1) ∧
      (∀ c ∈ acc.2.1, c ∈ a1.2.1) ∧
      ∀ q b, (q, b) ∈ acc.1.ents → b.isDir = false → b.hl = 0 →
        (StandsFor d sub q b → ∀ c ∈ b.chunks, c ∈ a1.2.1) ∧ (¬ StandsFor d sub q b → (q, b) ∈ a1.1.ents) := by
  rcases acc with ⟨sa, cs, hl⟩
  by_cases hd : sub.2.isDir = true
  · rw [batchStep_dir hd] at h
    cases hr : rec sa (sub.1 :: d) with
    | none => rw [hr] at h; cases h
    | some r1 =>
      rw [hr] at h
      cases h
      obtain ⟨⟨inv1, hx1⟩, hs1, hc1⟩ := hrec r1 hr
      refine ⟨inv1, fun x hx => ((hx1 x).mp hx).1, fun hs => hs.append (hs1.of_child hsub),
        fun c hc => List.mem_append_left _ hc, fun q b hq hf h0 => ?_⟩
      rw [standsFor_dir hd]
      exact ⟨fun hpd c hc => List.mem_append_right _ (hc1 q b hq hpd hf h0 c hc), fun hpd => (hx1 (q, b)).mpr ⟨hq, hpd⟩⟩
  · have hd' : sub.2.isDir = false := eq_false_of_ne_true hd
    by_cases hh : sub.2.hl = 0
    · rw [batchStep_file hd' hh] at h
      cases h
      refine ⟨inv, fun _ h => h, fun hs => hs.append fun c hc => ⟨_, _, hmem, pd_child _ _, hc⟩,
        fun c hc => List.mem_append_left _ hc, fun q b hq _ _ => ⟨?_, fun _ => hq⟩⟩
      rw [standsFor_file hd']
      rintro ⟨_, rfl⟩ c hc
      exact List.mem_append_right _ hc
    · rw [batchStep_link hd' hh] at h
      cases h
      refine ⟨inv, fun _ h => h, id, fun _ h => h, fun q b hq _ h0 => ⟨?_, fun _ => hq⟩⟩
      rw [standsFor_file hd']
      rintro ⟨_, rfl⟩
      exact absurd h0 hh

theorem batch_loop_chunks (rec : St → RPath → Option Batch) (d : RPath) (s0 : St)
    (hrec : ∀ sa n r, TreeInv sa → rec sa (n :: d) = some r → Cleared sa (n :: d) r) :
    ∀ (subs : List (String × Entry)) (acc r : Batch), TreeInv acc.1 → (∀ x ∈ acc.1.ents, x ∈ s0.ents) →
      (∀ sub ∈ subs, (sub.1 :: d, sub.2) ∈ s0.ents) → subs.foldl (batchStep rec d) (some acc) = some r →
      (Sound s0 d acc.2.1 → Sound s0 d r.2.1) ∧ (∀ c ∈ acc.2.1, c ∈ r.2.1) ∧
        ∀ q b, (q, b) ∈ acc.1.ents → b.isDir = false → b.hl = 0 → (∃ sub ∈ subs, StandsFor d sub q b) →
          ∀ c ∈ b.chunks, c ∈ r.2.1 := by
  intro subs
  induction subs with
  | nil =>
    intro acc r _ _ _ h
    cases h
    exact ⟨id, fun _ h => h, fun _ _ _ _ _ ⟨_, h, _⟩ => nomatch h⟩
  | cons sub t ih =>
    intro acc r inv hsub0 hmem h
    rw [List.foldl_cons] at h
    cases ha : batchStep rec d (some acc) sub with
    | none => rw [ha, foldl_batch_none] at h; cases h
    | some a1 =>
      rw [ha] at h
      obtain ⟨inv1, hsub1, hs1, hmono1, hstep⟩ :=
        batchStep_chunks sub acc a1 inv hsub0 (hmem sub List.mem_cons_self) (fun r => hrec _ _ r inv) ha
      obtain ⟨hs, hmono, hcomp⟩ := ih a1 r inv1 (fun x hx => hsub0 x (hsub1 x hx))
        (fun s' h' => hmem s' (List.mem_cons_of_mem _ h')) h
      refine ⟨fun h0 => hs (hs1 h0), fun c hc => hmono c (hmono1 c hc), ?_⟩
      intro q b hq hf h0 ⟨sub', hs', hw'⟩ c hc
      -- the head child accounts for the file, or the file is still there for the child in the tail that does
      by_cases hw : StandsFor d sub q b
      · exact hmono c ((hstep q b hq hf h0).1 hw c hc)
      · rcases List.mem_cons.mp hs' with rfl | hs'
        · exact absurd hw' hw
        · exact hcomp q b ((hstep q b hq hf h0).2 hw) hf h0 ⟨sub', hs', hw'⟩ c hc

theorem doBatch_chunks (f : Nat) : ∀ (s : St) (d : RPath) (r : Batch), TreeInv s → doBatch f s d = some r →
    Sound s d r.2.1 ∧ Complete s d r.2.1 := by
  induction f with
  | zero => intro s d r _ h; cases h
  | succ f ih =>
    intro s d r inv h
    unfold doBatch at h
    split at h
    · cases h
    · rename_i s' cs hs hfold
      cases h
      obtain ⟨hsound, _, hcomp⟩ := batch_loop_chunks (doBatch f) d s
        (fun sa n r1 inva hr1 => ⟨(doBatch_spec f sa _ r1 hr1).2.2.2 inva, ih sa _ r1 inva hr1⟩)
        (children s d) (s, [], []) (s', cs, hs) inv (fun _ hx => hx) (fun _ h => mem_children.mp h) hfold
      exact ⟨hsound nofun, fun q b hq hpd hf h0 => hcomp q b hq hf h0 (standsFor_of_below inv hq hpd hf)⟩

/-- shape of a recursive delete with data deletion: succeeds, removes exactly the subtree, and hands over the entry's
    own chunks followed by chunks that are sound and complete for the removed descendants -/
theorem deleteEntry_recursive_shape {s : St} (inv : TreeInv s) (n : String) (par : RPath) (e : Entry)
    (h : find s (n :: par) = some e) :
    ∃ s' dcs, deleteEntry s (n :: par) true true = (s', Res.ok, e.chunks ++ dcs) ∧
      (∀ x, x ∈ s'.ents ↔ x ∈ s.ents ∧ ¬ (n :: par) <:+ x.1) ∧
      Sound s (n :: par) dcs ∧ Complete s (n :: par) dcs := by
  rcases deleteEntry_recursive inv true h with ⟨s1, dcs, hs, heq, hb, hx⟩
  refine ⟨(delFinish s1 (n :: par) e dcs hs true).1, dcs, heq, hx, ?_⟩
  rcases hb with ⟨_, hb⟩ | ⟨hd, hb⟩
  · exact doBatch_chunks _ s _ _ inv hb
  · cases hb
    rcases find_stored inv h with ⟨e0, hm, hk⟩
    exact ⟨nofun, fun q b hq hpd => absurd hpd (not_pd_file inv hm (hk.trans hd) _ hq)⟩

end SwV.Lemmas.C20Batch
