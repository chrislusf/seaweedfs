/-
The translator's runtime (`SwV/Common/GoInt.lean`): a wrap is the identity on a value that is in range, which is
what the bridges of C02, C08, C09 and C10 from a regenerated `SwV.Gen` function to its hand-written model come
down to; a signed wrap around a sum absorbs a wrap of one summand; Go's `/` and `%` of a non-negative value by a
positive one are `Int`'s and the wrap around them goes.  Core Lean only.
-/
import SwV.Common.GoInt
namespace SwV.Go

theorem wrapU_id {bits : Nat} {x : Int} (h0 : 0 ≤ x) (h1 : x < 2 ^ bits) : wrapU bits x = x :=
  Int.emod_eq_of_lt h0 h1

/-- Stated for width `n + 1` so that `wrapS 32 x`, `wrapS 64 x` unify with it and leave the bounds `2 ^ 31`, `2 ^ 63`
    as numerals. -/
theorem wrapS_id {n : Nat} {x : Int} (h1 : -(2 ^ n) ≤ x) (h2 : x < 2 ^ n) : wrapS (n + 1) x = x := by
  unfold wrapS
  rw [Nat.add_sub_cancel, Int.pow_succ, Int.emod_eq_of_lt (by omega) (by omega)]
  omega

theorem wrapS_add_left (bits : Nat) (x c : Int) : wrapS bits (wrapS bits x + c) = wrapS bits (x + c) := by
  unfold wrapS
  rw [show (x + 2 ^ (bits - 1)) % 2 ^ bits - 2 ^ (bits - 1) + c + 2 ^ (bits - 1) = (x + 2 ^ (bits - 1)) % 2 ^ bits + c by omega,
    Int.emod_add_emod, Int.add_right_comm]

theorem wrapS_add_right (bits : Nat) (x c : Int) : wrapS bits (c + wrapS bits x) = wrapS bits (c + x) := by
  rw [Int.add_comm, wrapS_add_left, Int.add_comm]

/-- Go's truncating `/` and `%` of a non-negative value by a positive one stay inside the signed width -/
theorem wrapS_tdiv {n : Nat} {s : Int} (h0 : 0 ≤ s) (h1 : s < 2 ^ n) (K : Int) (hK : 0 < K) :
    wrapS (n + 1) (tdiv s K) = s / K := by
  have : (0 : Int) < 2 ^ n := Int.pow_pos (by decide)
  rw [tdiv, Int.tdiv_eq_ediv_of_nonneg h0]
  exact wrapS_id (Int.le_trans (by omega) (Int.ediv_nonneg h0 (Int.le_of_lt hK)))
    (Int.lt_of_le_of_lt (Int.ediv_le_self K h0) h1)

theorem wrapS_tmod {n : Nat} {s : Int} (h0 : 0 ≤ s) (h1 : s < 2 ^ n) (K : Int) (hK : 0 < K) :
    wrapS (n + 1) (tmod s K) = s % K := by
  have : (0 : Int) < 2 ^ n := Int.pow_pos (by decide)
  rw [tmod, Int.tmod_eq_emod_of_nonneg h0]
  have := Int.emod_add_mul_ediv s K
  have := Int.mul_nonneg (Int.le_of_lt hK) (Int.ediv_nonneg h0 (Int.le_of_lt hK))
  exact wrapS_id (Int.le_trans (by omega) (Int.emod_nonneg s (Int.ne_of_gt hK))) (by omega)

end SwV.Go
