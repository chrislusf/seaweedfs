/-
C20 (chunk GC) — the predicates of the plain world (no hard links, every chunk has one owner), what "referenced"
means there, and what a create leaves in the store. That a create and a file delete keep `GcOk` is derived in
C20Plain from the link world.
-/
import SwV.Model.C18
import SwV.Lemmas.C18
namespace SwV.Lemmas.C20
open SwV.Model.C18 SwV.Lemmas.C18

/-- chunk c is referenced by a live name: some stored name shows it through FindEntry -/
def Referenced (s : St) (c : Nat) : Prop := ∃ p e v, (p, e) ∈ s.ents ∧ find s p = some v ∧ c ∈ v.chunks

/-- no stored name carries a link identity -/
def Plain (s : St) : Prop := ∀ x ∈ s.ents, x.2.hl = 0

/-- every chunk has one owner: two different names never list the same file id (client contract) -/
def Excl (s : St) : Prop := ∀ p q a b, (p, a) ∈ s.ents → (q, b) ∈ s.ents → p ≠ q → ∀ c ∈ a.chunks, c ∉ b.chunks

/-- client contract for a new version e of path p: its chunks are not listed by any OTHER name -/
def FreshFor (s : St) (p : RPath) (e : Entry) : Prop :=
  ∀ q b, (q, b) ∈ s.ents → q ≠ p → ∀ c ∈ e.chunks, c ∉ b.chunks

/-- what one step of the plain world guarantees: the world stays plain and exclusive, everything handed to a sink
    is unreferenced afterwards (gc_safe), everything that stopped being referenced was handed over (gc_complete) -/
def GcOk (s s' : St) (emitted : List Nat) : Prop :=
  Plain s' ∧ Excl s' ∧ (∀ c ∈ emitted, ¬ Referenced s' c) ∧ (∀ c, Referenced s c → ¬ Referenced s' c → c ∈ emitted)

theorem find_plain {s : St} (inv : TreeInv s) (pl : Plain s) {p : RPath} {e : Entry} (hm : (p, e) ∈ s.ents) :
    find s p = some e :=
  find_plain_of_mem inv hm (pl _ hm)

theorem referenced_plain {s : St} (inv : TreeInv s) (pl : Plain s) (c : Nat) :
    Referenced s c ↔ ∃ p e, (p, e) ∈ s.ents ∧ c ∈ e.chunks := by
  constructor
  · rintro ⟨p, e, v, hm, hf, hc⟩
    rw [find_plain inv pl hm] at hf
    cases hf
    exact ⟨p, e, hm, hc⟩
  · rintro ⟨p, e, hm, hc⟩
    exact ⟨p, e, e, hm, find_plain inv pl hm, hc⟩

theorem mem_notNew {old new : Entry} {c : Nat} : c ∈ notNew old new ↔ c ∈ old.chunks ∧ c ∉ new.chunks := by
  simp [notNew, List.mem_filter]

theorem ensureParent_new_chunkless_plain (e : Entry) (q : RPath) : ∀ s, ∀ x ∈ (ensureParent e q s).1.ents,
    x ∈ s.ents ∨ (x.2.chunks = [] ∧ x.2.hl = 0) := by
  induction q with
  | nil => intro s x hx; exact Or.inl hx
  | cons n q ih =>
    intro s x hx
    rcases hf : find s (n :: q) with _ | d
    · rw [ensureParent_absent e hf] at hx
      split at hx
      · rcases mem_wInsert.mp hx with rfl | ⟨hx', _⟩
        · exact Or.inr ⟨rfl, rfl⟩
        · exact ih s x hx'
      · exact ih s x hx
    · rw [ensureParent_found e hf] at hx
      exact Or.inl hx

/-- what a create can leave in the store: what was there, implicit parent directories, the entry itself -/
theorem mem_createEntry {s : St} {p : RPath} {e : Entry} {x : Bool} :
    ∀ y ∈ (createEntry s p e x).1.ents, y ∈ s.ents ∨ (y.2.chunks = [] ∧ y.2.hl = 0) ∨ y = (p, e) := by
  rcases createEntry_cases s p e x with ⟨hc, _⟩ | ⟨n, par, rfl, _, _, hc⟩ | ⟨_, _, _, hc⟩
  · rw [hc]
    exact fun y hy => Or.inl hy
  · rw [hc]
    intro y hy
    rcases mem_wInsert.mp hy with h | ⟨h, _⟩
    · exact Or.inr (Or.inr h)
    · exact (ensureParent_new_chunkless_plain e par s y h).imp_right Or.inl
  · rw [hc]
    intro y hy
    rcases mem_wInsert.mp hy with h | ⟨h, _⟩
    · exact Or.inr (Or.inr h)
    · exact Or.inl h

theorem plain_createEntry {s : St} {p : RPath} {e : Entry} {x : Bool} (pl : Plain s) (he : e.hl = 0) :
    Plain (createEntry s p e x).1 := by
  intro y hy
  rcases mem_createEntry y hy with h | h | rfl
  · exact pl y h
  · exact h.2
  · exact he

end SwV.Lemmas.C20
