/-
C11, the volume layouts.  Every layout call is used through what it writes.  None writes the DataNode side, the two
settings or the EC shard map (`Keeps`, the refresh round included; this is what Props/C12 needs of the layouts).
UnRegisterVolume and SetVolumeUnavailable each end in one of three ways (`unregisterLayout_cases`,
`setUnavailable_cases`), two of them through the common state `eraseLoc`.  `WInv` (Spec `WritableOk` plus
duplicate-free writables) is followed through a call as `WInvOff E`, the same fact off a set `E` of
(layout, volume id) pairs: an edit of a location list unsettles one pair, ensureCorrectWritables settles its own;
`WInvOff.evs` carries it along any list of the calls of `Ev`.  The location lists are followed by what they denote:
`LOk` is what the layouts satisfy whatever the DataNodes say, and every call that edits a list has one membership
lemma (`registerLayout_locs`, `unregisterLayout_locs`, `setUnavailable_locs`), closed over the calls of a heartbeat
(`hbEvs_locs`) and of a disconnect (`unavails_locs`) by the fold lemmas of `C11Ec`, the scheme of the EC shard map.
-/
import SwV.Model.C11
import SwV.Spec.C11
import SwV.Lemmas.C11Ec

-- the definitions of the property the layout lemmas speak of; `Props/C11` states its theorems with them
namespace SwV.Props.C11
open SwV.Model.C11

/-- the fact ensureCorrectWritables tests for one vid of one layout: the vid is in the writables afterwards only
    if it holds -/
def Q (st : St) (k : Key) (vid : Nat) : Prop := enoughCopies st k vid = true ∧ isAllWritable st k vid = true

def WInv (st : St) : Prop := ∀ k, (st.wr k).Nodup ∧ ∀ vid, vid ∈ st.wr k → Q st k vid

/-- the layout-side events of the master -/
inductive Ev where
  | register (v : VInfo) (s : Nat)      -- RegisterVolumeLayout (new volume seen on s)
  | unregister (v : VInfo) (s : Nat)    -- UnRegisterVolumeLayout (volume gone from s)
  | ensure (k : Key) (vid : Nat)        -- EnsureCorrectWritables (read-only flag changed)
  | capacityFull (k : Key) (vid : Nat)  -- SetVolumeCapacityFull (refresh round)

def applyEv (st : St) : Ev → St
  | .register v s => registerLayout st v s
  | .unregister v s => unregisterLayout st v s
  | .ensure k vid => ensureWritables (touchKey st k) k vid
  | .capacityFull k vid => removeWritable (touchKey st k) k vid

/-- SetVolumeCapacityFull for one volume of the refresh round -/
def capFull (st : St) (v : VInfo) : St :=
  if v.size ≥ st.limit then removeWritable (touchKey st v.key) v.key v.id else st

end SwV.Props.C11

namespace SwV.Lemmas.C11
open SwV.Model.C11 SwV.Spec.C11 SwV.Props.C11
open SwV.Lemmas.C11Ec (mem_setLoc nodup_setLoc nodup_append_singleton foldl_or_iff foldl_and_not_iff exists_mem_and_left)

theorem winv_writableOk {st : St} (h : WInv st) : WritableOk st := by
  intro k vid hm
  have ⟨he, ha⟩ := (h k).2 vid hm
  refine ⟨he, ?_⟩
  intro s hs v hv
  unfold isAllWritable at ha
  have := List.all_eq_true.mp ha s hs
  rw [hv] at this
  simpa using this

theorem locList_congr {st st' : St} {k : Key} {vid : Nat} (h : st'.locs k vid = st.locs k vid) :
    locList st' k vid = locList st k vid := congrArg (Option.getD · []) h

theorem Q_congr {st st' : St} (k : Key) (vid : Nat) (h1 : locList st' k vid = locList st k vid)
    (h2 : st'.vols = st.vols) (h3 : st'.asMin = st.asMin) : Q st' k vid ↔ Q st k vid := by
  unfold Q enoughCopies isAllWritable volOf Core.volOf
  rw [h1, h2, h3]

/-- no layout call writes the DataNode side, the two settings or the EC shard map -/
structure Keeps (st' st : St) : Prop where
  toCore : st'.toCore = st.toCore
  asMin : st'.asMin = st.asMin
  limit : st'.limit = st.limit
  ecLoc : st'.ecLoc = st.ecLoc

theorem Keeps.trans {a b c : St} (h1 : Keeps a b) (h2 : Keeps b c) : Keeps a c :=
  ⟨h1.toCore.trans h2.toCore, h1.asMin.trans h2.asMin, h1.limit.trans h2.limit, h1.ecLoc.trans h2.ecLoc⟩

theorem Keeps.vols {st' st : St} (h : Keeps st' st) : st'.vols = st.vols := congrArg Core.vols h.toCore
theorem Keeps.conn {st' st : St} (h : Keeps st' st) : st'.conn = st.conn := congrArg Core.conn h.toCore

theorem keeps_foldl {α : Type} (f : St → α → St) (hf : ∀ st a, Keeps (f st a) st) {l : List α} {st : St} :
    Keeps (l.foldl f st) st :=
  SwV.Lemmas.C12.foldl_rel Keeps (fun _ => ⟨rfl, rfl, rfl, rfl⟩) Keeps.trans f hf l st

theorem touchKey_eq (st : St) (k : Key) :
    touchKey st k = { st with keys := if st.keys.contains k then st.keys else st.keys ++ [k] } := by
  unfold touchKey
  split <;> rfl

theorem touchKey_wr (st : St) (k : Key) : (touchKey st k).wr = st.wr := by rw [touchKey_eq]
theorem touchKey_locs (st : St) (k : Key) : (touchKey st k).locs = st.locs := by rw [touchKey_eq]
theorem touchKey_ov (st : St) (k : Key) : (touchKey st k).ov = st.ov := by rw [touchKey_eq]
theorem keeps_touchKey (st : St) (k : Key) : Keeps (touchKey st k) st := by
  rw [touchKey_eq]; exact ⟨rfl, rfl, rfl, rfl⟩
theorem locList_touchKey (st : St) (k k' : Key) (vid : Nat) : locList (touchKey st k) k' vid = locList st k' vid :=
  locList_congr (by rw [touchKey_locs])

theorem mem_touchKey (st : St) (k : Key) : k ∈ (touchKey st k).keys ∧ ∀ k', k' ∈ st.keys → k' ∈ (touchKey st k).keys := by
  unfold touchKey
  split
  · next h => exact ⟨List.contains_iff_mem.mp h, fun _ h' => h'⟩
  · exact ⟨List.mem_concat_self, fun k' h' => List.mem_append_left _ h'⟩

theorem mem_updK_erase {w : Key → List Nat} (hn : ∀ k, (w k).Nodup) (k : Key) (vid : Nat) (k' : Key) (x : Nat) :
    x ∈ updK w k ((w k).erase vid) k' ↔ x ∈ w k' ∧ ¬ (k' = k ∧ x = vid) := by
  unfold updK
  split
  · next e =>
    subst e
    rw [(hn k').mem_erase_iff]
    exact ⟨fun h => ⟨h.2, fun g => h.1 g.2⟩, fun h => ⟨fun g => h.2 ⟨rfl, g⟩, h.1⟩⟩
  · next e => exact ⟨fun h => ⟨h, fun g => e g.1⟩, fun h => h.1⟩

theorem mem_updK_of_erase {w : Key → List Nat} {k : Key} {vid : Nat} {k' : Key} {x : Nat}
    (h : x ∈ updK w k ((w k).erase vid) k') : x ∈ w k' := by
  unfold updK at h
  split at h
  · next e => exact e ▸ List.mem_of_mem_erase h
  · exact h

theorem nodup_updK_erase {w : Key → List Nat} (hn : ∀ k, (w k).Nodup) (k : Key) (vid : Nat) (k' : Key) :
    (updK w k ((w k).erase vid) k').Nodup := by
  unfold updK
  split
  · next e => subst e; exact (hn k').erase vid
  · exact hn k'

theorem ensureWritables_eq (st : St) (k : Key) (vid : Nat) :
    ensureWritables st k vid = { st with wr := (ensureWritables st k vid).wr } := by
  unfold ensureWritables setWritable removeWritable
  split
  · split
    · split <;> rfl
    · rfl
  · rfl

theorem ensureWritables_locs (st : St) (k : Key) (vid : Nat) : (ensureWritables st k vid).locs = st.locs := by
  rw [ensureWritables_eq]
theorem locList_ensureWritables (st : St) (k : Key) (vid : Nat) (k' : Key) (x : Nat) :
    locList (ensureWritables st k vid) k' x = locList st k' x := locList_congr (by rw [ensureWritables_locs])
theorem ensureWritables_keys (st : St) (k : Key) (vid : Nat) : (ensureWritables st k vid).keys = st.keys := by
  rw [ensureWritables_eq]
theorem ensureWritables_ov (st : St) (k : Key) (vid : Nat) : (ensureWritables st k vid).ov = st.ov := by
  rw [ensureWritables_eq]
theorem keeps_ensureWritables (st : St) (k : Key) (vid : Nat) : Keeps (ensureWritables st k vid) st := by
  rw [ensureWritables_eq]; exact ⟨rfl, rfl, rfl, rfl⟩

theorem keeps_removeWritable (st : St) (k : Key) (vid : Nat) : Keeps (removeWritable st k vid) st := ⟨rfl, rfl, rfl, rfl⟩

theorem Q_ensureWritables (st : St) (k : Key) (vid : Nat) (k' : Key) (x : Nat) :
    Q (ensureWritables st k vid) k' x ↔ Q st k' x :=
  Q_congr k' x (locList_ensureWritables st k vid k' x) (keeps_ensureWritables st k vid).vols
    (keeps_ensureWritables st k vid).asMin

/-- only its own volume id can come into the writables by ensureCorrectWritables, and only when no oversized
    replica is remembered -/
theorem ensureWritables_mem (st : St) (k : Key) (vid : Nat) (k' : Key) (x : Nat)
    (hx : x ∈ (ensureWritables st k vid).wr k') : x ∈ st.wr k' ∨ (k' = k ∧ x = vid ∧ st.ov k vid = []) := by
  unfold ensureWritables at hx
  split at hx
  · split at hx
    · next ho =>
      unfold setWritable at hx
      split at hx
      · exact Or.inl hx
      · have hx : x ∈ updK st.wr k (st.wr k ++ [vid]) k' := hx
        unfold updK at hx
        split at hx
        · next e =>
          subst e
          rcases List.mem_append.mp hx with h1 | h1
          · exact Or.inl h1
          · exact Or.inr ⟨rfl, List.mem_singleton.mp h1, List.isEmpty_iff.mp ho⟩
        · exact Or.inl hx
    · exact Or.inl hx
  · exact Or.inl (mem_updK_of_erase hx)

theorem ensureWritables_wr (st : St) (k : Key) (vid : Nat) (hn : ∀ k', (st.wr k').Nodup) :
    (∀ k', ((ensureWritables st k vid).wr k').Nodup) ∧ (vid ∈ (ensureWritables st k vid).wr k → Q st k vid) := by
  unfold ensureWritables
  split
  · next hq =>
    have hq : Q st k vid := Bool.and_eq_true_iff.mp hq
    refine ⟨?_, fun _ => hq⟩
    split
    · unfold setWritable
      split
      · exact hn
      · next hc =>
        intro k'
        show (updK st.wr k (st.wr k ++ [vid]) k').Nodup
        unfold updK
        split
        · next e => subst e; exact nodup_append_singleton (hn k') (mt List.contains_iff_mem.mpr hc)
        · exact hn k'
    · exact hn
  · exact ⟨nodup_updK_erase hn k vid, fun hx => absurd ⟨rfl, rfl⟩ ((mem_updK_erase hn k vid k vid).mp hx).2⟩

/-- `WInv` off a set `E` of (layout, volume id) pairs whose locations or replicas have just changed -/
def WInvOff (E : Key → Nat → Prop) (st : St) : Prop :=
  ∀ k, (st.wr k).Nodup ∧ ∀ vid, vid ∈ st.wr k → ¬ E k vid → Q st k vid

theorem WInvOff.of_winv {st : St} (h : WInv st) : WInvOff (fun _ _ => False) st :=
  fun k => ⟨(h k).1, fun vid hv _ => (h k).2 vid hv⟩

theorem WInvOff.winv {E : Key → Nat → Prop} {st : St} (h : WInvOff E st) (he : ∀ k vid, ¬ E k vid) : WInv st :=
  fun k => ⟨(h k).1, fun vid hv => (h k).2 vid hv (he k vid)⟩

theorem WInvOff.mono {E E' : Key → Nat → Prop} {st : St} (h : WInvOff E st) (he : ∀ k x, E k x → E' k x) : WInvOff E' st :=
  fun k => ⟨(h k).1, fun x hx hne => (h k).2 x hx (fun g => hne (he k x g))⟩

/-- a step that changes neither the registered volumes nor the replication-as-minimum flag and at most
    drops writables: a volume id that is settled afterwards (`¬ E'`) was settled before and has kept its
    location list -/
theorem WInvOff.step {E E' : Key → Nat → Prop} {st st1 : St} (h : WInvOff E st)
    (hv : st1.vols = st.vols) (ha : st1.asMin = st.asMin)
    (hw : ∀ k, (st1.wr k).Nodup ∧ ∀ x, x ∈ st1.wr k → x ∈ st.wr k)
    (hl : ∀ k vid, ¬ E' k vid → ¬ E k vid ∧ locList st1 k vid = locList st k vid) : WInvOff E' st1 := by
  intro k
  refine ⟨(hw k).1, fun x hx hne => ?_⟩
  exact (Q_congr k x (hl k x hne).2 hv ha).mpr ((h k).2 x ((hw k).2 x hx) (hl k x hne).1)

/-- C11 core: ensureCorrectWritables RE-ESTABLISHES the fact for its own vid from any state with duplicate-free
    writables (`E` may be everything): after it,
    the vid is writable only if it has enough copies and all located replicas are writable -/
theorem WInvOff.ensure {E : Key → Nat → Prop} {st : St} (h : WInvOff E st) (k : Key) (vid : Nat) :
    WInvOff (fun k' x => E k' x ∧ ¬ (k' = k ∧ x = vid)) (ensureWritables st k vid) := by
  obtain ⟨e1, e3⟩ := ensureWritables_wr st k vid (fun k' => (h k').1)
  intro k'
  refine ⟨e1 k', fun x hx hne => ?_⟩
  rw [Q_ensureWritables]
  by_cases e : k' = k ∧ x = vid
  · obtain ⟨rfl, rfl⟩ := e; exact e3 hx
  · exact (h k').2 x ((ensureWritables_mem st k vid k' x hx).resolve_right (fun g => e ⟨g.1, g.2.1⟩)) (fun g => hne ⟨g, e⟩)

theorem WInvOff.touch {E : Key → Nat → Prop} {st : St} (h : WInvOff E st) (k : Key) : WInvOff E (touchKey st k) :=
  h.step (keeps_touchKey st k).vols (keeps_touchKey st k).asMin
    (fun k' => by rw [touchKey_wr]; exact ⟨(h k').1, fun _ hx => hx⟩)
    (fun _ _ hne => ⟨hne, locList_touchKey st k _ _⟩)

theorem WInvOff.remove {E : Key → Nat → Prop} {st : St} (h : WInvOff E st) (k : Key) (vid : Nat) :
    WInvOff E (removeWritable st k vid) :=
  h.step rfl rfl
    (fun k' => ⟨nodup_updK_erase (fun k => (h k).1) k vid k',
      fun x hx => ((mem_updK_erase (fun k => (h k).1) k vid k' x).mp hx).1⟩)
    (fun _ _ hne => ⟨hne, rfl⟩)

theorem registerVolume_locs (st : St) (v : VInfo) (s : Nat) :
    (registerVolume st v s).locs = updK2 st.locs v.key v.id (some (setLoc (locList st v.key v.id) s)) := by
  simp only [registerVolume, locList, touchKey_locs]

theorem registerVolume_wr_sub (st : St) (v : VInfo) (s : Nat) (k : Key) (x : Nat)
    (hx : x ∈ (registerVolume st v s).wr k) : x ∈ st.wr k := by
  simp only [registerVolume, touchKey_wr] at hx
  split at hx
  · exact mem_updK_of_erase hx
  · exact hx

theorem registerVolume_wr {st : St} (hn : ∀ k, (st.wr k).Nodup) (v : VInfo) (s : Nat) (k : Key) :
    ((registerVolume st v s).wr k).Nodup ∧ ∀ x, x ∈ (registerVolume st v s).wr k → x ∈ st.wr k := by
  refine ⟨?_, registerVolume_wr_sub st v s k⟩
  simp only [registerVolume, touchKey_wr]
  split
  · exact nodup_updK_erase hn v.key v.id k
  · exact hn k

/-- the deferred rememberOversizedVolume -/
theorem registerVolume_ov (st : St) (v : VInfo) (s : Nat) :
    (registerVolume st v s).ov = updK2 st.ov v.key v.id
      (if v.size ≥ st.limit then setLoc (st.ov v.key v.id) s else (st.ov v.key v.id).erase s) := by
  simp only [registerVolume, touchKey_ov, (keeps_touchKey st v.key).limit]

theorem keeps_registerVolume (st : St) (v : VInfo) (s : Nat) : Keeps (registerVolume st v s) st :=
  ⟨(keeps_touchKey st v.key).toCore, (keeps_touchKey st v.key).asMin, (keeps_touchKey st v.key).limit,
   (keeps_touchKey st v.key).ecLoc⟩

theorem locList_updK2_self (f : Key → Nat → Option (List Nat)) (st : St) (k : Key) (vid : Nat) (l : List Nat)
    (h : st.locs = updK2 f k vid (some l)) : locList st k vid = l := by
  unfold locList; rw [h]; simp [updK2]

theorem updK2_other {α : Type} (f : Key → Nat → α) (k0 : Key) (vid0 : Nat) (a : α) (k : Key) (vid : Nat)
    (h : ¬ (k = k0 ∧ vid = vid0)) : updK2 f k0 vid0 a k vid = f k vid := if_neg h

theorem mem_updK2 {f : Key → Nat → List Nat} {k0 k : Key} {vid0 vid x : Nat} {l : List Nat} (h : x ∈ f k vid)
    (hl : k = k0 → vid = vid0 → x ∈ l) : x ∈ updK2 f k0 vid0 l k vid := by
  unfold updK2
  split
  · next e => exact hl e.1 e.2
  · exact h

/-- the state in which UnRegisterVolume and SetVolumeUnavailable look at the writables: the location of
    `s` and its oversized mark are erased -/
def eraseLoc (st : St) (k : Key) (vid s : Nat) : St :=
  { touchKey st k with
    locs := updK2 st.locs k vid (some ((locList st k vid).erase s))
    ov := updK2 st.ov k vid ((st.ov k vid).erase s) }

theorem keeps_eraseLoc (st : St) (k : Key) (vid s : Nat) : Keeps (eraseLoc st k vid s) st :=
  ⟨(keeps_touchKey st k).toCore, (keeps_touchKey st k).asMin, (keeps_touchKey st k).limit, (keeps_touchKey st k).ecLoc⟩

theorem eraseLoc_wr (st : St) (k : Key) (vid s : Nat) : (eraseLoc st k vid s).wr = st.wr := touchKey_wr st k

/-- the fact survives the loss of a location that leaves enough copies: the rest of the list is as long as
    the placement asks or longer, and its replicas are the ones that were writable -/
theorem Q_eraseLoc {st : St} {k : Key} {vid s : Nat} (hin : s ∈ locList st k vid)
    (hge : ¬ ((locList st k vid).erase s).length < copyCount k.rp) (q : Q st k vid) : Q (eraseLoc st k vid s) k vid := by
  obtain ⟨q1, q2⟩ := q
  have hl : locList (eraseLoc st k vid s) k vid = (locList st k vid).erase s := locList_updK2_self _ _ _ _ _ rfl
  have hlen := List.length_erase_of_mem hin
  have hpos := List.length_pos_of_mem hin
  constructor
  · unfold enoughCopies at q1 ⊢
    rw [hl, (keeps_eraseLoc st k vid s).asMin]
    simp only [Bool.or_eq_true, beq_iff_eq, Bool.and_eq_true, decide_eq_true_eq] at q1 ⊢
    rcases q1 with q1 | q1
    · omega
    · by_cases e : ((locList st k vid).erase s).length = copyCount k.rp
      · exact Or.inl e
      · exact Or.inr ⟨q1.1, by omega⟩
  · unfold isAllWritable volOf at q2 ⊢
    rw [hl, (keeps_eraseLoc st k vid s).toCore]
    exact List.all_eq_true.mpr fun dn hdn => List.all_eq_true.mp q2 dn (List.mem_of_mem_erase hdn)

theorem unregisterLayout_eq (st : St) (v : VInfo) (s : Nat) :
    unregisterLayout st v s =
      if s ∈ locList st v.key v.id then
        (if (locList st v.key v.id).erase s = [] then
          { ensureWritables (eraseLoc st v.key v.id s) v.key v.id with
            locs := updK2 (ensureWritables (eraseLoc st v.key v.id s) v.key v.id).locs v.key v.id none }
         else ensureWritables (eraseLoc st v.key v.id s) v.key v.id)
      else touchKey st v.key := by
  cases h : st.locs v.key v.id with
  | none => simp [unregisterLayout, locList, touchKey_locs, h]
  | some l =>
    simp only [unregisterLayout, eraseLoc, locList, touchKey_locs, touchKey_ov, h, Option.getD_some,
      List.contains_iff_mem, List.isEmpty_iff]

theorem setUnavailable_eq (st : St) (v : VInfo) (s : Nat) :
    setUnavailable st v s =
      if s ∈ locList st v.key v.id then
        (if ((locList st v.key v.id).erase s).length < copyCount v.key.rp then
          removeWritable (eraseLoc st v.key v.id s) v.key v.id
         else eraseLoc st v.key v.id s)
      else touchKey st v.key := by
  cases h : st.locs v.key v.id with
  | none => simp [setUnavailable, locList, touchKey_locs, h]
  | some l =>
    simp only [setUnavailable, eraseLoc, locList, touchKey_locs, touchKey_ov, h, Option.getD_some,
      List.contains_iff_mem]

/-- the three ways UnRegisterVolume ends: `s` was the last location (the emptied list is dropped), other
    locations remain, `s` was not in the list -/
@[elab_as_elim]
theorem unregisterLayout_cases {P : St → Prop} (st : St) (v : VInfo) (s : Nat)
    (last : s ∈ locList st v.key v.id → (locList st v.key v.id).erase s = [] →
      P { ensureWritables (eraseLoc st v.key v.id s) v.key v.id with
          locs := updK2 (ensureWritables (eraseLoc st v.key v.id s) v.key v.id).locs v.key v.id none })
    (more : s ∈ locList st v.key v.id → ¬ (locList st v.key v.id).erase s = [] →
      P (ensureWritables (eraseLoc st v.key v.id s) v.key v.id))
    (absent : s ∉ locList st v.key v.id → P (touchKey st v.key)) : P (unregisterLayout st v s) := by
  rw [unregisterLayout_eq]
  split
  · next h =>
    split
    · next g => exact last h g
    · next g => exact more h g
  · next h => exact absent h

/-- the three ways SetVolumeUnavailable ends: too few locations remain (the volume id leaves the writables),
    enough remain, `s` was not in the list -/
@[elab_as_elim]
theorem setUnavailable_cases {P : St → Prop} (st : St) (v : VInfo) (s : Nat)
    (few : s ∈ locList st v.key v.id → ((locList st v.key v.id).erase s).length < copyCount v.key.rp →
      P (removeWritable (eraseLoc st v.key v.id s) v.key v.id))
    (enough : s ∈ locList st v.key v.id → ¬ ((locList st v.key v.id).erase s).length < copyCount v.key.rp →
      P (eraseLoc st v.key v.id s))
    (absent : s ∉ locList st v.key v.id → P (touchKey st v.key)) : P (setUnavailable st v s) := by
  rw [setUnavailable_eq]
  split
  · next h =>
    split
    · next g => exact few h g
    · next g => exact enough h g
  · next h => exact absent h

theorem keeps_registerLayout (st : St) (v : VInfo) (s : Nat) : Keeps (registerLayout st v s) st :=
  (keeps_ensureWritables _ _ _).trans (keeps_registerVolume st v s)

theorem keeps_unregisterLayout (st : St) (v : VInfo) (s : Nat) : Keeps (unregisterLayout st v s) st := by
  have h := (keeps_ensureWritables (eraseLoc st v.key v.id s) v.key v.id).trans (keeps_eraseLoc st v.key v.id s)
  exact unregisterLayout_cases st v s (fun _ _ => ⟨h.toCore, h.asMin, h.limit, h.ecLoc⟩) (fun _ _ => h)
    (fun _ => keeps_touchKey st v.key)

theorem keeps_setUnavailable (st : St) (v : VInfo) (s : Nat) : Keeps (setUnavailable st v s) st := by
  have h := keeps_eraseLoc st v.key v.id s
  exact setUnavailable_cases st v s (fun _ _ => ⟨h.toCore, h.asMin, h.limit, h.ecLoc⟩) (fun _ _ => h)
    (fun _ => keeps_touchKey st v.key)

theorem keeps_unavails (s : Nat) {l : List VInfo} {st : St} : Keeps (l.foldl (fun st v => setUnavailable st v s) st) st :=
  keeps_foldl _ fun st v => keeps_setUnavailable st v s

theorem keeps_applyEv (st : St) (ev : Ev) : Keeps (applyEv st ev) st := by
  cases ev with
  | register v s => exact keeps_registerLayout st v s
  | unregister v s => exact keeps_unregisterLayout st v s
  | ensure k vid => exact (keeps_ensureWritables _ k vid).trans (keeps_touchKey st k)
  | capacityFull k vid => exact (keeps_removeWritable _ k vid).trans (keeps_touchKey st k)

theorem refresh_eq (st : St) (n : Nat) :
    refresh st n = (List.range n).foldl (fun st s => if st.conn s then (volumesOf st s).foldl capFull st else st) st := rfl

theorem keeps_capFull (st : St) (v : VInfo) : Keeps (capFull st v) st := by
  unfold capFull
  split
  · exact (keeps_removeWritable _ _ _).trans (keeps_touchKey st v.key)
  · exact ⟨rfl, rfl, rfl, rfl⟩

theorem keeps_refresh (st : St) (n : Nat) : Keeps (refresh st n) st := by
  rw [refresh_eq]
  refine keeps_foldl _ (fun st s => ?_)
  split
  · exact keeps_foldl _ keeps_capFull
  · exact ⟨rfl, rfl, rfl, rfl⟩

theorem touchKey_withCore (st : St) (c : Core) (k : Key) :
    touchKey { st with toCore := c } k = { touchKey st k with toCore := c } := by
  rw [touchKey_eq, touchKey_eq]

/-- SetVolumeUnavailable never reads the DataNode side -/
theorem setUnavailable_withCore (st : St) (c : Core) (v : VInfo) (s : Nat) :
    setUnavailable { st with toCore := c } v s = { setUnavailable st v s with toCore := c } := by
  simp only [setUnavailable, touchKey_withCore]
  cases h : (touchKey st v.key).locs v.key v.id with
  | none => simp
  | some l =>
    dsimp only
    by_cases hc : l.contains s = true
    · by_cases hl : (l.erase s).length < copyCount v.key.rp
      · simp only [hc, hl, if_true, removeWritable]
      · simp only [hc, hl, if_true, if_false]
    · simp only [hc, Bool.false_eq_true, if_false]

theorem foldl_unavail_withCore (s : Nat) (l : List VInfo) (st : St) (c : Core) :
    l.foldl (fun st v => setUnavailable st v s) { st with toCore := c } =
      { l.foldl (fun st v => setUnavailable st v s) st with toCore := c } := by
  induction l generalizing st with
  | nil => rfl
  | cons a l ih => simp only [List.foldl_cons]; rw [setUnavailable_withCore, ih]

/-- Topology.RegisterVolumeLayout (RegisterVolume; EnsureCorrectWritables) settles the pair it is called for -/
theorem WInvOff.register {E : Key → Nat → Prop} {st : St} (h : WInvOff E st) (v : VInfo) (s : Nat) :
    WInvOff (fun k x => E k x ∧ ¬ (k = v.key ∧ x = v.id)) (registerLayout st v s) := by
  have h1 : WInvOff (fun k x => E k x ∨ (k = v.key ∧ x = v.id)) (registerVolume st v s) :=
    h.step (keeps_registerVolume st v s).vols (keeps_registerVolume st v s).asMin
      (registerVolume_wr (fun k => (h k).1) v s)
      (fun k vid hne => ⟨fun f => hne (Or.inl f),
        locList_congr (by rw [registerVolume_locs, updK2_other _ _ _ _ _ _ (fun f => hne (Or.inr f))])⟩)
  exact (h1.ensure v.key v.id).mono (fun _ _ g => ⟨g.1.resolve_right g.2, g.2⟩)

theorem locList_dropEmpty {st : St} {k : Key} {vid : Nat} (he : locList st k vid = []) (k' : Key) (x : Nat) :
    locList { st with locs := updK2 st.locs k vid none } k' x = locList st k' x := by
  show (updK2 st.locs k vid none k' x).getD [] = _
  unfold updK2
  split
  · next e => obtain ⟨rfl, rfl⟩ := e; exact he.symm
  · rfl

theorem WInvOff.dropEmpty {E : Key → Nat → Prop} {st : St} (h : WInvOff E st) (k : Key) (vid : Nat)
    (he : locList st k vid = []) : WInvOff E { st with locs := updK2 st.locs k vid none } :=
  h.step rfl rfl (fun k' => ⟨(h k').1, fun _ hx => hx⟩) (fun k' x hne => ⟨hne, locList_dropEmpty he k' x⟩)

theorem WInvOff.erased {E : Key → Nat → Prop} {st : St} (h : WInvOff E st) (k : Key) (vid s : Nat) :
    WInvOff (fun k' x => E k' x ∨ (k' = k ∧ x = vid)) (eraseLoc st k vid s) :=
  h.step (keeps_eraseLoc st k vid s).vols (keeps_eraseLoc st k vid s).asMin
    (fun k' => by rw [eraseLoc_wr]; exact ⟨(h k').1, fun _ hx => hx⟩)
    (fun k' x hne => ⟨fun f => hne (Or.inl f), locList_congr (updK2_other _ _ _ _ _ _ (fun f => hne (Or.inr f)))⟩)

/-- Topology.UnRegisterVolumeLayout unsettles nothing: after erasing a location it calls ensureCorrectWritables for its own pair -/
theorem WInvOff.unregister {E : Key → Nat → Prop} {st : St} (h : WInvOff E st) (v : VInfo) (s : Nat) :
    WInvOff E (unregisterLayout st v s) := by
  have h2 : WInvOff E (ensureWritables (eraseLoc st v.key v.id s) v.key v.id) :=
    ((h.erased v.key v.id s).ensure v.key v.id).mono (fun _ _ g => g.1.resolve_right g.2)
  refine unregisterLayout_cases st v s (fun _ hemp => h2.dropEmpty v.key v.id ?_) (fun _ _ => h2) (fun _ => h.touch v.key)
  rw [locList_updK2_self st.locs _ v.key v.id _ (ensureWritables_locs _ _ _)]
  exact hemp

/-- VolumeLayout.SetVolumeUnavailable unsettles nothing: the volume id stays offered only when the rest of the
    list is long enough (`Q_eraseLoc`) -/
theorem WInvOff.unavailable {E : Key → Nat → Prop} {st : St} (h : WInvOff E st) (v : VInfo) (s : Nat) :
    WInvOff E (setUnavailable st v s) := by
  have h1 := h.erased v.key v.id s
  refine setUnavailable_cases st v s (fun _ _ k => ?_) (fun hin hge k => ⟨(h1 k).1, fun x hx hne => ?_⟩) (fun _ => h.touch v.key)
  · refine ⟨((h1.remove v.key v.id) k).1, fun x hx hne => ((h1.remove _ _) k).2 x hx (fun g => g.elim hne ?_)⟩
    exact ((mem_updK_erase (fun k => (h1 k).1) v.key v.id k x).mp hx).2
  · by_cases e : k = v.key ∧ x = v.id
    · obtain ⟨rfl, rfl⟩ := e
      exact Q_eraseLoc hin hge ((h _).2 _ (eraseLoc_wr st v.key v.id s ▸ hx) hne)
    · exact (h1 k).2 x hx (fun g => g.elim hne e)

/-- the pair whose place in the writables a layout call justifies whatever it was before -/
def settles : Ev → Key → Nat → Prop
  | .register v _, k, x => k = v.key ∧ x = v.id
  | .ensure k0 vid, k, x => k = k0 ∧ x = vid
  | _, _, _ => False

theorem WInvOff.ev {E : Key → Nat → Prop} {st : St} (h : WInvOff E st) (ev : Ev) :
    WInvOff (fun k x => E k x ∧ ¬ settles ev k x) (applyEv st ev) := by
  cases ev with
  | register v s => exact h.register v s
  | unregister v s => exact (h.unregister v s).mono (fun _ _ g => ⟨g, id⟩)
  | ensure k vid => exact (h.touch k).ensure k vid
  | capacityFull k vid => exact ((h.touch k).remove k vid).mono (fun _ _ g => ⟨g, id⟩)

/-- the writables along ANY list of the layout calls of `Ev`, from ANY state with duplicate-free writables: what is unsettled
    afterwards was unsettled before and no call of the list settled it -/
theorem WInvOff.evs (evs : List Ev) : ∀ {E : Key → Nat → Prop} {st : St}, WInvOff E st →
    WInvOff (fun k x => E k x ∧ ∀ ev ∈ evs, ¬ settles ev k x) (evs.foldl applyEv st) := by
  induction evs with
  | nil => exact fun h => h.mono (fun _ _ g => ⟨g, nofun⟩)
  | cons ev evs ih =>
    intro E st h
    exact (ih (h.ev ev)).mono (fun _ _ g => ⟨g.1.1, List.forall_mem_cons.mpr ⟨g.1.2, g.2⟩⟩)

/-- C11 main theorem (layout mechanism): for ALL event sequences from a state where this holds, every vid in a
    writables slice has enough copies and only writable located replicas -/
theorem writable_inv_events (st : St) (h : WInv st) (evs : List Ev) : WInv (evs.foldl applyEv st) :=
  (WInvOff.evs evs (WInvOff.of_winv h)).winv (fun _ _ g => g.1)

theorem winv_init (limit : Nat) (asMin : Bool) (nVid : Nat) : WInv (init limit asMin nVid) := by
  intro k; exact ⟨List.nodup_nil, fun _ hv => absurd hv List.not_mem_nil⟩

/-- what the invariant of the step function (`Inv` of Props/C11) says of the layouts alone, without reading the
    DataNode side -/
structure LOk (keyOf : Nat → Key) (st : St) : Prop where
  wrKey : ∀ k vid, vid ∈ st.wr k → k = keyOf vid
  other : ∀ k vid, k ≠ keyOf vid → st.locs k vid = none
  nodup : ∀ vid, (locList st (keyOf vid) vid).Nodup
  keys : ∀ k vid, st.locs k vid ≠ none → k ∈ st.keys

section LOk
variable {keyOf : Nat → Key} {st st1 : St}

/-- a layout call that rewrites the location list of `vid0` in its own layout `k` to `L` -/
theorem LOk.edit (h : LOk keyOf st) (k : Key) (vid0 : Nat) (hk : k = keyOf vid0) (L : List Nat)
    (hkeys : st1.keys = (touchKey st k).keys) (hlocs : st1.locs = updK2 st.locs k vid0 (some L))
    (hw : ∀ k x, x ∈ st1.wr k → x ∈ st.wr k ∨ k = keyOf x) (hnd : L.Nodup) :
    LOk keyOf st1 ∧ ∀ x, locList st1 (keyOf x) x = if x = vid0 then L else locList st (keyOf x) x := by
  subst hk
  have hll : ∀ x, locList st1 (keyOf x) x = if x = vid0 then L else locList st (keyOf x) x := by
    intro x
    split
    · next e => subst e; exact locList_updK2_self _ _ _ _ _ hlocs
    · next e => exact locList_congr (by rw [hlocs, updK2_other _ _ _ _ _ _ (fun g => e g.2)])
  refine ⟨⟨fun k x hx => (hw k x hx).elim (h.wrKey k x) id, fun k vid hne => ?_, fun vid => ?_, fun k vid hne => ?_⟩, hll⟩
  · rw [hlocs, updK2_other _ _ _ _ _ _ (fun g => hne (by rw [g.1, g.2]))]
    exact h.other k vid hne
  · rw [hll]; split
    · exact hnd
    · exact h.nodup vid
  · rw [hkeys]
    by_cases e : k = keyOf vid0 ∧ vid = vid0
    · rw [e.1]; exact (mem_touchKey st _).1
    · rw [hlocs, updK2_other _ _ _ _ _ _ e] at hne
      exact (mem_touchKey st _).2 k (h.keys k vid hne)

/-- a layout call that leaves the location lists alone -/
theorem LOk.keep (h : LOk keyOf st) (hlocs : st1.locs = st.locs) (hkeys : ∀ k, k ∈ st.keys → k ∈ st1.keys)
    (hw : ∀ k x, x ∈ st1.wr k → x ∈ st.wr k ∨ k = keyOf x) : LOk keyOf st1 :=
  ⟨fun k x hx => (hw k x hx).elim (h.wrKey k x) id, by rw [hlocs]; exact h.other,
   fun vid => by rw [locList_congr (congrFun (congrFun hlocs _) _)]; exact h.nodup vid,
   fun k vid hne => hkeys k (h.keys k vid (hlocs ▸ hne))⟩

theorem LOk.dropEmpty (h : LOk keyOf st) (k : Key) (vid0 : Nat) (he : locList st k vid0 = []) :
    LOk keyOf { st with locs := updK2 st.locs k vid0 none } := by
  have hne : ∀ k' vid, updK2 st.locs k vid0 none k' vid = none ∨ updK2 st.locs k vid0 none k' vid = st.locs k' vid := by
    intro k' vid; unfold updK2; split
    · exact Or.inl rfl
    · exact Or.inr rfl
  exact ⟨h.wrKey, fun k' vid hk' => (hne k' vid).elim id (fun g => g.trans (h.other k' vid hk')),
    fun vid => by rw [locList_dropEmpty he]; exact h.nodup vid,
    fun k' vid hk' => h.keys k' vid ((hne k' vid).elim (fun g => absurd g hk') (fun g => g ▸ hk'))⟩

/-- Topology.RegisterVolumeLayout, location lists: `s` joins the list of the volume id -/
theorem registerLayout_locs (h : LOk keyOf st) (v : VInfo) (s : Nat) (hk : v.key = keyOf v.id) :
    LOk keyOf (registerLayout st v s) ∧
    ∀ x y, y ∈ locList (registerLayout st v s) (keyOf x) x ↔ (y ∈ locList st (keyOf x) x ∨ (y = s ∧ v.id = x)) := by
  obtain ⟨h1, h2⟩ := h.edit (st1 := registerLayout st v s) v.key v.id hk (setLoc (locList st v.key v.id) s)
    (ensureWritables_keys _ _ _) ((ensureWritables_locs _ _ _).trans (registerVolume_locs st v s))
    (fun k x hx => (ensureWritables_mem _ _ _ k x hx).imp (registerVolume_wr_sub st v s k x) (fun g => by rw [g.1, g.2.1, hk]))
    (nodup_setLoc (hk ▸ h.nodup v.id) s)
  refine ⟨h1, fun x y => ?_⟩
  rw [h2]
  split
  · next e => subst e; rw [mem_setLoc, hk]; simp
  · next e => exact ⟨Or.inl, fun g => g.resolve_right (fun g => e g.2.symm)⟩

/-- the location lists once `s` is erased from the list of `vid0` (`eraseLoc`; of the writables afterwards
    only `hw` is asked: a volume id comes in in its own layout only) -/
theorem LOk.erase (h : LOk keyOf st) (k : Key) (vid0 s : Nat) (hk : k = keyOf vid0) (hkeys : st1.keys = (touchKey st k).keys)
    (hlocs : st1.locs = (eraseLoc st k vid0 s).locs) (hw : ∀ k x, x ∈ st1.wr k → x ∈ st.wr k ∨ k = keyOf x) :
    LOk keyOf st1 ∧
    ∀ x y, y ∈ locList st1 (keyOf x) x ↔ (y ∈ locList st (keyOf x) x ∧ ¬ (y = s ∧ vid0 = x)) := by
  obtain ⟨h1, h2⟩ := h.edit k vid0 hk _ hkeys hlocs hw ((hk ▸ h.nodup vid0 : (locList st k vid0).Nodup).erase s)
  refine ⟨h1, fun x y => ?_⟩
  subst hk
  rw [h2]
  split
  · next e => subst e; rw [(h.nodup x).mem_erase_iff]; simp [and_comm]
  · next e => exact ⟨fun g => ⟨g, fun f => e f.2.symm⟩, fun g => g.1⟩

/-- neither UnRegisterVolume nor SetVolumeUnavailable does more than note the layout key when `s` is not in
    the list -/
theorem LOk.absent (h : LOk keyOf st) (k : Key) (vid0 s : Nat) (hk : k = keyOf vid0) (hs : s ∉ locList st k vid0) :
    LOk keyOf (touchKey st k) ∧
    ∀ x y, y ∈ locList (touchKey st k) (keyOf x) x ↔ (y ∈ locList st (keyOf x) x ∧ ¬ (y = s ∧ vid0 = x)) :=
  ⟨h.keep (touchKey_locs st k) (mem_touchKey st k).2 (fun k' x hx => Or.inl (touchKey_wr st k ▸ hx)),
   fun x y => by rw [locList_touchKey]; exact ⟨fun g => ⟨g, fun f => hs (hk ▸ f.2 ▸ f.1 ▸ g)⟩, fun g => g.1⟩⟩

/-- Topology.UnRegisterVolumeLayout, location lists: `s` leaves the list of the volume id -/
theorem unregisterLayout_locs (h : LOk keyOf st) (v : VInfo) (s : Nat) (hk : v.key = keyOf v.id) :
    LOk keyOf (unregisterLayout st v s) ∧
    ∀ x y, y ∈ locList (unregisterLayout st v s) (keyOf x) x ↔ (y ∈ locList st (keyOf x) x ∧ ¬ (y = s ∧ v.id = x)) := by
  obtain ⟨h1, h2⟩ := h.erase (st1 := ensureWritables (eraseLoc st v.key v.id s) v.key v.id) v.key v.id s hk
    (ensureWritables_keys _ _ _) (ensureWritables_locs _ _ _)
    (fun k x hx => (ensureWritables_mem _ _ _ k x hx).imp (fun g => eraseLoc_wr st _ _ s ▸ g) (fun g => by rw [g.1, g.2.1, hk]))
  refine unregisterLayout_cases st v s (fun _ hemp => ?_) (fun _ _ => ⟨h1, h2⟩) (fun hs => h.absent _ v.id s hk hs)
  have he : locList (ensureWritables (eraseLoc st v.key v.id s) v.key v.id) v.key v.id = [] :=
    (locList_updK2_self st.locs _ _ _ _ (ensureWritables_locs _ _ _)).trans hemp
  exact ⟨h1.dropEmpty v.key v.id he, fun x y => by rw [locList_dropEmpty he]; exact h2 x y⟩

/-- VolumeLayout.SetVolumeUnavailable, location lists: the same, and an emptied list stays -/
theorem setUnavailable_locs (h : LOk keyOf st) (v : VInfo) (s : Nat) (hk : v.key = keyOf v.id) :
    LOk keyOf (setUnavailable st v s) ∧
    ∀ x y, y ∈ locList (setUnavailable st v s) (keyOf x) x ↔ (y ∈ locList st (keyOf x) x ∧ ¬ (y = s ∧ v.id = x)) :=
  setUnavailable_cases st v s
    (fun _ _ => h.erase v.key v.id s hk rfl rfl (fun _ _ hx => Or.inl (eraseLoc_wr st _ _ s ▸ mem_updK_of_erase hx)))
    (fun _ _ => h.erase v.key v.id s hk rfl rfl (fun _ _ hx => Or.inl (eraseLoc_wr st _ _ s ▸ hx)))
    (fun hs => h.absent _ v.id s hk hs)

/-- EnsureCorrectWritables for the messages whose read-only flag changed, location lists -/
theorem ensures_locs (h : LOk keyOf st) (chg : List VInfo) (hk : ∀ v ∈ chg, v.key = keyOf v.id) :
    LOk keyOf (chg.foldl (fun st v => ensureWritables (touchKey st v.key) v.key v.id) st) ∧
    ∀ k x, locList (chg.foldl (fun st v => ensureWritables (touchKey st v.key) v.key v.id) st) k x = locList st k x := by
  refine SwV.Lemmas.C12.foldl_inv_mem (fun c => LOk keyOf c ∧ ∀ k x, locList c k x = locList st k x) _ chg
    (fun c v hv hc => ⟨?_, fun k x => ?_⟩) st ⟨h, fun _ _ => rfl⟩
  · exact hc.1.keep ((ensureWritables_locs _ _ _).trans (touchKey_locs _ _))
      (fun k' hk' => by rw [ensureWritables_keys]; exact (mem_touchKey c _).2 k' hk')
      (fun k' z hz => (ensureWritables_mem _ _ _ k' z hz).imp (fun g => touchKey_wr c _ ▸ g) (fun g => by rw [g.1, g.2.1, hk v hv]))
  · rw [locList_ensureWritables, locList_touchKey]; exact hc.2 k x

/-- SetVolumeUnavailable for a list of volumes of server `s`, location lists -/
theorem unavails_locs (h : LOk keyOf st) (s : Nat) (l : List VInfo) (hk : ∀ v ∈ l, v.key = keyOf v.id) :
    LOk keyOf (l.foldl (fun st v => setUnavailable st v s) st) ∧
    ∀ x y, (y ∈ locList (l.foldl (fun st v => setUnavailable st v s) st) (keyOf x) x ↔
      (y ∈ locList st (keyOf x) x ∧ ¬ (y = s ∧ ∃ v ∈ l, v.id = x))) := by
  have U := fun c v (hv : v ∈ l) (hc : LOk keyOf c) => setUnavailable_locs hc v s (hk v hv)
  refine ⟨SwV.Lemmas.C12.foldl_inv_mem (LOk keyOf) _ l (fun c v hv hc => (U c v hv hc).1) st h, fun x y => ?_⟩
  rw [← exists_mem_and_left]
  exact foldl_and_not_iff (I := LOk keyOf) (P := fun st => y ∈ locList st (keyOf x) x) (R := fun v => y = s ∧ v.id = x)
    (f := fun st v => setUnavailable st v s) l (fun c v hv hc => ⟨(U c v hv hc).1, (U c v hv hc).2 x y⟩) st h

end LOk

/-- the layout calls of a volume heartbeat -/
def hbEvs (s : Nat) (news dels chg : List VInfo) : List Ev :=
  news.map (fun v => Ev.register v s) ++ dels.map (fun v => Ev.unregister v s) ++ chg.map (fun v => Ev.ensure v.key v.id)

theorem mem_hbEvs {s : Nat} {news dels chg : List VInfo} {ev : Ev} :
    ev ∈ hbEvs s news dels chg ↔
      (∃ v ∈ news, Ev.register v s = ev) ∨ (∃ v ∈ dels, Ev.unregister v s = ev) ∨ (∃ v ∈ chg, Ev.ensure v.key v.id = ev) := by
  simp only [hbEvs, List.mem_append, List.mem_map, or_assoc]

theorem foldl_hbEvs (s : Nat) (news dels chg : List VInfo) (st : St) :
    (hbEvs s news dels chg).foldl applyEv st =
      chg.foldl (fun st v => ensureWritables (touchKey st v.key) v.key v.id)
        (dels.foldl (fun st v => unregisterLayout st v s) (news.foldl (fun st v => registerLayout st v s) st)) := by
  simp only [hbEvs, List.foldl_append, List.foldl_map]
  rfl

/-- the layout calls of a full volume heartbeat on top of its DataNode side; a heartbeat of a server that is not
    connected is ignored -/
theorem keeps_syncFull (st : St) (s : Nat) (vs : List VInfo) :
    Keeps (syncFull st s vs) { st with toCore := if st.conn s then (st.toCore.updateVolumes s vs).1 else st.toCore } := by
  unfold syncFull
  cases st.conn s
  · exact ⟨rfl, rfl, rfl, rfl⟩
  · exact foldl_hbEvs s _ _ _ _ ▸ keeps_foldl applyEv keeps_applyEv

theorem keeps_syncInc (st : St) (s : Nat) (news dels : List VInfo) :
    Keeps (syncInc st s news dels)
      { st with toCore := if st.conn s then st.toCore.deltaUpdateVolumes s news dels else st.toCore } := by
  unfold syncInc
  cases st.conn s
  · exact ⟨rfl, rfl, rfl, rfl⟩
  · exact (keeps_foldl _ fun st v => keeps_unregisterLayout st v s).trans (keeps_foldl _ fun st v => keeps_registerLayout st v s)

/-- the layout calls of a volume heartbeat of `s`, location lists: `s` joins the lists of `news` and leaves
    those of `dels` -/
theorem hbEvs_locs {keyOf : Nat → Key} {st : St} (h : LOk keyOf st) (s : Nat) (news dels chg : List VInfo)
    (hk : ∀ v, v ∈ news ∨ v ∈ dels ∨ v ∈ chg → v.key = keyOf v.id) :
    LOk keyOf ((hbEvs s news dels chg).foldl applyEv st) ∧
    ∀ x y, (y ∈ locList ((hbEvs s news dels chg).foldl applyEv st) (keyOf x) x ↔
      ((y ∈ locList st (keyOf x) x ∨ (y = s ∧ ∃ v ∈ news, v.id = x)) ∧ ¬ (y = s ∧ ∃ v ∈ dels, v.id = x))) := by
  have N := fun c v (hv : v ∈ news) (hc : LOk keyOf c) => registerLayout_locs hc v s (hk v (Or.inl hv))
  have D := fun c v (hv : v ∈ dels) (hc : LOk keyOf c) => unregisterLayout_locs hc v s (hk v (Or.inr (Or.inl hv)))
  have a1 := SwV.Lemmas.C12.foldl_inv_mem (LOk keyOf) _ news (fun c v hv hc => (N c v hv hc).1) st h
  have b1 := SwV.Lemmas.C12.foldl_inv_mem (LOk keyOf) _ dels (fun c v hv hc => (D c v hv hc).1) _ a1
  obtain ⟨c1, c2⟩ := ensures_locs b1 chg (fun v hv => hk v (Or.inr (Or.inr hv)))
  rw [foldl_hbEvs]
  refine ⟨c1, fun x y => ?_⟩
  let P : St → Prop := fun st => y ∈ locList st (keyOf x) x
  have a2 := foldl_or_iff (I := LOk keyOf) (P := P) (R := fun v => y = s ∧ v.id = x)
    (f := fun st v => registerLayout st v s) news (fun c v hv hc => ⟨(N c v hv hc).1, (N c v hv hc).2 x y⟩) st h
  have b2 := foldl_and_not_iff (I := LOk keyOf) (P := P) (R := fun v => y = s ∧ v.id = x)
    (f := fun st v => unregisterLayout st v s) dels (fun c v hv hc => ⟨(D c v hv hc).1, (D c v hv hc).2 x y⟩) _ a1
  rw [c2, ← exists_mem_and_left, ← exists_mem_and_left, ← a2]
  exact b2

end SwV.Lemmas.C11
