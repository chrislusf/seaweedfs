/- C12 helper lemmas: counter algebra, invariants of folds, bounded sums under point updates, which changes of a state
   the sums over the connected servers do not see (`sums_of_live_eq`), and what `UpAdjustDiskUsageDelta` does to the
   disk counters and to those sums. -/
import SwV.Model.C11
import SwV.Spec.C12
namespace SwV.Lemmas.C12
open SwV.Model.C11 SwV.Spec.C12

theorem Counts.ext {a b : Counts} (h1 : a.vol = b.vol) (h2 : a.rem = b.rem) (h3 : a.ec = b.ec) (h4 : a.max = b.max) : a = b := by
  cases a; cases b; simp_all

@[simp] theorem Counts.add_zero (a : Counts) : a.add {} = a :=
  Counts.ext (Int.add_zero _) (Int.add_zero _) (Int.add_zero _) (Int.add_zero _)
@[simp] theorem zero_add (a : Counts) : Counts.add {} a = a :=
  Counts.ext (Int.zero_add _) (Int.zero_add _) (Int.zero_add _) (Int.zero_add _)
theorem Counts.add_assoc (a b c : Counts) : (a.add b).add c = a.add (b.add c) :=
  Counts.ext (Int.add_assoc _ _ _) (Int.add_assoc _ _ _) (Int.add_assoc _ _ _) (Int.add_assoc _ _ _)
theorem Counts.add_right_comm (a b c : Counts) : (a.add b).add c = (a.add c).add b :=
  Counts.ext (Int.add_right_comm _ _ _) (Int.add_right_comm _ _ _) (Int.add_right_comm _ _ _) (Int.add_right_comm _ _ _)
@[simp] theorem Counts.add_neg (a : Counts) : a.add a.neg = {} :=
  Counts.ext (Int.add_right_neg _) (Int.add_right_neg _) (Int.add_right_neg _) (Int.add_right_neg _)

theorem foldl_inv_mem {β γ : Type} (P : β → Prop) (f : β → γ → β) (l : List γ)
    (hf : ∀ b x, x ∈ l → P b → P (f b x)) (init : β) (h : P init) : P (l.foldl f init) :=
  List.foldlRecOn (motive := P) l f h fun b hb x hx => hf b x hx hb

theorem foldl_inv {β γ : Type} (P : β → Prop) (f : β → γ → β)
    (hf : ∀ b x, P b → P (f b x)) (l : List γ) (init : β) (h : P init) : P (l.foldl f init) :=
  foldl_inv_mem P f l (fun b x _ => hf b x) init h

theorem foldl_rel {σ α : Type} (R : σ → σ → Prop) (refl : ∀ s, R s s) (trans : ∀ {a b c}, R a b → R b c → R a c)
    (f : σ → α → σ) (hf : ∀ s a, R (f s a) s) (l : List α) (s : σ) : R (l.foldl f s) s :=
  foldl_inv (fun x => R x s) f (fun b a h => trans (hf b a) h) l s (refl s)

/-- a loop that passes `a0` establishes `G` if the step for `a0` does and every step keeps it (`A`: what the
    steps may assume of the state) -/
theorem foldl_hit {σ α : Type} (f : σ → α → σ) (A G : σ → Prop) (hA : ∀ st a, A st → A (f st a))
    (hG : ∀ st a, A st → G st → G (f st a)) (a0 : α) (hit : ∀ st, A st → G (f st a0)) (L : List α) (st : σ)
    (hm : a0 ∈ L) (h1 : A st) : G (L.foldl f st) := by
  induction L generalizing st with
  | nil => cases hm
  | cons a L ih =>
    simp only [List.foldl_cons]
    by_cases e : a0 = a
    · subst e
      exact (foldl_inv (fun x => A x ∧ G x) f (fun x a h => ⟨hA x a h.1, hG x a h.1 h.2⟩) L _ ⟨hA st a0 h1, hit st h1⟩).2
    · rcases List.mem_cons.mp hm with h | h
      · exact absurd h e
      · exact ih _ h (hA st a h1)

theorem sumC_congr {n : Nat} {f g : Nat → Counts} (h : ∀ i, i < n → f i = g i) : sumC n f = sumC n g := by
  induction n with
  | zero => rfl
  | succ n ih =>
    show (sumC n f).add (f n) = (sumC n g).add (g n)
    rw [ih fun i hi => h i (Nat.lt_succ_of_lt hi), h n (Nat.lt_succ_self n)]

theorem sumC_zero {n : Nat} {f : Nat → Counts} (h : ∀ i, i < n → f i = {}) : sumC n f = {} := by
  induction n with
  | zero => rfl
  | succ n ih =>
    show (sumC n f).add (f n) = {}
    rw [ih fun i hi => h i (Nat.lt_succ_of_lt hi), h n (Nat.lt_succ_self n)]; rfl

theorem sumC_upd {n s : Nat} {f g : Nat → Counts} {d : Counts} (hs : s < n)
    (hne : ∀ i, i ≠ s → g i = f i) (hs' : g s = (f s).add d) : sumC n g = (sumC n f).add d := by
  induction n with
  | zero => exact absurd hs (Nat.not_lt_zero s)
  | succ n ih =>
    show (sumC n g).add (g n) = ((sumC n f).add (f n)).add d
    by_cases h : s = n
    · subst h
      rw [sumC_congr (f := g) (g := f) fun i hi => hne i (Nat.ne_of_lt hi), hs', Counts.add_assoc]
    · rw [ih (Nat.lt_of_le_of_ne (Nat.le_of_lt_succ hs) h), hne n fun e => h e.symm, Counts.add_right_comm]

theorem sumI_congr {n : Nat} {f g : Nat → Int} (h : ∀ i, i < n → f i = g i) : sumI n f = sumI n g := by
  induction n with
  | zero => rfl
  | succ n ih =>
    show sumI n f + f n = sumI n g + g n
    rw [ih fun i hi => h i (Nat.lt_succ_of_lt hi), h n (Nat.lt_succ_self n)]

theorem sumI_zero {n : Nat} {f : Nat → Int} (h : ∀ i, i < n → f i = 0) : sumI n f = 0 := by
  induction n with
  | zero => rfl
  | succ n ih =>
    show sumI n f + f n = 0
    rw [ih fun i hi => h i (Nat.lt_succ_of_lt hi), h n (Nat.lt_succ_self n)]; rfl

theorem sumI_upd {n s : Nat} {f g : Nat → Int} {d : Int} (hs : s < n)
    (hne : ∀ i, i ≠ s → g i = f i) (hs' : g s = f s + d) : sumI n g = sumI n f + d := by
  induction n with
  | zero => exact absurd hs (Nat.not_lt_zero s)
  | succ n ih =>
    show sumI n g + g n = sumI n f + f n + d
    by_cases h : s = n
    · subst h
      rw [sumI_congr (f := g) (g := f) fun i hi => hne i (Nat.ne_of_lt hi), hs', Int.add_assoc]
    · rw [ih (Nat.lt_of_le_of_ne (Nat.le_of_lt_succ hs) h), hne n fun e => h e.symm, Int.add_right_comm]

theorem sumI_add (n : Nat) (f g : Nat → Int) : sumI n (fun i => f i + g i) = sumI n f + sumI n g := by
  induction n with
  | zero => rfl
  | succ n ih => simp only [sumI, ih]; omega

theorem sumI_single (n a : Nat) (v : Int) (ha : a < n) : sumI n (fun i => if a = i then v else 0) = v := by
  have := sumI_upd (n := n) (s := a) (f := fun _ => 0) (g := fun i => if a = i then v else 0) (d := v) ha
    (fun i hi => if_neg (Ne.symm hi)) (by simp)
  rw [this, sumI_zero (fun _ _ => rfl), Int.zero_add]

theorem sumI_upd3 {α : Type} (g : α → Int) (f : Nat → Nat → Nat → α) (s t vid : Nat) (x : α) {n : Nat}
    (hvid : vid < n) (s' t' : Nat) :
    sumI n (fun v => g (upd3 f s t vid x s' t' v)) =
      sumI n (fun v => g (f s' t' v)) + if s' = s ∧ t' = t then g x - g (f s t vid) else 0 := by
  by_cases e : s' = s ∧ t' = t
  · obtain ⟨rfl, rfl⟩ := e
    rw [if_pos ⟨rfl, rfl⟩]
    refine sumI_upd hvid (fun i hi => ?_) ?_
    · simp only [upd3, hi, and_false, if_false]
    · show g (if s' = s' ∧ t' = t' ∧ vid = vid then x else f s' t' vid) = _
      rw [if_pos ⟨rfl, rfl, rfl⟩]
      exact ((Int.add_comm _ _).trans (Int.sub_add_cancel _ _)).symm
  · rw [if_neg e, Int.add_zero]
    refine sumI_congr fun i _ => ?_
    have : ¬ (s' = s ∧ t' = t ∧ i = vid) := fun ⟨a, b, _⟩ => e ⟨a, b⟩
    simp only [upd3, this, if_false]

/-- the sums see of every server only its counters while it is connected, and its place; a server that
    contributes nothing may change place -/
theorem sums_of_live_eq {c c' : Core} {N : Nat} (h : Sums c N)
    (hl : ∀ i t, t < 2 → live c' i (c'.cNode i t) = live c i (c.cNode i t))
    (hp : ∀ i, (c'.dcOf i = c.dcOf i ∧ c'.rackOf i = c.rackOf i) ∨ ∀ t, t < 2 → live c i (c.cNode i t) = {})
    (h5 : c'.cRack = c.cRack) (h6 : c'.cDc = c.cDc) (h7 : c'.cTopo = c.cTopo) : Sums c' N := by
  have pt : ∀ i t, t < 2 → ∀ (q' q : Prop) [Decidable q'] [Decidable q],
      (c'.dcOf i = c.dcOf i → c'.rackOf i = c.rackOf i → (q' ↔ q)) →
      (if q' then live c' i (c'.cNode i t) else {}) = if q then live c i (c.cNode i t) else {} := by
    intro i t ht q' q _ _ hq
    rw [hl i t ht]
    rcases hp i with ⟨e1, e2⟩ | z
    · simp only [hq e1 e2]
    · rw [z t ht, ite_self, ite_self]
  refine ⟨fun dc r t ht => ?_, fun dc t ht => ?_, fun t ht => ?_⟩
  · rw [h5, h.rack dc r t ht]
    exact (sumC_congr fun i _ => pt i t ht _ _ fun e1 e2 => by rw [e1, e2]).symm
  · rw [h6, h.dc dc t ht]
    exact (sumC_congr fun i _ => pt i t ht _ _ fun e1 _ => by rw [e1]).symm
  · rw [h7, h.topo t ht]
    exact (sumC_congr fun i _ => hl i t ht).symm

theorem sums_of_eq {c c' : Core} {N : Nat} (h : Sums c N)
    (h1 : c'.conn = c.conn) (h2 : c'.dcOf = c.dcOf) (h3 : c'.rackOf = c.rackOf) (h4 : c'.cNode = c.cNode)
    (h5 : c'.cRack = c.cRack) (h6 : c'.cDc = c.cDc) (h7 : c'.cTopo = c.cTopo) : Sums c' N :=
  sums_of_live_eq h (fun i t _ => by simp only [live, h1, h4]) (fun i => Or.inl ⟨by rw [h2], by rw [h3]⟩) h5 h6 h7

theorem hier_of_eq {c c' : Core} {N : Nat} (h : HierOk c N)
    (h1 : c'.conn = c.conn) (h2 : c'.dcOf = c.dcOf) (h3 : c'.rackOf = c.rackOf) (h4 : c'.cNode = c.cNode)
    (h5 : c'.cRack = c.cRack) (h6 : c'.cDc = c.cDc) (h7 : c'.cTopo = c.cTopo) (h8 : c'.cDisk = c.cDisk) : HierOk c' N :=
  ⟨by intro s t hc; rw [h1] at hc; rw [h4, h8]; exact h.node s t hc, sums_of_eq h.sums h1 h2 h3 h4 h5 h6 h7⟩

theorem upAdj_cDisk (c : Core) (s t d s' t') :
    (c.upAdj s t d).cDisk s' t' = if s' = s ∧ t' = t then (c.cDisk s t).add d else c.cDisk s' t' := rfl

/-- an additive projection `π` (`.vol`, `.rem`, `.ec`, `.max`) of a counter table that got `d` added at `(s, t)` -/
theorem proj_add_at (π : Counts → Int) (hπ : ∀ a b, π (a.add b) = π a + π b) {k k' : Nat → Nat → Counts} {s t : Nat}
    {d : Counts} (hk : ∀ s' t', k' s' t' = if s' = s ∧ t' = t then (k s t).add d else k s' t') (s' t' : Nat) :
    π (k' s' t') = π (k s' t') + if s' = s ∧ t' = t then π d else 0 := by
  rw [hk]
  split
  · next e => obtain ⟨rfl, rfl⟩ := e; exact hπ _ _
  · exact (Int.add_zero _).symm

theorem upAdj_proj_of_zero (π : Counts → Int) (hπ : ∀ a b, π (a.add b) = π a + π b) {d : Counts} (h : π d = 0)
    (c : Core) (s t s' t' : Nat) : π ((c.upAdj s t d).cDisk s' t') = π (c.cDisk s' t') := by
  rw [proj_add_at π hπ (upAdj_cDisk c s t d), h, ite_self]; exact Int.add_zero _

theorem nodeUp_cNode (c : Core) (s t : Nat) (d : Counts) (s' t' : Nat) :
    (c.nodeUp s t d).cNode s' t' = if s' = s ∧ t' = t then (c.cNode s t).add d else c.cNode s' t' := rfl

/-- `p` is membership in a rack, membership in a data center, or `True`: the three sums of `Sums` -/
theorem sumC_live_nodeUp (c : Core) (N s t : Nat) (d : Counts) (p : Nat → Prop) [DecidablePred p]
    (hc : c.conn s = true) (hs : s < N) (t' : Nat) :
    sumC N (fun i => if p i then live (c.nodeUp s t d) i ((c.nodeUp s t d).cNode i t') else {}) =
      if p s ∧ t' = t then (sumC N (fun i => if p i then live c i (c.cNode i t') else {})).add d
      else sumC N (fun i => if p i then live c i (c.cNode i t') else {}) := by
  by_cases h : p s ∧ t' = t
  · rw [if_pos h]
    obtain ⟨hp, rfl⟩ := h
    apply sumC_upd hs
    · intro i hi
      simp [Core.nodeUp, upd2, live, hi]
    · simp [Core.nodeUp, upd2, live, hp, hc]
  · rw [if_neg h]
    apply sumC_congr
    intro i _
    by_cases hp : p i
    · have : ¬ (i = s ∧ t' = t) := fun ⟨e, e'⟩ => h ⟨e ▸ hp, e'⟩
      rw [nodeUp_cNode, if_neg this]; rfl
    · simp only [hp, if_false]

theorem sums_nodeUp {c : Core} {N s t : Nat} {d : Counts} (h : Sums c N) (hc : c.conn s = true) (hs : s < N) :
    Sums (c.nodeUp s t d) N := by
  -- `nodeUp` adds `d` to the one entry of each table under which `s` falls, and by `sumC_live_nodeUp` the sums of exactly
  -- those entries grow by `d`: both sides become the same `if`
  refine ⟨fun dc r t' ht => ?_, fun dc t' ht => ?_, fun t' ht => ?_⟩
  · show upd3 c.cRack (c.dcOf s) (c.rackOf s) t _ dc r t' = sumC N (fun i => if c.dcOf i = dc ∧ c.rackOf i = r then _ else _)
    rw [sumC_live_nodeUp c N s t d (fun i => c.dcOf i = dc ∧ c.rackOf i = r) hc hs t', ← h.rack dc r t' ht]
    by_cases h1 : (c.dcOf s = dc ∧ c.rackOf s = r) ∧ t' = t
    · obtain ⟨⟨rfl, rfl⟩, rfl⟩ := h1
      rw [if_pos ⟨⟨rfl, rfl⟩, rfl⟩]
      exact if_pos ⟨rfl, rfl, rfl⟩
    · rw [if_neg h1]
      exact if_neg fun ⟨a, b, e⟩ => h1 ⟨⟨a.symm, b.symm⟩, e⟩
  · show upd2 c.cDc (c.dcOf s) t _ dc t' = sumC N (fun i => if c.dcOf i = dc then _ else _)
    rw [sumC_live_nodeUp c N s t d (fun i => c.dcOf i = dc) hc hs t', ← h.dc dc t' ht]
    by_cases h1 : c.dcOf s = dc ∧ t' = t
    · obtain ⟨rfl, rfl⟩ := h1
      rw [if_pos ⟨rfl, rfl⟩]
      exact if_pos ⟨rfl, rfl⟩
    · rw [if_neg h1]
      exact if_neg fun ⟨a, e⟩ => h1 ⟨a.symm, e⟩
  · show upd1 c.cTopo t _ t' = _
    have := sumC_live_nodeUp c N s t d (fun _ => True) hc hs t'
    simp only [if_true, true_and] at this
    rw [this, ← h.topo t' ht]
    by_cases h1 : t' = t
    · subst h1
      rw [if_pos rfl]
      exact if_pos rfl
    · rw [if_neg h1]
      exact if_neg h1

theorem hier_upAdj {c : Core} {N s t : Nat} {d : Counts} (h : HierOk c N) (hc : c.conn s = true) (hs : s < N) :
    HierOk (c.upAdj s t d) N := by
  constructor
  · intro s' t' hc'
    rw [upAdj_cDisk, ← h.node s' t' hc', ← h.node s t hc]
    exact nodeUp_cNode _ s t d s' t'
  · exact sums_nodeUp (c := { c with cDisk := upd2 c.cDisk s t ((c.cDisk s t).add d) })
      (sums_of_eq h.sums rfl rfl rfl rfl rfl rfl rfl) hc hs

end SwV.Lemmas.C12
