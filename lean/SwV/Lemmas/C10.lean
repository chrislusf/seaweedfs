/-
C10 — lemmas about the model for `placement_sound`: the oracle-driven shuffles (`permute`; `sortW` on positive weights), with fuel for
the whole list, are permutations, so `pickNodes` returns a node passing the filter and n-1 more, all at different positions
among the children with a positive free estimate (`pick_ok`); the reservation loops, when they succeed, append exactly one
path per rack / data center, each naming a node with a free slot; lookup by id in a list with unique ids; the
judge's conjuncts as propositions about the three parts of an answer (`placementOK_parts`).
Core Lean only.
-/
import SwV.Model.C10
import SwV.Spec.C10
namespace SwV.Lemmas.C10
open SwV.Model.C10 SwV.Spec.C10

theorem nodupB_iff {α : Type} [BEq α] [LawfulBEq α] (l : List α) : nodupB l = true ↔ l.Nodup := by
  induction l with
  | nil => simp [nodupB]
  | cons x r ih => simp [nodupB, ih, List.nodup_cons]

theorem getElem?_perm {α : Type} {l : List α} {i : Nat} {y : α} (h : l[i]? = some y) :
    List.Perm (y :: (l.take i ++ l.drop (i + 1))) l := by
  induction l generalizing i with
  | nil => simp at h
  | cons a t ih =>
    cases i with
    | zero => simp at h; subst h; simp
    | succ i =>
      simp only [List.getElem?_cons_succ] at h
      simp only [List.take_succ_cons, List.drop_succ_cons, List.cons_append]
      exact (List.Perm.swap a y _).trans ((ih h).cons a)

theorem nodup_of_map {α β : Type} (f : α → β) (l : List α) (h : (l.map f).Nodup) : l.Nodup :=
  List.Pairwise.of_map f (fun _ _ hne e => hne (congrArg f e)) h

theorem nodup_map_inj {α β : Type} (f : α → β) (l : List α) (hf : ∀ a b, f a = f b → a = b) (h : l.Nodup) :
    (l.map f).Nodup :=
  List.Pairwise.map f (fun a b hne e => hne (hf a b e)) h

theorem take_drop_parts {α : Type} (a b c : List α) :
    (a ++ b ++ c).take a.length = a ∧ ((a ++ b ++ c).drop a.length).take b.length = b ∧
      (a ++ b ++ c).drop (a.length + b.length) = c := by
  rw [List.append_assoc, List.take_left, ← List.drop_drop, List.drop_left, List.take_left, List.drop_left]
  exact ⟨rfl, rfl, rfl⟩

/-- `a` is, up to order, a part of `b` -/
def Part {α : Type} (a b : List α) : Prop := ∃ l, List.Perm (a ++ l) b

theorem Part.trans {α : Type} {a b c : List α} (h1 : Part a b) (h2 : Part b c) : Part a c := by
  obtain ⟨l1, p1⟩ := h1
  obtain ⟨l2, p2⟩ := h2
  refine ⟨l1 ++ l2, ?_⟩
  rw [← List.append_assoc]
  exact (p1.append_right l2).trans p2

theorem Part.of_perm {α : Type} {a b : List α} (h : List.Perm a b) : Part a b := ⟨[], by simpa using h⟩

theorem Part.filter {α : Type} (p : α → Bool) (l : List α) : Part (l.filter p) l :=
  ⟨l.filter (fun x => !p x), List.filter_append_perm p l⟩

theorem Part.nodup_map {α β : Type} {a b : List α} (f : α → β) (h : Part a b) (hn : (b.map f).Nodup) :
    (a.map f).Nodup := by
  obtain ⟨l, p⟩ := h
  have := (p.map f).nodup_iff.mpr hn
  rw [List.map_append] at this
  exact (List.nodup_append.mp this).1

theorem Part.mem {α : Type} {a b : List α} (h : Part a b) {x : α} (hx : x ∈ a) : x ∈ b := by
  obtain ⟨l, p⟩ := h
  exact p.subset (List.mem_append_left _ hx)

theorem Part.take {α : Type} (k : Nat) (l : List α) : Part (l.take k) l :=
  ⟨l.drop k, by rw [List.take_append_drop]⟩

theorem Part.cons {α : Type} {a b : List α} (x : α) (h : Part a b) : Part (x :: a) (x :: b) := by
  obtain ⟨l, p⟩ := h
  exact ⟨l, p.cons x⟩

theorem permute_perm {α : Type} {f : Nat} {xs : List α} {o : Oracle} (hf : xs.length ≤ f) :
    List.Perm (permute f xs o).1 xs := by
  induction f generalizing xs o with
  | zero =>
    have : xs = [] := List.eq_nil_of_length_eq_zero (Nat.eq_zero_of_le_zero hf)
    subst this; simp [permute]
  | succ f ih =>
    unfold permute
    cases xs with
    | nil => simp
    | cons x rest =>
      simp only
      have hi : (next o).1 % (rest.length + 1) < rest.length + 1 := Nat.mod_lt _ (Nat.succ_pos _)
      generalize (next o).1 % (rest.length + 1) = i at hi ⊢
      simp only [List.length_cons] at hf
      split
      · next hn =>
        rw [List.getElem?_eq_none_iff] at hn
        simp only [List.length_cons] at hn
        omega
      · next y hy =>
        refine ((ih ?_).cons y).trans (getElem?_perm hy)
        simp only [List.length_append, List.length_take, List.length_drop, List.length_cons]
        omega

theorem totalW_init {α : Type} (l : List (α × Int)) (i : Int) :
    l.foldl (fun a x => a + x.2) i = i + totalW l := by
  unfold totalW
  induction l generalizing i with
  | nil => simp
  | cons c t ih => simp only [List.foldl_cons]; rw [ih, ih (0 + c.2)]; omega

theorem totalW_cons {α : Type} (c : α × Int) (l : List (α × Int)) : totalW (c :: l) = c.2 + totalW l := by
  show List.foldl _ _ _ = _
  simp only [List.foldl_cons]; rw [totalW_init]; omega

theorem totalW_pos {α : Type} (l : List (α × Int)) (hne : l ≠ []) (hp : ∀ c ∈ l, 0 < c.2) : 0 < totalW l := by
  induction l with
  | nil => exact absurd rfl hne
  | cons c t ih =>
    rw [totalW_cons]
    have h1 := hp c List.mem_cons_self
    cases t with
    | nil => simp [totalW]; exact h1
    | cons c' t' =>
      have := ih (List.cons_ne_nil _ _) (fun c hc => hp c (List.mem_cons_of_mem _ hc))
      omega

theorem scan_some {α : Type} (cs : List (α × Int)) (r : Int) (h0 : 0 ≤ r) (h1 : r < totalW cs) :
    ∃ b x a, scan cs r = some (b, x, a) ∧ cs = b ++ x :: a := by
  induction cs generalizing r with
  | nil => simp [totalW] at h1; omega
  | cons c rest ih =>
    obtain ⟨c, w⟩ := c
    rw [totalW_cons] at h1
    unfold scan
    by_cases hw : r < w
    · exact ⟨[], (c, w), rest, if_pos hw, rfl⟩
    · simp only [hw, if_false]
      obtain ⟨b, x, a, hs, he⟩ := ih (r - w) (by omega) (Int.sub_left_lt_of_lt_add h1)
      exact ⟨(c, w) :: b, x, a, by rw [hs], by rw [he]; rfl⟩

theorem sortW_perm {α : Type} {f : Nat} {cs : List (α × Int)} {o : Oracle} (hf : cs.length ≤ f)
    (hp : ∀ c ∈ cs, 0 < c.2) : List.Perm (sortW f cs o).1 (cs.map Prod.fst) := by
  induction f generalizing cs o with
  | zero =>
    have : cs = [] := List.eq_nil_of_length_eq_zero (Nat.eq_zero_of_le_zero hf)
    subst this; simp [sortW]
  | succ f ih =>
    unfold sortW
    cases cs with
    | nil => simp
    | cons c0 t =>
      simp only [List.isEmpty_cons, Bool.false_eq_true, if_false]
      have tp := totalW_pos (c0 :: t) (by simp) hp
      obtain ⟨b, x, a, hs, he⟩ := scan_some (c0 :: t) (((next o).1 : Int) % totalW (c0 :: t))
        (Int.emod_nonneg _ (Int.ne_of_gt tp)) (Int.emod_lt_of_pos _ tp)
      rw [hs]
      simp only
      rw [he]
      have hlen : (b ++ a).length ≤ f := by
        have := congrArg List.length he
        simp only [List.length_cons, List.length_append] at this hf ⊢
        omega
      have hp' : ∀ c ∈ b ++ a, 0 < c.2 := by
        intro c hc
        apply hp; rw [he]
        rcases List.mem_append.mp hc with h | h <;> simp [h]
      have := ih (o := (next o).2) hlen hp'
      simp only [List.map_append, List.map_cons]
      refine List.Perm.trans ?_ List.perm_middle.symm
      rw [← List.map_append]
      exact this.cons _

theorem splitFirst_spec {α : Type} {p : α → Bool} {l b a : List α} {x : α} (h : splitFirst p l = some (b, x, a)) :
    l = b ++ x :: a ∧ p x = true := by
  induction l generalizing b with
  | nil => simp [splitFirst] at h
  | cons y rest ih =>
    unfold splitFirst at h
    split at h
    · next hp => simp at h; obtain ⟨rfl, rfl, rfl⟩ := h; exact ⟨rfl, hp⟩
    · split at h
      · simp at h
      · next b' x' a' hs =>
        simp at h; obtain ⟨rfl, rfl, rfl⟩ := h
        have := ih hs
        exact ⟨by rw [this.1]; rfl, this.2⟩

/-- `cands` is a variable tied by `hc` because `pick_ok` generalizes the candidate list before it comes here -/
theorem sortW_cands_perm {α : Type} (l : List α) (av : α → Int) (o : Oracle) (cands : List (α × Int))
    (hc : ((l.filter fun c => av c > 0).map fun c => (c, av c)) = cands) :
    List.Perm (sortW cands.length cands o).1 (l.filter fun c => av c > 0) := by
  have e : cands.map Prod.fst = l.filter fun c => av c > 0 := by
    rw [← hc, List.map_map]; exact List.map_id' _
  rw [← e]
  refine sortW_perm (Nat.le_refl _) fun c hm => ?_
  rw [← hc] at hm
  obtain ⟨c', hc', rfl⟩ := List.mem_map.mp hm
  exact of_decide_eq_true (List.mem_filter.mp hc').2

/-- the two slices PickNodesByWeight takes around the first match are the first k of the others -/
theorem rest_eq_take {α : Type} (pre suf : List α) (y : α) (k : Nat) :
    (if pre.length ≥ k then (pre ++ y :: suf).take k else pre ++ suf.take (k - pre.length)) =
      (pre ++ suf).take k := by
  split
  · next h => rw [List.take_append_of_le_length h, List.take_append_of_le_length h]
  · next h => rw [List.take_append, List.take_of_length_le (l := pre) (Nat.le_of_not_le h)]

/-- `x` and the `k` elements of `rest` are picked from `children`: `x` passes the filter, all stand at
    different positions of `children`, all have a positive free estimate -/
structure Picked {α : Type} (children : List α) (av : α → Int) (p : α → Bool) (k : Nat) (x : α) (rest : List α) :
    Prop where
  first : p x = true
  count : rest.length = k
  part : Part (x :: rest) children
  free : ∀ c ∈ x :: rest, av c > 0

/-- PickNodesByWeight, whatever the iteration order and the draws -/
theorem pick_ok {α : Type} {children : List α} {av : α → Int} {n : Nat} {p : α → Bool} {o o' : Oracle}
    {x : α} {rest : List α} (h : pickNodes children av n p o = (.ok (x, rest), o')) :
    Picked children av p (n - 1) x rest := by
  unfold pickNodes at h
  simp only at h
  generalize hpm : permute children.length children o = pm at h
  have e1 : List.Perm pm.1 children := by rw [← hpm]; exact permute_perm (Nat.le_refl _)
  generalize hcd : List.map (fun c => (c, av c)) (List.filter (fun c => decide (av c > 0)) pm.1) = cands at h
  have e2 := sortW_cands_perm pm.1 av pm.2 cands hcd
  generalize sortW cands.length cands pm.2 = s at h e2
  split at h
  · simp at h
  · next hlen =>
    split at h
    · simp at h
    · next pre y suf hs =>
      obtain ⟨hs, hp⟩ := splitFirst_spec hs
      rw [hs, rest_eq_take] at h
      simp only [Prod.mk.injEq, Except.ok.injEq] at h
      obtain ⟨⟨rfl, rfl⟩, _⟩ := h
      have hn : n ≤ s.1.length := by
        rw [e2.length_eq, ← List.length_map (fun c => (c, av c)), hcd]; omega
      rw [hs] at hn e2
      simp only [List.length_append, List.length_cons] at hn
      have part : Part (y :: (pre ++ suf).take (n - 1)) (List.filter (fun c => decide (av c > 0)) children) :=
        ((Part.take _ _).cons y).trans (Part.of_perm ((List.perm_middle.symm.trans e2).trans (e1.filter _)))
      refine ⟨hp, ?_, part.trans (Part.filter _ _), fun c hc => ?_⟩
      · rw [List.length_take, List.length_append]; omega
      · exact of_decide_eq_true (List.mem_filter.mp (part.mem hc)).2

theorem reserveLoopN_sound {t : Nat} {ns : List DN} {r : Int} {n : DN} (h : reserveLoopN t ns r = some n) :
    n ∈ ns ∧ n.avail t > 0 := by
  induction ns generalizing r with
  | nil => simp [reserveLoopN] at h
  | cons m rest ih =>
    unfold reserveLoopN at h
    simp only at h
    split at h
    · have := ih h; exact ⟨List.mem_cons_of_mem _ this.1, this.2⟩
    · split at h
      · have := ih h; exact ⟨List.mem_cons_of_mem _ this.1, this.2⟩
      · next hf _ => simp at h; subst h; exact ⟨List.mem_cons_self, Int.lt_of_not_ge hf⟩

theorem reserveRack_sound {t : Nat} {rk : Rack} {r : Int} {o : Oracle} {n : DN} (h : (reserveRack t rk r o).1 = some n) :
    n ∈ rk.nodes ∧ n.avail t > 0 := by
  have := reserveLoopN_sound h
  exact ⟨(permute_perm (Nat.le_refl _)).subset this.1, this.2⟩

theorem reserveLoopR_sound {t : Nat} {rs : List Rack} {r : Int} {o : Oracle} {rk : Rack} {n : DN}
    (h : (reserveLoopR t rs r o).1 = some (rk, n)) : rk ∈ rs ∧ n ∈ rk.nodes ∧ n.avail t > 0 := by
  induction rs generalizing r o with
  | nil => simp [reserveLoopR] at h
  | cons m rest ih =>
    unfold reserveLoopR at h
    simp only at h
    split at h
    · have := ih h; exact ⟨List.mem_cons_of_mem _ this.1, this.2⟩
    · split at h
      · have := ih h; exact ⟨List.mem_cons_of_mem _ this.1, this.2⟩
      · split at h
        · next n' hn =>
          simp at h; obtain ⟨rfl, rfl⟩ := h
          exact ⟨List.mem_cons_self, reserveRack_sound hn⟩
        · have := ih h; exact ⟨List.mem_cons_of_mem _ this.1, this.2⟩

theorem reserveDC_sound {t : Nat} {d : DC} {r : Int} {o : Oracle} {rk : Rack} {n : DN}
    (h : (reserveDC t d r o).1 = some (rk, n)) : rk ∈ d.racks ∧ n ∈ rk.nodes ∧ n.avail t > 0 := by
  have := reserveLoopR_sound h
  exact ⟨(permute_perm (Nat.le_refl _)).subset this.1, this.2⟩

theorem reserveRacks_ok {t dcId : Nat} {rs : List Rack} {o : Oracle} {acc out part : List Path} {o' : Oracle}
    (h : reserveRacks t dcId rs o acc = (some out, part, o')) :
    ∃ suf, out = acc ++ suf ∧ suf.map (fun p => p.2.1) = rs.map (·.id) ∧
      ∀ p ∈ suf, ∃ rk ∈ rs, ∃ n ∈ rk.nodes, p = (dcId, rk.id, n.id) ∧ n.avail t > 0 := by
  induction rs generalizing o acc with
  | nil => simp [reserveRacks] at h; obtain ⟨rfl, _, _⟩ := h; exact ⟨[], by simp⟩
  | cons rk rest ih =>
    unfold reserveRacks at h
    simp only at h
    split at h
    · next n hn =>
      obtain ⟨suf, hs, hm, hp⟩ := ih h
      have hn := reserveRack_sound hn
      refine ⟨(dcId, rk.id, n.id) :: suf, by rw [hs, List.append_assoc]; rfl, by simp [hm], ?_⟩
      intro p hp'
      rcases List.mem_cons.mp hp' with rfl | hp'
      · exact ⟨rk, List.mem_cons_self, n, hn.1, rfl, hn.2⟩
      · obtain ⟨rk', hrk', rest'⟩ := hp p hp'
        exact ⟨rk', List.mem_cons_of_mem _ hrk', rest'⟩
    · simp at h

theorem reserveDCs_ok {t : Nat} {ds : List DC} {o : Oracle} {acc out part : List Path} {o' : Oracle}
    (h : reserveDCs t ds o acc = (some out, part, o')) :
    ∃ suf, out = acc ++ suf ∧ suf.map (fun p => p.1) = ds.map (·.id) ∧
      ∀ p ∈ suf, ∃ d ∈ ds, ∃ rk ∈ d.racks, ∃ n ∈ rk.nodes, p = (d.id, rk.id, n.id) ∧ n.avail t > 0 := by
  induction ds generalizing o acc with
  | nil => simp [reserveDCs] at h; obtain ⟨rfl, _, _⟩ := h; exact ⟨[], by simp⟩
  | cons d rest ih =>
    unfold reserveDCs at h
    simp only at h
    split at h
    · next rk n hn =>
      obtain ⟨suf, hs, hm, hp⟩ := ih h
      have hn := reserveDC_sound hn
      refine ⟨(d.id, rk.id, n.id) :: suf, by rw [hs, List.append_assoc]; rfl, by simp [hm], ?_⟩
      intro p hp'
      rcases List.mem_cons.mp hp' with rfl | hp'
      · exact ⟨d, List.mem_cons_self, rk, hn.1, n, hn.2.1, rfl, hn.2.2⟩
      · obtain ⟨d', hd', rest'⟩ := hp p hp'
        exact ⟨d', List.mem_cons_of_mem _ hd', rest'⟩
    · simp at h

theorem find_unique {α : Type} (f : α → Nat) (l : List α) (hn : (l.map f).Nodup) (d : α) (hd : d ∈ l) :
    l.find? (fun e => f e == f d) = some d := by
  induction l with
  | nil => simp at hd
  | cons a t ih =>
    simp only [List.map_cons, List.nodup_cons] at hn
    rcases List.mem_cons.mp hd with rfl | hd
    · simp
    · have : f a ≠ f d := (ne_of_mem_of_not_mem (List.mem_map_of_mem hd) hn.1).symm
      have hb : (f a == f d) = false := beq_false_of_ne this
      simp only [List.find?_cons, hb]
      exact ih hn.2 hd

/-- a request that names `id` whenever it names anything does not trip the judge's test of that request -/
theorem pref_honoured {want : Option Nat} {id : Nat} (h : ∀ i, want = some i → id = i) :
    (match (generalizing := false) want with | some i => id != i | none => false) = false := by
  rcases want with _ | i
  · rfl
  · obtain rfl := h i rfl
    exact bne_self_eq_false _

/-- the judge read as a proposition: it accepts distinct servers with a free slot that come as a main server `m`,
    z more of its rack, y in pairwise different other racks of its data center and x in pairwise different other
    data centers, provided every request names `m` -/
theorem placementOK_parts (tr : Tree) (op : Opt) {m : Path} {a b c : List Path}
    (la : a.length = op.z) (lb : b.length = op.y) (lc : c.length = op.x)
    (hnd : (m :: (a ++ b ++ c)).Nodup) (hslot : ∀ p ∈ m :: (a ++ b ++ c), hasSlot tr op.disk p = true)
    (ha : ∀ p ∈ a, p.1 = m.1 ∧ p.2.1 = m.2.1)
    (hb : ∀ p ∈ b, p.1 = m.1 ∧ p.2.1 ≠ m.2.1) (hbn : (b.map fun p => p.2.1).Nodup)
    (hc : ∀ p ∈ c, p.1 ≠ m.1) (hcn : (c.map fun p => p.1).Nodup)
    (hdc : ∀ i, op.dc = some i → m.1 = i) (hrack : ∀ i, op.rack = some i → m.2.1 = i)
    (hnode : ∀ i, op.node = some i → m.2.2 = i) :
    placementOK tr op (m :: (a ++ b ++ c)) = true := by
  have t := take_drop_parts (m :: a) b c
  simp only [List.cons_append, List.length_cons, la, lb] at t
  have c1 : ((m :: (a ++ b ++ c)).length != 1 + op.x + op.y + op.z) = false := by
    rw [bne_eq_false_iff_eq]
    simp only [List.length_cons, List.length_append, la, lb, lc]
    ac_rfl
  have c4 : ((m :: a).all fun p => p.1 == m.1 && p.2.1 == m.2.1) = true := by
    simpa only [List.all_cons, List.all_eq_true, Bool.and_eq_true, beq_iff_eq, beq_self_eq_true, true_and, and_self] using ha
  have c5 : (b.all fun p => p.1 == m.1 && p.2.1 != m.2.1) = true := by
    simpa only [List.all_eq_true, Bool.and_eq_true, beq_iff_eq, bne_iff_ne] using hb
  have c7 : (c.all fun p => p.1 != m.1) = true := by
    simpa only [List.all_eq_true, bne_iff_ne] using hc
  unfold placementOK placementJudge
  simp only [c1, (nodupB_iff _).mpr hnd, List.all_eq_true.mpr hslot, t.1, t.2.1, t.2.2, c4, c5, c7, (nodupB_iff _).mpr hbn,
    (nodupB_iff _).mpr hcn, Bool.not_true, Bool.or_self, Bool.false_eq_true, if_false]
  rw [if_neg (ne_true_of_eq_false _), if_neg (ne_true_of_eq_false _), if_neg (ne_true_of_eq_false _)]
  · rfl
  · exact pref_honoured hnode
  · exact pref_honoured hrack
  · exact pref_honoured hdc
end SwV.Lemmas.C10
