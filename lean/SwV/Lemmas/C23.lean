/- C23 — association-list facts (lookup under put and delete, keys under put, well-formedness kept by both) and the
   generic "longest setting" induction. -/
import SwV.Model.C23
import SwV.Spec.C23

namespace SwV.Lemmas.C23
open SwV.Model.C23 SwV.Spec.C23

theorem lookup_cons_eq (k : Key) (c : Conf) (rest : Rules) (q : Key) :
    List.lookup q ((k, c) :: rest) = if q = k then some c else List.lookup q rest := by
  simp only [List.lookup_cons]
  by_cases h : q = k
  · subst h; simp
  · have : (q == k) = false := beq_false_of_ne h
    simp [this, h]

theorem lookup_putRule (rs : Rules) (k : Key) (c : Conf) (q : Key) :
    List.lookup q (putRule rs k c) = if q = k then some c else List.lookup q rs := by
  induction rs with
  | nil => simp [putRule, lookup_cons_eq]
  | cons r rest ih =>
    rcases r with ⟨k', c'⟩
    simp only [putRule]
    by_cases h : k' = k
    · subst h
      simp only [if_true, lookup_cons_eq]
      by_cases hq : q = k' <;> simp [hq]
    · simp only [h, if_false, lookup_cons_eq, ih]
      by_cases hq : q = k
      · subst hq
        have : ¬ q = k' := Ne.symm h
        simp [this]
      · simp [hq]

theorem lookup_delRule (rs : Rules) (k : Key) (q : Key) :
    List.lookup q (delRule rs k) = if q = k then none else List.lookup q rs := by
  induction rs with
  | nil => simp [delRule]
  | cons r rest ih =>
    rcases r with ⟨k', c'⟩
    simp only [delRule] at ih ⊢
    by_cases h : k' = k
    · subst h
      simp only [List.filter_cons, ne_eq, not_true_eq_false, decide_false, Bool.false_eq_true, if_false, ih, lookup_cons_eq]
      by_cases hq : q = k' <;> simp [hq]
    · simp only [List.filter_cons, ne_eq, h, not_false_eq_true, decide_true, if_true, lookup_cons_eq, ih]
      by_cases hq : q = k
      · subst hq
        have : ¬ q = k' := Ne.symm h
        simp [this]
      · simp [hq]

theorem lookup_some_mem (rs : Rules) (k : Key) (c : Conf) (h : List.lookup k rs = some c) : (k, c) ∈ rs := by
  obtain ⟨l₁, l₂, rfl, _⟩ := List.lookup_eq_some_iff.mp h
  exact List.mem_append_right _ List.mem_cons_self

theorem mem_lookup_of_nodup (rs : Rules) (hnd : (rs.map (·.1)).Nodup) (k : Key) (c : Conf) (h : (k, c) ∈ rs) :
    List.lookup k rs = some c := by
  induction rs with
  | nil => simp at h
  | cons r rest ih =>
    rcases r with ⟨k', c'⟩
    simp only [List.map_cons, List.nodup_cons] at hnd
    rw [lookup_cons_eq]
    rcases List.mem_cons.mp h with e | hm
    · injection e with e1 e2; subst e1; subst e2; simp
    · have : k ≠ k' := by
        intro e; subst e
        exact hnd.1 (List.mem_map_of_mem hm)
      simp [this, ih hnd.2 hm]

theorem keys_putRule (rs : Rules) (k : Key) (c : Conf) :
    (putRule rs k c).map (·.1) = if k ∈ rs.map (·.1) then rs.map (·.1) else rs.map (·.1) ++ [k] := by
  induction rs with
  | nil => rfl
  | cons r rest ih =>
    rcases r with ⟨k', c'⟩
    simp only [putRule]
    by_cases h : k' = k
    · subst h; simp
    · have hk : ¬ k = k' := Ne.symm h
      simp only [h, if_false, List.map_cons, ih, List.mem_cons, hk, false_or]
      split <;> rfl

theorem WF_putRule {rs : Rules} (h : WF rs) {k : Key} (hk : k ≠ []) (c : Conf) : WF (putRule rs k c) := by
  constructor
  · rw [keys_putRule]
    split
    · exact h.1
    · rename_i hnew
      exact List.nodup_append.mpr ⟨h.1, List.pairwise_singleton _ k,
        fun a ha b hb e => hnew (List.mem_singleton.mp hb ▸ e ▸ ha)⟩
  · intro r hr
    have hm : r.1 ∈ (putRule rs k c).map (·.1) := List.mem_map_of_mem hr
    rw [keys_putRule] at hm
    have : r.1 = k ∨ r.1 ∈ rs.map (·.1) := by
      split at hm
      · exact Or.inr hm
      · exact (List.mem_append.mp hm).elim Or.inr fun h' => Or.inl (List.mem_singleton.mp h')
    rcases this with e | hmem
    · rw [e]; exact hk
    · obtain ⟨r', hr', e⟩ := List.mem_map.mp hmem
      rw [← e]; exact h.2 r' hr'

theorem WF_delRule {rs : Rules} (h : WF rs) (k : Key) : WF (delRule rs k) :=
  ⟨(List.filter_sublist.map _).nodup h.1, fun r hr => h.2 r (List.mem_filter.mp hr).1⟩

theorem matchUpTo_succ (rs : Rules) (p : Key) (n : Nat) :
    matchUpTo rs p (n + 1) = matchStep rs p (matchUpTo rs p n) n := by
  simp [matchUpTo, List.range_succ, List.foldl_append]

theorem prefix_take_succ {α : Type} {k p : List α} {n : Nat} (h : k <+: p.take (n + 1)) :
    k <+: p.take n ∨ k = p.take (n + 1) := by
  rw [List.prefix_take_iff] at h ⊢
  by_cases e : k.length = n + 1
  · exact Or.inr (e ▸ List.prefix_iff_eq_take.mp h.1)
  · exact Or.inl ⟨h.1, by omega⟩

theorem longest_extend {α : Type} {rs : Rules} {q p : Key} {get : Conf → α} {isSet : α → Bool} {dflt v : α}
    (h : IsLongestSetting rs q get isSet dflt v) (hq : q <+: p)
    (old : ∀ k c, (k, c) ∈ rs → k <+: p → isSet (get c) = true → k <+: q) :
    IsLongestSetting rs p get isSet dflt v := by
  rcases h with ⟨k, c, hmem, hk, hset, hv, hmax⟩ | ⟨hnone, hv⟩
  · exact Or.inl ⟨k, c, hmem, hk.trans hq, hset, hv,
      fun k' c' hm' hk' hs' => hmax k' c' hm' (old k' c' hm' hk' hs') hs'⟩
  · refine Or.inr ⟨fun k c hm' hk' => Bool.eq_false_iff.mpr fun hs => ?_, hv⟩
    rw [hnone k c hm' (old k c hm' hk' hs)] at hs; cases hs

/-- the induction along the descent: after `n` steps the accumulated field is the longest setting for the
    first `n` characters of the path -/
theorem upTo_longest {α : Type} (get : Conf → α) (isSet : α → Bool)
    (hm : ∀ a b, get (mergePathConf a b) = if isSet (get b) = true then get b else get a)
    (rs : Rules) (hwf : WF rs) (p : Key) (n : Nat) :
    IsLongestSetting rs (p.take n) get isSet (get {}) (get (matchUpTo rs p n)) := by
  induction n with
  | zero =>
    exact Or.inr ⟨fun k c hmem hk => absurd (List.prefix_nil.mp hk) (hwf.2 (k, c) hmem), rfl⟩
  | succ n ih =>
    -- the only rule that starts to match is the one stored at `p.take (n+1)`; unless it sets the field the value stays
    have step : (∀ c, List.lookup (p.take (n + 1)) rs = some c → isSet (get c) = false) →
        IsLongestSetting rs (p.take (n + 1)) get isSet (get {}) (get (matchUpTo rs p n)) := fun hno =>
      longest_extend ih (List.take_prefix_take_left (Nat.le_succ n)) fun k c hmem hk hs =>
        (prefix_take_succ hk).resolve_right fun e => by
          rw [hno c (e ▸ mem_lookup_of_nodup rs hwf.1 k c hmem)] at hs; cases hs
    rw [matchUpTo_succ]
    unfold matchStep
    cases hl : List.lookup (p.take (n + 1)) rs with
    | none => exact step fun c hc => nomatch hl.symm.trans hc
    | some c =>
      simp only
      rw [hm]
      by_cases hs : isSet (get c) = true
      · rw [if_pos hs]
        exact Or.inl ⟨_, c, lookup_some_mem rs _ c hl, List.prefix_rfl, hs, rfl, fun _ _ _ hk' _ => hk'.length_le⟩
      · rw [if_neg hs]
        exact step fun c' hc' => Option.some.inj (hl.symm.trans hc') ▸ Bool.eq_false_iff.mpr hs

end SwV.Lemmas.C23
