/-
The read loop with a fetch oracle.  Without an error it is the fault-free loop;
it reports an error exactly when one of the file ids the fault-free loop fetches is not fetchable;
every view of a sorted view list that covers a position of the rest of the window is fetched.
-/
import SwV.Lemmas.C17b
namespace SwV.Lemmas.C17
open SwV.Model.C17

theorem readLoopF_cons (ok : Nat → Bool) (data : Nat → Nat → Nat) (v : View) (vs : List View) (s : RS) :
    readLoopF ok data (v :: vs) s =
      if s.rem = 0 then (s, false) else
      if (gapStep v s).rem = 0 then (gapStep v s, false) else
      if needs v (gapStep v s) && !ok v.fid then (gapStep v s, true)
      else readLoopF ok data vs (copyStep data v (gapStep v s)) := rfl

theorem usedFids_cons (data : Nat → Nat → Nat) (v : View) (vs : List View) (s : RS) :
    usedFids data (v :: vs) s =
      if s.rem = 0 then [] else
      if (gapStep v s).rem = 0 then [] else
      (if needs v (gapStep v s) then [v.fid] else []) ++ usedFids data vs (copyStep data v (gapStep v s)) := rfl

theorem readLoopF_spec (ok : Nat → Bool) (data : Nat → Nat → Nat) : ∀ (vs : List View) (s : RS),
    if ∀ f ∈ usedFids data vs s, ok f = true then readLoopF ok data vs s = (readLoop data vs s, false)
    else (readLoopF ok data vs s).2 = true
  | [], _ => if_pos (c := ∀ f ∈ [], ok f = true) nofun ▸ rfl
  | v :: vs, s => by
    rw [readLoopF_cons, usedFids_cons, readLoop_cons]
    by_cases h0 : s.rem = 0
    · rw [if_pos h0, if_pos h0, if_pos h0, if_pos nofun]
    rw [if_neg h0, if_neg h0, if_neg h0]
    by_cases h1 : (gapStep v s).rem = 0
    · rw [if_pos h1, if_pos h1, if_pos h1, if_pos nofun]
    rw [if_neg h1, if_neg h1, if_neg h1]
    have ih := readLoopF_spec ok data vs (copyStep data v (gapStep v s))
    cases hn : needs v (gapStep v s) with
    | false => exact ih
    | true =>
      rw [if_pos rfl, Bool.true_and, List.singleton_append]
      cases hk : ok v.fid with
      | false =>
        -- the view is needed and its blob cannot be fetched
        rw [Bool.not_false, if_pos rfl, if_neg fun h => Bool.noConfusion (hk.symm.trans (h v.fid List.mem_cons_self))]
      | true =>
        rw [Bool.not_true, if_neg Bool.false_ne_true]
        simp only [List.forall_mem_cons, hk, true_and]
        exact ih

theorem gapStep_facts (v : View) (s : RS) (p : Nat) (hv : v.logic ≤ p) (h1 : s.pos ≤ p) (h2 : p < s.pos + s.rem) :
    (gapStep v s).pos ≤ p ∧ p < (gapStep v s).pos + (gapStep v s).rem ∧ v.logic ≤ (gapStep v s).pos := by
  unfold gapStep
  split
  · dsimp only; omega
  · omega

theorem copyStep_facts (data : Nat → Nat → Nat) (v : View) (s : RS) (p : Nat) (hv : v.logic + v.size ≤ p)
    (h0 : v.logic ≤ s.pos) (h1 : s.pos ≤ p) (h2 : p < s.pos + s.rem) :
    (copyStep data v s).pos ≤ p ∧ p < (copyStep data v s).pos + (copyStep data v s).rem := by
  unfold copyStep
  simp only [ge_iff_le, Nat.max_eq_right h0]
  have hm : min (v.logic + v.size) (s.pos + s.rem) = v.logic + v.size := by omega
  rw [hm]
  split
  · omega
  · dsimp only; omega

theorem usedFids_of_cov (data : Nat → Nat → Nat) : ∀ (ws : List View) (s : RS), VSorted ws →
    ∀ w ∈ ws, ∀ p, vcov w p → s.pos ≤ p → p < s.pos + s.rem → w.fid ∈ usedFids data ws s
  | [], _, _, _, hw, _, _, _, _ => nomatch hw
  | v :: vs, s, hs, w, hw, p, hc, h1, h2 => by
    have hs' := List.pairwise_cons.1 hs
    have h0 : ¬ s.rem = 0 := fun h => by omega
    have hvp : v.logic ≤ p := vcov_head_le hs hw hc
    obtain ⟨g1, g2, g3⟩ := gapStep_facts v s p hvp h1 h2
    have hr1 : ¬ (gapStep v s).rem = 0 := fun h => by omega
    rw [usedFids_cons, if_neg h0, if_neg hr1, List.mem_append]
    rcases List.mem_cons.1 hw with rfl | hw'
    · -- p lies in the view and in the rest of the window: the loop copies from it
      have hn : needs w (gapStep w s) = true := decide_eq_true (Nat.max_lt.2
        ⟨Nat.lt_min.2 ⟨Nat.lt_of_le_of_lt hc.1 hc.2, Nat.lt_of_le_of_lt hc.1 g2⟩,
         Nat.lt_min.2 ⟨Nat.lt_of_le_of_lt g1 hc.2, Nat.lt_of_le_of_lt g1 g2⟩⟩)
      rw [if_pos hn]
      exact Or.inl List.mem_cons_self
    · obtain ⟨c1, c2⟩ := copyStep_facts data v (gapStep v s) p (Nat.le_trans (hs'.1 w hw') hc.1) g3 g1 g2
      exact Or.inr (usedFids_of_cov data vs _ hs'.2 w hw' p hc c1 c2)

end SwV.Lemmas.C17
