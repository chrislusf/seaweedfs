/- C11 helper lemmas for the EC shard map (`Topology.ecShardMap`, modelled as `St.ecLoc`): what the
   DataNode side (`DeltaUpdateEcShards`, `UpdateEcShards`) and the topology side (`RegisterEcShards`,
   `UnRegisterEcShards`) of an EC heartbeat do to ONE shard of ONE volume, in closed form.  For the full heartbeat
   the shard-wise statements are about the components of `UpdateEcShards` in closed form (`ecAfter`, `ecNews`,
   `ecDels` of Lemmas/C12Ec, `updateEcShards_eq`).  `ecLayout` is the topology side of either heartbeat as one
   function of the two lists it is handed, `EKeep` what it leaves alone (Props/C12 needs that too).  A membership
   statement is closed over a loop by `foldl_or_iff` / `foldl_and_not_iff`; these two, and the facts about
   `VolumeLocationList.Set` (`setLoc`), serve the location lists of the volume layouts (Lemmas/C11Layout) as well. -/
import SwV.Model.C11
import SwV.Lemmas.C12Ec
namespace SwV.Lemmas.C11Ec
open SwV.Model.C11 SwV.Lemmas.C12Ec

theorem testBit_bitsMinus (a b i : Nat) : (bitsMinus a b).testBit i = (a.testBit i && !b.testBit i) := by
  induction i generalizing a b with
  | zero =>
    have h := (bitsMinus_bit a b).2
    have hb := @Nat.and_mod_two_eq_one a b
    have hr := and_mod_two_le a b
    rw [Bool.eq_iff_iff]
    simp only [Nat.testBit_zero, Bool.and_eq_true, Bool.not_eq_true', decide_eq_true_eq, decide_eq_false_iff_not, h]
    have ha : a % 2 < 2 := Nat.mod_lt a Nat.zero_lt_two
    generalize (a &&& b) % 2 = r, a % 2 = x, b % 2 = y at hr hb ha ⊢
    omega
  | succ i ih =>
    rw [Nat.testBit_succ, Nat.testBit_succ, Nat.testBit_succ, (bitsMinus_bit a b).1]
    exact ih (a / 2) (b / 2)

theorem testBit_bitsMinus_iff (a b i : Nat) : (bitsMinus a b).testBit i = true ↔ (a.testBit i = true ∧ b.testBit i = false) := by
  rw [testBit_bitsMinus, Bool.and_eq_true, Bool.not_eq_true']

theorem popAux_pos_of_testBit (f n i : Nat) (hi : i < f) (h : n.testBit i = true) : popAux f n > 0 := by
  induction f generalizing n i with
  | zero => omega
  | succ f ih =>
    simp only [popAux]
    cases i with
    | zero =>
      have := Nat.mod_two_eq_one_iff_testBit_zero.mpr h
      omega
    | succ i =>
      rw [Nat.testBit_succ] at h
      have := ih (n / 2) i (Nat.lt_of_succ_lt_succ hi) h
      omega

theorem popcount_pos_of_testBit (n i : Nat) (hi : i < 32) (h : n.testBit i = true) : popcount n > 0 :=
  popAux_pos_of_testBit 32 n i hi h

theorem mem_shardIds (bits sh : Nat) : sh ∈ shardIds bits ↔ sh < 14 ∧ bits.testBit sh = true := by
  unfold shardIds
  simp [List.mem_filter, List.mem_range]

theorem exists_mem_cons_iff {α : Type} {R : α → Prop} {a : α} {l : List α} : (∃ x ∈ a :: l, R x) ↔ R a ∨ ∃ x ∈ l, R x := by
  simp only [List.mem_cons, or_and_right, exists_or, exists_eq_left]

theorem exists_mem_append_iff {α : Type} {R : α → Prop} {a b : List α} :
    (∃ x ∈ a ++ b, R x) ↔ (∃ x ∈ a, R x) ∨ ∃ x ∈ b, R x := by
  simp only [List.mem_append, or_and_right, exists_or]

theorem exists_mem_and_left {α : Type} {l : List α} {p : Prop} {q : α → Prop} : (∃ a ∈ l, p ∧ q a) ↔ (p ∧ ∃ a ∈ l, q a) :=
  ⟨fun ⟨a, ha, hp, hq⟩ => ⟨hp, a, ha, hq⟩, fun ⟨hp, a, ha, hq⟩ => ⟨a, ha, hp, hq⟩⟩

/-- a loop whose steps (on the elements of the list, in states satisfying the loop invariant `I`) each add the
    alternative `R a` to `P` -/
theorem foldl_or_iff {σ α : Type} {f : σ → α → σ} {I P : σ → Prop} {R : α → Prop} (l : List α)
    (h : ∀ c, ∀ a ∈ l, I c → I (f c a) ∧ (P (f c a) ↔ P c ∨ R a)) (c : σ) (hc : I c) :
    P (l.foldl f c) ↔ P c ∨ ∃ a ∈ l, R a := by
  induction l generalizing c with
  | nil => simp
  | cons a l ih =>
    obtain ⟨h1, h2⟩ := h c a List.mem_cons_self hc
    rw [List.foldl_cons, ih (fun c b hb => h c b (List.mem_cons_of_mem _ hb)) _ h1, h2, or_assoc, exists_mem_cons_iff]

/-- the same for steps that each take the case `R a` away from `P` -/
theorem foldl_and_not_iff {σ α : Type} {f : σ → α → σ} {I P : σ → Prop} {R : α → Prop} (l : List α)
    (h : ∀ c, ∀ a ∈ l, I c → I (f c a) ∧ (P (f c a) ↔ P c ∧ ¬ R a)) (c : σ) (hc : I c) :
    P (l.foldl f c) ↔ P c ∧ ¬ ∃ a ∈ l, R a := by
  induction l generalizing c with
  | nil => simp
  | cons a l ih =>
    obtain ⟨h1, h2⟩ := h c a List.mem_cons_self hc
    rw [List.foldl_cons, ih (fun c b hb => h c b (List.mem_cons_of_mem _ hb)) _ h1, h2, and_assoc, ← not_or, exists_mem_cons_iff]

theorem mem_setLoc (l : List Nat) (s x : Nat) : x ∈ setLoc l s ↔ x ∈ l ∨ x = s := by
  unfold setLoc
  split
  · next h =>
    constructor
    · exact Or.inl
    · rintro (h' | rfl)
      · exact h'
      · simpa using h
  · simp

theorem nodup_append_singleton {l : List Nat} (h : l.Nodup) {a : Nat} (ha : a ∉ l) : (l ++ [a]).Nodup := by
  rw [List.nodup_append]
  refine ⟨h, by simp, ?_⟩
  intro x hx b hb e
  rw [List.mem_singleton.mp hb] at e
  exact ha (e ▸ hx)

theorem nodup_setLoc {l : List Nat} (h : l.Nodup) (s : Nat) : (setLoc l s).Nodup := by
  unfold setLoc
  split
  · exact h
  · next hc => exact nodup_append_singleton h (by simpa using hc)

/-- RegisterEcShards / UnRegisterEcShards write nothing the volume invariant (`Inv` of Props/C11) reads -/
structure EKeep (st' st : St) : Prop where
  toCore : st'.toCore = st.toCore
  locs : st'.locs = st.locs
  wr : st'.wr = st.wr
  asMin : st'.asMin = st.asMin
  keys : st'.keys = st.keys

theorem EKeep.trans {a b c : St} (h1 : EKeep a b) (h2 : EKeep b c) : EKeep a c :=
  ⟨h1.toCore.trans h2.toCore, h1.locs.trans h2.locs, h1.wr.trans h2.wr, h1.asMin.trans h2.asMin, h1.keys.trans h2.keys⟩

theorem ekeep_foldl {α : Type} (f : St → α → St) (hf : ∀ st a, EKeep (f st a) st) {l : List α} {st : St} :
    EKeep (l.foldl f st) st :=
  SwV.Lemmas.C12.foldl_rel EKeep (fun _ => ⟨rfl, rfl, rfl, rfl, rfl⟩) EKeep.trans f hf l st

theorem ekeep_registerEc (st : St) (vid bits s : Nat) : EKeep (registerEc st vid bits s) st := by
  unfold registerEc; apply ekeep_foldl; intro _ _; exact ⟨rfl, rfl, rfl, rfl, rfl⟩
theorem ekeep_unregisterEc (st : St) (vid bits s : Nat) : EKeep (unregisterEc st vid bits s) st := by
  unfold unregisterEc; apply ekeep_foldl; intro _ _; exact ⟨rfl, rfl, rfl, rfl, rfl⟩

/-- RegisterEcShards and UnRegisterEcShards are one loop over the shard ids of the message: the entry of each
    listed shard of the volume is rewritten by `g` (`setLoc · s`, resp. `erase · s`) -/
theorem ecLoc_foldl (g : List Nat → List Nat) (vid : Nat) (L : List Nat) (hL : L.Nodup) (st : St) (v sh : Nat) :
    (L.foldl (fun st sh => { st with ecLoc := upd2 st.ecLoc vid sh (g (st.ecLoc vid sh)) }) st).ecLoc v sh =
      if v = vid ∧ sh ∈ L then g (st.ecLoc v sh) else st.ecLoc v sh := by
  induction L generalizing st with
  | nil => simp
  | cons a L ih =>
    obtain ⟨ha, hL⟩ := List.nodup_cons.mp hL
    rw [List.foldl_cons, ih hL]
    show (if v = vid ∧ sh ∈ L then g (upd2 st.ecLoc vid a (g (st.ecLoc vid a)) v sh)
      else upd2 st.ecLoc vid a (g (st.ecLoc vid a)) v sh) = _
    unfold upd2
    by_cases e : v = vid ∧ sh = a
    · obtain ⟨rfl, rfl⟩ := e
      simp [ha]
    · have : (v = vid ∧ sh ∈ a :: L) ↔ (v = vid ∧ sh ∈ L) := by
        rw [List.mem_cons]
        exact ⟨fun h => ⟨h.1, h.2.resolve_left (fun g => e ⟨h.1, g⟩)⟩, fun h => ⟨h.1, Or.inr h.2⟩⟩
      simp only [e, if_false, this]

theorem nodup_shardIds (bits : Nat) : (shardIds bits).Nodup := List.Pairwise.filter _ List.nodup_range

theorem registerEc_spec (st : St) (vid bits s : Nat) (hn : ∀ v sh, (st.ecLoc v sh).Nodup) :
    (∀ v sh x, x ∈ (registerEc st vid bits s).ecLoc v sh ↔
      (x ∈ st.ecLoc v sh ∨ (x = s ∧ v = vid ∧ sh < 14 ∧ bits.testBit sh = true))) ∧
    (∀ v sh, ((registerEc st vid bits s).ecLoc v sh).Nodup) := by
  have e := ecLoc_foldl (setLoc · s) vid (shardIds bits) (nodup_shardIds bits) st
  unfold registerEc
  refine ⟨fun v sh x => ?_, fun v sh => ?_⟩
  · rw [e, ← mem_shardIds]
    split
    · next h => rw [mem_setLoc]; exact or_congr_right ⟨fun g => ⟨g, h⟩, fun g => g.1⟩
    · next h => exact ⟨Or.inl, fun g => g.resolve_right (fun g => h g.2)⟩
  · rw [e]
    split
    · exact nodup_setLoc (hn v sh) s
    · exact hn v sh

theorem unregisterEc_spec (st : St) (vid bits s : Nat) (hn : ∀ v sh, (st.ecLoc v sh).Nodup) :
    (∀ v sh x, x ∈ (unregisterEc st vid bits s).ecLoc v sh ↔
      (x ∈ st.ecLoc v sh ∧ ¬ (x = s ∧ v = vid ∧ sh < 14 ∧ bits.testBit sh = true))) ∧
    (∀ v sh, ((unregisterEc st vid bits s).ecLoc v sh).Nodup) := by
  have e := ecLoc_foldl (·.erase s) vid (shardIds bits) (nodup_shardIds bits) st
  unfold unregisterEc
  refine ⟨fun v sh x => ?_, fun v sh => ?_⟩
  · rw [e, ← mem_shardIds]
    split
    · next h =>
      rw [(hn v sh).mem_erase_iff]
      exact ⟨fun g => ⟨g.2, fun f => g.1 f.1⟩, fun g => ⟨fun f => g.2 ⟨f, h⟩, g.1⟩⟩
    · next h => exact ⟨fun g => ⟨g, fun f => h f.2⟩, fun g => g.1⟩
  · rw [e]
    split
    · exact (hn v sh).erase s
    · exact hn v sh

/-- a (vid, bits) list as handed to RegisterEcShards / UnRegisterEcShards names shard `sh` of volume `v` -/
def HasBit (l : List (Nat × Nat)) (v sh : Nat) : Prop := ∃ p ∈ l, p.1 = v ∧ p.2.testBit sh = true

theorem registerAll_spec (s : Nat) (l : List (Nat × Nat)) (st : St) (hn : ∀ v sh, (st.ecLoc v sh).Nodup) :
    (∀ v sh x, sh < 14 → (x ∈ (l.foldl (fun st e => registerEc st e.1 e.2 s) st).ecLoc v sh ↔
      (x ∈ st.ecLoc v sh ∨ (x = s ∧ HasBit l v sh)))) ∧
    (∀ v sh, ((l.foldl (fun st e => registerEc st e.1 e.2 s) st).ecLoc v sh).Nodup) := by
  have N := SwV.Lemmas.C12.foldl_inv (fun st : St => ∀ v sh, (st.ecLoc v sh).Nodup) _
    (fun st a hn => (registerEc_spec st a.1 a.2 s hn).2) l st hn
  refine ⟨fun v sh x hsh => (foldl_or_iff (P := fun st => x ∈ st.ecLoc v sh) l
    (fun st a _ hn => ⟨(registerEc_spec st a.1 a.2 s hn).2, (registerEc_spec st a.1 a.2 s hn).1 v sh x⟩) st hn).trans ?_, N⟩
  exact or_congr_right ⟨fun ⟨p, hp, h1, h2, _, h4⟩ => ⟨h1, p, hp, h2.symm, h4⟩,
    fun ⟨h1, p, hp, h2, h4⟩ => ⟨p, hp, h1, h2.symm, hsh, h4⟩⟩

theorem unregisterAll_spec (s : Nat) (l : List (Nat × Nat)) (st : St) (hn : ∀ v sh, (st.ecLoc v sh).Nodup) :
    (∀ v sh x, sh < 14 → (x ∈ (l.foldl (fun st e => unregisterEc st e.1 e.2 s) st).ecLoc v sh ↔
      (x ∈ st.ecLoc v sh ∧ ¬ (x = s ∧ HasBit l v sh)))) ∧
    (∀ v sh, ((l.foldl (fun st e => unregisterEc st e.1 e.2 s) st).ecLoc v sh).Nodup) := by
  have N := SwV.Lemmas.C12.foldl_inv (fun st : St => ∀ v sh, (st.ecLoc v sh).Nodup) _
    (fun st a hn => (unregisterEc_spec st a.1 a.2 s hn).2) l st hn
  refine ⟨fun v sh x hsh => (foldl_and_not_iff (P := fun st => x ∈ st.ecLoc v sh) l
    (fun st a _ hn => ⟨(unregisterEc_spec st a.1 a.2 s hn).2, (unregisterEc_spec st a.1 a.2 s hn).1 v sh x⟩) st hn).trans ?_, N⟩
  exact and_congr_right fun _ => not_congr ⟨fun ⟨p, hp, h1, h2, _, h4⟩ => ⟨h1, p, hp, h2.symm, h4⟩,
    fun ⟨h1, p, hp, h2, h4⟩ => ⟨p, hp, h1, h2.symm, hsh, h4⟩⟩

/-- the topology side of an EC heartbeat of server `s` on top of its DataNode side `c'`: RegisterEcShards for
    the (vid, bits) list `news`, then UnRegisterEcShards for `dels` -/
def ecLayout (st : St) (c' : Core) (s : Nat) (news dels : List (Nat × Nat)) : St :=
  dels.foldl (fun st p => unregisterEc st p.1 p.2 s)
    (news.foldl (fun st p => registerEc st p.1 p.2 s) { st with toCore := c' })

theorem ekeep_ecLayout (st : St) (c' : Core) (s : Nat) (news dels : List (Nat × Nat)) :
    EKeep (ecLayout st c' s news dels) { st with toCore := c' } :=
  (ekeep_foldl (fun st (p : Nat × Nat) => unregisterEc st p.1 p.2 s) (fun st p => ekeep_unregisterEc st p.1 p.2 s)).trans
    (ekeep_foldl (fun st (p : Nat × Nat) => registerEc st p.1 p.2 s) (fun st p => ekeep_registerEc st p.1 p.2 s))

theorem ecLayout_spec (st : St) (c' : Core) (s : Nat) (news dels : List (Nat × Nat)) (hn : ∀ v sh, (st.ecLoc v sh).Nodup) :
    (ecLayout st c' s news dels).toCore = c' ∧
    (∀ v sh, ((ecLayout st c' s news dels).ecLoc v sh).Nodup) ∧
    (∀ v sh x, sh < 14 → (x ∈ (ecLayout st c' s news dels).ecLoc v sh ↔
      ((x ∈ st.ecLoc v sh ∨ (x = s ∧ HasBit news v sh)) ∧ ¬ (x = s ∧ HasBit dels v sh)))) := by
  obtain ⟨r1, r2⟩ := registerAll_spec s news ({ st with toCore := c' } : St) hn
  obtain ⟨u1, u2⟩ := unregisterAll_spec s dels _ r2
  exact ⟨(ekeep_ecLayout st c' s news dels).toCore, u2, fun v sh x hsh => by rw [ecLayout, u1 v sh x hsh, r1 v sh x hsh]⟩

/-- Disk.AddOrUpdateEcShard, bitwise -/
theorem addEc_testBit (c : Core) (s : Nat) (a : EcInfo) (s' t vid sh : Nat) :
    ((c.addEc s a).ecs s' t vid).testBit sh = true ↔
      ((c.ecs s' t vid).testBit sh = true ∨ (s' = s ∧ a.disk = t ∧ a.id = vid ∧ a.bits.testBit sh = true)) := by
  show (upd3 c.ecs s a.disk a.id (c.ecs s a.disk a.id ||| a.bits) s' t vid).testBit sh = true ↔ _
  unfold upd3
  by_cases e : s' = s ∧ t = a.disk ∧ vid = a.id
  · obtain ⟨rfl, rfl, rfl⟩ := e
    simp
  · rw [if_neg e]
    exact ⟨Or.inl, fun h => h.resolve_right fun g => e ⟨g.1, g.2.1.symm, g.2.2.1.symm⟩⟩

/-- Disk.DeleteEcShard, bitwise (also when nothing is registered) -/
theorem delEc_testBit (c : Core) (s : Nat) (a : EcInfo) (s' t vid sh : Nat) :
    ((c.delEc s a).ecs s' t vid).testBit sh = true ↔
      ((c.ecs s' t vid).testBit sh = true ∧ ¬ (s' = s ∧ a.disk = t ∧ a.id = vid ∧ a.bits.testBit sh = true)) := by
  by_cases e : s' = s ∧ t = a.disk ∧ vid = a.id
  · obtain ⟨rfl, rfl, rfl⟩ := e
    simp only [Core.delEc]
    split
    · next hz => rw [hz]; simp
    · show (upd3 c.ecs s' a.disk a.id (bitsMinus (c.ecs s' a.disk a.id) a.bits) s' a.disk a.id).testBit sh = true ↔ _
      simp [upd3, testBit_bitsMinus]
  · have : (c.delEc s a).ecs s' t vid = c.ecs s' t vid := by
      simp only [Core.delEc]
      split
      · rfl
      · exact if_neg e
    rw [this]
    exact ⟨fun h => ⟨h, fun g => e ⟨g.1, g.2.1.symm, g.2.2.1.symm⟩⟩, fun h => h.1⟩

theorem addEc_fold_spec (s : Nat) (ns : List EcInfo) (c : Core) :
    ∀ s' t vid sh, ((ns.foldl (fun c e => c.addEc s e) c).ecs s' t vid).testBit sh = true ↔
      ((c.ecs s' t vid).testBit sh = true ∨ (s' = s ∧ ∃ e ∈ ns, e.disk = t ∧ e.id = vid ∧ e.bits.testBit sh = true)) := by
  intro s' t vid sh
  refine (foldl_or_iff (I := fun _ => True) (P := fun c => (c.ecs s' t vid).testBit sh = true) ns
    (fun c a _ _ => ⟨trivial, addEc_testBit c s a s' t vid sh⟩) c trivial).trans ?_
  exact or_congr_right exists_mem_and_left

theorem delEc_fold_spec (s : Nat) (ds : List EcInfo) (c : Core) :
    ∀ s' t vid sh, ((ds.foldl (fun c e => c.delEc s e) c).ecs s' t vid).testBit sh = true ↔
      ((c.ecs s' t vid).testBit sh = true ∧ ¬ (s' = s ∧ ∃ e ∈ ds, e.disk = t ∧ e.id = vid ∧ e.bits.testBit sh = true)) := by
  intro s' t vid sh
  refine (foldl_and_not_iff (I := fun _ => True) (P := fun c => (c.ecs s' t vid).testBit sh = true) ds
    (fun c a _ _ => ⟨trivial, delEc_testBit c s a s' t vid sh⟩) c trivial).trans ?_
  exact and_congr_right fun _ => not_congr exists_mem_and_left

theorem mem_ecOf (c : Core) (s : Nat) (x : Nat × Nat × Nat) :
    x ∈ c.ecOf s ↔ ∃ t vid, t < 2 ∧ vid < c.nVid + 1 ∧ c.ecs s t vid ≠ 0 ∧ x = (t, vid, c.ecs s t vid) := by
  unfold Core.ecOf
  simp only [List.mem_flatMap, List.mem_filterMap, List.mem_range]
  constructor
  · rintro ⟨t, ht, vid, hv, h⟩
    by_cases z : c.ecs s t vid = 0
    · simp [z] at h
    · simp only [z, if_false, Option.some.injEq] at h
      exact ⟨t, vid, ht, hv, z, h.symm⟩
  · rintro ⟨t, vid, ht, hv, z, rfl⟩
    exact ⟨t, ht, vid, hv, if_neg z⟩

theorem mem_ecNew (actual : List EcInfo) (x : Nat × Nat × Nat) (p : Nat × Nat) :
    p ∈ ecNew actual x ↔
      ∃ ab, actualBits actual x.2.1 = some ab ∧ popcount (bitsMinus ab x.2.2) > 0 ∧ p = (x.2.1, bitsMinus ab x.2.2) := by
  unfold ecNew
  cases actualBits actual x.2.1 with
  | none => simp
  | some ab => by_cases h : popcount (bitsMinus ab x.2.2) > 0 <;> simp [h]

theorem mem_ecDel (actual : List EcInfo) (x : Nat × Nat × Nat) (p : Nat × Nat) :
    p ∈ ecDel actual x ↔ ((actualBits actual x.2.1 = none ∧ p = (x.2.1, x.2.2)) ∨
      ∃ ab, actualBits actual x.2.1 = some ab ∧ popcount (bitsMinus x.2.2 ab) > 0 ∧ p = (x.2.1, bitsMinus x.2.2 ab)) := by
  unfold ecDel
  cases actualBits actual x.2.1 with
  | none => simp
  | some ab => by_cases h : popcount (bitsMinus x.2.2 ab) > 0 <;> simp [h]

theorem hasBit_nil (v sh : Nat) : ¬ HasBit [] v sh := fun h => h.elim fun _ g => List.not_mem_nil g.1

theorem hasBit_append (a b : List (Nat × Nat)) (v sh : Nat) : HasBit (a ++ b) v sh ↔ HasBit a v sh ∨ HasBit b v sh :=
  exists_mem_append_iff

theorem hasBit_flatMap {α : Type} (L : List α) (f : α → List (Nat × Nat)) (v sh : Nat) :
    HasBit (L.flatMap f) v sh ↔ ∃ x ∈ L, HasBit (f x) v sh := by
  unfold HasBit
  simp only [List.mem_flatMap]
  exact ⟨fun ⟨p, ⟨x, hx, hp⟩, h⟩ => ⟨x, hx, p, hp, h⟩, fun ⟨x, hx, p, hp, h⟩ => ⟨p, ⟨x, hx, hp⟩, h⟩⟩

theorem hasBit_map (l : List EcInfo) (vid sh : Nat) :
    HasBit (l.map fun e => (e.id, e.bits)) vid sh ↔ ∃ e ∈ l, e.id = vid ∧ e.bits.testBit sh = true := by
  unfold HasBit
  constructor
  · rintro ⟨p, hp, h1, h2⟩
    obtain ⟨e, he, rfl⟩ := List.mem_map.mp hp
    exact ⟨e, he, h1, h2⟩
  · rintro ⟨e, he, h1, h2⟩
    exact ⟨(e.id, e.bits), List.mem_map.mpr ⟨e, he, rfl⟩, h1, h2⟩

/-- the full EC heartbeat `actual` lists shard `sh` of volume `vid` -/
def MsgHas (actual : List EcInfo) (vid sh : Nat) : Prop := ∃ ab, actualBits actual vid = some ab ∧ ab.testBit sh = true

theorem hasBit_ecNew (actual : List EcInfo) (x : Nat × Nat × Nat) (vid sh : Nat) (hsh : sh < 32) :
    HasBit (ecNew actual x) vid sh ↔ (x.2.1 = vid ∧ MsgHas actual vid sh ∧ x.2.2.testBit sh = false) := by
  unfold HasBit MsgHas
  simp only [mem_ecNew]
  constructor
  · rintro ⟨p, ⟨ab, g1, _, rfl⟩, rfl, h2⟩
    obtain ⟨h2, h3⟩ := (testBit_bitsMinus_iff _ _ _).mp h2
    exact ⟨rfl, ⟨ab, g1, h2⟩, h3⟩
  · rintro ⟨rfl, ⟨ab, g1, h2⟩, h3⟩
    have h := (testBit_bitsMinus_iff _ _ _).mpr ⟨h2, h3⟩
    exact ⟨_, ⟨ab, g1, popcount_pos_of_testBit _ sh hsh h, rfl⟩, rfl, h⟩

theorem hasBit_ecDel (actual : List EcInfo) (x : Nat × Nat × Nat) (vid sh : Nat) (hsh : sh < 32) :
    HasBit (ecDel actual x) vid sh ↔ (x.2.1 = vid ∧ x.2.2.testBit sh = true ∧ ¬ MsgHas actual vid sh) := by
  unfold HasBit MsgHas
  simp only [mem_ecDel]
  constructor
  · rintro ⟨p, ⟨g1, rfl⟩ | ⟨ab, g1, _, rfl⟩, rfl, h2⟩
    · exact ⟨rfl, h2, fun ⟨_, h, _⟩ => by rw [g1] at h; cases h⟩
    · obtain ⟨h2, h3⟩ := (testBit_bitsMinus_iff _ _ _).mp h2
      refine ⟨rfl, h2, fun ⟨ab', h, h'⟩ => ?_⟩
      rw [g1] at h; cases h
      rw [h3] at h'; cases h'
  · rintro ⟨rfl, hb, hm⟩
    cases o : actualBits actual x.2.1 with
    | none => exact ⟨_, Or.inl ⟨rfl, rfl⟩, rfl, hb⟩
    | some ab =>
      have h := (testBit_bitsMinus_iff x.2.2 ab sh).mpr ⟨hb, Bool.eq_false_iff.mpr fun ha => hm ⟨ab, o, ha⟩⟩
      exact ⟨_, Or.inr ⟨ab, rfl, popcount_pos_of_testBit _ sh hsh h, rfl⟩, rfl, h⟩

theorem exists_ecOf {c : Core} {s : Nat} {D : Nat → Nat} (hD : ∀ vid, D vid < 2)
    (hinv : ∀ t vid, c.ecs s t vid ≠ 0 → t = D vid ∧ vid < c.nVid + 1) (vid : Nat) (P : Nat → Prop) :
    (∃ x ∈ c.ecOf s, x.2.1 = vid ∧ P x.2.2) ↔ (c.ecs s (D vid) vid ≠ 0 ∧ P (c.ecs s (D vid) vid)) := by
  constructor
  · rintro ⟨x, hx, rfl, hp⟩
    obtain ⟨t, v, _, _, hz, rfl⟩ := (mem_ecOf c s x).mp hx
    obtain ⟨rfl, _⟩ := hinv t v hz
    exact ⟨hz, hp⟩
  · rintro ⟨hz, hp⟩
    exact ⟨(D vid, vid, _), (mem_ecOf c s _).mpr ⟨D vid, vid, hD vid, (hinv _ _ hz).2, hz, rfl⟩, rfl, hp⟩

theorem hasEc_eq_false_iff {c : Core} {s : Nat} {D : Nat → Nat} (hD : ∀ vid, D vid < 2)
    (hinv : ∀ t vid, c.ecs s t vid ≠ 0 → t = D vid ∧ vid < c.nVid + 1) (vid : Nat) :
    c.hasEc s vid = false ↔ c.ecs s (D vid) vid = 0 := by
  rw [hasEc_of_other (hD vid) fun t ht => Decidable.of_not_not fun z => ht (hinv t vid z).1]
  exact bne_eq_false_iff_eq

theorem exists_mem_id_iff (l : List EcInfo) (hn : (l.map (·.id)).Nodup) (vid : Nat) (P : Nat → Prop) :
    (∃ e ∈ l, e.id = vid ∧ P e.bits) ↔ ∃ ab, actualBits l vid = some ab ∧ P ab := by
  constructor
  · rintro ⟨e, he, rfl, hp⟩
    exact ⟨e.bits, actualBits_of_mem l e hn he, hp⟩
  · rintro ⟨ab, hab, hp⟩
    by_cases hex : ∃ e ∈ l, e.id = vid
    · obtain ⟨e, he, rfl⟩ := hex
      rw [actualBits_of_mem l e hn he] at hab
      cases hab
      exact ⟨e, he, rfl, hp⟩
    · rw [actualBits_of_not_mem l vid (fun e he h => hex ⟨e, he, h⟩)] at hab
      cases hab

/-- doUpdateEcShards, started from nothing, stores for a volume the shards the message lists -/
theorem store_testBit {D : Nat → Nat} (s : Nat) (actual : List EcInfo) (hn : (actual.map (·.id)).Nodup)
    (hdisk : ∀ e ∈ actual, e.disk = D e.id) (base : Core) (vid sh : Nat) (hb : base.ecs s (D vid) vid = 0) :
    ((actual.foldl (Core.ecStore s) base).ecs s (D vid) vid).testBit sh = true ↔ MsgHas actual vid sh := by
  unfold MsgHas
  by_cases hex : ∃ e ∈ actual, e.id = vid
  · obtain ⟨e, he, rfl⟩ := hex
    rw [store_ecs_of_mem s actual e hn he base, if_pos (hdisk e he), actualBits_of_mem actual e hn he]
    simp
  · have hno : ∀ e ∈ actual, e.id ≠ vid := fun e he h => hex ⟨e, he, h⟩
    rw [store_ecs_other s actual _ s (D vid) vid (fun e he hh => hno e he hh.2.2), hb, actualBits_of_not_mem actual vid hno]
    simp

section shard
variable {c : Core} {s : Nat} {D : Nat → Nat} (hD : ∀ vid, D vid < 2)
  (hinv : ∀ t vid, c.ecs s t vid ≠ 0 → t = D vid ∧ vid < c.nVid + 1) (actual : List EcInfo) (vid : Nat) {sh : Nat} (hsh : sh < 32)
include hD hinv hsh

/-- RegisterEcShards is handed the shards the message lists and the registration lacks -/
theorem hasBit_ecNews (hn : (actual.map (·.id)).Nodup) :
    HasBit (ecNews c s actual) vid sh ↔ (MsgHas actual vid sh ∧ (c.ecs s (D vid) vid).testBit sh = false) := by
  -- the second loop: a message for an EC volume the server did not have
  have loop2 : HasBit ((actual.filter (fun e => !c.hasEc s e.id)).map (fun e => (e.id, e.bits))) vid sh ↔
      (c.ecs s (D vid) vid = 0 ∧ MsgHas actual vid sh) := by
    unfold MsgHas
    rw [← exists_mem_id_iff actual hn vid (fun b => b.testBit sh = true), hasBit_map]
    simp only [List.mem_filter, Bool.not_eq_true']
    constructor
    · rintro ⟨e, ⟨he, g1⟩, rfl, h2⟩
      exact ⟨(hasEc_eq_false_iff hD hinv _).mp g1, e, he, rfl, h2⟩
    · rintro ⟨g2, e, he, rfl, h2⟩
      exact ⟨e, ⟨he, (hasEc_eq_false_iff hD hinv _).mpr g2⟩, rfl, h2⟩
  unfold ecNews fresh
  rw [hasBit_append, hasBit_flatMap, loop2]
  simp only [hasBit_ecNew _ _ _ _ hsh]
  rw [exists_ecOf hD hinv vid (fun b => MsgHas actual vid sh ∧ b.testBit sh = false)]
  constructor
  · rintro (⟨_, h⟩ | ⟨z, hm⟩)
    · exact h
    · exact ⟨hm, by rw [z]; exact Nat.zero_testBit sh⟩
  · intro h
    by_cases z : c.ecs s (D vid) vid = 0
    · exact Or.inr ⟨z, h.1⟩
    · exact Or.inl ⟨z, h⟩

/-- UnRegisterEcShards is handed the shards the registration has and the message lacks -/
theorem hasBit_ecDels :
    HasBit (ecDels c s actual) vid sh ↔ ((c.ecs s (D vid) vid).testBit sh = true ∧ ¬ MsgHas actual vid sh) := by
  unfold ecDels
  rw [hasBit_flatMap]
  simp only [hasBit_ecDel _ _ _ _ hsh]
  rw [exists_ecOf hD hinv vid (fun b => b.testBit sh = true ∧ ¬ MsgHas actual vid sh)]
  refine ⟨fun h => h.2, fun h => ⟨fun z => ?_, h⟩⟩
  rw [z, Nat.zero_testBit] at h
  cases h.1

end shard

/-- `UpdateEcShards` and the two lists it hands to the topology agree shard by shard, for a message that lists each
    EC volume once, under the disk type `D` its shards are registered on, and for shard ids below 32: afterwards the
    server has a shard iff it had it or the list for RegisterEcShards names it, and the list for UnRegisterEcShards
    does not (the shape `ecinv_change` of Props/C11 asks for) -/
theorem ecAfter_shard (c : Core) (s : Nat) (actual : List EcInfo) (D : Nat → Nat) (hD : ∀ vid, D vid < 2)
    (hinv : ∀ t vid, c.ecs s t vid ≠ 0 → t = D vid ∧ vid < c.nVid + 1)
    (hn : (actual.map (·.id)).Nodup) (hdisk : ∀ e ∈ actual, e.disk = D e.id) (vid sh : Nat) (hsh : sh < 32) :
    (ecAfter c s actual s (D vid) vid).testBit sh = true ↔
      (((c.ecs s (D vid) vid).testBit sh = true ∨ HasBit (ecNews c s actual) vid sh) ∧
        ¬ HasBit (ecDels c s actual) vid sh) := by
  unfold ecAfter
  split
  · next hb =>
    simp only [Bool.and_eq_true, List.isEmpty_iff] at hb
    rw [hb.1, hb.2]
    simp [hasBit_nil]
  · -- the message was stored: had ∨ (listed ∧ ¬ had), and not (had ∧ ¬ listed), is listed
    unfold ecStored
    rw [store_testBit s actual hn hdisk _ vid sh (by simp),
      hasBit_ecNews hD hinv actual vid hsh hn, hasBit_ecDels hD hinv actual vid hsh]
    by_cases hm : MsgHas actual vid sh <;> cases hh : (c.ecs s (D vid) vid).testBit sh <;> simp [hm]

end SwV.Lemmas.C11Ec
