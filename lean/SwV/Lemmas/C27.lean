/-
C27 — lemmas: the equations of the model's listing functions, the store listing of a sorted
directory, the closed form of the receive loop and of one page for the flat case (delimiter "/",
prefix without directory part, markers without "/"), and the pagination of a client that follows
the returned marker through a stream of items (`walk_items`, which the flat and the recursive
pagination both instantiate; `walk_flat` is the flat instance). The file begins with what a flat page emits
(`emitK`, `emitP`) and with `Exact` of namespace `SwV.Props.C27`, which is stated with them and which
`walk_flat` speaks of. An entry is the C19 record: in all C27 files `e.key` is its name and
`e.expired = true` says that it is a directory.
-/
import SwV.Model.C27
import SwV.Lemmas.C19
namespace SwV.Lemmas.C27
open SwV.Model.C19 (Bytes)
open SwV.Model.C27

/-- Contents emitted for a list of entries of the bucket's top directory -/
def emitK (L : List Ent) : List Bytes := (L.filter fun e => !e.expired).map (·.key)
/-- CommonPrefixes emitted -/
def emitP (L : List Ent) : List Bytes := (L.filter fun e => e.expired).map fun e => e.key ++ [slash]

end SwV.Lemmas.C27

namespace SwV.Props.C27
open SwV.Model.C27 SwV.Lemmas.C27

/-- what a complete, exact pagination looks like -/
structure Exact (maxKeys : Nat) (want : List Ent) (pages : List Page) : Prop where
  keys : pages.flatMap (·.keys) = emitK want
  pfxs : pages.flatMap (·.pfxs) = emitP want
  small : ∀ p ∈ pages, p.keys.length + p.pfxs.length ≤ maxKeys
  ends : pages.getLast?.map (·.trunc) = some false

end SwV.Props.C27

namespace SwV.Lemmas.C27
open SwV.Model.C19 (Bytes ltB isPrefix)
open SwV.Model.C27
open SwV.Lemmas.C19 SwV.Props.C27

theorem recvLoop_full {ks : List (List Bytes)} {sub : Bytes → Nat → Res} {d : Bool} {r : Bytes} {mk : Nat} {e : Ent}
    {rest : List Ent} {st : Res} (h : st.counter ≥ mk) :
    recvLoop ks sub d r mk (e :: rest) st = { st with trunc := true } := by
  simp only [recvLoop, ge_iff_le, h, ↓reduceIte]

theorem recvLoop_file {ks : List (List Bytes)} {sub : Bytes → Nat → Res} {d : Bool} {r : Bytes} {mk : Nat} {e : Ent}
    {rest : List Ent} {st : Res} (h : st.counter < mk) (he : e.expired = false) :
    recvLoop ks sub d r mk (e :: rest) st =
      recvLoop ks sub d r mk rest { st with next := e.key, counter := st.counter + 1, keys := st.keys ++ [keyOf r e.key] } := by
  have : ¬ st.counter ≥ mk := Nat.not_le.2 h
  simp only [recvLoop, ge_iff_le, this, ↓reduceIte, he, Bool.false_eq_true]

/-- the `.uploads` directory: skipped, not counted, but it becomes the next marker -/
theorem recvLoop_uploads {ks : List (List Bytes)} {sub : Bytes → Nat → Res} {d : Bool} {r : Bytes} {mk : Nat} {e : Ent}
    {rest : List Ent} {st : Res} (h : st.counter < mk) (he : e.expired = true) (hk : e.key = uploadsName) :
    recvLoop ks sub d r mk (e :: rest) st = recvLoop ks sub d r mk rest { st with next := e.key } := by
  have : ¬ st.counter ≥ mk := Nat.not_le.2 h
  simp only [recvLoop, ge_iff_le, this, ↓reduceIte, he, hk]

/-- delimiter "/": a directory other than `.uploads` that the emptiness probe finds becomes a common prefix -/
theorem recvLoop_prefix {ks : List (List Bytes)} {sub : Bytes → Nat → Res} {r : Bytes} {mk : Nat} {e : Ent}
    {rest : List Ent} {st : Res} (h : st.counter < mk) (he : e.expired = true) (hk : e.key ≠ uploadsName)
    (hl : looksEmpty ks r e.key = false) :
    recvLoop ks sub true r mk (e :: rest) st =
      recvLoop ks sub true r mk rest
        { st with next := e.key, counter := st.counter + 1, pfxs := st.pfxs ++ [keyOf r e.key ++ [slash]] } := by
  have : ¬ st.counter ≥ mk := Nat.not_le.2 h
  simp only [recvLoop, ge_iff_le, this, ↓reduceIte, he, hk, Bool.not_true, Bool.false_eq_true, hl]

/-- delimiter "": a directory other than `.uploads` is listed recursively with the budget that is left; a truncated
    sub-listing ends the loop -/
theorem recvLoop_descend {ks : List (List Bytes)} {sub : Bytes → Nat → Res} {r : Bytes} {mk : Nat} {e : Ent}
    {rest : List Ent} {st : Res} (h : st.counter < mk) (he : e.expired = true) (hk : e.key ≠ uploadsName) :
    recvLoop ks sub false r mk (e :: rest) st =
      (let s := sub (r ++ [slash] ++ e.key) (mk - st.counter)
       let st' : Res := { st with counter := st.counter + s.counter, next := e.key ++ [slash] ++ s.next,
                                  keys := st.keys ++ s.keys, pfxs := st.pfxs ++ s.pfxs, deleted := st.deleted ++ s.deleted }
       if s.trunc then { st' with trunc := true } else recvLoop ks sub false r mk rest st') := by
  have : ¬ st.counter ≥ mk := Nat.not_le.2 h
  simp only [recvLoop, ge_iff_le, this, ↓reduceIte, he, hk, Bool.not_false, List.append_assoc, List.cons_append,
    List.nil_append]

theorem doList_plain (ks : List (List Bytes)) (d : Bool) (fuel : Nat) (r pfx : Bytes) (mk : Nat) (marker : Bytes)
    (h1 : ¬ (pfx = [slash] ∧ d = true)) (h2 : mk ≠ 0) (h3 : cutFirstSlash marker = none) :
    doList ks d (fuel + 1) r pfx mk marker =
      recvLoop ks (fun r' budget => doList ks d fuel r' [] budget []) d r mk
        (listPrim (dirEntries ks r) pfx marker (mk + 1)) {} := by
  simp only [doList, h1, h2, h3, if_false]

/-- a marker "sub/rest": first the sub-directory with the rest as marker and the WHOLE budget, then this
    level after `sub` with the budget that is left -/
theorem doList_marker (ks : List (List Bytes)) (d : Bool) (fuel : Nat) (r pfx : Bytes) (mk : Nat)
    (marker subDir subMarker : Bytes)
    (h1 : ¬ (pfx = [slash] ∧ d = true)) (h2 : mk ≠ 0) (h3 : cutFirstSlash marker = some (subDir, subMarker)) :
    doList ks d (fuel + 1) r pfx mk marker =
      (let s := doList ks d fuel (r ++ [slash] ++ subDir) [] mk subMarker
       let ks2 := removeDirs ks s.deleted
       recvLoop ks2 (fun r' budget => doList ks d fuel r' [] budget []) d r (mk - s.counter)
         (listPrim (dirEntries ks2 r) pfx subDir (mk - s.counter + 1))
         { counter := 0, trunc := s.trunc, next := subDir ++ [slash] ++ s.next, keys := s.keys, pfxs := s.pfxs,
           deleted := s.deleted }) := by
  simp only [doList, h1, h2, h3, if_false]

/-- the last step of `listFilerEntries`: NextMarker is cleared on an untruncated page -/
def clearNext (res : Res) : Res := if res.trunc then res else { res with next := [] }

theorem clearNext_deleted (res : Res) : (clearNext res).deleted = res.deleted := by
  unfold clearNext; cases res.trunc <;> rfl

theorem pageOf_clearNext (res : Res) :
    pageOf (clearNext res) = ⟨res.trunc, if res.trunc then res.next else [], res.keys, res.pfxs⟩ := by
  unfold clearNext pageOf; cases h : res.trunc <;> simp [h]

theorem listFiler_nodir (ks : List (List Bytes)) (pfx : Bytes) (mk : Nat) (m : Bytes) (d : Bool)
    (h : splitLastSlash pfx = ([], pfx)) :
    listFiler ks pfx mk m d = clearNext (doList ks d (11 + 1) [] pfx mk m) := by
  unfold listFiler
  rw [h]
  rfl

theorem keyOf_root (n : Bytes) : keyOf [] n = n := by simp [keyOf]

theorem removeDirs_nil (ks : List (List Bytes)) : removeDirs ks [] = ks := by
  unfold removeDirs; simp

/-- the store listing of a sorted directory = the first `n` entries with the name prefix strictly after the marker,
    for a marker that is empty or itself carries the prefix (C19: a marker BELOW the prefix may stop early) -/
theorem listPrim_sorted (es : List Ent) (hs : SortedDb es) (pfx m : Bytes) (n : Nat)
    (hm : m = [] ∨ isPrefix pfx m = true) :
    listPrim es pfx m n = ((es.filter fun e => isPrefix pfx e.key).filter fun e => ltB m e.key).take n := by
  have hfrom : ltB (if m = [] then pfx else m) pfx = false := by
    split
    · exact ltB_irrefl pfx
    · next hme => exact not_lt_of_isPrefix pfx m (hm.resolve_left hme)
  have := seek_takeWhile es hs _ pfx hfrom
  unfold SwV.Model.C19.seek at this
  unfold listPrim
  dsimp only
  rw [this, List.filter_filter, List.filter_filter]
  congr 1
  apply List.filter_congr
  intro e _
  cases hp : isPrefix pfx e.key with
  | false => simp
  | true =>
    -- under the prefix, "not the marker and not before the seek key" says "after the marker"
    by_cases hme : m = []
    · subst hme
      simp [← ltB_nil, not_lt_of_isPrefix pfx e.key hp]
    · simp only [hme, if_false, Bool.and_true]
      cases hlt : ltB m e.key with
      | true =>
        have h1 : e.key ≠ m := by intro h; rw [h, ltB_irrefl] at hlt; cases hlt
        simp [h1, ltB_asymm _ _ hlt]
      | false =>
        cases hgt : ltB e.key m with
        | true => simp
        | false => simp [ltB_total m e.key hlt hgt]

theorem filter_ltB_nil {L : List Ent} (h : ∀ e ∈ L, e.key ≠ []) : L.filter (fun e => ltB [] e.key) = L :=
  List.filter_eq_self.2 (fun e he => (ltB_nil e.key).2 (h e he))

/-- an entry the flat listing handles without its known deviations: not the `.uploads` directory,
    and (for directories) the emptiness probe finds the directory -/
def Good (ks : List (List Bytes)) (e : Ent) : Prop :=
  ¬(e.expired = true ∧ e.key = uploadsName) ∧ (e.expired = true → looksEmpty ks [] e.key = false)

theorem emitK_cons (e : Ent) (L : List Ent) : emitK (e :: L) = (if e.expired then [] else [e.key]) ++ emitK L := by
  unfold emitK; cases h : e.expired <;> simp [h]
theorem emitP_cons (e : Ent) (L : List Ent) : emitP (e :: L) = (if e.expired then [e.key ++ [slash]] else []) ++ emitP L := by
  unfold emitP; cases h : e.expired <;> simp [h]

theorem emit_length (L : List Ent) : (emitK L).length + (emitP L).length = L.length := by
  induction L with
  | nil => rfl
  | cons e L ih =>
    rw [emitK_cons, emitP_cons, List.length_cons, ← ih]
    cases e.expired
    · exact Nat.succ_add _ _
    · rfl

theorem emitK_append (A B : List Ent) : emitK (A ++ B) = emitK A ++ emitK B := by simp [emitK]
theorem emitP_append (A B : List Ent) : emitP (A ++ B) = emitP A ++ emitP B := by simp [emitP]

/-- the loop's state after the first `b` of the entries `L`, each emitted as a key or a common prefix -/
def flatAfter (st : Res) (L : List Ent) (b : Nat) : Res :=
  { counter := st.counter + (L.take b).length, trunc := st.trunc || decide (L.length > b),
    next := (((L.take b).getLast?).map (·.key)).getD st.next, keys := st.keys ++ emitK (L.take b),
    pfxs := st.pfxs ++ emitP (L.take b), deleted := st.deleted }

theorem flatAfter_nil (st : Res) (b : Nat) : flatAfter st [] b = st := by
  simp [flatAfter, emitK, emitP]

theorem flatAfter_zero (st : Res) (e : Ent) (L : List Ent) : flatAfter st (e :: L) 0 = { st with trunc := true } := by
  simp [flatAfter, emitK, emitP]

theorem flatAfter_cons (st : Res) (e : Ent) (L : List Ent) (b : Nat) :
    flatAfter st (e :: L) (b + 1) =
      flatAfter { st with counter := st.counter + 1, next := e.key,
                          keys := st.keys ++ (if e.expired then [] else [e.key]),
                          pfxs := st.pfxs ++ (if e.expired then [e.key ++ [slash]] else []) } L b := by
  simp only [flatAfter, List.take_succ_cons, emitK_cons, emitP_cons, List.length_cons, List.getLast?_cons,
    Nat.add_lt_add_iff_right, List.append_assoc, Option.map_some, Option.getD_some, gt_iff_lt]
  congr 1
  · omega
  · cases (List.take b L).getLast? <;> rfl

/-- the `maxKeys+1` request window does not matter -/
theorem flatAfter_window (st : Res) (L : List Ent) (b w : Nat) (hbw : b < w) : flatAfter st (L.take w) b = flatAfter st L b := by
  simp only [flatAfter, List.take_take, Nat.min_eq_left (Nat.le_of_lt hbw), List.length_take, gt_iff_lt, Nat.lt_min, hbw,
    true_and]

theorem recv_flat (ks : List (List Bytes)) (sub : Bytes → Nat → Res) (maxKeys : Nat) :
    ∀ (L : List Ent) (st : Res), (∀ e ∈ L, Good ks e) →
      recvLoop ks sub true [] maxKeys L st = flatAfter st L (maxKeys - st.counter) := by
  intro L
  induction L with
  | nil => intro st _; rw [flatAfter_nil]; rfl
  | cons e L ih =>
    intro st hg
    have ih := fun st' => ih st' fun x hx => hg x (List.mem_cons_of_mem _ hx)
    obtain ⟨hu, hl⟩ := hg e List.mem_cons_self
    by_cases hc : st.counter ≥ maxKeys
    · rw [recvLoop_full hc, Nat.sub_eq_zero_of_le hc, flatAfter_zero]
    · have hlt : st.counter < maxKeys := Nat.not_le.1 hc
      have hb : maxKeys - st.counter = maxKeys - (st.counter + 1) + 1 :=
        (Nat.succ_pred_eq_of_pos (Nat.sub_pos_of_lt hlt)).symm
      rw [hb]
      cases he : e.expired with
      | false =>
        rw [recvLoop_file hlt he, ih, flatAfter_cons, he, keyOf_root]
        simp only [Bool.false_eq_true, if_false, List.append_nil]
      | true =>
        rw [recvLoop_prefix hlt he (fun h => hu ⟨he, h⟩) (hl he), ih, flatAfter_cons, he, keyOf_root]
        simp only [if_true, List.append_nil]

/-- The page of at most `mk` items cut from the items `Z` still to be listed. `nm` is the marker an item
    leaves behind, `K` and `P` are the Contents and CommonPrefixes of a list of items. -/
def pageOfItems {α : Type} (nm : α → Bytes) (K P : List α → List Bytes) (mk : Nat) (Z : List α) : Page :=
  ⟨decide (Z.length > mk), if Z.length > mk then (((Z.take mk).getLast?).map nm).getD [] else [], K (Z.take mk), P (Z.take mk)⟩

theorem pageOfItems_last {α : Type} {nm : α → Bytes} {K P : List α → List Bytes} {mk : Nat} {Z : List α}
    (h : Z.length ≤ mk) : pageOfItems nm K P mk Z = ⟨false, [], K Z, P Z⟩ := by
  rw [pageOfItems, if_neg (Nat.not_lt.2 h), decide_eq_false (Nat.not_lt.2 h), List.take_of_length_le h]

theorem pageOfItems_more {α : Type} {nm : α → Bytes} {K P : List α → List Bytes} {mk : Nat} {Z : List α} {l : α}
    (h : mk < Z.length) (hl : (Z.take mk).getLast? = some l) :
    pageOfItems nm K P mk Z = ⟨true, nm l, K (Z.take mk), P (Z.take mk)⟩ := by
  rw [pageOfItems, if_pos h, decide_eq_true h, hl]; rfl

/-- entries of the top directory carrying the name prefix -/
def F (ks : List (List Bytes)) (pfx : Bytes) : List Ent := (dirEntries ks []).filter fun e => isPrefix pfx e.key
/-- the entries of `F` strictly after the marker `m`: what a flat pagination that has reached `m` still has to list -/
def G (ks : List (List Bytes)) (pfx m : Bytes) : List Ent := (F ks pfx).filter fun e => ltB m e.key

theorem mem_G {ks : List (List Bytes)} {pfx m : Bytes} {e : Ent} (h : e ∈ G ks pfx m) :
    e ∈ dirEntries ks [] ∧ isPrefix pfx e.key = true := by
  unfold G F at h
  have h1 := List.mem_filter.1 h
  have h2 := List.mem_filter.1 h1.1
  exact ⟨h2.1, h2.2⟩

/-- The inputs of the flat theorem: the prefix has no directory part; the top directory is sorted, its
    names are non-empty and free of "/", and every entry under the prefix is `Good`
    (= no `.uploads` directory in range, emptiness probe sound). -/
structure Flat (ks : List (List Bytes)) (pfx : Bytes) : Prop where
  split : splitLastSlash pfx = ([], pfx)
  sorted : SortedDb (dirEntries ks [])
  good : ∀ e ∈ dirEntries ks [], isPrefix pfx e.key = true → Good ks e
  noslash : ∀ e ∈ dirEntries ks [], cutFirstSlash e.key = none
  nonempty : ∀ e ∈ dirEntries ks [], e.key ≠ []

/-- a marker the flat pagination produces -/
def MarkerOk (pfx m : Bytes) : Prop := m = [] ∨ (isPrefix pfx m = true ∧ cutFirstSlash m = none)

/-- closed form of one page (delimiter "/"): the next `maxKeys` entries after the marker -/
theorem page_flat (ks : List (List Bytes)) (pfx : Bytes) (h : Flat ks pfx) (maxKeys : Nat) (hmk : 0 < maxKeys)
    (m : Bytes) (hm : MarkerOk pfx m) :
    pageOf (listFiler ks pfx maxKeys m true) = pageOfItems (·.key) emitK emitP maxKeys (G ks pfx m) ∧
    (listFiler ks pfx maxKeys m true).deleted = [] := by
  have hp1 : ¬ (pfx = [slash] ∧ true = true) := by
    intro hp; have := h.split; rw [hp.1] at this; revert this; decide
  have hcut : cutFirstSlash m = none := hm.elim (fun h0 => h0 ▸ rfl) (·.2)
  have hdo : doList ks true (11 + 1) [] pfx maxKeys m = flatAfter {} (G ks pfx m) maxKeys := by
    rw [doList_plain ks true 11 [] pfx maxKeys m hp1 (Nat.ne_of_gt hmk) hcut,
      listPrim_sorted _ h.sorted pfx m _ (hm.imp_right (·.1)), recv_flat]
    · exact flatAfter_window _ _ _ _ (Nat.lt_succ_self _)
    · intro e he
      have := mem_G (List.mem_of_mem_take he)
      exact h.good e this.1 this.2
  rw [listFiler_nodir ks pfx maxKeys m true h.split, hdo, pageOf_clearNext, clearNext_deleted]
  -- `flatAfter` from the empty state is `pageOfItems` field by field
  simp only [flatAfter, pageOfItems, Bool.false_or, decide_eq_true_eq, List.nil_append, and_self]

theorem G_next (ks : List (List Bytes)) (pfx m : Bytes) (hs : SortedDb (dirEntries ks [])) (n : Nat) (l : Ent)
    (hl : ((G ks pfx m).take n).getLast? = some l) : (G ks pfx m).drop n = G ks pfx l.key := by
  have hG : ∀ m, G ks pfx m =
      (dirEntries ks []).filter fun e => isPrefix pfx e.key && SwV.Spec.C19.afterStart m false e.key := fun m => by
    unfold G F
    rw [List.filter_filter]
    exact List.filter_congr fun e _ => by rw [afterStart_excl, Bool.and_comm]
  rw [hG] at hl ⊢
  rw [hG]
  exact (filter_after_resume (fun e : Ent => e.key) (fun e => isPrefix pfx e.key) hs m false hl).symm

theorem getLast?_take {α : Type} (l : List α) (n : Nat) (hn : 0 < n) (hl : l ≠ []) : ∃ x, (l.take n).getLast? = some x :=
  getLast?_of_ne_nil fun h => (List.take_eq_nil_iff.1 h).elim (Nat.ne_of_gt hn) hl

theorem walk_next {pfx : Bytes} {mk : Nat} {delim : Bool} (f : Nat) {ks : List (List Bytes)} {m : Bytes} {r : Res}
    (hr : listFiler ks pfx mk m delim = r) :
    walk pfx mk delim true (f + 1) ks m =
      if (pageOf r).trunc then
        (pageOf r :: (walk pfx mk delim true f (removeDirs ks r.deleted) (pageOf r).next).1,
          (walk pfx mk delim true f (removeDirs ks r.deleted) (pageOf r).next).2)
      else ([pageOf r], removeDirs ks r.deleted) := by
  subst hr
  rw [walk]
  cases (pageOf (listFiler ks pfx mk m delim)).trunc <;> rfl

/-- Pagination over a stream of items. `C m Z` says that the marker `m` stands for the items `Z` still to be
    listed: one request from `m` returns the page cut from `Z` and deletes nothing, and the marker that the last
    item of that page leaves behind stands for the rest. Then the walk from `m` ends after `Z` has been served,
    each page within `mk` items, the last one untruncated, the bucket unchanged. -/
theorem walk_items {α : Type} (ks : List (List Bytes)) (pfx : Bytes) (delim : Bool) (mk : Nat) (hmk : 0 < mk)
    (nm : α → Bytes) (K P : List α → List Bytes)
    (hK : ∀ A B, K (A ++ B) = K A ++ K B) (hP : ∀ A B, P (A ++ B) = P A ++ P B)
    (hKP : ∀ A, (K A).length + (P A).length = A.length)
    (C : Bytes → List α → Prop)
    (hpage : ∀ m Z, C m Z → pageOf (listFiler ks pfx mk m delim) = pageOfItems nm K P mk Z ∧
      (listFiler ks pfx mk m delim).deleted = [])
    (hnext : ∀ m Z l, C m Z → (Z.take mk).getLast? = some l → C (nm l) (Z.drop mk)) :
    ∀ (fuel : Nat) (m : Bytes) (Z : List α), C m Z → Z.length < fuel →
      ∃ pages, walk pfx mk delim true fuel ks m = (pages, ks) ∧
        pages.flatMap (·.keys) = K Z ∧ pages.flatMap (·.pfxs) = P Z ∧
        (∀ p ∈ pages, p.keys.length + p.pfxs.length ≤ mk) ∧ pages.getLast?.map (·.trunc) = some false := by
  intro fuel
  induction fuel with
  | zero => intro _ _ _ hl; exact absurd hl (Nat.not_lt_zero _)
  | succ f ih =>
    intro m Z hc hlen
    obtain ⟨hpg, hdel⟩ := hpage m Z hc
    rw [walk_next f rfl, hdel, removeDirs_nil, hpg]
    by_cases hbig : mk < Z.length
    · obtain ⟨l, hl⟩ := getLast?_take Z mk hmk (List.ne_nil_of_length_pos (Nat.zero_lt_of_lt hbig))
      -- the rest is shorter by a full page, so the fuel that is left suffices
      obtain ⟨ps, hw, hk, hp, hs, he⟩ :=
        ih (nm l) (Z.drop mk) (hnext m Z l hc hl)
          (length_drop_lt rfl (List.ne_nil_of_mem (List.mem_of_getLast? hl)) hlen)
      rw [pageOfItems_more hbig hl]
      refine ⟨_ :: ps, congrArg (fun w => (_ :: w.1, w.2)) hw, ?_, ?_,
        List.forall_mem_cons.2 ⟨hKP _ ▸ List.length_take_le mk Z, hs⟩, ?_⟩
      · rw [List.flatMap_cons, hk, ← hK, List.take_append_drop]
      · rw [List.flatMap_cons, hp, ← hP, List.take_append_drop]
      · -- `ps` has a last page, and it is the last page of the whole
        cases ps with
        | nil => exact nomatch he
        | cons q qs => rw [List.getLast?_cons_cons]; exact he
    · have hle := Nat.le_of_not_gt hbig
      rw [pageOfItems_last hle]
      exact ⟨_, rfl, List.append_nil _, List.append_nil _, fun _ hp => List.mem_singleton.1 hp ▸ hKP Z ▸ hle, rfl⟩

/-- from any marker the flat pagination produces: the entries under the prefix after the marker, paginated exactly.
    A marker stands for those entries; the next marker is the name of a page's last entry. -/
theorem walk_flat (ks : List (List Bytes)) (pfx : Bytes) (h : Flat ks pfx) (maxKeys : Nat) (hmk : 0 < maxKeys)
    (fuel : Nat) (m : Bytes) (hm : MarkerOk pfx m) (hfuel : (G ks pfx m).length < fuel) :
    ∃ pages, walk pfx maxKeys true true fuel ks m = (pages, ks) ∧ Exact maxKeys (G ks pfx m) pages := by
  obtain ⟨pages, hw, hk, hp, hs, he⟩ :=
    walk_items ks pfx true maxKeys hmk (·.key) emitK emitP emitK_append emitP_append emit_length
      (fun m Z => MarkerOk pfx m ∧ Z = G ks pfx m)
      (fun m Z hc => hc.2 ▸ page_flat ks pfx h maxKeys hmk m hc.1)
      (fun m Z l hc hl => by
        obtain ⟨_, rfl⟩ := hc
        have hmem := mem_G (List.mem_of_mem_take (List.mem_of_getLast? hl))
        exact ⟨Or.inr ⟨hmem.2, h.noslash l hmem.1⟩, G_next ks pfx m h.sorted maxKeys l hl⟩)
      fuel m _ ⟨hm, rfl⟩ hfuel
  exact ⟨pages, hw, hk, hp, hs, he⟩

end SwV.Lemmas.C27
