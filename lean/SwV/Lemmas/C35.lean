/-
C35 — what the slice (`Cell.view`) of a map entry shows after `addLocation` / `deleteLocation`, that it
stays inside its backing array (`WF`), that the in-place delete (`Cell.delInPlace`) shows the same slice as the
re-allocating one, and that with distinct urls erasing the first match is filtering; the reference's add step and
the loop of `LookupVolumeServerUrl` in closed form.
-/
import SwV.Model.C35
import SwV.Spec.C35

namespace SwV.Lemmas.C35
open SwV.Model.C35 SwV.Spec.C35

def WF (c : Cell) : Prop := c.len ≤ c.arr.length
def UrlsNodup (l : List Loc) : Prop := (l.map (·.url)).Nodup

theorem view_length (c : Cell) (h : WF c) : c.view.length = c.len := by
  simp only [Cell.view, List.length_take]; exact Nat.min_eq_left h

theorem hasUrl_iff (l : List Loc) (u : String) : hasUrl l u = true ↔ u ∈ l.map (·.url) := by
  simp only [hasUrl, List.any_eq_true, List.mem_map, beq_iff_eq]

/-- `addLocation` on an entry: the slice shows the atomic add of the location; without re-allocation every cell a
    shorter slice covers is left alone -/
theorem add_spec (c : Cell) (loc : Loc) (h : WF c) :
    WF (c.add loc).1 ∧ (c.add loc).1.view = atomicAdd c.view loc ∧
      ((c.add loc).2 = false → ∀ n, n ≤ c.len → n ≤ (c.add loc).1.len ∧ (c.add loc).1.arr.take n = c.arr.take n) := by
  have hlen := view_length c h
  unfold Cell.add atomicAdd
  by_cases hu : hasUrl c.view loc.url = true
  · rw [if_pos hu, if_pos hu]; exact ⟨h, rfl, fun _ n hn => ⟨hn, rfl⟩⟩
  rw [if_neg hu, if_neg hu]
  by_cases hl : c.len < c.arr.length
  · rw [if_pos hl]
    refine ⟨by simp only [WF, List.length_set]; omega, ?_, fun _ n hn => ⟨Nat.le_succ_of_le hn, List.take_set_of_le hn⟩⟩
    simp only [Cell.view]
    rw [List.take_succ_eq_append_getElem (by rwa [List.length_set]), List.getElem_set_self,
      List.take_set_of_le (Nat.le_refl _)]
  · rw [if_neg hl]
    refine ⟨?_, ?_, fun hr => nomatch hr⟩
    · simp only [WF, List.length_append, List.length_replicate, List.length_cons, List.length_nil]; omega
    · show List.take (c.len + 1) (c.view ++ [loc] ++ _) = _
      exact List.take_left' (by simp [hlen])

/-- `deleteLocation` on an entry: the first entry with that url is erased from the slice; a delete that does not
    re-allocate (`del_realloc`: there was none) leaves the entry as it is -/
theorem del_spec (c : Cell) (u : String) (h : WF c) :
    WF (c.del u).1 ∧ (c.del u).1.view = c.view.eraseIdx (c.view.findIdx (fun x => x.url == u)) ∧
      ((c.del u).2 = false → (c.del u).1 = c) := by
  have hlen := view_length c h
  unfold Cell.del
  dsimp only
  by_cases hi : c.view.findIdx (fun x => x.url == u) < c.len
  · rw [if_pos hi]
    have hl : (c.view.eraseIdx (c.view.findIdx fun x => x.url == u)).length = c.len - 1 := by
      rw [List.length_eraseIdx, hlen, if_pos hi]
    exact ⟨Nat.le_of_eq hl.symm, List.take_of_length_le (Nat.le_of_eq hl), fun hr => nomatch hr⟩
  · rw [if_neg hi]
    exact ⟨h, (List.eraseIdx_of_length_le (hlen ▸ Nat.le_of_not_lt hi)).symm, fun _ => rfl⟩

/-- `deleteLocation` on a `WF` entry re-allocates exactly when it removes something -/
theorem del_realloc (c : Cell) (u : String) :
    (c.del u).2 = decide (c.view.findIdx (fun x => x.url == u) < c.len) := by
  unfold Cell.del
  simp only
  by_cases hi : c.view.findIdx (fun x => x.url == u) < c.len <;> simp [hi]

/-- shifting the cells `i+1 .. n-1` of an array one to the left (whatever follows them) erases cell `i`
    from its first `n` cells -/
theorem take_shift_left {α : Type} (l tail : List α) (i n : Nat) (hi : i < n) (hn : n ≤ l.length) :
    (l.take i ++ (l.drop (i + 1)).take (n - 1 - i) ++ tail).take (n - 1) = (l.take n).eraseIdx i := by
  have hlen : (l.take i ++ (l.drop (i + 1)).take (n - 1 - i)).length = n - 1 := by
    rw [List.length_append, List.length_take, List.length_take, List.length_drop, Nat.sub_sub, Nat.add_comm 1 i,
      Nat.min_eq_left (Nat.le_trans (Nat.le_of_lt hi) hn), Nat.min_eq_left (Nat.sub_le_sub_right hn _)]
    omega
  rw [List.take_left' hlen, List.eraseIdx_eq_take_drop_succ, List.take_take, List.drop_take,
    Nat.min_eq_left (Nat.le_of_lt hi), Nat.sub_sub, Nat.add_comm 1 i]

/-- the pre-repair in-place delete shows the same slice as `Cell.del` (`del_spec`) -/
theorem view_delInPlace (c : Cell) (u : String) (h : WF c) :
    (c.delInPlace u).view = c.view.eraseIdx (c.view.findIdx (fun x => x.url == u)) := by
  unfold Cell.delInPlace
  by_cases hi : c.view.findIdx (fun x => x.url == u) < c.len
  · rw [if_pos hi]; exact take_shift_left c.arr _ _ _ hi h
  · rw [if_neg hi, List.eraseIdx_of_length_le (view_length c h ▸ Nat.le_of_not_lt hi)]

theorem eraseIdx_findIdx_eq_filter (l : List Loc) (u : String) (h : UrlsNodup l) :
    l.eraseIdx (l.findIdx (fun x => x.url == u)) = l.filter (fun x => x.url != u) := by
  induction l with
  | nil => simp
  | cons x xs ih =>
    unfold UrlsNodup at h
    simp only [List.map_cons, List.nodup_cons] at h
    rw [List.findIdx_cons]
    by_cases hx : x.url = u
    · subst hx
      simp only [beq_self_eq_true, cond_true, List.eraseIdx_zero, List.tail_cons]
      have hxs : xs.filter (fun y => y.url != x.url) = xs :=
        List.filter_eq_self.mpr fun y hy => bne_iff_ne.mpr fun e => h.1 (List.mem_map.mpr ⟨y, hy, e⟩)
      rw [List.filter_cons]
      simp [hxs]
    · have hb : (x.url == u) = false := beq_false_of_ne hx
      simp only [hb, cond_false, List.eraseIdx_cons_succ, List.filter_cons]
      simp [hx, ih h.2]

theorem nodup_filter (l : List Loc) (u : String) (h : UrlsNodup l) : UrlsNodup (l.filter (fun x => x.url != u)) :=
  (List.filter_sublist.map _).nodup h

theorem nodup_atomicAdd (l : List Loc) (loc : Loc) (h : UrlsNodup l) : UrlsNodup (atomicAdd l loc) := by
  unfold atomicAdd
  by_cases hu : hasUrl l loc.url = true
  · rw [if_pos hu]; exact h
  · rw [if_neg hu]
    unfold UrlsNodup at *
    rw [List.map_append, List.nodup_append]
    refine ⟨h, by simp, ?_⟩
    intro a ha b hb
    simp at hb
    subst hb
    intro e; subst e
    exact hu ((hasUrl_iff l loc.url).mpr ha)

theorem mem_atomicAdd (l : List Loc) (loc : Loc) (u : String) :
    u ∈ (atomicAdd l loc).map (·.url) ↔ u ∈ l.map (·.url) ∨ loc.url = u := by
  unfold atomicAdd
  by_cases h : hasUrl l loc.url = true
  · rw [if_pos h]
    exact ⟨Or.inl, fun h' => h'.elim id fun e => e ▸ (hasUrl_iff l _).mp h⟩
  · rw [if_neg h, List.map_append, List.mem_append, List.map_singleton, List.mem_singleton, eq_comm]

/-- the reference's add step is the atomic step of the model on the volume's list (a volume never announced counts
    as the empty list) -/
theorem refAdd_eq (m : Ref) (v : Nat) (loc : Loc) (w : Nat) :
    refAdd m v loc w = if w = v then some (atomicAdd ((m v).getD []) loc) else m w := by
  unfold refAdd atomicAdd
  cases m v with
  | none => rfl
  | some l => by_cases h : hasUrl l loc.url = true <;> simp [h]

/-- the loop of LookupVolumeServerUrl, for any starting accumulator -/
theorem orderUrls_acc (dc : String) (l : List Loc) (acc : List String) :
    l.foldl (fun acc loc => if dc == "" || loc.dc == "" || dc != loc.dc then acc ++ [loc.url] else loc.url :: acc) acc
      = ((l.filter (sameDc dc)).reverse.map (·.url)) ++ acc ++ ((l.filter (fun x => !sameDc dc x)).map (·.url)) := by
  induction l generalizing acc with
  | nil => simp
  | cons x xs ih =>
    simp only [List.foldl_cons, ih, List.filter_cons, sameDc]
    by_cases hx : (dc == "" || x.dc == "" || dc != x.dc) = true
    · simp [hx]
    · simp [hx]

end SwV.Lemmas.C35
