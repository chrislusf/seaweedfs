/-
C38 — why the per-key decomposition of the linearizability search is sound.  An accepting run of
`Spec.C38.search` on calls with distinct line numbers is an explicit linearization (`IsLin`).  A step function is
`Local` when every file id has a view that steps on other ids leave alone and that alone determines a step's
output and next view.  For such a
step function a run sees only the views of the ids it works on (`replays_filter`): the calls on a set of ids
replay, from any state that shows those ids alike, as they do inside a longer run.  Hence a linearization
projects to one of every sub-history (`project`), and two orders on disjoint ids that replay from one state
replay merged (`replays_merge2`).  `compose` sets the first call's id aside, linearizes the rest, and merges by
invocation stamp of the heads, which keeps the order stamp-respecting (`merge2_rt`).
-/
import SwV.Spec.C38
namespace SwV.Lemmas.C38
open SwV.Model.C01 SwV.Spec.C01 SwV.Spec.C38

/-- the sequential oracle reproduces (up to `okf`) every recorded output, in this order -/
def Replays {σ : Type} (stepf : σ → Op → σ × List String) (okf : Rcd → List String → Bool) : σ → List Rcd → Prop
  | _, [] => True
  | st, c :: rest => okf c (stepf st c.op).2 = true ∧ Replays stepf okf (stepf st c.op).1 rest

/-- the order never puts a call before one that had returned when it was invoked:
    whoever comes first was invoked before the later one returned -/
def RealTimeOk (order : List Rcd) : Prop := order.Pairwise (fun c d => c.inv < d.ret)

structure IsLin {σ : Type} (stepf : σ → Op → σ × List String) (okf : Rcd → List String → Bool) (st0 : σ)
    (calls order : List Rcd) : Prop where
  perm : order.Perm calls
  rt : RealTimeOk order
  replays : Replays stepf okf st0 order

/-- the search tells calls apart by their line number: it removes the chosen call from the pending ones by `line` -/
def DistinctLines (calls : List Rcd) : Prop := calls.Pairwise (fun a b => a.line ≠ b.line)

theorem isLin_nil {σ : Type} (stepf : σ → Op → σ × List String) (okf : Rcd → List String → Bool) (st0 : σ) :
    IsLin stepf okf st0 [] [] := ⟨List.Perm.refl _, List.Pairwise.nil, trivial⟩

theorem filter_line_of_distinct : ∀ (pending : List Rcd) (c : Rcd), DistinctLines pending → c ∈ pending →
    (c :: pending.filter fun d => d.line != c.line).Perm pending := by
  intro pending
  induction pending with
  | nil => intro c _ h; cases h
  | cons x xs ih =>
    intro c hd hc
    have hd' := List.pairwise_cons.1 hd
    by_cases hx : x = c
    · subst hx
      rw [List.filter_cons_of_neg (by simp),
        List.filter_eq_self.2 (fun d hdm => bne_iff_ne.2 (Ne.symm (hd'.1 d hdm)))]
    · have hcx : c ∈ xs := (List.mem_cons.1 hc).resolve_left (Ne.symm hx)
      rw [List.filter_cons_of_pos (by simpa using hd'.1 c hcx)]
      exact (List.Perm.swap x c _).trans ((ih c hd'.2 hcx).cons x)

theorem distinct_filter (pending : List Rcd) (p : Rcd → Bool) (h : DistinctLines pending) :
    DistinctLines (pending.filter p) := List.Pairwise.sublist List.filter_sublist h

theorem mem_minimal {pending : List Rcd} {c : Rcd} (h : c ∈ minimal pending) :
    c ∈ pending ∧ ∀ d ∈ pending, c.inv < d.ret ∨ c.line = d.line := by
  unfold minimal at h
  obtain ⟨h1, h2⟩ := List.mem_filter.1 h
  refine ⟨h1, fun d hd => ?_⟩
  have := List.all_eq_true.1 h2 d hd
  simpa using this

theorem isLin_cons {σ : Type} {stepf : σ → Op → σ × List String} {okf : Rcd → List String → Bool} {st : σ}
    {pending order : List Rcd} {c : Rcd} (hd : DistinctLines pending) (hc : c ∈ minimal pending)
    (hok : okf c (stepf st c.op).2 = true)
    (ho : IsLin stepf okf (stepf st c.op).1 (pending.filter fun d => d.line != c.line) order) :
    IsLin stepf okf st pending (c :: order) := by
  obtain ⟨hcp, hcmin⟩ := mem_minimal hc
  refine ⟨(ho.perm.cons c).trans (filter_line_of_distinct pending c hd hcp),
    List.pairwise_cons.2 ⟨fun d hdm => ?_, ho.rt⟩, hok, ho.replays⟩
  obtain ⟨hdp, hdl⟩ := List.mem_filter.1 (ho.perm.mem_iff.1 hdm)
  cases hcmin d hdp with
  | inl h1 => exact h1
  | inr h2 => simp [h2] at hdl

/-- `search.tryAll` is the candidate loop of `search`.  The fuel the accepting candidate's search starts with is
    one less than what the failed candidates before it left over, hence the existential. -/
theorem tryAll_found {σ : Type} {stepf : σ → Op → σ × List String} {okf : Rcd → List String → Bool} {depth : Nat}
    {st : σ} {pending : List Rcd} : ∀ (cands : List Rcd) (fuel : Nat),
      (search.tryAll stepf okf depth st pending cands fuel).1 = .found →
      ∃ c ∈ cands, okf c (stepf st c.op).2 = true ∧ ∃ fuel',
        (search stepf okf depth (stepf st c.op).1 (pending.filter fun d => d.line != c.line) fuel').1 = .found := by
  intro cands
  induction cands with
  | nil => intro fuel h; simp [search.tryAll.eq_1] at h
  | cons c rest ih =>
    intro fuel h
    have later := fun fuel h => (ih fuel h).imp fun _ => And.imp_left (List.mem_cons_of_mem c)
    rw [search.tryAll.eq_2] at h
    split at h
    · cases h
    · dsimp only at h
      split at h
      next hok =>
        split at h
        next hs => exact ⟨c, List.mem_cons_self, hok, _, congrArg Prod.fst hs⟩
        next => cases h
        next => exact later _ h
      next => exact later _ h

theorem search_sound {σ : Type} (stepf : σ → Op → σ × List String) (okf : Rcd → List String → Bool) :
    ∀ (depth : Nat) (st : σ) (pending : List Rcd) (fuel : Nat), DistinctLines pending →
      (search stepf okf depth st pending fuel).1 = .found → ∃ order, IsLin stepf okf st pending order := by
  intro depth
  induction depth with
  | zero => intro st pending fuel _ h; simp [search] at h
  | succ depth ih =>
    intro st pending fuel hd h
    rw [search.eq_2] at h
    by_cases hemp : pending.isEmpty = true
    · rw [List.isEmpty_iff.1 hemp]
      exact ⟨[], isLin_nil stepf okf st⟩
    · simp only [hemp] at h
      -- the candidates are the minimal pending calls; the one found heads the order found for the rest
      obtain ⟨c, hc, hok, _, hs⟩ := tryAll_found _ _ h
      obtain ⟨order, ho⟩ := ih _ _ _ (distinct_filter pending _ hd) hs
      exact ⟨c :: order, isLin_cons hd hc hok ho⟩

theorem linearize_sound {σ : Type} (stepf : σ → Op → σ × List String) (okf : Rcd → List String → Bool) (st0 : σ)
    (calls : List Rcd) (fuel : Nat) (hd : DistinctLines calls) (h : linearize stepf okf st0 calls fuel = .found) :
    ∃ order, IsLin stepf okf st0 calls order := by
  unfold linearize at h
  exact search_sound stepf okf _ _ _ _ hd h

/-- `view st k` is everything the operations on file id `k` can observe of `st`. -/
structure Local {σ V O : Type} (stepf : σ → Op → σ × O) (view : σ → Nat → V) (inv : σ → Prop) : Prop where
  inv_step : ∀ st op, inv st → inv (stepf st op).1
  /-- FRAME: a step on another id leaves the view of `k` unchanged -/
  frame : ∀ st op k, inv st → keyed op = true → opId op ≠ k → view (stepf st op).1 k = view st k
  /-- LOCALITY: output and new view of the step's own id depend on the old view of that id only -/
  loc : ∀ st1 st2 op, inv st1 → inv st2 → keyed op = true → view st1 (opId op) = view st2 (opId op) →
    (stepf st1 op).2 = (stepf st2 op).2 ∧ view (stepf st1 op).1 (opId op) = view (stepf st2 op).1 (opId op)

theorem commute_of_local {σ V O : Type} {stepf : σ → Op → σ × O} {view : σ → Nat → V} {inv : σ → Prop}
    (L : Local stepf view inv) (st : σ) (hI : inv st) (o1 o2 : Op) (h1 : keyed o1 = true) (h2 : keyed o2 = true)
    (hne : opId o1 ≠ opId o2) :
    (stepf st o1).2 = (stepf (stepf st o2).1 o1).2 ∧
    (stepf (stepf st o1).1 o2).2 = (stepf st o2).2 ∧
    ∀ k, view (stepf (stepf st o1).1 o2).1 k = view (stepf (stepf st o2).1 o1).1 k := by
  have hI1 := L.inv_step st o1 hI
  have hI2 := L.inv_step st o2 hI
  have hne' : opId o2 ≠ opId o1 := fun h => hne h.symm
  -- neither step touches the other's id, so each sees the view it would see alone
  have l1 := L.loc st (stepf st o2).1 o1 hI hI2 h1 (L.frame st o2 _ hI h2 hne').symm
  have l2 := L.loc (stepf st o1).1 st o2 hI1 hI h2 (L.frame st o1 _ hI h1 hne)
  refine ⟨l1.1, l2.1, fun k => ?_⟩
  by_cases hk1 : opId o1 = k
  · subst hk1
    rw [L.frame _ o2 _ hI1 h2 hne']
    exact l1.2
  · by_cases hk2 : opId o2 = k
    · subst hk2
      rw [L.frame _ o1 _ hI2 h1 hne]
      exact l2.2
    · rw [L.frame _ o2 _ hI1 h2 hk2, L.frame _ o1 _ hI h1 hk1, L.frame _ o1 _ hI2 h1 hk1, L.frame _ o2 _ hI h2 hk2]

theorem Local.mapOut {σ V O O' : Type} {stepf : σ → Op → σ × O} {view : σ → Nat → V} {inv : σ → Prop}
    (L : Local stepf view inv) (g : O → O') : Local (fun st op => ((stepf st op).1, g (stepf st op).2)) view inv where
  inv_step := L.inv_step
  frame := L.frame
  loc := fun st1 st2 op h1 h2 hk hv => ⟨congrArg g (L.loc st1 st2 op h1 h2 hk hv).1, (L.loc st1 st2 op h1 h2 hk hv).2⟩

/-- A run sees only the views of the ids it works on: from a state that agrees with `st1` on every id in `K`,
    the calls on ids in `K` replay as they do inside a run from `st1`. -/
theorem replays_filter {σ V : Type} {stepf : σ → Op → σ × List String} {view : σ → Nat → V} {inv : σ → Prop}
    (L : Local stepf view inv) (okf : Rcd → List String → Bool) (K : Nat → Bool) :
    ∀ (order : List Rcd) (st1 st2 : σ), inv st1 → inv st2 → (∀ c ∈ order, keyed c.op = true) →
      (∀ k, K k = true → view st2 k = view st1 k) → Replays stepf okf st1 order →
      Replays stepf okf st2 (order.filter fun c => K (opId c.op)) := by
  intro order
  induction order with
  | nil => intro _ _ _ _ _ _ _; trivial
  | cons c rest ih =>
    intro st1 st2 h1 h2 hk hv hr
    have hkc := hk c List.mem_cons_self
    have hk' := fun d hd => hk d (List.mem_cons_of_mem c hd)
    by_cases hKc : K (opId c.op) = true
    · -- a call on an id of `K`: both runs take it and see its id alike, the other ids of `K` are left alone
      rw [List.filter_cons_of_pos (p := fun c : Rcd => K (opId c.op)) hKc]
      have hl := L.loc st2 st1 c.op h2 h1 hkc (hv _ hKc)
      refine ⟨hl.1 ▸ hr.1, ih _ _ (L.inv_step _ _ h1) (L.inv_step _ _ h2) hk' (fun k hKk => ?_) hr.2⟩
      by_cases hka : opId c.op = k
      · exact hka ▸ hl.2
      · rw [L.frame st1 c.op k h1 hkc hka, L.frame st2 c.op k h2 hkc hka, hv k hKk]
    · -- a call elsewhere: only the run from `st1` takes it, and no id of `K` notices
      rw [List.filter_cons_of_neg (p := fun c : Rcd => K (opId c.op)) hKc]
      refine ih _ _ (L.inv_step _ _ h1) h2 hk' (fun k hKk => ?_) hr.2
      rw [L.frame st1 c.op k h1 hkc (fun e => hKc (e ▸ hKk)), hv k hKk]

def merge2 : List Rcd → List Rcd → List Rcd
  | [], B => B
  | a :: A, [] => a :: A
  | a :: A, b :: B => if a.inv ≤ b.inv then a :: merge2 A (b :: B) else b :: merge2 (a :: A) B
termination_by A B => A.length + B.length

theorem merge2_nil_right (A : List Rcd) : merge2 A [] = A := by
  cases A with
  | nil => exact merge2.eq_1 []
  | cons a A => exact merge2.eq_2 a A

theorem merge2_cons_le {a b : Rcd} (A B : List Rcd) (h : a.inv ≤ b.inv) :
    merge2 (a :: A) (b :: B) = a :: merge2 A (b :: B) := by
  rw [merge2, if_pos h]

theorem merge2_cons_gt {a b : Rcd} (A B : List Rcd) (h : ¬ a.inv ≤ b.inv) :
    merge2 (a :: A) (b :: B) = b :: merge2 (a :: A) B := by
  rw [merge2, if_neg h]

theorem merge2_perm (A B : List Rcd) : (merge2 A B).Perm (A ++ B) := by
  induction A, B using merge2.induct with
  | case1 B => rw [merge2.eq_1]; exact .refl _
  | case2 a A => rw [merge2.eq_2, List.append_nil]
  | case3 a A b B h ih => rw [merge2_cons_le A B h]; exact ih.cons a
  | case4 a A b B h ih => rw [merge2_cons_gt A B h]; exact (ih.cons b).trans List.perm_middle.symm

theorem inv_lt_ret_of_le {x y : Rcd} {X Y : List Rcd} (hxy : x.inv ≤ y.inv) (sy : y.inv < y.ret)
    (hX : ∀ d ∈ X, x.inv < d.ret) (hY : ∀ d ∈ Y, y.inv < d.ret) : ∀ d ∈ X ++ y :: Y, x.inv < d.ret :=
  List.forall_mem_append.2 ⟨hX, List.forall_mem_cons.2
    ⟨Nat.lt_of_le_of_lt hxy sy, fun d h => Nat.lt_of_le_of_lt hxy (hY d h)⟩⟩

theorem merge2_rt (A B : List Rcd) (sA : ∀ c ∈ A, c.inv < c.ret) (sB : ∀ c ∈ B, c.inv < c.ret)
    (rA : RealTimeOk A) (rB : RealTimeOk B) : RealTimeOk (merge2 A B) := by
  induction A, B using merge2.induct with
  | case1 B => rw [merge2.eq_1]; exact rB
  | case2 a A => rw [merge2.eq_2]; exact rA
  | case3 a A b B h ih =>
    rw [merge2_cons_le A B h]
    have rA' := List.pairwise_cons.1 rA
    refine List.pairwise_cons.2 ⟨fun d hd => ?_, ih (fun c hc => sA c (List.mem_cons_of_mem _ hc)) sB rA'.2 rB⟩
    exact inv_lt_ret_of_le h (sB b List.mem_cons_self) rA'.1 (List.pairwise_cons.1 rB).1 d
      ((merge2_perm A (b :: B)).mem_iff.1 hd)
  | case4 a A b B h ih =>
    rw [merge2_cons_gt A B h]
    have rB' := List.pairwise_cons.1 rB
    refine List.pairwise_cons.2 ⟨fun d hd => ?_, ih sA (fun c hc => sB c (List.mem_cons_of_mem _ hc)) rA rB'.2⟩
    exact inv_lt_ret_of_le (Nat.le_of_not_le h) (sA a List.mem_cons_self) rB'.1 (List.pairwise_cons.1 rA).1 d
      (List.perm_append_comm.mem_iff.1 ((merge2_perm (a :: A) B).mem_iff.1 hd))

/-- orders over disjoint sets of ids that both replay from `st` replay merged: a step on one side leaves every
    id of the other side as it was -/
theorem replays_merge2 {σ V : Type} {stepf : σ → Op → σ × List String} {view : σ → Nat → V} {inv : σ → Prop}
    (L : Local stepf view inv) (okf : Rcd → List String → Bool) (K : Nat → Bool) (A B : List Rcd) :
    ∀ (st : σ), inv st → (∀ a ∈ A, keyed a.op = true) → (∀ b ∈ B, keyed b.op = true) →
      (∀ a ∈ A, K (opId a.op) = true) → (∀ b ∈ B, (!K (opId b.op)) = true) →
      Replays stepf okf st A → Replays stepf okf st B → Replays stepf okf st (merge2 A B) := by
  induction A, B using merge2.induct with
  | case1 B => intro _ _ _ _ _ _ _ hB; rw [merge2.eq_1]; exact hB
  | case2 a A => intro _ _ _ _ _ _ hA _; rw [merge2.eq_2]; exact hA
  | case3 a A b B h ih =>
    intro st hI hkA hkB hKA hKB hA hB
    rw [merge2_cons_le A B h]
    refine ⟨hA.1, ih _ (L.inv_step _ _ hI) (fun x hx => hkA x (List.mem_cons_of_mem _ hx)) hkB
      (fun x hx => hKA x (List.mem_cons_of_mem _ hx)) hKB hA.2 ?_⟩
    rw [← List.filter_eq_self.2 hKB]
    refine replays_filter L okf (fun k => !K k) _ st _ hI (L.inv_step _ _ hI) hkB (fun k hKk => ?_) hB
    exact L.frame st a.op k hI (hkA a List.mem_cons_self) fun e => by simp [← e, hKA a List.mem_cons_self] at hKk
  | case4 a A b B h ih =>
    intro st hI hkA hkB hKA hKB hA hB
    rw [merge2_cons_gt A B h]
    refine ⟨hB.1, ih _ (L.inv_step _ _ hI) hkA (fun x hx => hkB x (List.mem_cons_of_mem _ hx)) hKA
      (fun x hx => hKB x (List.mem_cons_of_mem _ hx)) ?_ hB.2⟩
    rw [← List.filter_eq_self.2 hKA]
    refine replays_filter L okf K _ st _ hI (L.inv_step _ _ hI) hkA (fun k hKk => ?_) hA
    exact L.frame st b.op k hI (hkB b List.mem_cons_self) fun e => by simpa [e, hKk] using hKB b List.mem_cons_self

theorem subHistory_filter_ne (cs : List Rcd) (k0 k : Nat) :
    subHistory (cs.filter fun c => !(opId c.op == k0)) k = if k = k0 then [] else subHistory cs k := by
  unfold subHistory
  rw [List.filter_filter]
  by_cases hk : k = k0
  · rw [if_pos hk, hk]
    exact List.filter_eq_nil_iff.2 fun c _ => by rw [Bool.and_not_self]; exact Bool.false_ne_true
  · rw [if_neg hk]
    refine List.filter_congr fun c _ => ?_
    -- a call on `k` is not on `k0`
    cases h : opId c.op == k with
    | false => rfl
    | true => rw [beq_eq_false_iff_ne.2 (beq_iff_eq.1 h ▸ hk)]; rfl

/-- COMPOSITION: if every per-key sub-history has a linearization, so has the whole history -/
theorem compose {σ V : Type} {stepf : σ → Op → σ × List String} {view : σ → Nat → V} {inv : σ → Prop}
    (L : Local stepf view inv) (okf : Rcd → List String → Bool) (st0 : σ) (hI : inv st0) (calls : List Rcd)
    (hs : ∀ c ∈ calls, c.inv < c.ret) (hk : ∀ c ∈ calls, keyed c.op = true)
    (hper : ∀ k, ∃ o, IsLin stepf okf st0 (subHistory calls k) o) :
    ∃ order, IsLin stepf okf st0 calls order := by
  induction hn : calls.length using Nat.strongRecOn generalizing calls with
  | _ n ih =>
    cases calls with
    | nil => exact ⟨[], isLin_nil _ _ _⟩
    | cons c0 cs =>
      -- set aside the calls on the first call's id `k0`, linearize the others, and merge the order of `k0` in
      let q : Rcd → Bool := fun c => opId c.op == opId c0.op
      have hlen : ((c0 :: cs).filter (!q ·)).length < n := by
        rw [List.filter_cons_of_neg (by simp [q]), ← hn]
        exact Nat.lt_succ_of_le (List.length_filter_le _ cs)
      obtain ⟨A, hA⟩ := hper (opId c0.op)
      obtain ⟨B, hB⟩ := ih _ hlen ((c0 :: cs).filter (!q ·)) (fun c hc => hs c (List.mem_filter.1 hc).1)
        (fun c hc => hk c (List.mem_filter.1 hc).1) (fun k => by
          rw [subHistory_filter_ne]
          split
          · exact ⟨[], isLin_nil _ _ _⟩
          · exact hper k) rfl
      have hmA : ∀ a ∈ A, a ∈ c0 :: cs ∧ q a = true := fun a ha => List.mem_filter.1 (hA.perm.mem_iff.1 ha)
      have hmB : ∀ b ∈ B, b ∈ c0 :: cs ∧ (!q b) = true := fun b hb => List.mem_filter.1 (hB.perm.mem_iff.1 hb)
      exact ⟨merge2 A B, (merge2_perm _ _).trans ((hA.perm.append hB.perm).trans (List.filter_append_perm _ _)),
        merge2_rt _ _ (fun c hc => hs c (hmA c hc).1) (fun c hc => hs c (hmB c hc).1) hA.rt hB.rt,
        replays_merge2 L okf (· == opId c0.op) A B st0 hI (fun a ha => hk a (hmA a ha).1) (fun b hb => hk b (hmB b hb).1)
          (fun a ha => (hmA a ha).2) (fun b hb => (hmB b hb).2) hA.replays hB.replays⟩

/-- converse of `compose`: a linearization of the whole history projects to one of every sub-history -/
theorem project {σ V : Type} {stepf : σ → Op → σ × List String} {view : σ → Nat → V} {inv : σ → Prop}
    (L : Local stepf view inv) (okf : Rcd → List String → Bool) (st0 : σ) (hI : inv st0) (calls order : List Rcd)
    (hk : ∀ c ∈ calls, keyed c.op = true) (h : IsLin stepf okf st0 calls order) (k : Nat) :
    IsLin stepf okf st0 (subHistory calls k) (subHistory order k) :=
  ⟨h.perm.filter _, List.Pairwise.sublist List.filter_sublist h.rt,
    replays_filter L okf (· == k) order st0 st0 hI hI (fun c hc => hk c (h.perm.mem_iff.1 hc)) (fun _ _ => rfl) h.replays⟩

theorem opId_mem_keysOf (cs : List Rcd) : ∀ c ∈ cs, opId c.op ∈ keysOf cs := by
  unfold keysOf
  -- the fold only appends: what the accumulator holds stays, and a call's id is in it once the call has had its turn
  have gen : ∀ (l : List Rcd) (acc : List Nat),
      (∀ k ∈ acc, k ∈ l.foldl (fun acc c => if acc.contains (opId c.op) then acc else acc ++ [opId c.op]) acc) ∧
      (∀ c ∈ l, opId c.op ∈ l.foldl (fun acc c => if acc.contains (opId c.op) then acc else acc ++ [opId c.op]) acc) := by
    intro l
    induction l with
    | nil => intro acc; exact ⟨fun k hk => hk, fun c hc => by cases hc⟩
    | cons x xs ih =>
      intro acc
      simp only [List.foldl_cons]
      by_cases hx : acc.contains (opId x.op) = true
      · simp only [hx, if_true]
        exact ⟨(ih acc).1, List.forall_mem_cons.2 ⟨(ih acc).1 _ (List.contains_iff_mem.1 hx), (ih acc).2⟩⟩
      · simp only [hx]
        exact ⟨fun k hk => (ih _).1 k (List.mem_append_left _ hk),
          List.forall_mem_cons.2 ⟨(ih _).1 _ List.mem_concat_self, (ih _).2⟩⟩
  exact (gen cs []).2

theorem subHistory_nil_of_not_mem (cs : List Rcd) (k : Nat) (h : k ∉ keysOf cs) : subHistory cs k = [] := by
  unfold subHistory
  apply List.filter_eq_nil_iff.2
  intro c hc hk
  exact h (beq_iff_eq.mp hk ▸ opId_mem_keysOf cs c hc)

end SwV.Lemmas.C38
