/-
C05 — simulation of whole operation sequences on the CompactMap model against the reference map
of SwV/Spec/C05.lean (`step_sim`, `run_sim`, `run_results`), under a decidable admissibility predicate
(`admFrom`, replaying the model) that excludes the recorded aliasing and stale-high-byte findings.  It excludes a little more than
those: a Get/Delete of a key 2^32 or more above the start of the last section starting at or below it
is inadmissible also where the wrapped sectional key is not stored, or where that section is the last one, full and
ends below the key, so that it is not consulted.  A result the simulation allows (`resOk`) is one the
Spec's judges accept or, for a Delete, report under the recorded negative-size class (`judges_accept`).
-/
import SwV.Model.C05
import SwV.Spec.C05
import SwV.Lemmas.C05c
namespace SwV.Lemmas.C05
open SwV.Model.C05 SwV.Spec.C05

/-- a stored value as the reference sees it: (full offset, size) -/
def absV (v : Old) : Nat × Int := (fullOff v.1 v.2.1, v.2.2)

/-- abstraction relation: the denoted map, read through `absV`, is the reference map -/
def Abs (cm : List Sec) (r : Ref) : Prop := ∀ k, (denote k cm).map absV = r.get k

inductive Op where
  | set (key off hi : Nat) (size : Int)
  | del (key : Nat)
  | get (key : Nat)
deriving DecidableEq, Repr

/-- the operation hits neither of these recorded findings in state `cm`:
    * `set` does not overwrite an OVERFLOW entry whose `OffsetHigher` differs from the new one
      (CompactSection.setOverflowEntry/stale-offset-high-byte; never the case with 4-byte offsets);
    * `del`/`get` address a key within 2^32 of the start of the last section starting at or below it,
      the one consulted for it if any is
      (CompactMap.Get/returns-entry-of-other-key, CompactMap.Delete/deletes-entry-of-other-key). -/
def opOk (cm : List Sec) : Op → Bool
  | .set key _ hi _ => (match ovfAt key cm with | some e => decide (e.hi = hi) | none => true)
  | .del key => noAlias key cm
  | .get key => noAlias key cm

def applyL (batch : Nat) (cm : List Sec) : Op → List Sec
  | .set key off hi size => (setL batch key off hi size cm).1
  | .del key => (delL batch key cm).1
  | .get _ => cm

def applyR (r : Ref) : Op → Ref
  | .set key off hi size => (r.set key (fullOff off hi) size).1
  | .del key => (r.delete key).1
  | .get _ => r

def execL (batch : Nat) (cm : List Sec) (ops : List Op) : List Sec := ops.foldl (applyL batch) cm
def execR (r : Ref) (ops : List Op) : Ref := ops.foldl applyR r

/-- every operation of the sequence is admissible in the model state it is applied to -/
def admFrom (batch : Nat) : List Sec → List Op → Bool
  | _, [] => true
  | cm, op :: ops => opOk cm op && admFrom batch (applyL batch cm op) ops

/-- what the implementation's result must be, given the reference:
    * `Set` returns the previous binding ((0,0) when there was none);
    * `Delete` returns the removed size, 0 when nothing live was removed — or, for what it is
      (finding CompactSection.Delete/negative-size-on-repeated-delete), the stored NEGATIVE size of an
      already deleted entry;
    * `Get` returns the binding under the requested key. -/
def resOk (batch : Nat) (cm : List Sec) (r : Ref) : Op → Prop
  | .set key off hi size =>
    (fullOff (setL batch key off hi size cm).2.1 (setL batch key off hi size cm).2.2.1,
      (setL batch key off hi size cm).2.2.2) = (r.set key (fullOff off hi) size).2
  | .del key =>
    (delL batch key cm).2 = (r.delete key).2 ∨
    ((delL batch key cm).2 < 0 ∧ (r.delete key).2 = 0 ∧ ∃ o, r.get key = some (o, (delL batch key cm).2))
  | .get key =>
    (getL batch key cm).map (fun v => (v.key, fullOff v.off v.hi, v.size)) =
      (r.get key).map (fun p => (key, p.1, p.2))

theorem ref_get_cons (r : Ref) (k o : Nat) (s : Int) (k' : Nat) :
    Ref.get ((k, o, s) :: r) k' = if k' = k then some (o, s) else Ref.get r k' := by
  unfold Ref.get
  rw [List.find?_cons]
  by_cases h : k' = k
  · subst h; simp
  · have : ¬ (k == k') = true := mt eq_of_beq (Ne.symm h)
    simp [h, this]

/-- `Delete` on a reference binding: a positive size is negated -/
def negR (p : Nat × Int) : Nat × Int := if p.2 > 0 then (p.1, -p.2) else p

/-- the size `Delete` removes from a reference binding -/
def wantDel (g : Option (Nat × Int)) : Int :=
  match g with
  | some (_, s) => if s > 0 then s else 0
  | none => 0

theorem ref_delete_none (r : Ref) (k : Nat) (h : r.get k = none) : r.delete k = (r, 0) := by
  unfold Ref.delete; rw [h]

theorem ref_delete_some (r : Ref) (k o : Nat) (s : Int) (h : r.get k = some (o, s)) :
    r.delete k = if s > 0 then ((k, o, -s) :: r, s) else (r, 0) := by
  unfold Ref.delete; simp only [h]

theorem ref_delete_get (r : Ref) (key k : Nat) :
    (r.delete key).1.get k = if k = key then (r.get key).map negR else r.get k := by
  -- where the reference is left alone, the binding of `key` is one that `negR` does not change
  have same : r.get k = if k = key then r.get key else r.get k := ite_self_eq r.get key rfl k
  cases hg : r.get key with
  | none => rw [ref_delete_none r key hg]; rw [hg] at same; exact same
  | some p =>
    obtain ⟨o, s⟩ := p
    rw [ref_delete_some r key o s hg]
    show _ = if k = key then some (if s > 0 then (o, -s) else (o, s)) else r.get k
    by_cases hp : s > 0
    · rw [if_pos hp, if_pos hp]; exact ref_get_cons r key o (-s) k
    · rw [if_neg hp, if_neg hp]; rw [hg] at same; exact same

theorem ref_delete_snd (r : Ref) (key : Nat) : (r.delete key).2 = wantDel (r.get key) := by
  cases hg : r.get key with
  | none => rw [ref_delete_none r key hg]; rfl
  | some p =>
    obtain ⟨o, s⟩ := p
    rw [ref_delete_some r key o s hg]
    exact apply_ite Prod.snd ..

theorem absV_negV (v : Old) : absV (negV v) = negR (absV v) := by
  -- on a variable `v` the kernel compares `v.2` with `absV v` by unfolding `fullOff`, down to its numeral
  obtain ⟨a, b, c⟩ := v
  exact apply_ite absV ..

theorem abs_nil : Abs [] [] := by intro k; simp [denote, sel, Ref.get]

theorem Abs.update {cm cm' : List Sec} {r r' : Ref} {key : Nat} {v : Option Old} (habs : Abs cm r)
    (hc : ∀ k, denote k cm' = if k = key then v else denote k cm)
    (hr : ∀ k, r'.get k = if k = key then v.map absV else r.get k) : Abs cm' r' := by
  intro k
  rw [hc, hr, apply_ite (Option.map absV), habs k]

theorem step_sim (batch : Nat) (cm : List Sec) (r : Ref) (op : Op)
    (hinv : MapInv batch cm) (habs : Abs cm r) (hok : opOk cm op = true) :
    MapInv batch (applyL batch cm op) ∧ Abs (applyL batch cm op) (applyR r op) ∧ resOk batch cm r op := by
  cases op with
  | set key off hi size =>
    obtain ⟨i1, _, i3, i4⟩ := setL_refines batch key off hi size cm hinv
    have hhi : hiEff key hi cm = hi := by
      have hok' : (match ovfAt key cm with | some e => decide (e.hi = hi) | none => true) = true := hok
      unfold hiEff
      cases ho : ovfAt key cm with
      | none => rfl
      | some e => rw [ho] at hok'; exact of_decide_eq_true hok'
    rw [hhi] at i3
    refine ⟨i1, habs.update i3 fun k => ref_get_cons r key (fullOff off hi) size k, ?_⟩
    show (fullOff _ _, _) = (r.get key).getD (0, 0)
    rw [i4, ← habs key]
    cases denote key cm <;> rfl
  | del key =>
    obtain ⟨i1, _, i3, i4⟩ := delL_refines batch key cm hinv hok
    have hg : r.get key = (denote key cm).map absV := (habs key).symm
    refine ⟨i1, habs.update i3 fun k => ?_, ?_⟩
    · rw [Option.map_map, show absV ∘ negV = negR ∘ absV from funext absV_negV, ← Option.map_map, ← hg]
      exact ref_delete_get r key k
    · show _ = (r.delete key).2 ∨ (_ < 0 ∧ (r.delete key).2 = 0 ∧ ∃ o, r.get key = some (o, _))
      rw [ref_delete_snd, hg, i4]
      cases ho : ovfAt key cm with
      | none => left; cases denote key cm <;> rfl
      | some e =>
        -- the overflow entry is the binding; `Delete` returns its size as stored
        rw [ovfAt_denote key cm e ho]
        show e.size = (if e.size > 0 then e.size else 0) ∨
          (e.size < 0 ∧ (if e.size > 0 then e.size else 0) = 0 ∧ ∃ o, some (absV (valOf e)) = some (o, e.size))
        by_cases hp : e.size > 0
        · rw [if_pos hp]; exact Or.inl rfl
        · rw [if_neg hp]
          by_cases hz : e.size = 0
          · exact Or.inl hz
          · exact Or.inr ⟨by omega, rfl, _, rfl⟩
  | get key =>
    refine ⟨hinv, habs, ?_⟩
    show (getL batch key cm).map (fun v => (v.key, fullOff v.off v.hi, v.size)) =
      (r.get key).map (fun p => (key, p.1, p.2))
    rw [getL_refines batch key cm hinv hok, ← habs key]
    cases denote key cm <;> rfl

theorem run_sim (batch : Nat) : ∀ (ops : List Op) (cm : List Sec) (r : Ref),
    MapInv batch cm → Abs cm r → admFrom batch cm ops = true →
    MapInv batch (execL batch cm ops) ∧ Abs (execL batch cm ops) (execR r ops) := by
  intro ops
  induction ops with
  | nil => intro cm r h1 h2 _; exact ⟨h1, h2⟩
  | cons op ops ih =>
    intro cm r h1 h2 h3
    simp only [admFrom, Bool.and_eq_true] at h3
    obtain ⟨s1, s2, _⟩ := step_sim batch cm r op h1 h2 h3.1
    exact ih _ _ s1 s2 h3.2

theorem admFrom_append (batch : Nat) : ∀ (a b : List Op) (cm : List Sec),
    admFrom batch cm (a ++ b) = (admFrom batch cm a && admFrom batch (execL batch cm a) b) := by
  intro a
  induction a with
  | nil => intro b cm; simp [admFrom, execL]
  | cons op a ih =>
    intro b cm
    simp only [List.cons_append, admFrom, ih, execL, List.foldl_cons, Bool.and_assoc]

theorem admFrom_prefix (batch : Nat) (a b : List Op) (cm : List Sec) (h : admFrom batch cm (a ++ b) = true) :
    admFrom batch cm a = true := by
  rw [admFrom_append, Bool.and_eq_true] at h; exact h.1

theorem run_results (batch : Nat) (pre : List Op) (op : Op) (h : admFrom batch [] (pre ++ [op]) = true) :
    Abs (execL batch [] pre) (execR [] pre) ∧
    resOk batch (execL batch [] pre) (execR [] pre) op ∧
    Abs (applyL batch (execL batch [] pre) op) (applyR (execR [] pre) op) := by
  rw [admFrom_append, Bool.and_eq_true] at h
  obtain ⟨h1, h2⟩ := h
  obtain ⟨m1, m2⟩ := run_sim batch pre [] [] trivial abs_nil h1
  simp only [admFrom, Bool.and_true] at h2
  obtain ⟨_, s2, s3⟩ := step_sim batch _ _ op m1 m2 h2
  exact ⟨m2, s3, s2⟩

/-- the Spec's judges, applied to the model's result of `op` in state `cm` with reference `r`,
    accept (Delete: or report the known negative-size class) -/
def judgesAccept (batch : Nat) (cm : List Sec) (r : Ref) : Op → Prop
  | .set key off hi size =>
    setJudge (r.get key) (fullOff (setL batch key off hi size cm).2.1 (setL batch key off hi size cm).2.2.1)
      (setL batch key off hi size cm).2.2.2 = none
  | .del key =>
    delJudge (r.get key) (delL batch key cm).2 = none ∨
    delJudge (r.get key) (delL batch key cm).2 = some "CompactSection.Delete/negative-size-on-repeated-delete"
  | .get key =>
    getJudge key (r.get key) ((getL batch key cm).map (fun v => (v.key, fullOff v.off v.hi, v.size))) = none

theorem judges_accept (batch : Nat) (cm : List Sec) (r : Ref) (op : Op) (h : resOk batch cm r op) :
    judgesAccept batch cm r op := by
  cases op with
  | set key off hi size =>
    simp only [judgesAccept]
    have h' : (fullOff (setL batch key off hi size cm).2.1 (setL batch key off hi size cm).2.2.1,
      (setL batch key off hi size cm).2.2.2) = (r.get key).getD (0, 0) := h
    unfold setJudge
    rw [← h']
    simp
  | del key =>
    -- the judge compares with the size a reference delete removes, which is what `Ref.delete` returns
    have h' : (delL batch key cm).2 = (r.delete key).2 ∨
      ((delL batch key cm).2 < 0 ∧ (r.delete key).2 = 0 ∧ ∃ o, r.get key = some (o, (delL batch key cm).2)) := h
    rw [ref_delete_snd] at h'
    by_cases he : (delL batch key cm).2 = wantDel (r.get key)
    · exact Or.inl (if_pos he)
    · rcases h' with h' | ⟨h1, h2, _⟩
      · exact absurd h' he
      · exact Or.inr ((if_neg he).trans (if_pos ⟨h2, h1⟩))
  | get key =>
    simp only [judgesAccept]
    have h' : (getL batch key cm).map (fun v => (v.key, fullOff v.off v.hi, v.size)) =
      (r.get key).map (fun p => (key, p.1, p.2)) := h
    rw [h']
    unfold getJudge
    cases r.get key with
    | none => rfl
    | some p => obtain ⟨o, s⟩ := p; simp

end SwV.Lemmas.C05
