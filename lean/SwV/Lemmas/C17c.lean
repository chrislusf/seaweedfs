/-
Over a sorted list of non-empty views inside [a, b) that covers every position of [a, b) the write loop of
StreamContent has nothing to fill in: it writes the views back to back.
-/
import SwV.Lemmas.C17b
namespace SwV.Lemmas.C17
open SwV.Model.C17

theorem streamLoop_dense (data : Nat → Nat → Nat) (b : Nat) : ∀ (ws : List View) (a : Nat), VSorted ws →
    (∀ w ∈ ws, 0 < w.size ∧ a ≤ w.logic ∧ w.logic + w.size ≤ b) →
    (∀ p, a ≤ p → p < b → ∃ w ∈ ws, vcov w p) →
    streamLoop data b ws a = ws.flatMap fun v => (List.range' v.off v.size).map (data v.fid)
  | [], a, _, _, hc => by
    have : b ≤ a := Nat.le_of_not_lt fun h => by
      obtain ⟨w, hw, _⟩ := hc a (Nat.le_refl _) h
      cases hw
    show List.replicate (b - a) 0 = []
    rw [Nat.sub_eq_zero_of_le this]
    rfl
  | w :: ws, a, hs, hw, hc => by
    have hs' := List.pairwise_cons.1 hs
    obtain ⟨hpos, hlo, hhi⟩ := hw w List.mem_cons_self
    -- a is covered, and only the first view can cover it
    have hwa : w.logic = a := by
      obtain ⟨x, hx, hcx⟩ := hc a (Nat.le_refl _) (by omega)
      have := vcov_head_le hs hx hcx
      omega
    have ih := streamLoop_dense data b ws (w.logic + w.size) hs'.2
      (fun x hx => ⟨(hw x (List.mem_cons_of_mem _ hx)).1, hs'.1 x hx, (hw x (List.mem_cons_of_mem _ hx)).2.2⟩)
      (fun p hp1 hp2 => by
        obtain ⟨x, hx, hcx⟩ := hc p (by omega) hp2
        rcases List.mem_cons.1 hx with rfl | hx
        · exact absurd hcx.2 (Nat.not_lt.2 hp1)
        · exact ⟨x, hx, hcx⟩)
    unfold streamLoop
    rw [Nat.max_eq_right hlo, ih, hwa, Nat.sub_self]
    rfl

end SwV.Lemmas.C17
