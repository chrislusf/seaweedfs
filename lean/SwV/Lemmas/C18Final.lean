/-
C18 — the last step of moveSelfEntry ("delete old entry", `DeleteEntryMetaAndData(oldPath, isRecursive = false, …)`):
whenever a move of a non-root `old ≠ new` reports success, that step removed exactly ONE stored path — the source — from the state
reached after the target was created and the listed children were moved. Anything still (or again) listed below a
source directory makes the move fail instead.

Also `moveEntryL_id`: the model of a rename with a concurrent create (Model/C18Late) is `moveEntry` when its hook does nothing.
-/
import SwV.Model.C18
import SwV.Model.C18Late
import SwV.Lemmas.C18
namespace SwV.Lemmas.C18
open SwV.Model.C18

/-- the state of `moveEntry (f+1) s old e new` just before its final "delete old entry": the target created, the
    listed children moved -/
def beforeFinalDelete (f : Nat) (s : St) (old : RPath) (e : Entry) (new : RPath) : St :=
  match createEntry s new { e with hl := 0, cnt := 0 } false with
  | (s1, _, _) =>
    if e.isDir then ((children s1 old).foldl (moveStep (moveEntry f) old new) (s1, .ok, [])).1 else s1

theorem deleteEntry_nonrec_ok {s s3 : St} {n : String} {par : RPath} {d : List Nat}
    (h : deleteEntry s (n :: par) false false = (s3, Res.ok, d)) :
    (∃ e', find s (n :: par) = some e' ∧ (e'.isDir = true → children s (n :: par) = [])) ∧
    ∀ x, x ∈ s3.ents ↔ x ∈ s.ents ∧ x.1 ≠ n :: par := by
  cases hf : find s (n :: par) with
  | none =>
    rw [deleteEntry_notfound false false hf] at h
    cases h
  | some e' =>
    have hk : e'.isDir = true → children s (n :: par) = [] := by
      intro hd
      cases hc : children s (n :: par) with
      | nil => rfl
      | cons a t =>
        rw [deleteEntry_refused false hf hd (hc ▸ List.cons_ne_nil a t)] at h
        cases h
    rw [deleteEntry_childless false false hf hk] at h
    cases h
    exact ⟨⟨e', rfl, hk⟩, fun x => by rw [deleteOne_ents, mem_erase]⟩

theorem moveEntry_ok_final_delete (f : Nat) (s : St) (n : String) (par new : RPath) (e : Entry) (s3 : St) (q : List Nat)
    (hne : n :: par ≠ new) (h : moveEntry (f + 1) s (n :: par) e new = (s3, Res.ok, q)) :
    (∃ e', find (beforeFinalDelete f s (n :: par) e new) (n :: par) = some e' ∧
      (e'.isDir = true → children (beforeFinalDelete f s (n :: par) e new) (n :: par) = [])) ∧
    ∀ x, x ∈ s3.ents ↔ x ∈ (beforeFinalDelete f s (n :: par) e new).ents ∧ x.1 ≠ n :: par := by
  rw [moveEntry_succ, if_neg hne] at h
  unfold strip at h
  unfold beforeFinalDelete
  generalize createEntry s new { e with hl := 0, cnt := 0 } false = c at h ⊢
  rcases c with ⟨s1, r1, q1⟩
  cases r1 with
  | ok =>
    dsimp only at h ⊢
    -- `beforeFinalDelete` takes the state inside the `if`, `moveEntry` outside it
    have hs2 : (if e.isDir then ((children s1 (n :: par)).foldl (moveStep (moveEntry f) (n :: par) new) (s1, Res.ok, [])).1
        else s1) = (if e.isDir then (children s1 (n :: par)).foldl (moveStep (moveEntry f) (n :: par) new) (s1, Res.ok, [])
        else (s1, Res.ok, [])).1 := Eq.symm (apply_ite Prod.fst ..)
    rw [hs2]
    generalize (if e.isDir then (children s1 (n :: par)).foldl (moveStep (moveEntry f) (n :: par) new) (s1, Res.ok, [])
      else (s1, Res.ok, [])) = m at h ⊢
    rcases m with ⟨s2, r2, q2⟩
    cases r2 with
    | ok =>
      dsimp only at h ⊢
      rcases hdl : deleteEntry s2 (n :: par) false false with ⟨s4, r4, d4⟩
      rw [hdl] at h
      cases r4 with
      | ok => cases h; exact deleteEntry_nonrec_ok hdl
      | _ => cases h
    | _ => cases h
  | _ => cases h

/-- the model of a rename with a concurrent create (`moveEntryL`, trace op `renamelate`) is `moveEntry` plus the hook:
    with the identity as hook it is `moveEntry` -/
theorem moveEntryL_id (trig : RPath) : ∀ f, moveEntryL trig id f = moveEntry f := by
  intro f
  induction f with
  | zero => funext s old e new; rfl
  | succ f ih =>
    funext s old e new
    rw [moveEntryL, moveEntry, ih]
    -- what is left differs in `if old = trig then id s3 else s3` for `s3`
    simp only [id, ite_self]
    rfl

end SwV.Lemmas.C18
