/-
C05 — the section list (`CompactMap`) refines a map key ↦ (OffsetLower, OffsetHigher, Size):
section selection (`binarySearchCompactSection`), the map invariant, the denotation, and the
refinement theorems of `setL`, `delL`, `getL`.

`setL`, `delL`, `getL` and the selection `sel` are one recursion, `walk`: a key below the head's start
stops it; a key at or above the start of the following section moves on; otherwise the head is the
section consulted.  Each of the four is `walk` with its own answers (`setL_eq_walk` …), the three cases
of `walk` are stated with hypotheses about `nextStart rest`, so that a proof follows the walk without
looking at the shape of `rest`, and `walk_ind` is the induction along it, on which the refinement
theorems rest.
-/
import SwV.Model.C05
import SwV.Lemmas.C05b
namespace SwV.Lemmas.C05
open SwV.Model.C05

abbrev nextStart (l : List Sec) : Option Nat := l.head?.map (·.start)

/-- the recursion of `binarySearchCompactSection` and of the operations built on it: `above` answers
    for a list that is empty or starts above `k`, `here s rest` for the section consulted, and `cons`
    puts a head that was passed back in front of the answer of the tail -/
def walk {β : Type} (above : List Sec → β) (here : Sec → List Sec → β) (cons : Sec → β → β) (k : Nat) :
    List Sec → β
  | [] => above []
  | s :: rest =>
    if k < s.start then above (s :: rest)
    else match rest with
      | [] => here s []
      | t :: _ => if t.start ≤ k then cons s (walk above here cons k rest) else here s rest

theorem walk_cases (k : Nat) (s : Sec) (rest : List Sec) :
    k < s.start ∨ (¬ k < s.start ∧ ∃ n, nextStart rest = some n ∧ n ≤ k) ∨
    (¬ k < s.start ∧ ∀ n, nextStart rest = some n → k < n) := by
  by_cases h : k < s.start
  · exact Or.inl h
  · cases hn : nextStart rest with
    | none => exact Or.inr (Or.inr ⟨h, fun _ e => nomatch e⟩)
    | some n =>
      by_cases hle : n ≤ k
      · exact Or.inr (Or.inl ⟨h, n, rfl, hle⟩)
      · exact Or.inr (Or.inr ⟨h, fun m e => Option.some.inj e ▸ Nat.lt_of_not_le hle⟩)

theorem walk_ind {motive : List Sec → Prop} (k : Nat)
    (above : ∀ l, (∀ n, nextStart l = some n → k < n) → motive l)
    (next : ∀ s rest n, ¬ k < s.start → nextStart rest = some n → n ≤ k → motive rest → motive (s :: rest))
    (here : ∀ s rest, ¬ k < s.start → (∀ n, nextStart rest = some n → k < n) → motive (s :: rest))
    (l : List Sec) : motive l := by
  induction l with
  | nil => exact above [] fun _ e => nomatch e
  | cons s rest ih =>
    rcases walk_cases k s rest with hlt | ⟨hlt, n, hn, hle⟩ | ⟨hlt, hn⟩
    · exact above _ fun _ e => Option.some.inj e ▸ hlt
    · exact next s rest n hlt hn hle ih
    · exact here s rest hlt hn

section walk
variable {β : Type} {above : List Sec → β} {here : Sec → List Sec → β} {cons : Sec → β → β} {k : Nat}
  {s : Sec} {rest : List Sec}

theorem walk_lt (h : k < s.start) : walk above here cons k (s :: rest) = above (s :: rest) := by
  unfold walk; rw [if_pos h]

theorem walk_above {l : List Sec} (hl : ∀ n, nextStart l = some n → k < n) :
    walk above here cons k l = above l := by
  cases l with
  | nil => rfl
  | cons t l' => exact walk_lt (hl _ rfl)

theorem walk_next (h : ¬ k < s.start) {n : Nat} (hn : nextStart rest = some n) (hle : n ≤ k) :
    walk above here cons k (s :: rest) = cons s (walk above here cons k rest) := by
  cases rest with
  | nil => cases hn
  | cons t rest' =>
    cases hn
    rw [walk, if_neg h]; exact if_pos hle

theorem walk_here (h : ¬ k < s.start) (hn : ∀ n, nextStart rest = some n → k < n) :
    walk above here cons k (s :: rest) = here s rest := by
  cases rest with
  | nil => unfold walk; rw [if_neg h]
  | cons t rest' => rw [walk, if_neg h]; exact if_neg (Nat.not_le.mpr (hn _ rfl))

end walk

/-- `Set`, `Delete` and `Get` go into the section consulted unless it is the last one, full, and the
    key lies beyond its `stop` (`binarySearchCompactSection` returns −4); `Set` also asks
    `key - start ≤ SectionalNeedleIdLimit` -/
def fits (batch key : Nat) (s : Sec) (rest : List Sec) : Prop := rest = [] → s.cnt < batch ∨ key ≤ s.stop

instance (batch key : Nat) (s : Sec) (rest : List Sec) : Decidable (fits batch key s rest) :=
  inferInstanceAs (Decidable (rest = [] → _))

theorem fits_nil (batch key : Nat) (s : Sec) : fits batch key s [] ↔ s.cnt < batch ∨ key ≤ s.stop :=
  ⟨fun h => h rfl, fun h _ => h⟩

theorem fits_cons (batch key : Nat) (s t : Sec) (rest : List Sec) : fits batch key s (t :: rest) :=
  fun e => nomatch e

theorem stop_lt_of_not_fits {batch key : Nat} {s : Sec} {rest : List Sec} (h : ¬ fits batch key s rest) :
    s.stop < key :=
  Nat.lt_of_not_le fun hle => h fun _ => Or.inr hle

theorem setL_eq_walk (batch key off hi : Nat) (size : Int) (cm : List Sec) :
    setL batch key off hi size cm =
      walk (fun l => (Sec.first batch key off hi size :: l, (0, 0, 0)))
        (fun s rest => if fits batch key s rest ∧ key - s.start ≤ limit
          then ((Sec.set batch s key off hi size).1 :: rest, (Sec.set batch s key off hi size).2)
          else (s :: Sec.first batch key off hi size :: rest, (0, 0, 0)))
        (fun s r => (s :: r.1, r.2)) key cm := by
  induction cm with
  | nil => rfl
  | cons s rest ih =>
    unfold setL walk
    cases rest with
    | nil => simp only [fits_nil]
    | cons t r => simp only [fits_cons, true_and, ih]

theorem delL_eq_walk (batch key : Nat) (cm : List Sec) :
    delL batch key cm =
      walk (fun l => (l, 0))
        (fun s rest => if fits batch key s rest then ((Sec.delete s key).1 :: rest, (Sec.delete s key).2)
          else (s :: rest, 0))
        (fun s r => (s :: r.1, r.2)) key cm := by
  induction cm with
  | nil => rfl
  | cons s rest ih =>
    unfold delL walk
    cases rest with
    | nil => simp only [fits_nil]
    | cons t r => simp only [fits_cons, if_true, ih]

theorem getL_eq_walk (batch key : Nat) (cm : List Sec) :
    getL batch key cm =
      walk (fun _ => none) (fun s rest => if fits batch key s rest then Sec.get s key else none)
        (fun _ r => r) key cm := by
  induction cm with
  | nil => rfl
  | cons s rest ih =>
    unfold getL walk
    cases rest with
    | nil => simp only [fits_nil]
    | cons t r => simp only [fits_cons, if_true, ih]

/-- apply `f` to the last section whose start is ≤ k: the one `binarySearchCompactSection` returns, except
    that this does not decline it (−4) when it is the last one, full, and `k` lies beyond its `stop` -/
def sel {α : Type} (f : Sec → Option α) (k : Nat) : List Sec → Option α
  | [] => none
  | s :: rest =>
    if k < s.start then none
    else match rest with
      | [] => f s
      | t :: _ => if t.start ≤ k then sel f k rest else f s

section sel
variable {α : Type}

theorem sel_eq_walk (f : Sec → Option α) (k : Nat) (cm : List Sec) :
    sel f k cm = walk (fun _ => none) (fun s _ => f s) (fun _ r => r) k cm := by
  induction cm with
  | nil => rfl
  | cons s rest ih =>
    unfold sel walk
    cases rest with
    | nil => rfl
    | cons t r => rw [ih]

variable {f : Sec → Option α} {k : Nat} {s : Sec} {rest : List Sec}

theorem sel_cons_above {l : List Sec} (hl : ∀ n, nextStart l = some n → k < n) :
    sel f k (s :: l) = if k < s.start then none else f s := by
  rw [sel_eq_walk]
  by_cases h : k < s.start
  · rw [if_pos h]; exact walk_lt h
  · rw [if_neg h]; exact walk_here h hl

theorem sel_cons_of_none (h : ¬ k < s.start) (hf : f s = none) : sel f k (s :: rest) = sel f k rest := by
  rw [sel_eq_walk, sel_eq_walk]
  rcases walk_cases k s rest with hlt | ⟨-, n, hn, hle⟩ | ⟨-, hn⟩
  · exact absurd hlt h
  · exact walk_next h hn hle
  · rw [walk_here h hn, walk_above hn]; exact hf

theorem sel_mem {cm : List Sec} {a : α} (h : sel f k cm = some a) :
    ∃ s, s ∈ cm ∧ s.start ≤ k ∧ f s = some a := by
  rw [sel_eq_walk] at h
  induction cm using walk_ind k with
  | above l hl => rw [walk_above hl] at h; cases h
  | next s rest n hlt hn hle ih =>
    rw [walk_next hlt hn hle] at h
    obtain ⟨s', hs', h2⟩ := ih h
    exact ⟨s', List.mem_cons_of_mem _ hs', h2⟩
  | here s rest hlt hn =>
    rw [walk_here hlt hn] at h
    exact ⟨s, List.mem_cons_self .., Nat.le_of_not_lt hlt, h⟩

end sel

def valOf (e : Ent) : Old := (e.off, e.hi, e.size)

/-- binding of key `k` in section `s` (keys further than `SectionalNeedleIdLimit` from the start
    are never stored in it) -/
def dsec (k : Nat) (s : Sec) : Option Old :=
  if k - s.start ≤ limit then (look s (k - s.start)).map valOf else none

/-- the OVERFLOW entry of key `k` in section `s`, if any -/
def dovf (k : Nat) (s : Sec) : Option Ent :=
  if k - s.start ≤ limit then getK (k - s.start) s.ovf else none

/-- the map a CompactMap denotes -/
def denote (k : Nat) (cm : List Sec) : Option Old := sel (dsec k) k cm

/-- the overflow entry holding `k`, if it is held by an overflow list -/
def ovfAt (k : Nat) (cm : List Sec) : Option Ent := sel (dovf k) k cm

/-- `k` is within 2^32 of the start of the last section starting at or below it, the one Get/Delete
    consult for it if they consult any (otherwise `SectionalNeedleId(key - start)` wraps: findings
    CompactMap.Get/returns-entry-of-other-key, CompactMap.Delete/deletes-entry-of-other-key) -/
def noAlias (k : Nat) (cm : List Sec) : Bool :=
  sel (fun s => some (decide (k - s.start ≤ limit))) k cm != some false

theorem noAlias_cons_next {k : Nat} {s : Sec} {rest : List Sec} (h : ¬ k < s.start) {n : Nat}
    (hn : nextStart rest = some n) (hle : n ≤ k) : noAlias k (s :: rest) = noAlias k rest := by
  unfold noAlias; rw [sel_eq_walk, sel_eq_walk, walk_next h hn hle]

theorem noAlias_cons_here {k : Nat} {s : Sec} {rest : List Sec} (h : ¬ k < s.start)
    (hn : ∀ n, nextStart rest = some n → k < n) (hna : noAlias k (s :: rest) = true) : k - s.start ≤ limit := by
  unfold noAlias at hna; rw [sel_eq_walk, walk_here h hn] at hna; simpa using hna

/-- bounds of a section; `nxt` = start of the following section -/
def SecBound (s : Sec) (nxt : Option Nat) : Prop :=
  s.start ≤ s.stop ∧ s.stop ≤ s.start + limit ∧
  (∀ x, (x ∈ keys s.rvals ∨ x ∈ keys s.ovf) → s.start + x ≤ s.stop) ∧
  (∀ n, nxt = some n → s.stop < n)

/-- invariant of the section list: every section satisfies its representation invariant, all its
    keys lie in `[start, stop]`, `stop - start < 2^32`, and `stop` is below the next start -/
def MapInv (batch : Nat) : List Sec → Prop
  | [] => True
  | s :: rest => SecInv batch s ∧ SecBound s (rest.head?.map (·.start)) ∧ MapInv batch rest

theorem skeyOf_eq (s : Sec) (key : Nat) (hlim : key - s.start ≤ limit) : skeyOf s key = key - s.start :=
  Nat.mod_eq_of_lt (Nat.lt_succ_of_le hlim)

theorem dsec_eq {k : Nat} {s : Sec} (h : k - s.start ≤ limit) : dsec k s = (look s (k - s.start)).map valOf := if_pos h

theorem dovf_eq {k : Nat} {s : Sec} (h : k - s.start ≤ limit) : dovf k s = getK (k - s.start) s.ovf := if_pos h

theorem dsec_none_of_gt_stop (s : Sec) {nxt : Option Nat} (hb : SecBound s nxt) (k : Nat)
    (hgt : s.stop < k) : dsec k s = none ∧ dovf k s = none := by
  obtain ⟨b1, _, b3, _⟩ := hb
  -- a stored sectional key `x` has `start + x ≤ stop`, and `start + (k - start) = k`
  have hk : s.start + (k - s.start) = k := Nat.add_sub_cancel' (Nat.le_of_lt (Nat.lt_of_le_of_lt b1 hgt))
  have h1 : k - s.start ∉ keys s.ovf := fun hx => Nat.not_le.mpr hgt (hk ▸ b3 _ (Or.inr hx))
  have h2 : k - s.start ∉ keys s.rvals := fun hx => Nat.not_le.mpr hgt (hk ▸ b3 _ (Or.inl hx))
  by_cases hl : k - s.start ≤ limit
  · rw [dsec_eq hl, dovf_eq hl, look_none_of_not_mem s _ h1 h2]; exact ⟨rfl, getK_eq_none_iff.mpr h1⟩
  · exact ⟨if_neg hl, if_neg hl⟩

theorem sub_ne_sub {a k key : Nat} (hk : a ≤ k) (hkey : a ≤ key) (h : ¬ k = key) : ¬ k - a = key - a :=
  fun e => h (by rw [← Nat.sub_add_cancel hk, e, Nat.sub_add_cancel hkey])

theorem denote_update_here {s s' : Sec} {rest : List Sec} {key : Nat} {v : Option Old} (hst : s'.start = s.start)
    (hlt : ¬ key < s.start) (hn : ∀ n, nextStart rest = some n → key < n)
    (hd : ∀ k, s.start ≤ k → dsec k s' = if k = key then v else dsec k s) (k : Nat) :
    denote k (s' :: rest) = if k = key then v else denote k (s :: rest) := by
  simp only [denote, sel_eq_walk]
  by_cases hkk : k = key
  · rw [if_pos hkk, hkk, walk_here (hst ▸ hlt) hn, hd key (Nat.le_of_not_lt hlt), if_pos rfl]
  · rw [if_neg hkk]
    rcases walk_cases k s rest with h | ⟨h, m, hm, hle⟩ | ⟨h, hm⟩
    · rw [walk_lt h, walk_lt (hst ▸ h)]
    · rw [walk_next h hm hle, walk_next (hst ▸ h) hm hle]
    · rw [walk_here h hm, walk_here (hst ▸ h) hm, hd k (Nat.le_of_not_lt h), if_neg hkk]

theorem denote_update_next {s : Sec} {rest rest' : List Sec} {key n : Nat} {v : Option Old} (hlt : ¬ key < s.start)
    (hn : nextStart rest = some n) (hle : n ≤ key) (hst : nextStart rest' = nextStart rest)
    (ih : ∀ k, denote k rest' = if k = key then v else denote k rest) (k : Nat) :
    denote k (s :: rest') = if k = key then v else denote k (s :: rest) := by
  simp only [denote, sel_eq_walk] at ih ⊢
  by_cases hkk : k = key
  · rw [if_pos hkk, hkk, walk_next hlt (hst.trans hn) hle, ih key, if_pos rfl]
  · rw [if_neg hkk]
    rcases walk_cases k s rest with h | ⟨h, m, hm, hle'⟩ | ⟨h, hm⟩
    · rw [walk_lt h, walk_lt h]
    · rw [walk_next h hm hle', walk_next h (hst.trans hm) hle', ih k, if_neg hkk]
    · rw [walk_here h hm, walk_here h (hst ▸ hm)]

theorem secSet_dsec (batch : Nat) (s : Sec) (nxt : Option Nat) (h : SecInv batch s) (hb : SecBound s nxt)
    (key off hi : Nat) (size : Int) (hge : s.start ≤ key) (hlim : key - s.start ≤ limit)
    (hn : ∀ n, nxt = some n → key < n) :
    SecInv batch (Sec.set batch s key off hi size).1 ∧ SecBound (Sec.set batch s key off hi size).1 nxt ∧
    (Sec.set batch s key off hi size).1.start = s.start ∧
    (∀ k, s.start ≤ k → dsec k (Sec.set batch s key off hi size).1 =
        if k = key then some (off, (match dovf key s with | some e => e.hi | none => hi), size) else dsec k s) ∧
    (Sec.set batch s key off hi size).2 = (dsec key s).getD (0, 0, 0) := by
  obtain ⟨hinv, hstart, hstop, -, hkeys, hlook, hold⟩ := secSet_refines batch s h key off hi size
  rw [skeyOf_eq s key hlim] at hkeys hlook hold
  obtain ⟨b1, b2, b3, b4⟩ := hb
  refine ⟨hinv, ⟨?_, ?_, fun x hx => ?_, fun n hnn => ?_⟩, hstart, fun k hk => ?_, ?_⟩
  · rw [hstart, hstop]; exact Nat.le_trans hge (Nat.le_max_right _ _)
  · rw [hstart, hstop]; exact Nat.max_le.mpr ⟨b2, Nat.add_comm _ _ ▸ Nat.sub_le_iff_le_add.mp hlim⟩
  · rw [hstart, hstop]
    rcases (hkeys x).mp hx with hx | hx
    · rw [hx, Nat.add_sub_cancel' hge]; exact Nat.le_max_right _ _
    · exact Nat.le_trans (b3 x hx) (Nat.le_max_left _ _)
  · rw [hstop]; exact Nat.max_lt.mpr ⟨b4 n hnn, hn n hnn⟩
  · unfold dsec
    rw [hstart, hlook]
    by_cases hkk : k = key
    · rw [hkk, if_pos hlim, if_pos rfl, if_pos rfl]
      unfold setEnt
      rw [dovf_eq hlim]
      cases getK (key - s.start) s.ovf <;> rfl
    · rw [if_neg hkk, if_neg (sub_ne_sub hk hge hkk)]
  · rw [hold, dsec_eq hlim]
    cases look s (key - s.start) <;> rfl

/-- `Delete` on a stored value: a positive size is negated -/
def negV (v : Old) : Old := if v.2.2 > 0 then (v.1, v.2.1, -v.2.2) else v

theorem valOf_neg (e : Ent) : valOf (if e.size > 0 then { e with size := -e.size } else e) = negV (valOf e) :=
  apply_ite valOf ..

theorem secDelete_dsec (batch : Nat) (s : Sec) (nxt : Option Nat) (h : SecInv batch s) (hb : SecBound s nxt)
    (key : Nat) (hge : s.start ≤ key) (hlim : key - s.start ≤ limit) :
    SecInv batch (Sec.delete s key).1 ∧ SecBound (Sec.delete s key).1 nxt ∧
    (Sec.delete s key).1.start = s.start ∧
    (∀ k, s.start ≤ k → dsec k (Sec.delete s key).1 = if k = key then (dsec key s).map negV else dsec k s) ∧
    (Sec.delete s key).2 = (match dovf key s with
      | some v => v.size
      | none => match dsec key s with
        | some v => if v.2.2 > 0 then v.2.2 else 0
        | none => 0) := by
  obtain ⟨hinv, f1, f2, f4, f5, hlook, hret⟩ := secDelete_refines batch s h key
  rw [skeyOf_eq s key hlim] at hlook hret
  refine ⟨hinv, ?_, f1, fun k hk => ?_, ?_⟩
  · unfold SecBound; rw [f1, f2, f4, f5]; exact hb
  · by_cases hkk : k = key
    · rw [hkk, if_pos rfl, dsec_eq (f1.symm ▸ hlim), dsec_eq hlim, f1, hlook, if_pos rfl]
      cases look s (key - s.start) with
      | none => rfl
      | some e => exact congrArg some (valOf_neg e)
    · rw [if_neg hkk]; unfold dsec
      rw [f1, hlook, if_neg (sub_ne_sub hk hge hkk)]
  · rw [hret, dovf_eq hlim, dsec_eq hlim]; unfold look
    cases getK (key - s.start) s.ovf with
    | some v => rfl
    | none => cases getK (key - s.start) s.rvals <;> rfl

def toNVk (key : Nat) (v : Old) : NV := ⟨key, v.1, v.2.1, v.2.2⟩

theorem secGet_dsec (batch : Nat) (s : Sec) (h : SecInv batch s) (key : Nat)
    (hge : s.start ≤ key) (hlim : key - s.start ≤ limit) :
    Sec.get s key = (dsec key s).map (toNVk key) := by
  rw [secGet_refines batch s h key, skeyOf_eq s key hlim, dsec_eq hlim]
  cases hl : look s (key - s.start) with
  | none => rfl
  | some e =>
    show some (toNV s e) = some (toNVk key (valOf e))
    unfold toNV toNVk valOf
    rw [look_key _ _ _ hl, Nat.sub_add_cancel hge]

/-- `Sec.fresh key` has `stop = 0`, below its `start` unless `key = 0`, so `SecBound` fails of it; `Set` of
    `key` gives the same section from `stop := key`, of which `SecBound` holds -/
theorem first_eq (batch key off hi : Nat) (size : Int) :
    Sec.first batch key off hi size = (Sec.set batch ⟨key, key, 0, [], []⟩ key off hi size).1 := by
  unfold Sec.first
  rw [Sec.set_stop, Sec.set_stop batch ⟨key, key, 0, [], []⟩]
  show (Sec.set batch ⟨key, max 0 key, 0, [], []⟩ _ off hi size).1 = (Sec.set batch ⟨key, max key key, 0, [], []⟩ _ off hi size).1
  rw [Nat.zero_max, Nat.max_self]

theorem first_props (batch key off hi : Nat) (size : Int) (nxt : Option Nat) (hn : ∀ n, nxt = some n → key < n) :
    SecInv batch (Sec.first batch key off hi size) ∧ SecBound (Sec.first batch key off hi size) nxt ∧
    (Sec.first batch key off hi size).start = key ∧
    (∀ k, key ≤ k → dsec k (Sec.first batch key off hi size) = if k = key then some (off, hi, size) else none) := by
  have hi0 : SecInv batch ⟨key, key, 0, [], []⟩ :=
    ⟨rfl, List.Pairwise.nil, List.Pairwise.nil, (fun _ hx => nomatch hx), fun _ _ hx => nomatch hx⟩
  have hb0 : SecBound ⟨key, key, 0, [], []⟩ nxt :=
    ⟨Nat.le_refl _, Nat.le_add_right _ _, (fun _ hx => hx.elim (fun h => nomatch h) (fun h => nomatch h)), hn⟩
  rw [first_eq]
  obtain ⟨g1, g2, g3, g4, -⟩ := secSet_dsec batch _ nxt hi0 hb0 key off hi size (Nat.le_refl _)
    (by rw [Nat.sub_self]; exact Nat.zero_le _) hn
  refine ⟨g1, g2, g3, fun k hk => (g4 k hk).trans ?_⟩
  have hd : dsec k ⟨key, key, 0, [], []⟩ = none := ite_self _
  have ho : dovf key ⟨key, key, 0, [], []⟩ = none := ite_self _
  rw [hd, ho]

section first
variable {batch key off hi : Nat} {size : Int} {s : Sec} {rest : List Sec}

theorem denote_first_cons (hn : ∀ n, nextStart rest = some n → key < n) (k : Nat) :
    denote k (Sec.first batch key off hi size :: rest) = if k = key then some (off, hi, size) else denote k rest := by
  obtain ⟨-, -, f3, f4⟩ := first_props batch key off hi size (nextStart rest) hn
  simp only [denote, sel_eq_walk]
  by_cases hkk : k = key
  · rw [if_pos hkk, hkk, walk_here (by rw [f3]; exact Nat.lt_irrefl key) hn, f4 key (Nat.le_refl _), if_pos rfl]
  · rw [if_neg hkk]
    rcases walk_cases k (Sec.first batch key off hi size) rest with h | ⟨h, m, hm, hle⟩ | ⟨h, hm⟩
    · rw [walk_lt h, walk_above fun m e => Nat.lt_trans (f3 ▸ h) (hn m e)]
    · exact walk_next h hm hle
    · rw [walk_here h hm, f4 k (Nat.le_of_not_lt (f3 ▸ h)), if_neg hkk, walk_above hm]

/-- below `key` the new section is not reached; from `key` on the head binds nothing and is skipped -/
theorem denote_first_behind (hsb : SecBound s (nextStart rest)) (hstop : s.stop < key)
    (hn : ∀ n, nextStart rest = some n → key < n) (k : Nat) :
    denote k (s :: Sec.first batch key off hi size :: rest) =
      if k = key then some (off, hi, size) else denote k (s :: rest) := by
  have hF : nextStart (Sec.first batch key off hi size :: rest) = some key :=
    congrArg some (first_props batch key off hi size (nextStart rest) hn).2.2.1
  by_cases hkey : key ≤ k
  · have hk : ¬ k < s.start := Nat.not_lt.mpr (Nat.le_trans hsb.1 (Nat.le_trans (Nat.le_of_lt hstop) hkey))
    have hnone := (dsec_none_of_gt_stop s hsb k (Nat.lt_of_lt_of_le hstop hkey)).1
    rw [show denote k (s :: rest) = denote k rest from sel_cons_of_none hk hnone]
    exact (sel_cons_of_none hk hnone).trans (denote_first_cons hn k)
  · have hlt : k < key := Nat.lt_of_not_le hkey
    rw [if_neg (Nat.ne_of_lt hlt)]
    exact (sel_cons_above fun m e => Option.some.inj (hF.symm.trans e) ▸ hlt).trans
      (sel_cons_above fun m e => Nat.lt_trans hlt (hn m e)).symm

theorem mapInv_first_cons {l : List Sec} (h : MapInv batch l) (hl : ∀ n, nextStart l = some n → key < n) :
    MapInv batch (Sec.first batch key off hi size :: l) :=
  have ⟨f1, f2, _, _⟩ := first_props batch key off hi size (nextStart l) hl
  ⟨f1, f2, h⟩

theorem mapInv_first_behind (h : MapInv batch (s :: rest)) (hstop : s.stop < key)
    (hn : ∀ n, nextStart rest = some n → key < n) :
    MapInv batch (s :: Sec.first batch key off hi size :: rest) :=
  have hF := (first_props batch key off hi size (nextStart rest) hn).2.2.1
  ⟨h.1, ⟨h.2.1.1, h.2.1.2.1, h.2.1.2.2.1, fun _ e => Nat.lt_of_lt_of_eq hstop (hF.symm.trans (Option.some.inj e))⟩,
    mapInv_first_cons h.2.2 hn⟩

end first

/-- `Set` opens a new section behind an `s` with `s.stop ≤ s.start + limit` only for a key beyond `s.stop` -/
theorem stop_lt_of_new_section {batch key : Nat} {s : Sec} {rest : List Sec} (hsb : SecBound s (nextStart rest))
    (hfit : ¬ (fits batch key s rest ∧ key - s.start ≤ limit)) : s.stop < key := by
  by_cases h1 : key - s.start ≤ limit
  · exact stop_lt_of_not_fits fun hf => hfit ⟨hf, h1⟩
  · exact Nat.lt_of_le_of_lt hsb.2.1 (Nat.add_lt_of_lt_sub' (Nat.lt_of_not_le h1))

/-- the `OffsetHigher` byte the entry of `key` has after `Set … hi`: an overwritten overflow entry
    keeps its old one -/
def hiEff (key hi : Nat) (cm : List Sec) : Nat :=
  match ovfAt key cm with
  | some e => e.hi
  | none => hi

/- In the proofs below the operation and the selections behind `denote key`, `ovfAt key` and `hiEff key` are
   written as walks of `key` over the same list, so that each case of `walk_ind` rewrites all of them alike;
   `denote k` for the other keys is not written as a walk: the `denote_update_*` and `denote_first_*` lemmas
   say what it becomes. -/

theorem setL_refines (batch : Nat) (key off hi : Nat) (size : Int) (cm : List Sec) (h : MapInv batch cm) :
    MapInv batch (setL batch key off hi size cm).1 ∧
    (∀ n, cm.head?.map (·.start) = some n → n ≤ key →
      (setL batch key off hi size cm).1.head?.map (·.start) = some n) ∧
    (∀ k, denote k (setL batch key off hi size cm).1 =
      if k = key then some (off, hiEff key hi cm, size) else denote k cm) ∧
    (setL batch key off hi size cm).2 = (denote key cm).getD (0, 0, 0) := by
  unfold hiEff ovfAt denote
  rw [setL_eq_walk, sel_eq_walk (dsec key), sel_eq_walk (dovf key)]
  induction cm using walk_ind key with
  | above l hl =>
    rw [walk_above hl, walk_above hl, walk_above hl]
    exact ⟨mapInv_first_cons h hl, fun n e hle => absurd (hl n e) (Nat.not_lt.mpr hle), denote_first_cons hl, rfl⟩
  | next s rest n hlt hn hle ih =>
    rw [walk_next hlt hn hle, walk_next hlt hn hle, walk_next hlt hn hle]
    obtain ⟨i1, i2, i3, i4⟩ := ih h.2.2
    have hns := (i2 n hn hle).trans hn.symm
    exact ⟨⟨h.1, hns ▸ h.2.1, i1⟩, fun _ e _ => e, denote_update_next hlt hn hle hns i3, i4⟩
  | here s rest hlt hn =>
    obtain ⟨hsi, hsb, hrest⟩ := id h
    rw [walk_here hlt hn, walk_here hlt hn, walk_here hlt hn]
    by_cases hfit : fits batch key s rest ∧ key - s.start ≤ limit
    · rw [if_pos hfit]
      obtain ⟨g1, g2, g3, g4, g5⟩ :=
        secSet_dsec batch s (nextStart rest) hsi hsb key off hi size (Nat.le_of_not_lt hlt) hfit.2 hn
      exact ⟨⟨g1, g2, hrest⟩, fun _ e _ => (congrArg some g3).trans e, denote_update_here g3 hlt hn g4, g5⟩
    · -- a new section behind the one consulted, which binds nothing from `key` on
      have hstop : s.stop < key := stop_lt_of_new_section hsb hfit
      obtain ⟨hd, ho⟩ := dsec_none_of_gt_stop s hsb key hstop
      rw [if_neg hfit, hd, ho]
      exact ⟨mapInv_first_behind h hstop hn, fun _ e _ => e, denote_first_behind hsb hstop hn, rfl⟩

theorem delL_refines (batch : Nat) (key : Nat) (cm : List Sec) (h : MapInv batch cm)
    (hna : noAlias key cm = true) :
    MapInv batch (delL batch key cm).1 ∧
    (delL batch key cm).1.head?.map (·.start) = cm.head?.map (·.start) ∧
    (∀ k, denote k (delL batch key cm).1 = if k = key then (denote key cm).map negV else denote k cm) ∧
    (delL batch key cm).2 = (match ovfAt key cm with
      | some v => v.size
      | none => match denote key cm with
        | some v => if v.2.2 > 0 then v.2.2 else 0
        | none => 0) := by
  -- a key bound nowhere leaves the list as it is
  have same (l : List Sec) (hd : denote key l = none) (k : Nat) :
      denote k l = if k = key then none else denote k l :=
    ite_self_eq (denote · l) key hd k
  unfold ovfAt denote
  rw [delL_eq_walk, sel_eq_walk (dsec key), sel_eq_walk (dovf key)]
  induction cm using walk_ind key with
  | above l hl =>
    rw [walk_above hl, walk_above hl, walk_above hl]
    exact ⟨h, rfl, same l ((sel_eq_walk _ _ _).trans (walk_above hl)), rfl⟩
  | next s rest n hlt hn hle ih =>
    rw [walk_next hlt hn hle, walk_next hlt hn hle, walk_next hlt hn hle]
    obtain ⟨i1, i2, i3, i4⟩ := ih h.2.2 (noAlias_cons_next hlt hn hle ▸ hna)
    exact ⟨⟨h.1, i2 ▸ h.2.1, i1⟩, rfl, denote_update_next hlt hn hle i2 i3, i4⟩
  | here s rest hlt hn =>
    rw [walk_here hlt hn, walk_here hlt hn, walk_here hlt hn]
    by_cases hfit : fits batch key s rest
    · rw [if_pos hfit]
      obtain ⟨g1, g2, g3, g4, g5⟩ := secDelete_dsec batch s (nextStart rest) h.1 h.2.1 key
        (Nat.le_of_not_lt hlt) (noAlias_cons_here hlt hn hna)
      exact ⟨⟨g1, g2, h.2.2⟩, congrArg some g3, denote_update_here g3 hlt hn g4, g5⟩
    · -- the last section is full and the key lies beyond its `stop`
      obtain ⟨hd, ho⟩ := dsec_none_of_gt_stop s h.2.1 key (stop_lt_of_not_fits hfit)
      rw [if_neg hfit, hd, ho]
      exact ⟨h, rfl, same _ ((sel_eq_walk _ _ _).trans ((walk_here hlt hn).trans hd)), rfl⟩

theorem getL_refines (batch : Nat) (key : Nat) (cm : List Sec) (h : MapInv batch cm)
    (hna : noAlias key cm = true) :
    getL batch key cm = (denote key cm).map (toNVk key) := by
  rw [getL_eq_walk, denote, sel_eq_walk]
  induction cm using walk_ind key with
  | above l hl => rw [walk_above hl, walk_above hl]; rfl
  | next s rest n hlt hn hle ih =>
    rw [walk_next hlt hn hle, walk_next hlt hn hle]
    exact ih h.2.2 (noAlias_cons_next hlt hn hle ▸ hna)
  | here s rest hlt hn =>
    rw [walk_here hlt hn, walk_here hlt hn]
    by_cases hfit : fits batch key s rest
    · rw [if_pos hfit]
      exact secGet_dsec batch s h.1 key (Nat.le_of_not_lt hlt) (noAlias_cons_here hlt hn hna)
    · rw [if_neg hfit, (dsec_none_of_gt_stop s h.2.1 key (stop_lt_of_not_fits hfit)).1]; rfl

theorem ovfAt_denote (key : Nat) (cm : List Sec) (v : Ent) (h : ovfAt key cm = some v) :
    denote key cm = some (valOf v) := by
  rw [ovfAt, sel_eq_walk] at h; rw [denote, sel_eq_walk]
  induction cm using walk_ind key with
  | above l hl => rw [walk_above hl] at h; cases h
  | next s rest n hlt hn hle ih => rw [walk_next hlt hn hle] at h ⊢; exact ih h
  | here s rest hlt hn =>
    rw [walk_here hlt hn] at h ⊢
    unfold dovf at h
    by_cases hl : key - s.start ≤ limit
    · rw [if_pos hl] at h; rw [dsec_eq hl, look_of_ovf_some h]; rfl
    · rw [if_neg hl] at h; cases h

end SwV.Lemmas.C05
