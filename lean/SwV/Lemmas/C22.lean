/-
C22 — strictly increasing lists and what of them is owed to a reader at `T` (`expected`, the entries later than
`T`); each of the three ways `ReadFromBuffer` cuts a buffer (whole buffer, `locateByTs`, binary search) hands out a
first part of what is owed; the invariant of the log buffer and its preservation by every step; `modifyAt` on the
list of readers.  Core Lean only.
-/
import SwV.Model.C22
import SwV.Spec.C22
namespace SwV.Lemmas.C22
open SwV.Model.C22 SwV.Spec.C22

abbrev Sorted (l : List Nat) : Prop := l.Pairwise (· < ·)

theorem expected_append (a b : List Nat) (T : Int) : expected (a ++ b) T = expected a T ++ expected b T :=
  List.filter_append ..

theorem expected_eq_nil {l : List Nat} {T : Int} (h : ∀ t ∈ l, (t : Int) ≤ T) : expected l T = [] :=
  List.filter_eq_nil_iff.mpr fun a ha => by have := h a ha; simp only [decide_eq_true_eq]; omega

theorem expected_eq_self {l : List Nat} {T : Int} (h : ∀ t ∈ l, T < (t : Int)) : expected l T = l :=
  List.filter_eq_self.mpr fun a ha => decide_eq_true (h a ha)

theorem mem_expected {l : List Nat} {T : Int} {t : Nat} : t ∈ expected l T ↔ t ∈ l ∧ T < (t : Int) :=
  List.mem_filter.trans (and_congr_right' decide_eq_true_iff)

theorem expected_prepend {P : List Nat} {T : Int} (hP : ∀ t ∈ P, (t : Int) ≤ T) (l : List Nat) :
    expected (P ++ l) T = expected l T := by
  rw [expected_append, expected_eq_nil hP, List.nil_append]

theorem expected_expected (l : List Nat) {T x : Int} (h : T ≤ x) : expected (expected l T) x = expected l x := by
  unfold expected
  rw [List.filter_filter]
  exact List.filter_congr fun t _ => by
    rw [Bool.eq_iff_iff, Bool.and_eq_true, decide_eq_true_eq, decide_eq_true_eq]; omega

theorem le_last_of_sorted {D : List Nat} {x : Nat} (hs : Sorted (D ++ [x])) : ∀ t ∈ D ++ [x], t ≤ x := by
  intro t ht
  rcases List.mem_append.mp ht with h | h
  · exact Nat.le_of_lt ((List.pairwise_append.mp hs).2.2 t h x (List.mem_singleton_self x))
  · exact Nat.le_of_eq (List.mem_singleton.mp h)

theorem head_le_of_sorted {x : Nat} {l : List Nat} (hs : Sorted (x :: l)) : ∀ t ∈ x :: l, x ≤ t := by
  intro t ht
  rcases List.mem_cons.mp ht with rfl | h
  · exact Nat.le_refl _
  · exact Nat.le_of_lt ((List.pairwise_cons.mp hs).1 t h)

theorem lastOr_eq (l : List Nat) (T : Int) :
    (l = [] ∧ lastOr l T = T) ∨ ∃ (D : List Nat) (x : Nat), l = D ++ [x] ∧ lastOr l T = x := by
  unfold lastOr
  cases h : l.getLast? with
  | none => exact Or.inl ⟨List.getLast?_eq_none_iff.mp h, rfl⟩
  | some x =>
    obtain ⟨D, hD⟩ := List.getLast?_eq_some_iff.mp h
    exact Or.inr ⟨D, x, hD, rfl⟩

theorem lastOr_ge (l : List Nat) (T : Int) (h : ∀ t ∈ l, T < (t : Int)) : T ≤ lastOr l T := by
  rcases lastOr_eq l T with ⟨_, e⟩ | ⟨D, x, rfl, e⟩
  · rw [e]; exact Int.le_refl T
  · have := h x List.mem_concat_self; rw [e]; omega

/-- Handing over a first part `l` of what is owed after `T` leaves what is owed after the last entry of `l`. -/
theorem expected_rest {log l : List Nat} {T : Int} (hs : Sorted log) (h : l <+: expected log T) :
    expected log T = l ++ expected log (lastOr l T) := by
  rcases lastOr_eq l T with ⟨rfl, e⟩ | ⟨D, x, rfl, e⟩
  · rw [e, List.nil_append]
  · obtain ⟨R, hR⟩ := h
    -- what is owed after the last entry `x` of `l` is what of `l ++ R` is later than `x`: nothing of `l`, all of `R`
    have hsl : Sorted (D ++ [x] ++ R) := by rw [hR]; exact hs.sublist List.filter_sublist
    have h1 := List.pairwise_append.mp hsl
    have hx : T < (x : Int) := (mem_expected.mp (hR ▸ List.mem_append_left R List.mem_concat_self)).2
    have eL : expected (D ++ [x]) x = [] := expected_eq_nil fun t ht => Int.ofNat_le.mpr (le_last_of_sorted h1.1 t ht)
    have eR : expected R x = R := expected_eq_self fun t ht => Int.ofNat_lt.mpr (h1.2.2 x List.mem_concat_self t ht)
    rw [e, ← expected_expected log (Int.le_of_lt hx), ← hR, expected_append, eL, eR]
    rfl

theorem locate_eq_expected {l : List Nat} {T : Int} (hs : Sorted l) : locate l T = expected l T := by
  induction l with
  | nil => rfl
  | cons x xs ih =>
    unfold locate expected at *
    by_cases h : (x : Int) ≤ T
    · rw [List.dropWhile_cons_of_pos (by simpa using h), List.filter_cons_of_neg (by simpa using h)]
      exact ih (List.pairwise_cons.mp hs).2
    · rw [List.dropWhile_cons_of_neg (by simpa using h)]
      exact (expected_eq_self fun a ha => by have := head_le_of_sorted hs a ha; omega).symm

theorem bsearch_some (ts : List Nat) (T : Int) : ∀ f l h mid, bsearch ts T f l h = some mid →
    ¬ ((ts.getD mid 0 : Nat) : Int) ≤ T ∧ (0 < mid → ((ts.getD (mid - 1) 0 : Nat) : Int) ≤ T) := by
  intro f
  induction f with
  | zero => intro l h mid hh; simp [bsearch] at hh
  | succ f ih =>
    intro l h mid hh
    simp only [bsearch] at hh
    by_cases hlh : l ≤ h
    · simp only [hlh, if_true] at hh
      by_cases ht : ((ts.getD ((l + h) / 2) 0 : Nat) : Int) ≤ T
      · simp only [ht, if_true] at hh; exact ih _ _ _ hh
      · simp only [ht, if_false] at hh
        by_cases hp : ((if (l + h) / 2 > 0 then ts.getD ((l + h) / 2 - 1) 0 else 0 : Nat) : Int) ≤ T
        · simp only [hp, if_true] at hh
          injection hh with e
          subst e
          refine ⟨ht, fun hpos => ?_⟩
          simpa [hpos] using hp
        · simp only [hp, if_false] at hh; exact ih _ _ _ hh
    · simp only [hlh, if_false] at hh; cases hh

/-- the binary search cuts a strictly increasing buffer at T (partial correctness: `none` = nothing returned) -/
theorem bsearch_spec {ts : List Nat} {T : Int} {f l h mid : Nat} (hb : bsearch ts T f l h = some mid) (hs : Sorted ts) :
    ts.drop mid <+: expected ts T := by
  by_cases hlt : mid < ts.length
  · obtain ⟨h1, h2⟩ := bsearch_some ts T f l h mid hb
    have getD_eq : ∀ i (hi : i < ts.length), ts.getD i 0 = ts[i] := fun _ _ => (List.getElem_eq_getD 0).symm
    have hA : ∀ t ∈ ts.take mid, (t : Int) ≤ T := fun t ht => by
      cases mid with
      | zero => simp at ht
      | succ m =>
        have hsd : Sorted (ts.take (m + 1)) := hs.sublist (List.take_sublist _ _)
        rw [List.take_add_one, List.getElem?_eq_getElem (Nat.lt_of_succ_lt hlt)] at hsd ht
        have := le_last_of_sorted hsd t ht
        have := h2 (Nat.succ_pos m)
        rw [Nat.add_sub_cancel, getD_eq m (Nat.lt_of_succ_lt hlt)] at this
        omega
    have hC : ∀ t ∈ ts.drop mid, T < (t : Int) := fun t ht => by
      have hsd : Sorted (ts.drop mid) := hs.sublist (List.drop_sublist _ _)
      rw [List.drop_eq_getElem_cons hlt] at hsd ht
      have := head_le_of_sorted hsd t ht
      rw [getD_eq mid hlt] at h1
      omega
    conv => rhs; rw [← List.take_append_drop mid ts, expected_prepend hA, expected_eq_self hC]
    exact List.prefix_rfl
  · rw [List.drop_eq_nil_of_le (Nat.le_of_not_lt hlt)]; exact List.nil_prefix

/-- `start` and `stop` are the smallest and the largest timestamp of a buffer that has entries, as bounds that are met -/
structure BufWF (b : Buf) : Prop where
  range : ∀ t ∈ b.ents, b.start ≤ (t : Int) ∧ (t : Int) ≤ b.stop
  hasStop : b.ents ≠ [] → ∃ x ∈ b.ents, b.stop ≤ (x : Int)
  hasStart : b.ents ≠ [] → ∃ x ∈ b.ents, (x : Int) ≤ b.start

def flat (bs : List Buf) : List Nat := bs.flatMap (·.ents)
def qflat (q : List Flush) : List Nat := q.flatMap (·.ents)

/-- the disk reaches `x` (it holds an entry at or after `x`) and holds every logged entry up to `x` -/
def Covers (lb : LB) (x : Int) : Prop :=
  (∃ y ∈ lb.disk, x ≤ (y : Int)) ∧ ∀ t ∈ lb.log, (t : Int) ≤ x → t ∈ lb.disk

/-- The invariant of the log buffer.  `seg` and `dseg` cut the ghost log in two ways: by where an entry is held in
    memory (recycled, then the sealed buffers, then the current one) and by how far its flush has come (on disk, then
    queued, then the current buffer).  `qWF`, `infl` and `flushed` say that the stop time of a flush becomes
    `lastFlushTime` only when everything up to it is readable on disk. -/
structure LInv (lb : LB) : Prop where
  sorted : Sorted lb.log
  bound : ∀ t ∈ lb.log, 0 < t ∧ t ≤ lb.lastTs
  seg : lb.log = lb.dropped ++ flat lb.prev ++ lb.cur.ents
  curWF : BufWF lb.cur
  curPos : lb.cur.pos = 0 ↔ lb.cur.ents = []
  prevWF : ∀ b ∈ lb.prev, BufWF b
  dseg : lb.log = lb.disk ++ qflat lb.queue ++ lb.cur.ents
  qWF : ∀ f ∈ lb.queue, ∃ x ∈ f.ents, f.stop ≤ (x : Int)
  infl : ∀ f, lb.inflight = some f → Covers lb f.stop
  flushed : lb.lastFlush = zeroT ∨ Covers lb lb.lastFlush
  prevNe : lb.prev ≠ []

/-- The condition under which a memory read at position `T` cannot lose anything: either the read is
    redirected to the disk (a completed flush covers T), or no recycled entry is later than T.
    Its negation is the open finding: a sealed buffer was recycled before its flush was acknowledged
    and the reader still needs it. -/
def ReadSafe (lb : LB) (T : Int) : Prop :=
  (lb.lastFlush ≠ zeroT ∧ lb.lastFlush > T) ∨ ∀ t ∈ lb.dropped, (t : Int) ≤ T

theorem flat_cons (b : Buf) (rest : List Buf) : flat (b :: rest) = b.ents ++ flat rest :=
  List.flatMap_cons

/-- the scan over the sealed buffers (then the whole current buffer) returns a first part of what is owed after T -/
theorem scanPrev_spec (T : Int) (cur : List Nat) (hcur : ∀ t ∈ cur, T < (t : Int)) :
    ∀ (bs : List Buf), (∀ b ∈ bs, BufWF b) → Sorted (flat bs ++ cur) → scanPrev bs T cur <+: expected (flat bs ++ cur) T := by
  intro bs
  induction bs with
  | nil => exact fun _ _ => by rw [show flat [] = [] from rfl, List.nil_append, expected_eq_self hcur]; exact List.prefix_rfl
  | cons b rest ih =>
    intro hwf hs
    have hb := hwf b List.mem_cons_self
    rw [flat_cons, List.append_assoc] at hs ⊢
    simp only [scanPrev]
    by_cases h1 : b.start > T
    · rw [if_pos h1, expected_append, expected_eq_self fun t ht => by have := (hb.range t ht).1; omega]
      exact List.prefix_append ..
    · rw [if_neg h1]
      by_cases h2 : b.stop > T
      · rw [if_pos ⟨h1, h2⟩, locate_eq_expected (List.pairwise_append.mp hs).1, expected_append]
        exact List.prefix_append ..
      · rw [if_neg fun h => h2 h.2, expected_prepend fun t ht => by have := (hb.range t ht).2; omega]
        exact ih (fun b' hb' => hwf b' (List.mem_cons_of_mem _ hb')) (List.pairwise_append.mp hs).2.1

/-- the two ways `ReadFromBuffer` hands out a buffer: no completed flush is later than `T`, and either `T` lies
    before the current buffer and the sealed buffers are scanned, or the current buffer is searched -/
theorem readFrom_buf {lb : LB} {T : Int} {l : List Nat} (hr : readFrom lb T = .buf l) :
    ¬ (lb.lastFlush ≠ zeroT ∧ lb.lastFlush > T) ∧
    ((T < lb.cur.start ∧ l = scanPrev lb.prev T lb.cur.ents) ∨
     (¬ T < lb.cur.start ∧ lb.cur.ents ≠ [] ∧ ∃ f lo hi mid, bsearch lb.cur.ents T f lo hi = some mid ∧ l = lb.cur.ents.drop mid)) := by
  unfold readFrom at hr
  by_cases c1 : lb.lastFlush ≠ zeroT ∧ lb.lastFlush > T
  · rw [if_pos c1] at hr; cases hr
  by_cases c2 : T = lb.cur.stop
  · rw [if_neg c1, if_pos c2] at hr; cases hr
  by_cases c3 : T > lb.cur.stop
  · rw [if_neg c1, if_neg c2, if_pos c3] at hr; cases hr
  rw [if_neg c1, if_neg c2, if_neg c3] at hr
  refine ⟨c1, ?_⟩
  by_cases c4 : T < lb.cur.start
  · rw [if_pos c4] at hr; cases hr; exact Or.inl ⟨c4, rfl⟩
  by_cases c5 : lb.cur.ents = []
  · rw [if_neg c4, if_pos c5] at hr; cases hr
  rw [if_neg c4, if_neg c5] at hr
  split at hr
  · rename_i mid hb; cases hr; exact Or.inr ⟨c4, c5, _, _, _, mid, hb, rfl⟩
  · cases hr

/-- `ReadFromBuffer`: whenever it hands out a buffer under `LInv` and `ReadSafe`, that buffer is a first part of the log
    entries later than T. -/
theorem readFrom_spec (lb : LB) (T : Int) (l : List Nat) (hi : LInv lb) (hsafe : ReadSafe lb T)
    (hr : readFrom lb T = .buf l) : l <+: expected lb.log T := by
  have hs : Sorted (lb.dropped ++ flat lb.prev ++ lb.cur.ents) := hi.seg ▸ hi.sorted
  obtain ⟨c1, ⟨c4, rfl⟩ | ⟨c4, c5, f, lo, hi', mid, hb, rfl⟩⟩ := readFrom_buf hr
  · -- before the current buffer: the sealed buffers are scanned; `ReadSafe` holds by its second disjunct
    have hcur : ∀ t ∈ lb.cur.ents, T < (t : Int) := fun t ht => by have := (hi.curWF.range t ht).1; omega
    rw [List.append_assoc] at hs
    rw [hi.seg, List.append_assoc, expected_prepend (hsafe.resolve_left c1)]
    exact scanPrev_spec T lb.cur.ents hcur lb.prev hi.prevWF (List.pairwise_append.mp hs).2.1
  · have hs1 := List.pairwise_append.mp hs
    -- an entry of an older buffer is earlier than the current buffer's first entry ≤ start ≤ T
    obtain ⟨x, hx, hxs⟩ := hi.curWF.hasStart c5
    rw [hi.seg, expected_prepend fun t ht => by have := hs1.2.2 t ht x hx; omega]
    exact bsearch_spec hb hs1.2.1

theorem flat_append (a b : List Buf) : flat (a ++ b) = flat a ++ flat b := List.flatMap_append
theorem qflat_append (a b : List Flush) : qflat (a ++ b) = qflat a ++ qflat b := List.flatMap_append

theorem flat_replicate_nil (n : Nat) (b : Buf) (h : b.ents = []) : flat (List.replicate n b) = [] := by
  induction n with
  | zero => rfl
  | succ k ih => rw [List.replicate_succ, flat_cons, h, ih]; rfl

theorem BufWF_of_empty {b : Buf} (h : b.ents = []) : BufWF b :=
  ⟨fun _ ht => absurd (h ▸ ht) List.not_mem_nil, fun hne => absurd h hne, fun hne => absurd h hne⟩

theorem LInv_init (cfg : Cfg) (h : 0 < cfg.prevCount) : LInv (init cfg) where
  sorted := List.Pairwise.nil
  bound := nofun
  seg := by simp [init, flat_replicate_nil]
  curWF := BufWF_of_empty rfl
  curPos := ⟨fun _ => rfl, fun _ => rfl⟩
  prevWF := fun b hb => by rw [(List.mem_replicate.mp hb).2]; exact BufWF_of_empty rfl
  dseg := rfl
  qWF := nofun
  infl := nofun
  flushed := Or.inl rfl
  prevNe := fun hc => Nat.ne_of_gt h ((List.replicate_eq_nil_iff _).mp hc)

theorem copyToFlush_frame (s : LB) : ((copyToFlush s).log = s.log ∧ (copyToFlush s).lastTs = s.lastTs)
    ∧ (copyToFlush s).disk = s.disk ∧ (copyToFlush s).inflight = s.inflight := by
  unfold copyToFlush
  split
  · split <;> exact ⟨⟨rfl, rfl⟩, rfl, rfl⟩
  · exact ⟨⟨rfl, rfl⟩, rfl, rfl⟩

theorem LInv_copyToFlush {s : LB} (hi : LInv s) : LInv (copyToFlush s) := by
  unfold copyToFlush
  by_cases hp : s.cur.pos > 0
  · rw [if_pos hp]
    have hne : s.cur.ents ≠ [] := mt hi.curPos.mpr (Nat.ne_of_gt hp)
    cases hprev : s.prev with
    | nil => exact absurd hprev hi.prevNe
    | cons old rest =>
      have hseg := hi.seg
      rw [hprev, flat_cons] at hseg
      exact { hi with
        seg := by simp only [flat_append]; rw [hseg]; simp [flat, List.append_assoc]
        curWF := BufWF_of_empty rfl
        curPos := ⟨fun _ => rfl, fun _ => rfl⟩
        prevWF := List.forall_mem_append.mpr ⟨fun b h => hi.prevWF b (hprev ▸ List.mem_cons_of_mem _ h),
          List.forall_mem_singleton.mpr hi.curWF⟩
        dseg := by simp only [qflat_append]; rw [hi.dseg]; simp [qflat, List.append_assoc]
        qWF := List.forall_mem_append.mpr ⟨hi.qWF, List.forall_mem_singleton.mpr (hi.curWF.hasStop hne)⟩
        prevNe := List.concat_ne_nil _ _ }
  · rw [if_neg hp]; exact hi

theorem copyToFlush_cur_empty (s : LB) (hi : LInv s) : (copyToFlush s).cur.ents = [] := by
  unfold copyToFlush
  by_cases hp : s.cur.pos > 0
  · rw [if_pos hp]
    cases hprev : s.prev with
    | nil => exact absurd hprev hi.prevNe
    | cons old rest => rfl
  · rw [if_neg hp]; exact hi.curPos.mp (Nat.eq_zero_of_not_pos hp)

theorem LInv_stamp {s : LB} {ts : Nat} (hi : LInv s) (hgt : s.lastTs < ts) : LInv (stamp s ts) := by
  have hb : ∀ t ∈ s.log, 0 < t ∧ t ≤ ts := fun t ht => by have := hi.bound t ht; omega
  unfold stamp
  by_cases hp : s.cur.pos = 0
  · rw [if_pos hp]
    exact { hi with bound := hb, curWF := BufWF_of_empty (hi.curPos.mp hp) }
  · rw [if_neg hp]
    exact { hi with bound := hb }

theorem stamp_facts (s : LB) (ts : Nat) (hi : LInv s) :
    (stamp s ts).log = s.log ∧ (stamp s ts).lastTs = ts ∧ ((stamp s ts).cur.ents = [] → (stamp s ts).cur.start = ts) := by
  unfold stamp
  refine ⟨rfl, rfl, ?_⟩
  by_cases hp : s.cur.pos = 0
  · rw [if_pos hp]; intro _; rfl
  · rw [if_neg hp]; intro he; exact absurd (hi.curPos.mpr he) hp

theorem LInv_rotate {s : LB} {ts size : Nat} (hi : LInv s) : LInv (rotate s ts size) := by
  have h2 := LInv_copyToFlush hi
  unfold rotate
  exact { h2 with curWF := BufWF_of_empty (copyToFlush_cur_empty s hi) }

theorem rotate_facts (s : LB) (ts size : Nat) :
    (rotate s ts size).log = s.log ∧ (rotate s ts size).lastTs = s.lastTs ∧ (rotate s ts size).cur.start = ts :=
  ⟨(copyToFlush_frame s).1.1, (copyToFlush_frame s).1.2, rfl⟩

theorem disk_sorted (s : LB) (hi : LInv s) : Sorted s.disk := by
  have := hi.sorted
  rw [hi.dseg, List.append_assoc] at this
  exact (List.pairwise_append.mp this).1

theorem disk_sub_log (s : LB) (hi : LInv s) : ∀ t ∈ s.disk, t ∈ s.log := by
  intro t ht; rw [hi.dseg]; simp [ht]

theorem cur_sub_log (s : LB) (hi : LInv s) : ∀ t ∈ s.cur.ents, t ∈ s.log := by
  intro t ht; rw [hi.seg]; simp [ht]

theorem BufWF_push {b : Buf} {ts k : Nat} (hb : BufWF b) (hlt : ∀ t ∈ b.ents, t < ts)
    (hstart : b.ents = [] → b.start = ts) : BufWF { b with stop := ts, ents := b.ents ++ [ts], pos := k } := by
  have hst : b.start ≤ (ts : Int) := by
    by_cases he : b.ents = []
    · rw [hstart he]; exact Int.le_refl _
    · obtain ⟨x, hx, _⟩ := hb.hasStop he
      have := (hb.range x hx).1; have := hlt x hx; omega
  exact {
    range := List.forall_mem_append.mpr
      ⟨fun t h => ⟨(hb.range t h).1, (by have := hlt t h; omega : (t : Int) ≤ (ts : Int))⟩,
        List.forall_mem_singleton.mpr ⟨hst, Int.le_refl _⟩⟩
    hasStop := fun _ => ⟨ts, List.mem_append_right _ (List.mem_singleton_self ts), Int.le_refl _⟩
    hasStart := fun _ => by
      by_cases he : b.ents = []
      · exact ⟨ts, List.mem_append_right _ (List.mem_singleton_self ts), by rw [hstart he]; exact Int.le_refl _⟩
      · obtain ⟨x, hx, hle⟩ := hb.hasStart he
        exact ⟨x, List.mem_append_left _ hx, hle⟩ }

theorem LInv_put {s : LB} {ts k : Nat} (hi : LInv s) (hlt : ∀ t ∈ s.log, t < ts) (hts : s.lastTs = ts) (hpos : 0 < ts)
    (hstart : s.cur.ents = [] → s.cur.start = ts) : LInv (put s ts k) := by
  -- the new entry is later than everything on disk, so what a flush covered stays covered
  have hcov : ∀ x, Covers s x → Covers (put s ts k) x := fun x ⟨⟨y, hy, hxy⟩, hc⟩ =>
    ⟨⟨y, hy, hxy⟩, fun t ht hle => by
      rcases List.mem_append.mp ht with h | h
      · exact hc t h hle
      · have := hlt y (disk_sub_log s hi y hy); rw [List.mem_singleton.mp h] at hle; omega⟩
  unfold put
  exact { hi with
    sorted := List.pairwise_append.mpr ⟨hi.sorted, List.pairwise_singleton .., fun a ha b hb => List.mem_singleton.mp hb ▸ hlt a ha⟩
    bound := List.forall_mem_append.mpr ⟨hi.bound, List.forall_mem_singleton.mpr ⟨hpos, Nat.le_of_eq hts.symm⟩⟩
    seg := by rw [hi.seg, List.append_assoc]
    curWF := BufWF_push hi.curWF (fun t h => hlt t (cur_sub_log s hi t h)) hstart
    curPos := by
      show s.cur.pos + k + 4 = 0 ↔ s.cur.ents ++ [ts] = []
      exact ⟨fun h => by omega, fun h => absurd h (List.concat_ne_nil _ _)⟩
    dseg := by rw [hi.dseg, List.append_assoc]
    infl := fun f hf => hcov _ (hi.infl f hf)
    flushed := hi.flushed.imp_right (hcov _) }

theorem fixTs_gt (s : LB) (ets : Nat) : s.lastTs < fixTs s ets := by
  unfold fixTs; split <;> omega

theorem LInv_add {s : LB} {ets dlen : Nat} (hi : LInv s) : LInv (add s ets dlen) := by
  unfold add
  simp only
  have hgt := fixTs_gt s ets
  generalize fixTs s ets = ts at hgt ⊢
  have h1 := LInv_stamp hi hgt
  have hf := stamp_facts s ts hi
  have hlt : ∀ t ∈ s.log, t < ts := fun t ht => by have := hi.bound t ht; omega
  split
  · have hr := rotate_facts (stamp s ts) ts (entrySize s.cfg.hash ts dlen)
    refine LInv_put (LInv_rotate h1) ?_ ?_ (Nat.zero_lt_of_lt hgt) ?_
    · rw [hr.1, hf.1]; exact hlt
    · rw [hr.2.1, hf.2.1]
    · intro _; rw [hr.2.2]
  · exact LInv_put h1 (by rw [hf.1]; exact hlt) hf.2.1 (Nat.zero_lt_of_lt hgt) hf.2.2

theorem add_frame (s : LB) (ets dlen : Nat) :
    ((add s ets dlen).log = s.log ++ [fixTs s ets] ∧ (add s ets dlen).lastTs = fixTs s ets) ∧
    (add s ets dlen).disk = s.disk ∧ (add s ets dlen).inflight = s.inflight := by
  have hc := copyToFlush_frame (stamp s (fixTs s ets))
  unfold add
  simp only
  split
  · simp only [put, rotate]
    rw [hc.1.1, hc.1.2, hc.2.1, hc.2.2]
    exact ⟨⟨rfl, rfl⟩, rfl, rfl⟩
  · exact ⟨⟨rfl, rfl⟩, rfl, rfl⟩

theorem fwrite_frame (s : LB) : (fwrite s).log = s.log ∧ (fwrite s).lastTs = s.lastTs := by
  unfold fwrite; split <;> exact ⟨rfl, rfl⟩

theorem fack_frame (s : LB) : (fack s).log = s.log ∧ (fack s).lastTs = s.lastTs := by
  unfold fack; split <;> exact ⟨rfl, rfl⟩

theorem LInv_fwrite {s : LB} (hi : LInv s) : LInv (fwrite s) := by
  unfold fwrite
  split
  · rename_i f q hinf hq
    obtain ⟨x, hx, hle⟩ := hi.qWF f (by rw [hq]; exact List.mem_cons_self)
    have hd : s.log = (s.disk ++ f.ents) ++ qflat q ++ s.cur.ents := by
      rw [hi.dseg, hq]; simp [qflat, List.append_assoc]
    have hs : Sorted (s.disk ++ f.ents ++ qflat q ++ s.cur.ents) := hd ▸ hi.sorted
    have hcov : ∀ y, Covers s y → Covers { s with queue := q, inflight := some f, disk := s.disk ++ f.ents } y :=
      fun y ⟨⟨z, hz, hyz⟩, hc⟩ => ⟨⟨z, List.mem_append_left _ hz, hyz⟩, fun t ht hle => List.mem_append_left _ (hc t ht hle)⟩
    exact { hi with
      dseg := hd
      qWF := fun g hg => hi.qWF g (by rw [hq]; exact List.mem_cons_of_mem _ hg)
      infl := fun g hg => by
        cases hg
        refine ⟨⟨x, List.mem_append_right _ hx, hle⟩, fun t ht hts => ?_⟩
        -- an entry outside `disk ++ f.ents` is later than `x`, which is not before the flush's stop time
        rw [show s.log = s.disk ++ f.ents ++ (qflat q ++ s.cur.ents) by rw [hd, List.append_assoc]] at ht
        rcases List.mem_append.mp ht with h | h
        · exact h
        · have := (List.pairwise_append.mp (List.append_assoc .. ▸ hs)).2.2 x (List.mem_append_right _ hx) t h
          omega
      flushed := hi.flushed.imp_right (hcov _) }
  · exact hi

theorem LInv_fack {s : LB} (hi : LInv s) : LInv (fack s) := by
  unfold fack
  split
  · rename_i f hf
    exact { hi with infl := nofun, flushed := Or.inr (hi.infl f hf) }
  · exact hi

theorem modifyAt_mem (f : Rd → Rd) : ∀ (rs : List Rd) (i : Nat) (r' : Rd), r' ∈ modifyAt f rs i →
    r' ∈ rs ∨ ∃ r, rs[i]? = some r ∧ r' = f r := by
  intro rs
  induction rs with
  | nil => intro i r' h; simp [modifyAt] at h
  | cons x xs ih =>
    intro i r' h
    cases i with
    | zero =>
      simp only [modifyAt] at h
      rcases List.mem_cons.mp h with h | h
      · exact Or.inr ⟨x, List.getElem?_cons_zero, h⟩
      · exact Or.inl (List.mem_cons_of_mem _ h)
    | succ k =>
      simp only [modifyAt] at h
      rcases List.mem_cons.mp h with h | h
      · exact Or.inl (h ▸ List.mem_cons_self)
      · rcases ih k r' h with h | ⟨r, hr, he⟩
        · exact Or.inl (List.mem_cons_of_mem _ h)
        · exact Or.inr ⟨r, List.getElem?_cons_succ.trans hr, he⟩

theorem modifyAt_forall {P : Rd → Prop} {f : Rd → Rd} {rs : List Rd} {i : Nat} (h : ∀ r ∈ rs, P r)
    (hf : ∀ r, rs[i]? = some r → P r → P (f r)) : ∀ r ∈ modifyAt f rs i, P r := by
  intro r' hr'
  rcases modifyAt_mem f rs i r' hr' with hm | ⟨r, hri, rfl⟩
  · exact h r' hm
  · exact hf r hri (h r (List.mem_of_getElem? hri))

end SwV.Lemmas.C22
