/-
C06 — GF(2^8) arithmetic of the model (`gfMul`, polynomial 0x11D) and the linear algebra needed to turn the
kernel-checked certificates of SwV/Lemmas/C06Certs.lean into the MDS property of the concrete code.

The laws of a commutative ring with unit are proved (none about inverses: the MDS proof takes every inverse matrix
it needs as a checked certificate), WITHOUT enumerating pairs/triples of field elements.  The shift-and-add loop
is opened once: `gfMul a b` is the xor of `a, x·a, x²·a, …` selected by the bits of `b` (`gfMul_eq`:
`bitsDot b (xtPows 8 a)`).  Additivity in `b`, additivity in `a` (multiplication by x, `xt`, is additive on bytes),
the byte bound and `gfMul (xt a) b = xt (gfMul a b)` are then laws of `bitsDot`.  Every byte is an xor of the 8
basis bytes (`byte_ind`), so commutativity follows from the 64 basis cases (`decide +kernel` over that complete
finite table), and associativity from the unit law and `gfMul_xt`.  The packed certificate check of
SwV/Lemmas/C06Certs.lean multiplies a parity row by a scalar with the same `bitsDot`.
-/
import SwV.Model.C06
import SwV.Model.C06RS
namespace SwV.Lemmas.C06
open SwV.Model.C06

/-- multiplication by x in GF(2^8) = GF(2)[x]/(x^8+x^4+x^3+x^2+1) -/
def xt (a : Nat) : Nat := if a * 2 ≥ 256 then (a * 2) ^^^ 0x11D else a * 2

def Digits (w : Nat) (l : List Nat) : Prop := ∀ x ∈ l, x < 2 ^ w

theorem digits_cons {w x : Nat} {l : List Nat} : Digits w (x :: l) ↔ x < 2 ^ w ∧ Digits w l :=
  List.forall_mem_cons

/-- the xor of the table entries selected by the low bits of `a` (entry `k` by bit `k`) -/
def bitsDot (a : Nat) : List Nat → Nat
  | [] => 0
  | t :: ts => (a % 2) * t ^^^ bitsDot (a / 2) ts

theorem bit_mul_lt (a : Nat) {t n : Nat} (h : t < n) : a % 2 * t < n := by
  have := Nat.mul_le_mul_right t (Nat.le_of_lt_succ (Nat.mod_lt a Nat.two_pos))
  rw [Nat.one_mul] at this
  exact Nat.lt_of_le_of_lt this h

theorem bit_xor_mul (x y t : Nat) : (x ^^^ y) % 2 * t = x % 2 * t ^^^ y % 2 * t := by
  rw [← Nat.pow_one 2, Nat.xor_mod_two_pow, Nat.pow_one]
  rcases Nat.mod_two_eq_zero_or_one x with hx | hx <;> rcases Nat.mod_two_eq_zero_or_one y with hy | hy <;>
    simp [hx, hy]

theorem bit_mul_xor (b x y : Nat) : b % 2 * (x ^^^ y) = b % 2 * x ^^^ b % 2 * y := by
  rcases Nat.mod_two_eq_zero_or_one b with h | h <;> simp [h]

theorem bitsDot_add (x y : Nat) : ∀ ts, bitsDot (x ^^^ y) ts = bitsDot x ts ^^^ bitsDot y ts
  | [] => by simp [bitsDot]
  | t :: ts => by
    simp only [bitsDot]
    rw [Nat.xor_div_two, bitsDot_add (x / 2) (y / 2) ts, bit_xor_mul]
    ac_rfl

theorem bitsDot_lt {w : Nat} (a : Nat) : ∀ ts : List Nat, Digits w ts → bitsDot a ts < 2 ^ w
  | [], _ => Nat.two_pow_pos w
  | t :: ts, h => by
    have h := digits_cons.mp h
    exact Nat.xor_lt_two_pow (bit_mul_lt a h.1) (bitsDot_lt _ ts h.2)

/-- `a, x·a, x²·a, …` -/
def xtPows : Nat → Nat → List Nat
  | 0, _ => []
  | n + 1, a => a :: xtPows n (xt a)

/-- shift and add: bit `j` of `b` selects `xʲ·a` -/
theorem gfMulAux_eq : ∀ f a b acc, gfMulAux f a b acc = acc ^^^ bitsDot b (xtPows f a)
  | 0, _, _, _ => by simp [gfMulAux, xtPows, bitsDot]
  | f + 1, a, b, acc => by
    rw [gfMulAux, gfMulAux_eq f, xtPows, bitsDot]
    rcases Nat.mod_two_eq_zero_or_one b with h | h <;> simp [h, xt, Nat.xor_assoc]

theorem gfMul_eq (a b : Nat) : gfMul a b = bitsDot b (xtPows 8 a) := by
  rw [gfMul, gfMulAux_eq, Nat.zero_xor]

theorem gfMul_add_right (a x y : Nat) : gfMul a (x ^^^ y) = gfMul a x ^^^ gfMul a y := by
  rw [gfMul_eq, gfMul_eq, gfMul_eq, bitsDot_add]

/-! additivity in the first argument holds on bytes only, since `xt` reduces at bit 8 -/

theorem xor_mul2 (a b : Nat) : (a ^^^ b) * 2 = a * 2 ^^^ b * 2 := by
  have := @Nat.shiftLeft_xor_distrib 1 a b
  simpa [Nat.shiftLeft_eq] using this

/-- the reduction is added exactly when bit 7 is set (written with `% 2` so that `bit_xor_mul` applies) -/
theorem xt_eq (a : Nat) (h : a < 256) : xt a = a * 2 ^^^ a / 128 % 2 * 0x11D := by
  unfold xt
  by_cases h1 : a * 2 ≥ 256
  · have : a / 128 % 2 = 1 := by omega
    simp [h1, this]
  · have : a / 128 % 2 = 0 := by omega
    simp [h1, this]

theorem xt_lt : ∀ a, a < 256 → xt a < 256 := by decide +kernel

theorem xt_add (a b : Nat) (ha : a < 256) (hb : b < 256) : xt (a ^^^ b) = xt a ^^^ xt b := by
  rw [xt_eq a ha, xt_eq b hb, xt_eq _ (Nat.xor_lt_two_pow (n := 8) ha hb), xor_mul2, Nat.xor_div_two_pow (n := 7),
    bit_xor_mul]
  ac_rfl

theorem xt_bit_mul (b a : Nat) : xt (b % 2 * a) = b % 2 * xt a := by
  rcases Nat.mod_two_eq_zero_or_one b with h | h <;> simp [h, xt]

theorem xtPows_bytes : ∀ f a, a < 256 → Digits 8 (xtPows f a)
  | 0, _, _ => List.forall_mem_nil _
  | f + 1, a, h => digits_cons.mpr ⟨h, xtPows_bytes f _ (xt_lt a h)⟩

theorem gfMul_lt (a b : Nat) (ha : a < 256) : gfMul a b < 256 := by
  rw [gfMul_eq]; exact bitsDot_lt b _ (xtPows_bytes 8 a ha)

theorem bitsDot_xtPows_add : ∀ f b a a', a < 256 → a' < 256 →
    bitsDot b (xtPows f (a ^^^ a')) = bitsDot b (xtPows f a) ^^^ bitsDot b (xtPows f a')
  | 0, _, _, _, _, _ => by simp [xtPows, bitsDot]
  | f + 1, b, a, a', ha, ha' => by
    simp only [xtPows, bitsDot]
    rw [xt_add a a' ha ha', bitsDot_xtPows_add f _ _ _ (xt_lt a ha) (xt_lt a' ha'), bit_mul_xor]
    ac_rfl

theorem gfMul_add_left (a a' b : Nat) (ha : a < 256) (ha' : a' < 256) :
    gfMul (a ^^^ a') b = gfMul a b ^^^ gfMul a' b := by
  rw [gfMul_eq, gfMul_eq, gfMul_eq, bitsDot_xtPows_add 8 b a a' ha ha']

/-- multiplication by x passes through the selection -/
theorem bitsDot_xtPows_xt : ∀ f b a, a < 256 → bitsDot b (xtPows f (xt a)) = xt (bitsDot b (xtPows f a))
  | 0, _, _, _ => rfl
  | f + 1, b, a, ha => by
    simp only [xtPows, bitsDot]
    rw [bitsDot_xtPows_xt f _ _ (xt_lt a ha),
      xt_add _ _ (bit_mul_lt b ha) (bitsDot_lt _ _ (xtPows_bytes f _ (xt_lt a ha))), xt_bit_mul]

theorem gfMul_xt (a b : Nat) (ha : a < 256) : gfMul (xt a) b = xt (gfMul a b) := by
  rw [gfMul_eq, gfMul_eq, bitsDot_xtPows_xt 8 b a ha]

theorem gfMul_zero_right (a : Nat) : gfMul a 0 = 0 := by
  have h := gfMul_add_right a 0 0
  rwa [Nat.xor_self, Nat.xor_self] at h

theorem gfMul_zero_left (b : Nat) : gfMul 0 b = 0 := by
  have h := gfMul_add_left 0 0 b (Nat.zero_lt_succ _) (Nat.zero_lt_succ _)
  rwa [Nat.xor_self, Nat.xor_self] at h

theorem and_two_pow_cases (x i : Nat) : x &&& 2 ^ i = 0 ∨ x &&& 2 ^ i = 2 ^ i := by
  have key : ∀ j, (x &&& 2 ^ i).testBit j = (x.testBit i && (2 ^ i).testBit j) := by
    intro j
    rw [Nat.testBit_and, Nat.testBit_two_pow]
    by_cases hij : i = j
    · rw [hij]
    · simp [hij]
  cases h : x.testBit i
  · exact Or.inl (Nat.eq_of_testBit_eq fun j => by rw [key, h]; simp)
  · exact Or.inr (Nat.eq_of_testBit_eq fun j => by rw [key, h]; simp)

theorem pow_byte (i : Nat) (h : i < 8) : 2 ^ i < 256 := Nat.pow_lt_pow_right Nat.one_lt_two h

theorem split_top_bit (n x : Nat) (h : x < 2 ^ (n + 1)) : x = (x % 2 ^ n) ^^^ (x &&& 2 ^ n) := by
  apply Nat.eq_of_testBit_eq
  intro j
  rw [Nat.testBit_xor, Nat.testBit_mod_two_pow, Nat.testBit_and, Nat.testBit_two_pow]
  rcases Nat.lt_trichotomy j n with hj | hj | hj
  · simp [hj, Nat.ne_of_gt hj]
  · simp [hj]
  · have : x.testBit j = false :=
      Nat.testBit_lt_two_pow (Nat.lt_of_lt_of_le h (Nat.pow_le_pow_right Nat.two_pos hj))
    simp [this]

/-- every byte is an xor of basis bytes: what holds of 0 and of the 8 basis bytes and passes to xors holds of all -/
theorem byte_ind (P : Nat → Prop) (h0 : P 0) (hb : ∀ i, i < 8 → P (2 ^ i))
    (hx : ∀ x y, x < 256 → y < 256 → P x → P y → P (x ^^^ y)) (x : Nat) (h : x < 256) : P x := by
  have key : ∀ n, n ≤ 8 → ∀ x, x < 2 ^ n → P x := by
    intro n
    induction n with
    | zero =>
      intro _ x hx0
      obtain rfl : x = 0 := Nat.lt_one_iff.mp hx0
      exact h0
    | succ n ih =>
      intro hn x hxn
      have hlo : x % 2 ^ n < 2 ^ n := Nat.mod_lt _ (Nat.two_pow_pos n)
      have h256 : 2 ^ n < 256 := pow_byte n hn
      rw [split_top_bit n x hxn]
      rcases and_two_pow_cases x n with e | e <;> rw [e]
      · exact hx _ _ (by omega) (Nat.zero_lt_succ _) (ih (Nat.le_of_succ_le hn) _ hlo) h0
      · exact hx _ _ (by omega) h256 (ih (Nat.le_of_succ_le hn) _ hlo) (hb n hn)
  exact key 8 (Nat.le_refl 8) x h

theorem gfMul_comm_basis : ∀ i, i < 8 → ∀ j, j < 8 → gfMul (2 ^ i) (2 ^ j) = gfMul (2 ^ j) (2 ^ i) := by decide +kernel

theorem gfMul_comm (a b : Nat) (ha : a < 256) (hb : b < 256) : gfMul a b = gfMul b a := by
  revert b
  refine byte_ind (fun a => ∀ b, b < 256 → gfMul a b = gfMul b a) ?_ ?_ ?_ a ha
  · intro b _; rw [gfMul_zero_left, gfMul_zero_right]
  · intro i hi b hb
    refine byte_ind (fun b => gfMul (2 ^ i) b = gfMul b (2 ^ i)) ?_ ?_ ?_ b hb
    · rw [gfMul_zero_left, gfMul_zero_right]
    · intro j hj; exact gfMul_comm_basis i hi j hj
    · intro x y hx hy px py; rw [gfMul_add_right, gfMul_add_left _ _ _ hx hy, px, py]
  · intro x y hx hy px py b hb
    rw [gfMul_add_right, gfMul_add_left _ _ _ hx hy, px b hb, py b hb]

theorem gfMul_one_left (x : Nat) (h : x < 256) : gfMul 1 x = x :=
  byte_ind (fun x => gfMul 1 x = x) (gfMul_zero_right 1) (by decide +kernel)
    (fun x y _ _ px py => by rw [gfMul_add_right, px, py]) x h

theorem gfMul_one_right (x : Nat) (h : x < 256) : gfMul x 1 = x := by
  rw [gfMul_comm x 1 h (by omega)]; exact gfMul_one_left x h

theorem two_pow_succ_eq_xt (i : Nat) (h : i + 1 < 8) : 2 ^ (i + 1) = xt (2 ^ i) := by
  have : 2 ^ i < 128 := Nat.pow_lt_pow_right Nat.one_lt_two (Nat.lt_of_succ_lt_succ h)
  rw [xt, if_neg (by omega), Nat.pow_succ]

/-- associativity: it holds for the factor 1, passes from `a` to `x·a` because multiplication by x commutes with
    `gfMul` (`gfMul_xt`), which gives the basis bytes, and is additive in `a` -/
theorem gfMul_assoc (a b c : Nat) (ha : a < 256) (hb : b < 256) :
    gfMul a (gfMul b c) = gfMul (gfMul a b) c := by
  revert b c
  refine byte_ind (fun a => ∀ b c, b < 256 → gfMul a (gfMul b c) = gfMul (gfMul a b) c) ?_ ?_ ?_ a ha
  · intro b c _; simp [gfMul_zero_left]
  · intro i
    induction i with
    | zero => intro _ b c hb; rw [gfMul_one_left _ (gfMul_lt b c hb), gfMul_one_left b hb]
    | succ i ih =>
      intro hi b c hb
      have h2 := pow_byte i (Nat.lt_of_succ_lt hi)
      rw [two_pow_succ_eq_xt i hi, gfMul_xt _ _ h2, gfMul_xt _ _ h2, gfMul_xt _ _ (gfMul_lt _ _ h2),
        ih (Nat.lt_of_succ_lt hi) b c hb]
  · intro x y hx hy px py b c hb
    rw [gfMul_add_left _ _ _ hx hy, px b c hb, py b c hb, gfMul_add_left _ _ _ hx hy,
      gfMul_add_left _ _ _ (gfMul_lt _ _ hx) (gfMul_lt _ _ hy)]

def IsBytes (l : List Nat) : Prop := ∀ x ∈ l, x < 256

instance (l : List Nat) : Decidable (IsBytes l) := by unfold IsBytes; infer_instance

theorem isBytes_cons {x : Nat} {l : List Nat} : IsBytes (x :: l) ↔ x < 256 ∧ IsBytes l :=
  List.forall_mem_cons

theorem IsBytes.digits {l : List Nat} (h : IsBytes l) : Digits 8 l := h

theorem mulQ_eq (a x : Nat) (ha : a < 256) (hx : x < 256) : mulQ a x = gfMul a x := by
  unfold mulQ
  split
  · rename_i h; rw [h, gfMul_zero_right]
  · split
    · rename_i h; rw [h, gfMul_one_right a ha]
    · split
      · rename_i h; rw [h, gfMul_one_left x hx]
      · rfl

theorem gfDot_foldl_acc (l : List (Nat × Nat)) : ∀ acc,
    l.foldl (fun acc xy => acc ^^^ gfMul xy.1 xy.2) acc = acc ^^^ l.foldl (fun acc xy => acc ^^^ gfMul xy.1 xy.2) 0 := by
  induction l with
  | nil => intro acc; simp
  | cons h t ih => intro acc; simp only [List.foldl_cons]; rw [ih (acc ^^^ _), ih (0 ^^^ _)]; simp [Nat.xor_assoc]

theorem gfDot_cons (x y : Nat) (r c : List Nat) : gfDot (x :: r) (y :: c) = gfMul x y ^^^ gfDot r c := by
  unfold gfDot
  simp only [List.zip_cons_cons, List.foldl_cons]
  rw [gfDot_foldl_acc, Nat.zero_xor]

@[simp] theorem gfDot_nil_left (c : List Nat) : gfDot [] c = 0 := by simp [gfDot]
@[simp] theorem gfDot_nil_right (r : List Nat) : gfDot r [] = 0 := by simp [gfDot]

theorem gfDot_lt : ∀ (r c : List Nat), IsBytes r → gfDot r c < 256 := by
  intro r
  induction r with
  | nil => intro c _; simp
  | cons x r ih =>
    intro c h
    cases c with
    | nil => simp
    | cons y c =>
      rw [gfDot_cons]
      exact Nat.xor_lt_two_pow (n := 8) (gfMul_lt _ _ (isBytes_cons.mp h).1) (ih c (isBytes_cons.mp h).2)

theorem gfDot_unit (i : Nat) : ∀ (d : List Nat) (s : Nat), IsBytes d →
    gfDot ((List.range' s d.length).map fun j => if j = i then 1 else 0) d = if s ≤ i then d.getD (i - s) 0 else 0
  | [], s, _ => by simp
  | y :: d, s, h => by
    have hy := (isBytes_cons.mp h).1
    rw [List.length_cons, List.range'_succ, List.map_cons, gfDot_cons, gfDot_unit i d (s + 1) (isBytes_cons.mp h).2]
    by_cases hs : s = i
    · subst hs
      rw [if_pos rfl, gfMul_one_left y hy, if_neg (Nat.not_succ_le_self s), Nat.xor_zero, if_pos (Nat.le_refl s),
        Nat.sub_self, List.getD_cons_zero]
    · rw [if_neg hs, gfMul_zero_left, Nat.zero_xor]
      by_cases hlt : s + 1 ≤ i
      · rw [if_pos hlt, if_pos (Nat.le_of_succ_le hlt), show i - s = (i - (s + 1)) + 1 by omega, List.getD_cons_succ]
      · rw [if_neg hlt, if_neg (by omega)]

theorem gfDot_smul (a : Nat) (ha : a < 256) : ∀ (b v : List Nat), IsBytes b →
    gfDot (b.map (mulQ a)) v = gfMul a (gfDot b v) := by
  intro b
  induction b with
  | nil => intro v _; simp [gfMul_zero_right]
  | cons x b ih =>
    intro v hb
    cases v with
    | nil => simp [gfMul_zero_right]
    | cons y v =>
      have hx := (isBytes_cons.mp hb).1
      rw [List.map_cons, gfDot_cons, gfDot_cons, gfMul_add_right, ih v (isBytes_cons.mp hb).2,
        mulQ_eq a x ha hx, gfMul_assoc a x y ha hx]

theorem gfDot_vadd : ∀ (u w v : List Nat), IsBytes u → IsBytes w → u.length = w.length →
    gfDot (vadd u w) v = gfDot u v ^^^ gfDot w v := by
  intro u
  induction u with
  | nil => intro w v _ _ hl; cases w <;> simp_all [vadd]
  | cons x u ih =>
    intro w v hu hw hl
    cases w with
    | nil => simp at hl
    | cons z w =>
      cases v with
      | nil => simp [vadd]
      | cons y v =>
        have hx := (isBytes_cons.mp hu).1
        have hz := (isBytes_cons.mp hw).1
        have := ih w v (isBytes_cons.mp hu).2 (isBytes_cons.mp hw).2 (Nat.succ.inj hl)
        unfold vadd at this ⊢
        rw [List.zipWith_cons_cons, gfDot_cons, gfDot_cons, gfDot_cons, this, gfMul_add_left x z y hx hz]
        ac_rfl

theorem gfDot_zeros (p : Nat) : ∀ v, gfDot (List.replicate p 0) v = 0 := by
  induction p with
  | zero => intro v; simp
  | succ p ih =>
    intro v
    cases v with
    | nil => simp
    | cons y v => rw [List.replicate_succ, gfDot_cons, ih, gfMul_zero_left]; rfl

theorem vadd_length (u w : List Nat) : (vadd u w).length = min u.length w.length :=
  List.length_zipWith

theorem vadd_bytes {u w : List Nat} (hu : IsBytes u) (hw : IsBytes w) : IsBytes (vadd u w) := by
  intro x hx
  unfold vadd at hx
  obtain ⟨i, hi, rfl⟩ := List.getElem_of_mem hx
  simp only [List.getElem_zipWith]
  simp only [List.length_zipWith] at hi
  exact Nat.xor_lt_two_pow (n := 8) (hu _ (List.getElem_mem _)) (hw _ (List.getElem_mem _))

theorem mulQ_map_bytes {x : Nat} {b : List Nat} (hx : x < 256) (hb : IsBytes b) : IsBytes (b.map (mulQ x)) := by
  intro y hy
  obtain ⟨z, hz, rfl⟩ := List.mem_map.mp hy
  rw [mulQ_eq x z hx (hb z hz)]
  exact gfMul_lt _ _ hx

theorem vecMat_cons (p x : Nat) (a b : List Nat) (B : List (List Nat)) :
    vecMat p (x :: a) (b :: B) = if x = 0 then vecMat p a B else vadd (b.map (mulQ x)) (vecMat p a B) := by
  rw [vecMat]

theorem vecMat_spec (p : Nat) : ∀ (a : List Nat) (B : List (List Nat)), IsBytes a →
    (∀ b ∈ B, b.length = p ∧ IsBytes b) → (vecMat p a B).length = p ∧ IsBytes (vecMat p a B) := by
  intro a
  induction a with
  | nil => intro B _ _; cases B <;> simp [vecMat, IsBytes]
  | cons x a ih =>
    intro B ha hB
    cases B with
    | nil => simp [vecMat, IsBytes]
    | cons b B =>
      have hx := (isBytes_cons.mp ha).1
      have hb := hB b (List.mem_cons_self)
      have hr := ih B (isBytes_cons.mp ha).2 (fun b' hb' => hB b' (List.mem_cons_of_mem _ hb'))
      rw [vecMat_cons]
      split
      · exact hr
      · constructor
        · rw [vadd_length, List.length_map, hb.1, hr.1, Nat.min_self]
        · exact vadd_bytes (mulQ_map_bytes hx hb.2) hr.2

theorem gfDot_matVec (p : Nat) (v : List Nat) : ∀ (a : List Nat) (B : List (List Nat)), IsBytes a →
    (∀ b ∈ B, b.length = p ∧ IsBytes b) → gfDot a (matVec B v) = gfDot (vecMat p a B) v := by
  intro a
  induction a with
  | nil => intro B _ _; cases B <;> simp [vecMat, gfDot_zeros]
  | cons x a ih =>
    intro B ha hB
    cases B with
    | nil => simp [vecMat, matVec, gfDot_zeros]
    | cons b B =>
      have hx := (isBytes_cons.mp ha).1
      have hb := hB b (List.mem_cons_self)
      have hB' : ∀ b' ∈ B, b'.length = p ∧ IsBytes b' := fun b' hb' => hB b' (List.mem_cons_of_mem _ hb')
      have hr := ih B (isBytes_cons.mp ha).2 hB'
      have hs := vecMat_spec p a B (isBytes_cons.mp ha).2 hB'
      have hmv : matVec (b :: B) v = gfDot b v :: matVec B v := rfl
      rw [hmv, gfDot_cons, hr, vecMat_cons]
      split
      · rename_i h0; rw [h0, gfMul_zero_left, Nat.zero_xor]
      · rw [gfDot_vadd _ _ _ (mulQ_map_bytes hx hb.2) hs.2 (by rw [List.length_map, hb.1, hs.1]),
          gfDot_smul x hx b v hb.2]

end SwV.Lemmas.C06
