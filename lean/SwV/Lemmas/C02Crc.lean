/-
C02 — the CONCRETE checksum: CRC-32C (`crc32c`, the bitwise Castagnoli CRC of SwV/Model/C02.lean that the
driver compares with `needle.NewCRC` on every record) separates byte strings whose bits differ inside a window of
at most 32 bits (the ingredients are here; the theorem `crc32c_detects_burst32` and its corollaries for one byte and
one bit are in SwV/Props/C02.lean), and `CRC.Value()`'s mangling (`crcValue`) is injective on 32-bit values; the
decoder's verdict on a record with such data follows there too (`decode_altered_of_crc_ne` and the
`decode_detects_*` theorems).  At the end, what those theorems are stated with: `flipBit`, and `withData` (a record
whose data bytes were replaced) with what the replacement leaves as it was.
Core Lean only; evaluation decides facts about one byte or one constant (the eight bit masks of a byte, the bits of
the 256 bytes in `wordOf_bits8`, bit 31 of the polynomial, `crcBit 0`), never anything about a string.

Route: the per-bit update `crcBit` (shift right, conditionally xor the reflected polynomial 0x82F63B78) is
GF(2)-linear, and its kernel is trivial because the polynomial has its top bit set (= constant term 1 of the
Castagnoli polynomial): the shifted state has top bit 0, so an odd register cannot become 0, and an even one is only
shifted.  Hence the update is INJECTIVE, and a difference in the register survives every later bit and the final xor.
Feeding n ≤ 32 bits is xoring them in as one word and stepping n times; the word determines the bits, and a byte is
the word of its eight bits.
-/
import SwV.Lemmas.C02
namespace SwV.Lemmas.C02
open SwV.Model.C02

theorem and_one_eq_one_iff (c : UInt32) : c &&& 1 = 1 ↔ c.toNat % 2 = 1 := by
  rw [← UInt32.toNat_inj, UInt32.toNat_and, ← Nat.and_one_is_mod]; rfl

theorem shr1_toNat (c : UInt32) : (c >>> 1).toNat = c.toNat / 2 := by
  rw [UInt32.toNat_shiftRight]; rfl

/-- the odd branch of `crcBit` never gives 0: bit 31 of the polynomial is set, bit 31 of a shifted state is not -/
theorem shr1_xor_poly_ne_zero (a : UInt32) : (a >>> 1) ^^^ (0x82F63B78 : UInt32) ≠ 0 := by
  intro h
  have h2 := congrArg (fun x => x.toNat.testBit 31) h
  simp only [UInt32.toNat_xor, Nat.testBit_xor, shr1_toNat] at h2
  have ha : a.toNat / 2 < 2 ^ 31 := Nat.div_lt_of_lt_mul a.toNat_lt
  rw [Nat.testBit_lt_two_pow ha] at h2
  revert h2; decide

theorem nat_xor_mod2 (x y : Nat) : (x ^^^ y) % 2 = (x % 2 + y % 2) % 2 := by
  have := @Nat.xor_mod_two_eq_one x y
  omega

theorem lsb_xor (a b : UInt32) : ((a ^^^ b) &&& 1 = 1) ↔ ¬ ((a &&& 1 = 1) ↔ (b &&& 1 = 1)) := by
  rw [and_one_eq_one_iff, and_one_eq_one_iff, and_one_eq_one_iff, UInt32.toNat_xor]
  exact Nat.xor_mod_two_eq_one

theorem u32_xor_cancel (p x y : UInt32) : (x ^^^ p) ^^^ (y ^^^ p) = x ^^^ y := by
  rw [show (x ^^^ p) ^^^ (y ^^^ p) = (x ^^^ y) ^^^ (p ^^^ p) by ac_rfl]; simp

theorem crcBit_xor (a b : UInt32) : crcBit (a ^^^ b) = crcBit a ^^^ crcBit b := by
  unfold crcBit
  have hl := lsb_xor a b
  by_cases ha : a &&& 1 = 1 <;> by_cases hb : b &&& 1 = 1
  · have : ¬ ((a ^^^ b) &&& 1 = 1) := by rw [hl]; simp [ha, hb]
    simp only [ha, hb, this, if_true, if_false, UInt32.shiftRight_xor, u32_xor_cancel]
  · have : (a ^^^ b) &&& 1 = 1 := by rw [hl]; simp [ha, hb]
    simp only [ha, hb, this, if_true, if_false, UInt32.shiftRight_xor]; ac_rfl
  · have : (a ^^^ b) &&& 1 = 1 := by rw [hl]; simp [ha, hb]
    simp only [ha, hb, this, if_true, if_false, UInt32.shiftRight_xor]; ac_rfl
  · have : ¬ ((a ^^^ b) &&& 1 = 1) := by rw [hl]; simp [ha, hb]
    simp only [ha, hb, this, if_false, UInt32.shiftRight_xor]

/-- the kernel of the (GF(2)-linear) register update is trivial: an odd register gets the polynomial's top bit, an
    even one is only shifted -/
theorem crcBit_eq_zero (c : UInt32) (h : crcBit c = 0) : c = 0 := by
  unfold crcBit at h
  split at h
  · exact absurd h (shr1_xor_poly_ne_zero c)
  · rename_i hc
    have h2 := congrArg UInt32.toNat h
    rw [shr1_toNat] at h2
    rw [and_one_eq_one_iff] at hc
    rw [← UInt32.toNat_inj]
    show c.toNat = 0
    have : (0 : UInt32).toNat = 0 := rfl
    omega

theorem crcBit_inj (a b : UInt32) (h : crcBit a = crcBit b) : a = b :=
  UInt32.xor_eq_zero_iff.mp (crcBit_eq_zero _ (by rw [crcBit_xor, h, UInt32.xor_self]))

theorem crcBit_zero : crcBit 0 = 0 := by decide +kernel

theorem crcBit_ne_zero (c : UInt32) (h : c ≠ 0) : crcBit c ≠ 0 :=
  fun h0 => h (crcBit_eq_zero c h0)

def crcBitN : Nat → UInt32 → UInt32
  | 0, c => c
  | n + 1, c => crcBitN n (crcBit c)

theorem crcBitN_inj (n : Nat) : ∀ a b, crcBitN n a = crcBitN n b → a = b := by
  induction n with
  | zero => intro a b h; exact h
  | succ n ih => intro a b h; exact crcBit_inj _ _ (ih _ _ h)

theorem crcByte_eq (s : UInt32) (b : UInt8) : crcByte s b = crcBitN 8 (s ^^^ b.toUInt32) := rfl

theorem foldl_inj {σ α : Type} {f : σ → α → σ} (hf : ∀ a s t, f s a = f t a → s = t) (l : List α) :
    ∀ s t, l.foldl f s = l.foldl f t → s = t := by
  induction l with
  | nil => intro s t h; exact h
  | cons a r ih => intro s t h; exact hf a s t (ih _ _ h)

theorem crcBit_even (c : UInt32) (h : c.toNat % 2 = 0) : crcBit c = c >>> 1 := by
  unfold crcBit
  have : ¬ (c &&& 1 = 1) := by rw [and_one_eq_one_iff]; omega
  exact if_neg this

/-- the register after one message bit; `crcByte` is eight of these (`crcByte_eq_feed`) -/
def feedBit (s : UInt32) (b : Bool) : UInt32 := crcBit (s ^^^ b.toUInt32)

/-- a list of bits as a word, first bit = bit 0 -/
def wordOf : List Bool → UInt32
  | [] => 0
  | b :: r => b.toUInt32 ^^^ (wordOf r <<< 1)

theorem wordOf_cons (b : Bool) (r : List Bool) : wordOf (b :: r) = b.toUInt32 ^^^ (wordOf r <<< 1) := rfl

theorem feedBit_inj (b : Bool) (s t : UInt32) (h : feedBit s b = feedBit t b) : s = t :=
  (UInt32.xor_left_inj _).mp (crcBit_inj _ _ h)

theorem toUInt32_toNat (b : Bool) : b.toUInt32.toNat = if b then 1 else 0 := by cases b <;> rfl

theorem shl1_toNat (w : UInt32) (h : w.toNat < 2 ^ 31) : (w <<< 1).toNat = 2 * w.toNat := by
  rw [UInt32.toNat_shiftLeft]
  simp only [show (1 : UInt32).toNat % 32 = 1 from rfl, Nat.shiftLeft_eq]
  omega

theorem wordOf_lt : ∀ (u : List Bool), u.length ≤ 32 → (wordOf u).toNat < 2 ^ u.length := by
  intro u
  induction u with
  | nil => intro _; decide
  | cons b r ih =>
    intro h
    have hr := ih (Nat.le_of_succ_le h)
    have hr31 : (wordOf r).toNat < 2 ^ 31 := Nat.lt_of_lt_of_le hr (Nat.pow_le_pow_right Nat.two_pos (Nat.le_of_succ_le_succ h))
    have h1 := Nat.one_le_two_pow (n := r.length)
    have h2 : 2 ^ (r.length + 1) = 2 ^ r.length * 2 := Nat.pow_succ ..
    rw [wordOf_cons, UInt32.toNat_xor, shl1_toNat _ hr31, List.length_cons]
    apply Nat.xor_lt_two_pow
    · rw [toUInt32_toNat]; split <;> omega
    · omega

theorem wordOf_lt31 (r : List Bool) (h : r.length < 32) : (wordOf r).toNat < 2 ^ 31 :=
  Nat.lt_of_lt_of_le (wordOf_lt r (Nat.le_of_lt h)) (Nat.pow_le_pow_right Nat.two_pos (Nat.le_of_lt_succ h))

theorem crcBit_shl1 {w : UInt32} (h : w.toNat < 2 ^ 31) : crcBit (w <<< 1) = w := by
  rw [crcBit_even _ (by rw [shl1_toNat w h]; omega)]
  rw [← UInt32.toNat_inj, shr1_toNat, shl1_toNat w h]; omega

theorem foldl_feedBit_eq : ∀ (u : List Bool) (s : UInt32), u.length ≤ 32 →
    u.foldl feedBit s = crcBitN u.length (s ^^^ wordOf u) := by
  intro u
  induction u with
  | nil => intro s _; simp [wordOf, crcBitN]
  | cons b r ih =>
    intro s h
    have hr : r.length < 32 := Nat.lt_of_succ_le h
    rw [List.foldl_cons, ih _ (Nat.le_of_lt hr), List.length_cons]
    show _ = crcBitN r.length (crcBit (s ^^^ wordOf (b :: r)))
    congr 1
    unfold feedBit
    rw [wordOf_cons, ← UInt32.xor_assoc, crcBit_xor (s ^^^ b.toUInt32), crcBit_shl1 (wordOf_lt31 r hr)]

theorem lsb_wordOf (b : Bool) {w : UInt32} (h : w.toNat < 2 ^ 31) : (b.toUInt32 ^^^ (w <<< 1)).toNat % 2 = if b then 1 else 0 := by
  rw [UInt32.toNat_xor, nat_xor_mod2, shl1_toNat w h, toUInt32_toNat]
  split <;> omega

theorem wordOf_inj : ∀ (u u' : List Bool), u.length = u'.length → u.length ≤ 32 → wordOf u = wordOf u' → u = u' := by
  intro u
  induction u with
  | nil => intro u' hl _ _; cases u' with | nil => rfl | cons _ _ => simp at hl
  | cons b r ih =>
    intro u' hl hn h
    cases u' with
    | nil => simp at hl
    | cons b' r' =>
      have hrl : r.length = r'.length := Nat.succ.inj hl
      have hr : r.length < 32 := Nat.lt_of_succ_le hn
      have hr31 := wordOf_lt31 r hr
      have hr31' := wordOf_lt31 r' (by omega)
      rw [wordOf_cons, wordOf_cons] at h
      have hb : b = b' := by
        have h1 := lsb_wordOf b hr31
        have h2 := lsb_wordOf b' hr31'
        rw [h, h2] at h1
        cases b <;> cases b' <;> simp at h1 <;> rfl
      subst hb
      have h3 := (UInt32.xor_right_inj _).mp h
      have h4 : wordOf r = wordOf r' := by
        -- `crcBit` serves as the right shift: it undoes `<<< 1` on a word below 2^31 (`crcBit_shl1`)
        have := congrArg crcBit h3
        rwa [crcBit_shl1 hr31, crcBit_shl1 hr31'] at this
      rw [ih r' hrl (Nat.le_of_lt hr) h4]

/-- the bits of a byte in the order the (reflected) CRC consumes them: least significant first -/
def bits8 (x : UInt8) : List Bool := (List.range 8).map fun i => x.toNat.testBit i

def bitsOf (d : Bytes) : List Bool := d.flatMap bits8

theorem bits8_length (x : UInt8) : (bits8 x).length = 8 := by simp [bits8]

theorem bitsOf_length (d : Bytes) : (bitsOf d).length = 8 * d.length := by
  induction d with
  | nil => rfl
  | cons x r ih => simp only [bitsOf, List.flatMap_cons, List.length_append, bits8_length, List.length_cons] at *; omega

theorem wordOf_bits8 (x : UInt8) : wordOf (bits8 x) = x.toUInt32 := by
  have h : ∀ n, n < 256 → wordOf (bits8 (UInt8.ofNat n)) = (UInt8.ofNat n).toUInt32 := by decide +kernel
  have := h x.toNat x.toNat_lt
  rwa [UInt8.ofNat_toNat] at this

theorem bits8_inj (x y : UInt8) (h : bits8 x = bits8 y) : x = y :=
  UInt8.toUInt32_inj.mp (by rw [← wordOf_bits8, h, wordOf_bits8])

theorem crcByte_eq_feed (s : UInt32) (x : UInt8) : crcByte s x = (bits8 x).foldl feedBit s := by
  rw [crcByte_eq, foldl_feedBit_eq _ _ (by rw [bits8_length]; omega), bits8_length, wordOf_bits8]

theorem foldl_crcByte_eq_feed (d : Bytes) : ∀ s, d.foldl crcByte s = (bitsOf d).foldl feedBit s := by
  induction d with
  | nil => intro s; rfl
  | cons x r ih =>
    intro s
    simp only [List.foldl_cons, bitsOf, List.flatMap_cons, List.foldl_append]
    rw [ih, crcByte_eq_feed]; rfl

/-! `CRC.Value()` (`crcValue`) rotates right by 15 and adds a constant: a bijection on 32-bit values. -/

/-- the inverse: subtract the constant, rotate left by 15 -/
def crcUnvalue (w : Nat) : Nat :=
  let r := (w + 2 ^ 32 - 0xa282ead8) % 2 ^ 32
  (r % 2 ^ 17) * 2 ^ 15 + r / 2 ^ 17

theorem crcUnvalue_crcValue (c : Nat) (h : c < 2 ^ 32) : crcUnvalue (crcValue c) = c := by
  unfold crcUnvalue crcValue
  -- the rotation in arithmetic: the low 15 bits move above the high 17
  rw [Nat.shiftRight_eq_div_pow, show (c <<< 17) % 2 ^ 32 = 2 ^ 17 * (c % 2 ^ 15) by rw [Nat.shiftLeft_eq]; omega,
    Nat.or_comm, ← Nat.two_pow_add_eq_or_of_lt (Nat.div_lt_of_lt_mul h)]
  have h1 : 2 ^ 17 * (c % 2 ^ 15) + c / 2 ^ 15 < 2 ^ 32 := by omega
  generalize hx : 2 ^ 17 * (c % 2 ^ 15) + c / 2 ^ 15 = x at *
  have e : ((x + 0xa282ead8) % 2 ^ 32 + 2 ^ 32 - 0xa282ead8) % 2 ^ 32 = x := by omega
  simp only [e]
  omega

theorem crcValue_inj (a b : Nat) (ha : a < 2 ^ 32) (hb : b < 2 ^ 32) (h : crcValue a = crcValue b) : a = b := by
  rw [← crcUnvalue_crcValue a ha, h, crcUnvalue_crcValue b hb]

/-- flip bit `i` of a byte string: bit `i % 8` (LSB = 0) of byte `i / 8` -/
def flipBit (d : Bytes) (i : Nat) : Bytes := d.modify (i / 8) (· ^^^ UInt8.ofNat (2 ^ (i % 8)))

@[simp] theorem flipBit_length {d : Bytes} {i : Nat} : (flipBit d i).length = d.length :=
  List.length_modify ..

theorem flipBit_split (d : Bytes) (i : Nat) (hi : i < 8 * d.length) :
    ∃ pre x y post, y ≠ x ∧ d = pre ++ x :: post ∧ flipBit d i = pre ++ y :: post := by
  have hk : i / 8 < d.length := Nat.div_lt_of_lt_mul hi
  have hm : ∀ j, j < 8 → UInt8.ofNat (2 ^ j) ≠ 0 := by decide +kernel
  refine ⟨d.take (i / 8), d[i / 8], d[i / 8] ^^^ UInt8.ofNat (2 ^ (i % 8)), d.drop (i / 8 + 1), ?_, ?_, ?_⟩
  · intro h
    have : d[i / 8] ^^^ UInt8.ofNat (2 ^ (i % 8)) = d[i / 8] ^^^ 0 := h.trans UInt8.xor_zero.symm
    exact hm _ (Nat.mod_lt _ (by decide)) ((UInt8.xor_right_inj _).mp this)
  · simp
  · unfold flipBit
    rw [List.modify_eq_take_cons_drop hk]

theorem flipBit_ne (d : Bytes) (i : Nat) (hi : i < 8 * d.length) : flipBit d i ≠ d := by
  obtain ⟨pre, x, y, post, hxy, rfl, hf⟩ := flipBit_split d i hi
  intro h
  rw [hf] at h
  injection List.append_cancel_left h with h3 _
  exact hxy h3

/-- a record as it sits on disk after its DATA bytes were replaced by `d'` (same length): every other byte
    (sizes, flags, metadata, the stored checksum = CRC of the ORIGINAL data, timestamp, padding) is unchanged -/
def withData (n : Needle) (d' : Bytes) : Needle := { n with data := d' }

/-- … after bit `i` of the data was flipped -/
def corruptData (n : Needle) (i : Nat) : Needle := withData n (flipBit n.data i)

theorem withData_wf (crc : Bytes → UInt32) (n : Needle) (d' : Bytes) (hl : d'.length = n.data.length) (h : WF crc n) :
    WF (fun _ => crc n.data) (withData n d') := by
  obtain ⟨h1, h2, h3, h4, h5, h6, h7, h8, h9, h10, h11⟩ := h
  exact ⟨h1, h2, h3, h4, h5, h6, h7, h8, h9, h10, by simpa [withData, hl] using h11⟩

theorem withData_recSize (n : Needle) (d' : Bytes) (hl : d'.length = n.data.length) :
    recSize (withData n d') = recSize n := by
  unfold recSize nameSize mimeSize withData
  simp only [hl]

theorem withData_shape (v : Nat) (n : Needle) (d' : Bytes) (hl : d'.length = n.data.length) (hpos : 0 < n.data.length) :
    encode v n = headerBytes n ++ ((be 4 n.data.length ++ (n.data ++ (n.flags :: metaBytes n))) ++ tailBytes v n) ∧
    encode v (withData n d') =
      headerBytes n ++ ((be 4 n.data.length ++ (d' ++ (n.flags :: metaBytes n))) ++ tailBytes v n) := by
  have hr := withData_recSize n d' hl
  have hpos' : 0 < d'.length := by omega
  constructor
  · unfold encode bodyBytes; simp only [gt_iff_lt, hpos, if_true]
  · have e1 : headerBytes (withData n d') = headerBytes n := by
      unfold headerBytes; rw [hr]; rfl
    have e2 : tailBytes v (withData n d') = tailBytes v n := by
      unfold tailBytes padSource; rw [hr]
      simp only [withData, gt_iff_lt, hpos, hpos', true_and]
    have e3 : metaBytes (withData n d') = metaBytes n := by
      unfold metaBytes nameSec mimeSec lmSec ttlSec pairsSec nameSize mimeSize withData; rfl
    unfold encode
    rw [e1, e2]
    unfold bodyBytes
    rw [e3]
    simp only [withData, gt_iff_lt, hl, hpos, if_true]

end SwV.Lemmas.C02
