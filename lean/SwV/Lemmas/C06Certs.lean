/-
C06 — kernel check of the 1471 decoding-matrix certificates of SwV/Model/C06RS.lean (the COMPLETE finite family of
erasure patterns losing at most 4 of 14 shards): for every pattern, the ten selected generator rows are ten rows of
ten bytes and the certified matrix is a left inverse of them (`certs_ok`).

`checkCert` multiplies byte by byte with the model's `mulQ` (`gfMul` on bytes); evaluating that 1471 times is slow.  The kernel
evaluates `fastCheck` instead, which never takes a certificate apart: a row of ten bytes is one 80-bit number
(`packW 8`), the ten rows of a certificate are one number (`packW 80`, which is how `rsCerts` stores them), adding
rows is xor, a unit row times a scalar is a shift, and a parity row times a scalar is the xor of the entries of an
eight-entry table (`parityBasis`: the row times 1, 2, 4, …, 128) selected by the bits of the scalar (`bitsDot` of
SwV/Lemmas/C06RS.lean, the form in which `gfMul` itself is characterised there).
The table gives the right product for every scalar by linearity from the eight basis bytes (`genRowP_spec`); xor
carries that to a row vector times the selected rows and then to the ten rows of a certificate at once, and
`packW` is injective on digits, so equal numbers are equal matrices (`checkCert_of_fast`).
-/
import SwV.Model.C06RS
import SwV.Lemmas.C06RS
namespace SwV.Lemmas.C06
open SwV.Model.C06

/-- the number with the given base-`2 ^ w` digits, lowest first -/
def packW (w : Nat) : List Nat → Nat
  | [] => 0
  | x :: xs => x + 2 ^ w * packW w xs

theorem xor_cons {w x z : Nat} (hx : x < 2 ^ w) (hz : z < 2 ^ w) (A B : Nat) :
    (x + 2 ^ w * A) ^^^ (z + 2 ^ w * B) = (x ^^^ z) + 2 ^ w * (A ^^^ B) := by
  apply Nat.eq_of_testBit_eq
  intro j
  rw [Nat.testBit_xor, Nat.add_comm x, Nat.add_comm z, Nat.add_comm (x ^^^ z), Nat.testBit_two_pow_mul_add _ hx,
    Nat.testBit_two_pow_mul_add _ hz, Nat.testBit_two_pow_mul_add _ (Nat.xor_lt_two_pow hx hz)]
  split <;> simp [Nat.testBit_xor]

theorem and_cons {w m : Nat} (hm : m < 2 ^ w) (c P : Nat) :
    c &&& (m + 2 ^ w * P) = (c &&& m) + 2 ^ w * ((c >>> w) &&& P) := by
  apply Nat.eq_of_testBit_eq
  intro j
  rw [Nat.testBit_and, Nat.add_comm m, Nat.add_comm (c &&& m), Nat.testBit_two_pow_mul_add _ hm,
    Nat.testBit_two_pow_mul_add _ (Nat.lt_of_le_of_lt Nat.and_le_right hm)]
  split
  · rw [Nat.testBit_and]
  · rw [Nat.testBit_and, Nat.testBit_shiftRight]
    congr 2; omega

theorem packW_xor {w : Nat} : ∀ (u v : List Nat), Digits w u → Digits w v → u.length = v.length →
    packW w (List.zipWith (· ^^^ ·) u v) = packW w u ^^^ packW w v
  | [], [], _, _, _ => by simp [packW]
  | x :: u, z :: v, hu, hv, hl => by
    have hu := digits_cons.mp hu
    have hv := digits_cons.mp hv
    rw [List.zipWith_cons_cons, packW, packW, packW, packW_xor u v hu.2 hv.2 (Nat.succ.inj hl), xor_cons hu.1 hv.1]

theorem packW_map_xor (w : Nat) (f g : Nat → Nat) (l : List Nat) (h : ∀ r ∈ l, f r < 2 ^ w ∧ g r < 2 ^ w) :
    packW w (l.map fun r => f r ^^^ g r) = packW w (l.map f) ^^^ packW w (l.map g) := by
  rw [← packW_xor _ _ (List.forall_mem_map.mpr fun r hr => (h r hr).1) (List.forall_mem_map.mpr fun r hr => (h r hr).2)
    (by simp), List.zipWith_map, List.zipWith_self]

theorem packW_inj {w : Nat} : ∀ (u v : List Nat), Digits w u → Digits w v → u.length = v.length →
    packW w u = packW w v → u = v
  | [], [], _, _, _, _ => rfl
  | x :: u, z :: v, hu, hv, hl, h => by
    have hu := digits_cons.mp hu
    have hv := digits_cons.mp hv
    simp only [packW] at h
    have h1 := congrArg (· % 2 ^ w) h
    have h2 := congrArg (· / 2 ^ w) h
    simp only [Nat.add_mul_mod_self_left, Nat.mod_eq_of_lt hu.1, Nat.mod_eq_of_lt hv.1] at h1
    simp only [Nat.add_mul_div_left _ _ (Nat.two_pow_pos w), Nat.div_eq_of_lt hu.1, Nat.div_eq_of_lt hv.1,
      Nat.zero_add] at h2
    rw [h1, packW_inj u v hu.2 hv.2 (Nat.succ.inj hl) h2]

theorem packW_lt {w : Nat} : ∀ l : List Nat, Digits w l → packW w l < 2 ^ (w * l.length)
  | [], _ => Nat.two_pow_pos _
  | x :: l, h => by
    have h := digits_cons.mp h
    have ih := packW_lt l h.2
    rw [packW, List.length_cons, Nat.mul_succ, Nat.pow_add, Nat.mul_comm (2 ^ (w * l.length))]
    calc x + 2 ^ w * packW w l < 2 ^ w + 2 ^ w * packW w l := by omega
      _ = 2 ^ w * (packW w l + 1) := by rw [Nat.mul_add, Nat.mul_one, Nat.add_comm]
      _ ≤ 2 ^ w * 2 ^ (w * l.length) := Nat.mul_le_mul_left _ ih

theorem packW_map_mul (w t : Nat) (f : Nat → Nat) : ∀ l : List Nat,
    packW w (l.map f) * t = packW w (l.map fun r => f r * t)
  | [] => Nat.zero_mul _
  | r :: l => by
    simp only [List.map_cons, packW]
    rw [Nat.add_mul, Nat.mul_assoc, packW_map_mul w t f l]

theorem packW_map_zero (w : Nat) : ∀ l : List Nat, packW w (l.map fun _ => 0) = 0
  | [] => rfl
  | _ :: l => by simp [packW, packW_map_zero w l]

/-- a mask repeated in every digit acts on every digit of `c` (`c` may have more digits than the mask) -/
theorem and_replicate {w m : Nat} (hm : m < 2 ^ w) : ∀ (n c : Nat),
    c &&& packW w (List.replicate n m) = packW w ((List.range n).map fun r => (c >>> (w * r)) &&& m)
  | 0, _ => Nat.and_zero _
  | n + 1, c => by
    rw [List.replicate_succ, packW, and_cons hm, and_replicate hm n, List.range_succ_eq_map, List.map_cons,
      List.map_map, packW]
    congr 3
    apply List.map_congr_left
    intro r _
    show (c >>> w) >>> (w * r) &&& m = c >>> (w * (r + 1)) &&& m
    rw [← Nat.shiftRight_add, Nat.mul_succ, Nat.add_comm]

/-- row `i` of the generator matrix `[I ; rsParity]` -/
def genRow (i : Nat) : List Nat := (generator 10 rsParity).getD i []

theorem genRow_spec : ∀ i, i < 14 → (genRow i).length = 10 ∧ IsBytes (genRow i) := by decide

theorem genRows_spec {idx : List Nat} (h : ∀ i ∈ idx, i < 14) : ∀ b ∈ idx.map genRow, b.length = 10 ∧ IsBytes b := by
  intro b hb
  obtain ⟨j, hj, rfl⟩ := List.mem_map.mp hb
  exact genRow_spec j (h j hj)

/-- entry `k` of row `q` is `packW 8 ((rsParity row q).map (gfMul (2 ^ k)))`, parity row `q` times the basis byte
    `2 ^ k`; `genRowP_basis` checks the 32 entries against `gfMul` -/
def parityBasis : List (List Nat) :=
  [[9516862270830623561345, 19014981699192007897375, 38010083396910150214206, 76002000680293875434620,
    152003935212748402759160, 304007870122156150241261, 608015669326907072605895, 139848073219601297431699],
   [14222361099578788839830, 28424256738592201449265, 56832078711902009179746, 113643694474467901799620,
    227270455103175082899605, 454540909955579910221111, 909063733454012604860270, 741962791178698573911004],
   [18994949082547610638015, 37971732051573292183907, 75943397645365250719686, 151868708585037826096785,
    303720989446009888104767, 607421586281741443456894, 138678503899746852512764, 277338848181800373017573],
   [23701739751109716262870, 47383016552887544472497, 94749099569956623271551, 189498128488715057664510,
    378978106626506882039777, 757956133594379864342239, 439730730888425530653859, 879442727906396974212443]]

theorem parityBasis_spec : ∀ q, q < 4 →
    (parityBasis.getD q []).length = 8 ∧ ∀ t ∈ parityBasis.getD q [], t < 2 ^ 80 := by decide

/-- `a` times generator row `i` as one number: a shift for the unit rows, the bit table for the parity rows -/
def genRowP (i a : Nat) : Nat := if i < 10 then a <<< (8 * i) else bitsDot a (parityBasis.getD (i - 10) [])

theorem genRowP_add (i x y : Nat) : genRowP i (x ^^^ y) = genRowP i x ^^^ genRowP i y := by
  unfold genRowP
  split
  · exact Nat.shiftLeft_xor_distrib
  · exact bitsDot_add x y _

theorem genRowP_zero (i : Nat) : genRowP i 0 = 0 := by
  have := genRowP_add i 0 0
  simpa using this

theorem packW_smul_add {x y : Nat} (hx : x < 256) (hy : y < 256) : ∀ row : List Nat,
    packW 8 (row.map (gfMul (x ^^^ y))) = packW 8 (row.map (gfMul x)) ^^^ packW 8 (row.map (gfMul y))
  | [] => by simp [packW]
  | b :: row => by
    simp only [List.map_cons, packW]
    rw [packW_smul_add hx hy row, gfMul_add_left x y b hx hy]
    exact (xor_cons (gfMul_lt x b hx) (gfMul_lt y b hy) _ _).symm

theorem genRowP_basis : ∀ i, i < 14 → packW 8 ((genRow i).map (gfMul 0)) = genRowP i 0 ∧
    ∀ k, k < 8 → packW 8 ((genRow i).map (gfMul (2 ^ k))) = genRowP i (2 ^ k) := by
  decide +kernel

theorem genRowP_spec (a : Nat) (ha : a < 256) (i : Nat) (hi : i < 14) :
    packW 8 ((genRow i).map (mulQ a)) = genRowP i a := by
  have hm : (genRow i).map (mulQ a) = (genRow i).map (gfMul a) :=
    List.map_congr_left fun x hx => mulQ_eq a x ha ((genRow_spec i hi).2 x hx)
  rw [hm]
  -- both sides are additive in `a`, so the eight basis bytes decide
  refine byte_ind (fun a => packW 8 ((genRow i).map (gfMul a)) = genRowP i a) ?_ ?_ ?_ a ha
  · exact (genRowP_basis i hi).1
  · exact (genRowP_basis i hi).2
  · intro x y hx hy px py; rw [packW_smul_add hx hy, px, py, genRowP_add]

theorem genRowP_lt {a : Nat} (ha : a < 256) {i : Nat} (hi : i < 14) : genRowP i a < 2 ^ 80 := by
  have := packW_lt _ (mulQ_map_bytes ha (genRow_spec i hi).2).digits
  rwa [List.length_map, (genRow_spec i hi).1, genRowP_spec a ha i hi] at this

/-- the `n` low bytes of `c`, lowest first -/
def bytes : Nat → Nat → List Nat
  | 0, _ => []
  | n + 1, c => c % 256 :: bytes n (c / 256)

theorem bytes_isBytes : ∀ n c, IsBytes (bytes n c)
  | 0, _ => List.forall_mem_nil _
  | n + 1, c => isBytes_cons.mpr ⟨Nat.mod_lt _ (by omega), bytes_isBytes n _⟩

theorem bytes_eq : ∀ n c, bytes n c = (List.range n).map fun j => (c >>> (8 * j)) % 256
  | 0, _ => rfl
  | n + 1, c => by
    rw [bytes, bytes_eq n, List.range_succ_eq_map, List.map_cons, List.map_map]
    congr 1
    apply List.map_congr_left
    intro j _
    show (c / 256) >>> (8 * j) % 256 = c >>> (8 * (j + 1)) % 256
    rw [show 8 * (j + 1) = 8 + 8 * j by omega, Nat.shiftRight_add, Nat.shiftRight_eq_div_pow c 8]

/-- `⊕ⱼ aⱼ · genRow idxⱼ` as one number; the scalars `aⱼ` are the low bytes of `c` -/
def vecMatP : Nat → List Nat → Nat
  | _, [] => 0
  | c, i :: is => genRowP i (c % 256) ^^^ vecMatP (c / 256) is

theorem vecMatP_spec : ∀ (idx : List Nat) (c : Nat), (∀ i ∈ idx, i < 14) →
    vecMatP c idx = packW 8 (vecMat 10 (bytes idx.length c) (idx.map genRow))
  | [], _, _ => rfl
  | i :: is, c, h => by
    obtain ⟨hi, his⟩ := List.forall_mem_cons.mp h
    have hc : c % 256 < 256 := Nat.mod_lt _ (by omega)
    have hrest := vecMat_spec 10 (bytes is.length (c / 256)) (is.map genRow) (bytes_isBytes _ _) (genRows_spec his)
    rw [List.length_cons, bytes, List.map_cons, vecMat_cons, vecMatP, vecMatP_spec is (c / 256) his]
    split
    · rename_i h0; rw [h0, genRowP_zero, Nat.zero_xor]
    · rw [vadd, packW_xor _ _ (mulQ_map_bytes hc (genRow_spec i hi).2).digits hrest.2.digits
          (by rw [List.length_map, (genRow_spec i hi).1, hrest.1]), genRowP_spec _ hc i hi]

theorem vecMatP_lt : ∀ (idx : List Nat) (c : Nat), (∀ i ∈ idx, i < 14) → vecMatP c idx < 2 ^ 80
  | [], _, _ => Nat.two_pow_pos 80
  | i :: is, c, h =>
    Nat.xor_lt_two_pow (genRowP_lt (Nat.mod_lt _ (by omega)) (List.forall_mem_cons.mp h).1)
      (vecMatP_lt is _ (List.forall_mem_cons.mp h).2)

/-! ### all ten rows of a certificate at once

A certificate `c` is ten rows of 80 bits.  One column of it (the low byte of every row; `c >>> 8` brings up the next
column) is multiplied by a generator row in all ten rows together: a mask and a shift for a unit row; for a parity
row, bit `k` of the ten bytes (ten bits 80 apart) times table entry `k` puts a copy of the entry into every row whose
bit is set. -/

/-- a one in every row: `1 + 2 ^ 80 + … + 2 ^ 720`, as a geometric sum -/
def blockOnes : Nat := (2 ^ 800 - 1) / (2 ^ 80 - 1)

theorem blockOnes_eq : blockOnes = packW 80 (List.replicate 10 1) ∧
    255 * blockOnes = packW 80 (List.replicate 10 255) := by decide +kernel

/-- `bitsDot (row r of v) ts` in every row `r` at once: `v &&& blockOnes` is bit 0 of every row, and a row that is
    0 or 1 times `t < 2 ^ 80` is nothing or `t` in that row, without carry into the next -/
def bitsMul (v : Nat) : List Nat → Nat
  | [] => 0
  | t :: ts => (v &&& blockOnes) * t ^^^ bitsMul (v >>> 1) ts

theorem bitsMul_spec : ∀ (ts : List Nat) (v : Nat), Digits 80 ts →
    bitsMul v ts = packW 80 ((List.range 10).map fun r => bitsDot (v >>> (80 * r)) ts)
  | [], _, _ => (packW_map_zero 80 (List.range 10)).symm
  | t :: ts, v, h => by
    have h := digits_cons.mp h
    rw [bitsMul, blockOnes_eq.1, and_replicate (by decide) 10 v, packW_map_mul, bitsMul_spec ts _ h.2, ← packW_map_xor]
    · congr 1
      apply List.map_congr_left
      intro r _
      rw [bitsDot, Nat.and_one_is_mod, ← Nat.shiftRight_add, Nat.add_comm, Nat.shiftRight_add, Nat.shiftRight_eq_div_pow _ 1]
    · intro r _
      rw [Nat.and_one_is_mod]
      exact ⟨bit_mul_lt _ h.1, bitsDot_lt _ ts h.2⟩

/-- `genRowP i (low byte of row r of v)` in every row `r` at once -/
def colP (i v : Nat) : Nat :=
  if i < 10 then (v &&& 255 * blockOnes) <<< (8 * i) else bitsMul v (parityBasis.getD (i - 10) [])

theorem bitsDot_mod : ∀ (ts : List Nat) (n a : Nat), ts.length ≤ n → bitsDot (a % 2 ^ n) ts = bitsDot a ts
  | [], _, _, _ => rfl
  | t :: ts, 0, _, h => by simp at h
  | t :: ts, n + 1, a, h => by
    rw [bitsDot, bitsDot, Nat.pow_succ', Nat.mod_mul_right_div_self, bitsDot_mod ts n _ (Nat.le_of_succ_le_succ h),
      Nat.mod_mul_right_mod]

theorem colP_spec {i : Nat} (hi : i < 14) (v : Nat) :
    colP i v = packW 80 ((List.range 10).map fun r => genRowP i ((v >>> (80 * r)) % 256)) := by
  unfold colP genRowP
  split
  · rw [blockOnes_eq.2, and_replicate (by decide) 10 v, Nat.shiftLeft_eq, packW_map_mul]
    congr 1
    apply List.map_congr_left
    intro r _
    rw [Nat.shiftLeft_eq]
    exact congrArg (· * 2 ^ (8 * i)) (Nat.and_two_pow_sub_one_eq_mod _ 8)
  · have hq := parityBasis_spec (i - 10) (by omega)
    rw [bitsMul_spec _ v hq.2]
    congr 1
    apply List.map_congr_left
    intro r _
    exact (bitsDot_mod _ 8 _ (Nat.le_of_eq hq.1)).symm

/-- `vecMatP (row r of c) idx` in every row `r` at once: the ten rows of `unpackInv c` times the selected rows -/
def matP : Nat → List Nat → Nat
  | _, [] => 0
  | c, i :: is => colP i c ^^^ matP (c >>> 8) is

theorem matP_spec : ∀ (idx : List Nat) (c : Nat), (∀ i ∈ idx, i < 14) →
    matP c idx = packW 80 ((List.range 10).map fun r => vecMatP (c >>> (80 * r)) idx)
  | [], _, _ => (packW_map_zero 80 (List.range 10)).symm
  | i :: is, c, h => by
    obtain ⟨hi, his⟩ := List.forall_mem_cons.mp h
    rw [matP, colP_spec hi, matP_spec is _ his, ← packW_map_xor]
    · congr 1
      apply List.map_congr_left
      intro r _
      rw [vecMatP, ← Nat.shiftRight_add, Nat.add_comm, Nat.shiftRight_add, Nat.shiftRight_eq_div_pow _ 8]
    · intro r _
      exact ⟨genRowP_lt (Nat.mod_lt _ (by omega)) hi, vecMatP_lt is _ his⟩

theorem unpackRow_eq (c r : Nat) : unpackRow c r = bytes 10 (c >>> (80 * r)) := by
  rw [bytes_eq, unpackRow]
  apply List.map_congr_left
  intro j _
  rw [← Nat.shiftRight_add, show 8 * (10 * r + j) = 80 * r + 8 * j by omega]

theorem identityRow_pack : ∀ r, r < 10 →
    packW 8 (identityRow 10 r) = 256 ^ r ∧ (identityRow 10 r).length = 10 ∧ IsBytes (identityRow 10 r) := by decide

/-- the identity matrix, ten rows of 80 bits: row `r` is `256 ^ r`, which is bit `88 * r` of the whole -/
def identP : Nat := (2 ^ 880 - 1) / (2 ^ 88 - 1)

theorem identP_eq : identP = packW 80 ((List.range 10).map (256 ^ ·)) := by decide +kernel

/-- the positions of `true`, counted from `s` -/
def posTrue : Nat → List Bool → List Nat
  | _, [] => []
  | s, true :: bs => s :: posTrue (s + 1) bs
  | s, false :: bs => posTrue (s + 1) bs

theorem filter_getD_eq_posTrue : ∀ (bs : List Bool) (s : Nat),
    (List.range' s bs.length).filter (fun i => bs.getD (i - s) false) = posTrue s bs
  | [], _ => rfl
  | b :: bs, s => by
    have ht : (List.range' (s + 1) bs.length).filter (fun i => (b :: bs).getD (i - s) false) = posTrue (s + 1) bs := by
      rw [← filter_getD_eq_posTrue bs (s + 1)]
      apply List.filter_congr
      intro i hi
      have := (List.mem_range'_1.mp hi).1
      rw [show i - s = (i - (s + 1)) + 1 by omega, List.getD_cons_succ]
    rw [List.length_cons, List.range'_succ, List.filter_cons, Nat.sub_self, List.getD_cons_zero, ht]
    cases b <;> rfl

theorem firstPresent_eq (k : Nat) (mask : List Bool) : firstPresent k mask = (posTrue 0 mask).take k := by
  rw [firstPresent, List.range_eq_range', ← filter_getD_eq_posTrue mask 0]
  rfl

theorem checkCert_iff (mask : List Bool) (c : Nat) : checkCert mask c = true ↔
    (selectedRows mask).length = 10 ∧ (∀ r ∈ selectedRows mask, r.length = 10 ∧ IsBytes r) ∧
    (unpackInv c).map (fun row => vecMat 10 row (selectedRows mask)) = (List.range 10).map (identityRow 10) := by
  unfold checkCert
  simp only [Bool.and_eq_true, beq_iff_eq, List.all_eq_true, decide_eq_true_eq]
  exact ⟨fun h => ⟨h.1.1, h.1.2, h.2⟩, fun h => ⟨⟨h.1, h.2.1⟩, h.2.2⟩⟩

/-- `checkCert`, with the certificate times the selected rows computed by `matP`; the bound on the indices is what
    `matP_spec` needs and holds of every mask of length 14 -/
def fastCheck (mask : List Bool) (c : Nat) : Bool :=
  let idx := (posTrue 0 mask).take 10
  idx.length == 10 && idx.all (· < 14) && matP c idx == identP

theorem checkCert_of_fast (mask : List Bool) (c : Nat) (h : fastCheck mask c = true) : checkCert mask c = true := by
  simp only [fastCheck, ← firstPresent_eq, Bool.and_eq_true, beq_iff_eq, List.all_eq_true, decide_eq_true_eq] at h
  obtain ⟨⟨hlen, hidx⟩, hmat⟩ := h
  -- `packW 80` is injective on rows below `2 ^ 80`: the one equation `hmat` is ten equations of rows
  have hrows : ∀ r ∈ List.range 10, vecMatP (c >>> (80 * r)) (firstPresent 10 mask) = 256 ^ r := by
    rw [matP_spec _ c hidx, identP_eq] at hmat
    refine List.map_inj_left.mp (packW_inj _ _ (List.forall_mem_map.mpr fun r _ => vecMatP_lt _ _ hidx)
      (List.forall_mem_map.mpr fun r hr => ?_) (by simp) hmat)
    · have hr := List.mem_range.mp hr
      show 256 ^ r < 2 ^ 80
      rw [show (256 : Nat) = 2 ^ 8 from rfl, ← Nat.pow_mul]
      exact Nat.pow_lt_pow_right Nat.one_lt_two (by omega)
  have hsel : selectedRows mask = (firstPresent 10 mask).map genRow := rfl
  have hg : ∀ b ∈ selectedRows mask, b.length = 10 ∧ IsBytes b := hsel ▸ genRows_spec hidx
  refine (checkCert_iff mask c).mpr ⟨by rw [hsel, List.length_map, hlen], hg, ?_⟩
  rw [unpackInv, List.map_map]
  apply List.map_congr_left
  intro r hr
  have hv := vecMat_spec 10 (unpackRow c r) (selectedRows mask) (by rw [unpackRow_eq]; exact bytes_isBytes _ _) hg
  have hI := identityRow_pack r (List.mem_range.mp hr)
  -- `packW 8` is injective on bytes: a row of the product is the identity row when their 80-bit numbers agree
  apply packW_inj _ _ hv.2.digits hI.2.2.digits (by rw [hv.1, hI.2.1])
  show packW 8 (vecMat 10 (unpackRow c r) (selectedRows mask)) = _
  rw [hI.1, ← hrows r hr, vecMatP_spec _ _ hidx, hlen, unpackRow_eq, hsel]

theorem certs_ok : certTable.all certOk = true := by
  have h : certTable.all (fun mc => fastCheck mc.1 mc.2) = true := by decide +kernel
  exact List.all_eq_true.mpr fun mc hmc => checkCert_of_fast mc.1 mc.2 (List.all_eq_true.mp h mc hmc)

end SwV.Lemmas.C06
