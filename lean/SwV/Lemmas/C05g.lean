/-
C05 — the refined judges of Set and Get (Spec: `setJudgeH`, `getJudgeH`), which keep the recorded class
`CompactSection.setOverflowEntry/stale-offset-high-byte` only for a high byte the key was stored with
before and name a class of their own for any other high byte, accept every result the unrefined judges
accept — for EVERY history list handed to them.  (The same fact for `visitJudgeH` is `visitJudgeH_none`
in the Spec; nothing here is about `AscendingVisit` or the needle-mapper judge `ngetJudgeH`.)
-/
import SwV.Lemmas.C05d
namespace SwV.Lemmas.C05
open SwV.Model.C05 SwV.Spec.C05

/-- `judgesAccept` with the refined judges; `his` = the high bytes the key was stored with -/
def judgesAcceptH (batch : Nat) (cm : List Sec) (r : Ref) (his : List Nat) : Op → Prop
  | .set key off hi size =>
    setJudgeH (r.get key) his (fullOff (setL batch key off hi size cm).2.1 (setL batch key off hi size cm).2.2.1)
      (setL batch key off hi size cm).2.2.2 = none
  | .del key =>
    delJudge (r.get key) (delL batch key cm).2 = none ∨
    delJudge (r.get key) (delL batch key cm).2 = some "CompactSection.Delete/negative-size-on-repeated-delete"
  | .get key =>
    getJudgeH key (r.get key) his ((getL batch key cm).map (fun v => (v.key, fullOff v.off v.hi, v.size))) = none

theorem judges_acceptH (batch : Nat) (cm : List Sec) (r : Ref) (his : List Nat) (op : Op)
    (h : judgesAccept batch cm r op) : judgesAcceptH batch cm r his op := by
  cases op with
  | set key off hi size =>
    simp only [judgesAccept] at h
    simp only [judgesAcceptH, setJudgeH]
    rw [h, refineStale_none]
  | del key =>
    simp only [judgesAccept] at h
    simp only [judgesAcceptH]
    exact h
  | get key =>
    simp only [judgesAccept] at h
    simp only [judgesAcceptH, getJudgeH]
    rw [h, refineStale_none]

end SwV.Lemmas.C05
