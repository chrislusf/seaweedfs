/-
C09 — honest HISTORIES: timed lists of operations (writes, overwrites, deletes, compactions, heartbeats, reloads) run
from any volume (`hrun`).  The invariant `Inv` (every record the index points at is `Good`) together with "the volume's
lastModified is not ahead of the clock" is preserved by every honest step on a volume whose TTL is empty or positive
(`hstep_keeps`): a write adds one good record, every other step only removes records and never moves lastModified
back.
-/
import SwV.Model.C09
import SwV.Spec.C09
import SwV.Lemmas.C09
namespace SwV.Lemmas.C09
open SwV.Model.C08 SwV.Model.C09

/-- operations of a history: the model's operations (a `put` on a key that is already there is an OVERWRITE: the index
    moves to the new record) plus the DELETION of a key (Store.DeleteVolumeNeedle → doDeleteRequest: a tombstone is
    appended and the needle map no longer points at a record of the key; lastModifiedTsSeconds is not touched) -/
inductive HOp where
  | op (o : Op)
  | del (key : Nat)
deriving Repr

def hstep (v : Vol) (nowNs : Nat) : HOp → Vol
  | .op o => step v nowNs o
  | .del key => if !v.alive then v else { v with needles := v.needles.filter (·.1 ≠ key) }

def hrun (v : Vol) : List (Nat × HOp) → Vol
  | [] => v
  | (t, o) :: r => hrun (hstep v t o) r

/-- an operation of a history as an honest server performs it at clock `nowNs`: `HonestOp`, and a reload never finds a
    .dat whose mtime lies in the future -/
def HonestH (v : Vol) (nowNs : Nat) : HOp → Prop
  | .op o => HonestOp v nowNs o ∧ ∀ mtime, o = .reload mtime → mtime ≤ nowNs / nsPerSec
  | .del _ => True

/-- clocks never run backwards and every operation is honest in the state it is applied to -/
def HonestRun (v : Vol) (last : Nat) : List (Nat × HOp) → Prop
  | [] => True
  | (t, o) :: r => last ≤ t ∧ HonestH v t o ∧ HonestRun (hstep v t o) t r

/-- every operation leaves a volume that the heartbeat has deleted as it is -/
theorem hstep_dead (v : Vol) (t : Nat) (o : HOp) (h : v.alive = false) : hstep v t o = v := by
  rcases o with (_ | _ | _ | _) | _ <;> simp [hstep, step, hbDecision, h]

theorem hstep_ttl (v : Vol) (t : Nat) (o : HOp) : (hstep v t o).ttl = v.ttl := by
  rcases o with (_ | _ | _ | _) | _ <;> simp only [hstep, step] <;> split <;> rfl

/-- `writeNeedle2` on an honest TTL, the volume's TTL being empty or positive: a record that carries the flag has a positive TTL not longer than the volume's,
    and a record is left without the flag only on a volume without TTL -/
theorem effectiveTtl_good (vt t : TTL) (ht : t = emptyTTL ∨ (0 < ttlMinutes t ∧ ttlMinutes t ≤ ttlMinutes vt))
    (hvt : vt = emptyTTL ∨ 0 < ttlMinutes vt) :
    ((effectiveTtl vt t).1 = true →
      0 < ttlMinutes (effectiveTtl vt t).2 ∧ ttlMinutes (effectiveTtl vt t).2 ≤ ttlMinutes vt) ∧
    ((effectiveTtl vt t).1 = false → ttlMinutes vt = 0) := by
  unfold effectiveTtl
  by_cases h1 : t = emptyTTL
  · by_cases h2 : vt = emptyTTL
    · simp only [h1, h2, if_true]
      exact ⟨fun h => (nomatch h), fun _ => by decide⟩
    · simp only [h1, h2, if_true, if_false]
      exact ⟨fun _ => ⟨hvt.resolve_left h2, Nat.le_refl _⟩, fun h => nomatch h⟩
  · simp only [h1, if_false]
    exact ⟨fun _ => ht.resolve_left h1, fun h => nomatch h⟩

/-- one honest step keeps what the induction over a history carries beside the volume TTL (`hstep_ttl`): the
    invariant, and lastModified not ahead of the clock -/
theorem hstep_keeps (v : Vol) (t : Nat) (o : HOp) (hinv : Inv v) (hlm : v.lm ≤ t / nsPerSec)
    (hvt : v.ttl = emptyTTL ∨ 0 < ttlMinutes v.ttl) (ho : HonestH v t o) :
    Inv (hstep v t o) ∧ (hstep v t o).lm ≤ t / nsPerSec := by
  by_cases ha : v.alive = true
  · have hna : ¬ (!v.alive) = true := Bool.not_not_eq.2 ha
    rcases o with (⟨key, tt, hasLM, lm⟩ | _ | _ | m) | _
    · obtain ⟨⟨rfl, rfl, h3⟩, _⟩ := ho
      obtain ⟨e1, e2⟩ := effectiveTtl_good v.ttl tt h3 hvt
      simp only [hstep, step, ha, Bool.not_true, Bool.false_eq_true, if_false, if_true]
      refine ⟨fun kn hkn => ?_, by split <;> omega⟩
      simp only [List.mem_cons, List.mem_filter] at hkn
      rcases hkn with rfl | ⟨hm, _⟩
      · refine ⟨fun hf => ⟨rfl, e1 hf⟩, ?_, ?_, e2⟩
        · simp only [nsPerSec]; omega
        · simp only []; split <;> omega
      · exact good_mono (hinv kn hm) (by simp only []; split <;> omega)
    · dsimp only [hstep, step]
      rw [if_neg hna]
      exact ⟨hinv.mono rfl hlm List.filter_sublist.subset, Nat.le_refl _⟩
    · dsimp only [hstep, step]
      split
      · exact ⟨List.forall_mem_nil _, hlm⟩
      · exact ⟨hinv, hlm⟩
    · dsimp only [hstep, step]
      rw [if_neg hna]
      exact ⟨hinv.mono rfl ho.1 fun _ h => h, ho.2 m rfl⟩
    · dsimp only [hstep]
      rw [if_neg hna]
      exact ⟨hinv.mono rfl (Nat.le_refl _) List.filter_sublist.subset, hlm⟩
  · rw [hstep_dead v t o (eq_false_of_ne_true ha)]
    exact ⟨hinv, hlm⟩

theorem honestRun_prefix (pre rest : List (Nat × HOp)) : ∀ (v : Vol) (last : Nat),
    HonestRun v last (pre ++ rest) → HonestRun v last pre := by
  induction pre with
  | nil => intro v last _; trivial
  | cons x pre ih =>
    intro v last h
    obtain ⟨t, o⟩ := x
    exact ⟨h.1, h.2.1, ih _ _ h.2.2⟩

end SwV.Lemmas.C09
