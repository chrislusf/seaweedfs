/-
C13 — the uint64 (wrapping) etcd sequencer machines `startW` / `kvStepW` coincide with the unbounded
ones of the invariant proof wherever no uint64 operation wraps (`ENoWrapStep`), hence whole runs do
(`erunW_eq`); the two steps of a heartbeat write different components.  Core Lean only.
-/
import SwV.Lemmas.C13
namespace SwV.Lemmas.C13
open SwV.Model.C13 SwV.Spec.C13

def estepW (st : ESt × List Obs) : EEv → ESt × List Obs
  | .start i op =>
    ((startW st.1 i op).1, logOut i (logReport i st.2 op (startW st.1 i op).2) (startW st.1 i op).2)
  | .kv i f => ((kvStepW st.1 i f).1, logOut i st.2 (kvStepW st.1 i f).2.2)

/-- the run of the machines the correspondence check ties to the Go code (uint64 arithmetic) -/
def erunW (st : ESt × List Obs) (evs : List EEv) : ESt × List Obs := evs.foldl estepW st

/-- the additions of a key/value step: at the compare-and-swap of `batchGetSequenceFromEtcd`, `prevSeqValue + step`,
    then `currentSeqId += count` -/
def pcNoWrap : Pc → Prop
  | .bSet count req prev => prev + req < W ∧ prev + count < W
  | _ => True

instance (pc : Pc) : Decidable (pcNoWrap pc) := by
  cases pc <;> (unfold pcNoWrap; infer_instance)

/-- NO-OVERFLOW HYPOTHESIS, per step: none of the uint64 additions this step performs exceeds 2^64-1.
    `NextFileId(count)` up to its first key/value call: `currentSeqId + count`, `DefaultEtcdSteps + count`. -/
def ENoWrapStep (s : ESt) : EEv → Prop
  | .start i (.next count) => (s.inst i).cur + count < W ∧ DefaultEtcdSteps + count < W
  | .start _ _ => True
  | .kv i _ => pcNoWrap (s.inst i).pc

instance (s : ESt) (ev : EEv) : Decidable (ENoWrapStep s ev) := by
  cases ev with
  | start i op =>
    cases op <;> (unfold ENoWrapStep; infer_instance)
  | kv i f =>
    unfold ENoWrapStep; infer_instance

/-- … along a run (evaluated on the machines themselves: decidable for any concrete schedule) -/
def ENoWrap : ESt × List Obs → List EEv → Prop
  | _, [] => True
  | st, ev :: rest => ENoWrapStep st.1 ev ∧ ENoWrap (estep st ev) rest

instance decENoWrap : (evs : List EEv) → (st : ESt × List Obs) → Decidable (ENoWrap st evs)
  | [], _ => isTrue trivial
  | ev :: rest, st => by
    unfold ENoWrap
    exact @instDecidableAnd _ _ _ (decENoWrap rest (estep st ev))

theorem startW_eq (s : ESt) (i : Nat) (op : Op) (h : ENoWrapStep s (.start i op)) : startW s i op = start s i op := by
  cases op with
  | next count =>
    obtain ⟨h1, h2⟩ := h
    unfold startW start
    simp only [Nat.mod_eq_of_lt h1, Nat.mod_eq_of_lt h2]
  | setMax seen => rfl
  | new slot => rfl

theorem kvStepW_eq (s : ESt) (i : Nat) (f : Bool) (h : ENoWrapStep s (.kv i f)) : kvStepW s i f = kvStep s i f := by
  unfold kvStepW
  simp only
  split
  · next count req prev hpc =>
    have h' : pcNoWrap (s.inst i).pc := h
    rw [hpc] at h'
    obtain ⟨h1, h2⟩ := h'
    have e1 : (prev + req) % W = prev + req := Nat.mod_eq_of_lt h1
    have e2 : (prev + req + W - req) % W = prev := by
      rw [Nat.add_right_comm, Nat.add_sub_cancel, Nat.add_mod_right]
      exact Nat.mod_eq_of_lt (by omega)
    simp only [kvStep, hpc, e1, e2, Nat.mod_eq_of_lt h2]
  · rfl

theorem estepW_eq (st : ESt × List Obs) (ev : EEv) (h : ENoWrapStep st.1 ev) : estepW st ev = estep st ev := by
  cases ev with
  | start i op =>
    show ((startW st.1 i op).1, logOut i (logReport i st.2 op (startW st.1 i op).2) (startW st.1 i op).2) = _
    rw [startW_eq st.1 i op h]; rfl
  | kv i f =>
    show ((kvStepW st.1 i f).1, logOut i st.2 (kvStepW st.1 i f).2.2) = _
    rw [kvStepW_eq st.1 i f h]; rfl

theorem erunW_eq : ∀ (evs : List EEv) (st : ESt × List Obs), ENoWrap st evs → erunW st evs = erun st evs := by
  intro evs
  induction evs with
  | nil => intro _ _; rfl
  | cons ev rest ih =>
    intro st h
    show erunW (estepW st ev) rest = erun (estep st ev) rest
    rw [estepW_eq st ev h.1]
    exact ih _ h.2

theorem foldl_register_writable (hb : Heartbeat) (s : MSt) :
    (hbStep hb s .setMax).writable = s.writable ∧ (hbStep hb s .register).seq = s.seq := ⟨rfl, rfl⟩

end SwV.Lemmas.C13
