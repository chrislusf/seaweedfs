/-
C04 — the index-based copy (Compact2 / copyDataBasedOnIndexFile) writes the .cpd in ascending key order, the .cpx
is saved in ascending key order too, so the i-th index entry points at the i-th record; makeupDiff only ever appends
an entry that points at the record it just appended (or a tombstone entry with offset 0).  Hence the LAST index entry
of the committed files points at the LAST record of the .dat (or has offset 0) and the reload's integrity check
(`cutAt`) never truncates.
-/
import SwV.Lemmas.C04
namespace SwV.Lemmas.C04
open SwV.Model.C01 SwV.Model.C04

/-- the last .idx entry has offset 0 or points at (or behind) the last record of the .dat -/
def TailOK (L : List Rec) (X : List IEnt) : Prop := ∀ e, X.getLast? = some e → e.off = 0 ∨ L.length ≤ e.off

theorem cutAt_none_of_tailOK {L : List Rec} {X : List IEnt} (h : TailOK L X) : cutAt X L = none := by
  unfold cutAt
  cases hl : X.getLast? with
  | none => rfl
  | some e =>
    dsimp only
    by_cases h1 : e.off = 0 ∨ e.size < 0
    · rw [if_pos h1]
    · rw [if_neg h1]
      cases recAt L e.off with
      | none => rfl
      | some r =>
        dsimp only
        by_cases h2 : r.size ≠ e.size
        · rw [if_pos h2]
        · rw [if_neg h2, if_neg (Nat.not_lt.2 ((h e hl).resolve_left fun h0 => h1 (Or.inl h0)))]

theorem tailOK_concat {L : List Rec} {X : List IEnt} {e : IEnt} (h : e.off = 0 ∨ L.length ≤ e.off) : TailOK L (X ++ [e]) := by
  intro e' he'
  rw [List.getLast?_concat] at he'
  cases he'; exact h

theorem makeupOne_tailOK {old : CVol} {suf : List IEnt} {t : Nat} {acc f : Files} {k : Nat}
    (h : makeupOne old suf t acc k = some f) (ht : TailOK acc.1 acc.2.2) : TailOK f.1 f.2.2 := by
  unfold makeupOne at h
  cases hl : lastFor suf k with
  | none => rw [hl] at h; cases h; exact ht
  | some e =>
    simp only [hl] at h
    by_cases hv : validEnt e = true
    · rw [if_pos hv] at h
      cases hr : recAt old.v.log e.off with
      | none => rw [hr] at h; cases h
      | some r =>
        simp only [hr] at h; cases h
        exact tailOK_concat (Or.inr (Nat.le_of_eq List.length_append))
    · rw [if_neg hv] at h; cases h
      exact tailOK_concat (Or.inl rfl)

theorem makeupFold_tailOK {old : CVol} {suf : List IEnt} {t : Nat} {order : List Nat} {acc f : Files}
    (h : makeupFold old suf t (some acc) order = some f) (ht : TailOK acc.1 acc.2.2) : TailOK f.1 f.2.2 :=
  List.foldlRecOn (motive := fun acc : Option Files => ∀ f : Files, acc = some f → TailOK f.1 f.2.2) order
    (fun a k => a.bind fun f => makeupOne old suf t f k) (fun a ha => by cases ha; exact ht)
    (fun acc ih k _ f hf => by
      cases acc with
      | none => cases hf
      | some a => exact makeupOne_tailOK hf (ih a rfl)) f h

theorem makeup_tailOK {s : CVol} {sn : Snap} {order : List Nat} {t : Nat} {f : Files}
    (h : makeup s sn order t = some f) (ht : TailOK sn.log sn.cpx) : TailOK f.1 f.2.2 := by
  unfold makeup at h
  by_cases h1 : s.ilog.length = 0 ∨ s.ilog.length ≤ sn.idxLen
  · rw [if_pos h1] at h; cases h; exact ht
  · rw [if_neg h1] at h
    by_cases h2 : s.rev ≠ sn.rev
    · rw [if_pos h2] at h; cases h
    · rw [if_neg h2] at h
      by_cases h3 : sn.idxLen = 0
      · rw [if_pos h3] at h; cases h
      · rw [if_neg h3] at h
        exact makeupFold_tailOK h ht

theorem mset_append_last {m : List IEnt} {x : IEnt} (h : ∀ y ∈ m, y.key < x.key) : mset m x = m ++ [x] := by
  induction m with
  | nil => rfl
  | cons y ys ih =>
    have hy := h y List.mem_cons_self
    have h1 : ¬ x.key < y.key := Nat.lt_asymm hy
    have h2 : ¬ x.key = y.key := fun h => Nat.ne_of_lt hy h.symm
    simp only [mset, h1, h2, if_false, List.cons_append]
    rw [ih (fun z hz => h z (List.mem_cons_of_mem _ hz))]

theorem foldl_mset_sorted (l : List IEnt) : ∀ m : List IEnt, KeysLt (m ++ l) → l.foldl mset m = m ++ l := by
  induction l with
  | nil => intro m _; simp
  | cons x xs ih =>
    intro m h
    have hx : ∀ y ∈ m, y.key < x.key := by
      intro y hy
      exact (List.pairwise_append.mp h).2.2 y hy x List.mem_cons_self
    simp only [List.foldl_cons]
    rw [mset_append_last hx, ih (m ++ [x]) (by simpa using h), ← List.append_cons]

theorem keysLt_cpxEnts {keep : List (Nat × Rec × Nat)} (h : keep.Pairwise (fun a b => a.2.1.id < b.2.1.id)) :
    KeysLt (cpxEnts keep) := by
  unfold KeysLt cpxEnts
  rw [List.pairwise_map]
  have : List.Pairwise (fun a b => a.2.1.id < b.2.1.id) (List.map Prod.fst (keep.zipIdx 1)) := by
    rw [List.zipIdx_map_fst]; exact h
  exact (List.pairwise_map (f := Prod.fst) (R := fun a b : Nat × Rec × Nat => a.2.1.id < b.2.1.id)).mp this

theorem tailOK_of_sorted {keep : List (Nat × Rec × Nat)} (h : keep.Pairwise (fun a b => a.2.1.id < b.2.1.id)) :
    TailOK (keep.map (·.2.1)) (cpxOf keep) := by
  have hc : cpxOf keep = cpxEnts keep := (cpxOf_eq keep).trans (foldl_mset_sorted _ [] (keysLt_cpxEnts h))
  intro e he
  rw [hc] at he
  unfold cpxEnts at he
  rw [List.getLast?_map, List.getLast?_zipIdx] at he
  cases hl : keep.getLast? with
  | none => rw [hl] at he; simp at he
  | some a =>
    rw [hl] at he
    simp only [Option.map_some, Option.some.injEq] at he
    subst he
    right
    simp

theorem keepIdx_ids_lt {s : CVol} (hw : WF s) (nowSec : Nat) :
    (keepIdx s nowSec).Pairwise (fun a b => a.2.1.id < b.2.1.id) := by
  refine List.Pairwise.filterMap _ ?_ (List.Pairwise.and_mem.mp (keysLt_loadFromIdx s.ilog))
  intro a a' hR b hb b' hb'
  -- a copied record carries the key of the index entry it was read through
  rw [(hw.own _ _ _ (wf_loaded hw hR.1).1 (keepIdx_some hb).1).1, (hw.own _ _ _ (wf_loaded hw hR.2.1).1 (keepIdx_some hb').1).1]
  exact hR.2.2

end SwV.Lemmas.C04
