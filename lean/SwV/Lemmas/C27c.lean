/-
C27 — the depth-first key stream `allKeys` of the recursive listing covers the bucket:
what the directory view `children` (built by ordered insertion) holds, and completeness of the stream.
-/
import SwV.Lemmas.C27b
import SwV.Spec.C27
namespace SwV.Lemmas.C27
open SwV.Model.C19 (Bytes ltB isPrefix)
open SwV.Model.C27 SwV.Spec.C27

/-- Ordered insertion keeps the names and their directory flags and adds those of the new entry. With `c` false this
    speaks of names only, with `c` true of directories. -/
theorem insertEnt_mem (e : Ent) (k : Bytes) (c : Prop) (L : List Ent) :
    (∃ x ∈ insertEnt e L, x.key = k ∧ (c → x.expired = true)) ↔
      (e.key = k ∧ (c → e.expired = true)) ∨ ∃ x ∈ L, x.key = k ∧ (c → x.expired = true) := by
  induction L with
  | nil => simp only [insertEnt, List.mem_cons, List.not_mem_nil, or_false, exists_eq_left, false_and, exists_false]
  | cons y L ih =>
    rw [insertEnt]
    split
    · simp only [List.mem_cons, exists_eq_or_imp]
    · split
      · -- same name: the flags are merged
        next h =>
        by_cases hc : c
        · simp only [List.mem_cons, hc, forall_const, exists_eq_or_imp, Bool.or_eq_true, and_or_left, or_assoc,
            or_left_comm, h]
        · simp only [List.mem_cons, hc, false_implies, and_true, exists_eq_or_imp, h, or_self_left]
      · simp only [List.mem_cons, exists_eq_or_imp, ih, or_left_comm]

theorem children_cons (k : List Bytes) (ks : List (List Bytes)) (dir : List Bytes) :
    children (k :: ks) dir = (match stripDir dir k with
      | some (s :: rest) => insertEnt ⟨s, !rest.isEmpty⟩ (children ks dir)
      | _ => children ks dir) := by
  simp only [SwV.Model.C27.children, List.foldr_cons]
  cases stripDir dir k with
  | none => rfl
  | some l => cases l <;> rfl

/-- The directory view holds a name exactly when some key continues with it below `dir`, and (`c` true) flags it
    as a directory exactly when some key continues beyond it. -/
theorem children_mem (dir : List Bytes) (s : Bytes) (c : Prop) (ks : List (List Bytes)) :
    (∃ x ∈ children ks dir, x.key = s ∧ (c → x.expired = true)) ↔
      ∃ k ∈ ks, ∃ rest, stripDir dir k = some (s :: rest) ∧ (c → rest ≠ []) := by
  induction ks with
  | nil =>
    simp only [SwV.Model.C27.children, List.foldr_nil, List.not_mem_nil, false_and, exists_false, ne_eq]
  | cons k0 ks ih =>
    rw [children_cons]
    split
    · next s0 rest0 h0 =>
      simp only [insertEnt_mem, Bool.not_eq_eq_eq_not, Bool.not_true, List.isEmpty_eq_false_iff, ne_eq, ih,
        List.mem_cons, exists_eq_or_imp, h0, Option.some.injEq, List.cons.injEq, and_assoc, exists_and_left,
        exists_eq_left']
    · next hno =>
      have : ¬ ∃ rest, stripDir dir k0 = some (s :: rest) ∧ (c → rest ≠ []) := fun ⟨rest, h, _⟩ => hno s rest h
      simp only [ih, ne_eq, List.mem_cons, exists_eq_or_imp, this, false_or]

theorem stripDir_nil (k : List Bytes) : stripDir [] k = some k := by
  cases k <;> rfl

/-- COMPLETENESS of the key stream: in a bucket that never holds a key and a key below it, every one- and
    two-segment key is in `allKeys` (as its "/"-joined string) -/
theorem allKeys_complete (ks : List (List Bytes))
    (hvalid : ∀ s : Bytes, [s] ∈ ks → ∀ rest, (s :: rest) ∈ ks → rest = []) :
    (∀ s : Bytes, [s] ∈ ks → joinSlash [s] ∈ allKeys ks) ∧
    (∀ d n : Bytes, [d, n] ∈ ks → joinSlash [d, n] ∈ allKeys ks) := by
  constructor
  · intro s hs
    obtain ⟨x, hx, hk, _⟩ := (children_mem [] s False ks).2 ⟨[s], hs, [], stripDir_nil _, False.elim⟩
    -- `x` is a file: a directory of that name would need a key below `s`
    have hfile : x.expired = false := by
      cases hf : x.expired with
      | false => rfl
      | true =>
        obtain ⟨k, hkm, rest, hst, hr⟩ := (children_mem [] s True ks).1 ⟨x, hx, hk, fun _ => hf⟩
        rw [stripDir_nil, Option.some.injEq] at hst
        exact absurd (hvalid s hs rest (hst ▸ hkm)) (hr trivial)
    simp only [allKeys, streamOf, List.mem_flatMap]
    exact ⟨x, hx, by simp [entryKeys, hfile, joinSlash, hk]⟩
  · intro d n hdn
    obtain ⟨x, hx, hk, hdir⟩ := (children_mem [] d True ks).2 ⟨[d, n], hdn, [n], stripDir_nil _, fun _ => List.cons_ne_nil _ _⟩
    obtain ⟨y, hy, hky, _⟩ := (children_mem [d] n False ks).2 ⟨[d, n], hdn, [], by simp [stripDir], False.elim⟩
    simp only [allKeys, streamOf, List.mem_flatMap]
    refine ⟨x, hx, ?_⟩
    simp only [entryKeys, hdir trivial, if_true, List.mem_map, hk]
    exact ⟨y, hy, by simp [joinSlash, hky]⟩

end SwV.Lemmas.C27
