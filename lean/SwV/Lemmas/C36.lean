/-
C36 — lemmas about the path-component reading of the model's string functions:
`comps` of `clean`, of `join` (= util.Join) and of a suffix cut off after the source directory;
then what `replicate` and `syncEv` compute, guard by guard and event kind by event kind, and that the calls of
`syncEv` realise what the specification expects of a create, a delete and a move (a rename being one of the three).
-/
import SwV.Model.C36
import SwV.Spec.C36
namespace SwV.Lemmas.C36
open SwV.Model.C36 SwV.Spec.C36

theorem compsAux_append_slash (a b cur : Str) : compsAux (a ++ '/' :: b) cur = compsAux a cur ++ comps b := by
  induction a generalizing cur with
  | nil =>
    simp only [List.nil_append, compsAux, if_true, comps]
    by_cases h : cur = [] <;> simp [h]
  | cons c cs ih =>
    simp only [List.cons_append, compsAux]
    by_cases hc : c = '/'
    · simp only [hc, if_true]
      by_cases h : cur = [] <;> simp [h, ih]
    · simp only [hc, if_false, ih]

theorem comps_append_slash (a b : Str) : comps (a ++ '/' :: b) = comps a ++ comps b :=
  compsAux_append_slash a b []

theorem comps_nil : comps [] = [] := by simp [comps, compsAux]

theorem comps_slash_cons (b : Str) : comps ('/' :: b) = comps b := by
  simp [comps, compsAux]

def NoSlash (x : Str) : Prop := ∀ c ∈ x, c ≠ '/'

theorem compsAux_noslash (a : Str) (h : NoSlash a) : ∀ cur, compsAux a cur = if cur ++ a = [] then [] else [cur ++ a] := by
  induction a with
  | nil => intro cur; simp [compsAux]
  | cons c cs ih =>
    intro cur
    obtain ⟨hc, hcs⟩ := List.forall_mem_cons.1 h
    simp only [compsAux, hc, if_false]
    rw [ih hcs]
    simp

theorem comps_noslash (a : Str) (h : NoSlash a) (hne : a ≠ []) : comps a = [a] := by
  unfold comps
  rw [compsAux_noslash a h]
  simp [hne]

theorem compsAux_nonempty_noslash : ∀ (s cur : Str), NoSlash cur → ∀ x ∈ compsAux s cur, x ≠ [] ∧ NoSlash x := by
  intro s
  induction s with
  | nil =>
    intro cur hcur x hx
    simp only [compsAux] at hx
    by_cases h : cur = []
    · simp [h] at hx
    · simp only [h, if_false, List.mem_singleton] at hx
      subst hx; exact ⟨h, hcur⟩
  | cons c cs ih =>
    intro cur hcur x hx
    simp only [compsAux] at hx
    by_cases hc : c = '/'
    · simp only [hc, if_true] at hx
      by_cases h : cur = []
      · simp only [h, if_true] at hx
        exact ih [] (List.forall_mem_nil _) x hx
      · simp only [h, if_false, List.mem_cons] at hx
        cases hx with
        | inl h1 => subst h1; exact ⟨h, hcur⟩
        | inr h1 => exact ih [] (List.forall_mem_nil _) x h1
    · simp only [hc, if_false] at hx
      exact ih (cur ++ [c]) (List.forall_mem_append.2 ⟨hcur, List.forall_mem_singleton.2 hc⟩) x hx

theorem comps_nonempty_noslash (s : Str) : ∀ x ∈ comps s, x ≠ [] ∧ NoSlash x :=
  compsAux_nonempty_noslash s [] (List.forall_mem_nil _)

theorem compsAux_ne_nil : ∀ (s cur : Str), cur ≠ [] → compsAux s cur ≠ [] := by
  intro s
  induction s with
  | nil => intro cur h; simp [compsAux, h]
  | cons c cs ih =>
    intro cur h
    simp only [compsAux]
    by_cases hc : c = '/'
    · simp [hc, h]
    · simp only [hc, if_false]
      exact ih _ (by simp)

theorem comps_intercalate : ∀ parts : List Str, comps (['/'].intercalate parts) = parts.flatMap comps := by
  intro parts
  induction parts with
  | nil => simp [List.intercalate, comps_nil]
  | cons x r ih =>
    cases r with
    | nil => simp
    | cons y r =>
      rw [List.intercalate_cons_cons, List.append_assoc, List.singleton_append, comps_append_slash, ih]
      simp

theorem flatMap_comps_of_good : ∀ L : List Str, (∀ x ∈ L, x ≠ [] ∧ NoSlash x) → L.flatMap comps = L := by
  intro L
  induction L with
  | nil => intro _; rfl
  | cons x r ih =>
    intro h
    obtain ⟨hx, hr⟩ := List.forall_mem_cons.1 h
    rw [List.flatMap_cons, comps_noslash x hx.2 hx.1, ih hr]
    rfl

/-- `filepath.Clean` keeps the components of a non-empty path (the empty one becomes `.`) -/
theorem comps_clean (s : Str) (hs : s ≠ []) : comps (clean s) = comps s := by
  have hbody : comps (['/'].intercalate (comps s)) = comps s := by
    rw [comps_intercalate, flatMap_comps_of_good _ (comps_nonempty_noslash s)]
  unfold clean
  simp only []
  by_cases hr : rooted s = true
  · simp only [hr, if_true]
    rw [if_neg (by simp), comps_slash_cons, hbody]
  · simp only [hr]
    by_cases hb : ['/'].intercalate (comps s) = []
    · -- impossible: a non-empty unrooted string has a component
      exfalso
      cases s with
      | nil => exact hs rfl
      | cons c cs =>
        have hc : c ≠ '/' := by
          intro h; apply hr; simp [rooted, h]
        have hne : comps (c :: cs) ≠ [] := by
          simp only [comps, compsAux, hc, if_false]
          exact compsAux_ne_nil cs _ (by simp)
        have h0 : comps (['/'].intercalate (comps (c :: cs))) = [] := by rw [hb, comps_nil]
        rw [hbody] at h0
        exact hne h0
    · simp only [Bool.false_eq_true, if_false, hb]
      exact hbody

/-- `util.Join`, read component-wise: the components of the parts, in order -/
theorem comps_join (parts : List Str) : comps (join parts) = parts.flatMap comps := by
  unfold join
  simp only []
  have hfm : (parts.filter (· ≠ [])).flatMap comps = parts.flatMap comps := by
    induction parts with
    | nil => rfl
    | cons x r ih => by_cases hx : x = [] <;> simpa [hx, comps_nil] using ih
  by_cases hne : parts.filter (· ≠ []) = []
  · simp only [hne, if_true]
    rw [← hfm, hne]; exact comps_nil
  · simp only [hne, if_false]
    have hi : ['/'].intercalate (parts.filter (· ≠ [])) ≠ [] := by
      cases hL : parts.filter (· ≠ []) with
      | nil => exact absurd hL hne
      | cons x r =>
        have hx : x ≠ [] := by
          have : x ∈ parts.filter (· ≠ []) := by rw [hL]; exact List.mem_cons_self
          exact of_decide_eq_true (List.mem_filter.1 this).2
        cases r with
        | nil => rwa [List.intercalate_singleton]
        | cons y r => rw [List.intercalate_cons_cons]; simp [hx]
    rw [comps_clean _ hi, comps_intercalate, hfm]

/-- The boundary condition that makes the string test of the code (`strings.HasPrefix(p, src)`) a component-wise
    test: the source path ends in '/', or `p` is the source path, or the next character of `p` is '/'.  Accepted
    paths WITHOUT the boundary condition are the sibling-prefix findings. -/
def Boundary (src p : Str) : Prop :=
  (∃ d, src = d ++ ['/']) ∨ p = src ∨ (p.drop src.length).head? = some '/'

instance (src p : Str) : Decidable (Boundary src p) := by
  unfold Boundary
  -- `∃ d, src = d ++ ['/']` is decided as `src.getLast? = some '/'`; the other two alternatives are decidable as they stand
  have : Decidable (∃ d, src = d ++ ['/']) :=
    decidable_of_iff (src.getLast? = some '/') List.getLast?_eq_some_iff
  exact inferInstance

/-- the string test of the code together with the boundary condition -/
def InsideStr (src p : Str) : Prop := hasPrefix p src = true ∧ Boundary src p

instance (src p : Str) : Decidable (InsideStr src p) := by unfold InsideStr; exact inferInstance

theorem comps_trailing_slash (d : Str) : comps (d ++ ['/']) = comps d := by
  have := comps_append_slash d []
  simpa [comps_nil] using this

theorem comps_of_insideStr {src p : Str} (h : InsideStr src p) :
    comps p = comps src ++ comps (p.drop src.length) := by
  obtain ⟨hp, hb⟩ := h
  simp only [hasPrefix, List.isPrefixOf_iff_prefix] at hp
  obtain ⟨rest, rfl⟩ := hp
  simp only [List.drop_left]
  rcases hb with ⟨d, rfl⟩ | hk | hs
  · rw [comps_trailing_slash, List.append_assoc]
    exact comps_append_slash d rest
  · have : rest = [] := List.append_right_eq_self.mp hk
    subst this; simp [comps_nil]
  · simp only [List.drop_left] at hs
    cases rest with
    | nil => simp at hs
    | cons c r =>
      simp only [List.head?_cons, Option.some.injEq] at hs
      subst hs
      rw [comps_append_slash, comps_slash_cons]

theorem inside_of_insideStr {src p : Str} (h : InsideStr src p) : inside src p = true := by
  simp only [inside, List.isPrefixOf_iff_prefix]
  rw [comps_of_insideStr h]
  exact List.prefix_append _ _

theorem drop_comps_of_insideStr {src p : Str} (h : InsideStr src p) :
    (comps p).drop (comps src).length = comps (p.drop src.length) := by
  rw [comps_of_insideStr h, List.drop_left]

/-- the key `util.Join(target, [date,] p[len(src):])` has the components target ++ [date] ++ (p relative to src) -/
theorem comps_mapped {src p : Str} (tgt : Str) (incr : Bool) (h : InsideStr src p) :
    comps (join [tgt, dateKey incr, p.drop src.length]) = mappedComps src tgt incr p := by
  rw [comps_join]
  unfold mappedComps
  rw [drop_comps_of_insideStr h]
  cases incr with
  | false => simp [dateKey, comps_nil]
  | true =>
    have : comps (dateKey true) = [dateKey true] := by decide +kernel
    simp [this]

theorem comps_mapped_plain {src p : Str} (tgt : Str) (h : InsideStr src p) :
    comps (join [tgt, p.drop src.length]) = mappedComps src tgt false p := by
  rw [comps_join]
  unfold mappedComps
  rw [drop_comps_of_insideStr h]
  simp

theorem comps_buildKey {src p : Str} (tgt : Str) (incr : Bool) (h : InsideStr src p) :
    comps (buildKey src tgt incr p) = mappedComps src tgt incr p := by
  cases incr with
  | false => exact comps_mapped_plain tgt h
  | true => exact comps_mapped tgt true h

/-- outside component-wise and not a sibling-prefix (the string test does not fire without the boundary) -/
def OutsideStr (src p : Str) : Prop := inside src p = false ∧ (hasPrefix p src = true → Boundary src p)

instance (src p : Str) : Decidable (OutsideStr src p) := by unfold OutsideStr; exact inferInstance

theorem not_prefix_of_outsideStr {src p : Str} (h : OutsideStr src p) : hasPrefix p src = false := by
  cases hp : hasPrefix p src with
  | false => rfl
  | true =>
    have := inside_of_insideStr ⟨hp, h.2 hp⟩
    rw [h.1] at this; cases this

section
variable {src snk tgt key dir np : Str} {isFiler incr found fromOther : Bool}

theorem replicate_from_other {old new : Option Bool} (h : (fromOther && isFiler) = true) :
    replicate src snk isFiler incr found fromOther key old new np = [] := by
  simp only [replicate, h, if_true]

theorem replicate_non_prefix {old new : Option Bool} (h : hasPrefix key src = false) :
    replicate src snk isFiler incr found fromOther key old new np = [] := by
  simp [replicate, h]

theorem replicate_accepted {old new : Option Bool} (hf : (fromOther && isFiler) = false) (hp : hasPrefix key src = true) :
    replicate src snk isFiler incr found fromOther key old new np =
      (let k := join [snk, dateKey incr, key.drop src.length]
       match old, new with
       | some d, none => [.del k d true]
       | none, some _ => [.create k]
       | none, none => []
       | some d, some _ => if found then [.update k np] else [.update k np, .del k d false, .create k]) := by
  simp only [replicate, hf, hp, Bool.false_eq_true, if_false, Bool.not_true]
  cases old <;> cases new <;> rfl

theorem syncEv_dir_outside {old new : Option (Bool × Str)} (h : hasPrefix dir src = false) :
    syncEv src tgt incr found dir old new np = some [] := by
  show (if (!hasPrefix dir src) = true then some [] else _) = some []
  rw [h]; rfl

theorem syncEv_empty : syncEv src tgt incr found dir none none np = some [] := by
  show (if (!hasPrefix dir src) = true then some [] else some []) = _
  exact ite_self _

theorem syncEv_delete {o : Bool × Str} (h : hasPrefix dir src = true) :
    syncEv src tgt incr found dir (some o) none np =
      (if !hasPrefix (child dir o.2) src then some []
       else some [.del (buildKey src tgt incr (child dir o.2)) o.1 true]) := by
  show (if (!hasPrefix dir src) = true then some [] else _) = _
  rw [h]; rfl

theorem syncEv_create {n : Bool × Str} (h : hasPrefix dir src = true) :
    syncEv src tgt incr found dir none (some n) np =
      (if !hasPrefix (child np n.2) src then some []
       else some [.create (buildKey src tgt incr (child np n.2))]) := by
  show (if (!hasPrefix dir src) = true then some [] else _) = _
  rw [h]; rfl

theorem syncEv_rename {o n : Bool × Str} (h : hasPrefix dir src = true) :
    syncEv src tgt incr found dir (some o) (some n) np =
      (if hasPrefix (child dir o.2) src then
        if hasPrefix (child np n.2) src then
          if !incr then
            let oldT := join [tgt, (child dir o.2).drop src.length]
            if np.length < src.length then none else
            let parent := join [tgt, np.drop src.length]
            if found then some [.update oldT parent]
            else some [.update oldT parent, .del oldT o.1 false, .create (buildKey src tgt incr (child np n.2))]
          else some [.create (buildKey src tgt incr (child np n.2))]
        else if !incr then some [.del (buildKey src tgt incr (child dir o.2)) o.1 true] else some []
      else if hasPrefix (child np n.2) src then some [.create (buildKey src tgt incr (child np n.2))] else some []) := by
  show (if (!hasPrefix dir src) = true then some [] else _) = _
  rw [h]; rfl

/-! A rename, read as its halves. Code and specification treat a rename alike: for an incremental sink it is the
create of the new path, for a plain sink out of the directory the delete of the old path; what is left of the renames
whose old path is inside is the move inside the directory. -/

theorem syncEv_rename_incr {o n : Bool × Str} (h : hasPrefix dir src = true) :
    syncEv src tgt true found dir (some o) (some n) np = syncEv src tgt true found dir none (some n) np := by
  rw [syncEv_rename h, syncEv_create h]
  cases hasPrefix (child np n.2) src <;> exact ite_self _

theorem expectSync_rename_incr {p q : Str} :
    expectSync src tgt true (some p) (some q) np = expectSync src tgt true none (some q) np := by
  dsimp only [expectSync]
  cases inside src p <;> cases inside src q <;> rfl

theorem syncEv_rename_out {o n : Bool × Str} (h : hasPrefix dir src = true) (hn : hasPrefix (child np n.2) src = false) :
    syncEv src tgt false found dir (some o) (some n) np = syncEv src tgt false found dir (some o) none np := by
  rw [syncEv_rename h, syncEv_delete h, hn]
  cases hasPrefix (child dir o.2) src <;> rfl

theorem expectSync_rename_out {p q : Str} (hq : inside src q = false) :
    expectSync src tgt false (some p) (some q) np = expectSync src tgt false (some p) none np := by
  simp only [expectSync, hq]
  cases inside src p <;> rfl

theorem create_mirrored {n : Bool × Str} (hdir : hasPrefix dir src = true)
    (h : InsideStr src (child np n.2) ∨ OutsideStr src (child np n.2)) :
    ∃ cs, syncEv src tgt incr found dir none (some n) np = some cs ∧
      realises (expectSync src tgt incr none (some (child np n.2)) np) cs = true := by
  rw [syncEv_create hdir]
  rcases h with hin | hout
  · refine ⟨_, by rw [hin.1]; rfl, ?_⟩
    simp [expectSync, inside_of_insideStr hin, realises, comps_buildKey tgt incr hin]
  · refine ⟨[], by rw [not_prefix_of_outsideStr hout]; rfl, ?_⟩
    simp [expectSync, hout.1, realises]

theorem delete_mirrored {o : Bool × Str} (hdir : hasPrefix dir src = true) (h : InsideStr src (child dir o.2)) :
    ∃ cs, syncEv src tgt incr found dir (some o) none np = some cs ∧
      realises (expectSync src tgt incr (some (child dir o.2)) none np) cs = true := by
  refine ⟨_, by rw [syncEv_delete hdir, h.1]; rfl, ?_⟩
  simp [expectSync, inside_of_insideStr h, realises, comps_buildKey tgt incr h]

/-- the move inside the directory: the new parent is mapped like a key, so it has to be inside as well (shorter than the
    source path it makes the code panic) -/
theorem move_mirrored {o n : Bool × Str} (hdir : hasPrefix dir src = true) (ho : InsideStr src (child dir o.2))
    (hn : InsideStr src (child np n.2)) (hnp : InsideStr src np) :
    ∃ cs, syncEv src tgt false found dir (some o) (some n) np = some cs ∧
      realises (expectSync src tgt false (some (child dir o.2)) (some (child np n.2)) np) cs = true := by
  have hlen : ¬ np.length < src.length :=
    Nat.not_lt.mpr (List.isPrefixOf_iff_prefix.1 hnp.1).length_le
  have hk := comps_mapped_plain tgt ho
  have hp := comps_mapped_plain tgt hnp
  rw [syncEv_rename hdir]
  cases found
  · refine ⟨_, by simp only [ho.1, hn.1, hlen]; rfl, ?_⟩
    simp [expectSync, inside_of_insideStr ho, inside_of_insideStr hn, realises, hk, hp, comps_buildKey tgt false hn]
  · refine ⟨_, by simp only [ho.1, hn.1, hlen]; rfl, ?_⟩
    simp [expectSync, inside_of_insideStr ho, inside_of_insideStr hn, realises, hk, hp]

end

end SwV.Lemmas.C36
