/-
C25  Filer HTTP writes store exactly the request body.

Theorems about the MODEL of the filer's write handlers (SwV.Model.C25, tied to the Go code by the
correspondence check).  "What is stored" is always read back through the C17 model of the filer's chunk
reader (`readBack` = viewFromChunks + readAcc, the bytes ReadAt delivers) and the resolution step is discharged
with C17's overlay theorem for a whole entry, `SwV.Props.C17.readAcc_whole` — the theorems below are about the
bytes a reader gets, not about a private notion of content.

Two classes of requests are excluded by hypothesis.  `InlineDropsRest` / `InlineHidesError`: the first read is
stored inline and the rest of the body, or its read error, is dropped (open findings
uploadReaderToChunks/{etc-file,inline-limit-above-chunk-size}-keeps-first-chunk-only); what happens on them is stated
exactly by `inline_drops_rest` and `failed_body_hidden_by_inline`.  Appends to an entry whose FileSize attribute
differs from its chunk extent (open finding saveMetaData/append-offset-from-FileSize-attr): `append_overlays_witness`
shows the statement failing there.  The theorems about failing bodies describe the code with the repair
of uploadReaderToChunks/read-error-treated-as-eof (c68165d2 in /repo): without it the loop ended on the error as at EOF
and the request went on with the whole reads before it as its body (a fresh PUT: 201, those chunks committed as the file).
-/
import SwV.Model.C25
import SwV.Spec.C25
import SwV.Lemmas.C25
import SwV.Gen.C25
namespace SwV.Props.C25
open SwV.Model.C25 SwV.Spec.C25 SwV.Lemmas.C25
open SwV.Model.C17 (maxInt64)

/-- the first read is taken as the inline content although the body is longer than one read -/
def InlineDropsRest (cs limit : Nat) (isAppend etc : Bool) (body : List Nat) : Prop :=
  isAppend = false ∧ (cs < limit ∨ etc = true) ∧ cs < body.length

/-- every chunk lies inside [0, content.length) and shows bytes of `content` at its offset, and the chunks
    cover [0, content.length).  (`inside` is needed: see `tiles_needs_inside`.) -/
structure Tiles (cs : List MChunk) (content : List Nat) : Prop where
  inside : ∀ c ∈ cs, c.off + c.data.length ≤ content.length
  agree : ∀ c ∈ cs, ∀ i, i < c.data.length → content[c.off + i]? = c.data[i]?
  cover : ∀ p, p < content.length → ∃ c ∈ cs, c.off ≤ p ∧ p < c.off + c.data.length

theorem Tiles.of_tilesAt {cs : List MChunk} {content : List Nat} (h : TilesAt 0 cs content) : Tiles cs content :=
  ⟨fun c hc => Nat.zero_add content.length ▸ h.hi c hc,
   fun c hc i hi => by simpa using h.agree c hc i hi,
   fun p hp => by simpa using h.cover p hp⟩

example : Tiles ([⟨0, 1, [7, 8]⟩, ⟨2, 1, [9]⟩] : List MChunk) [7, 8, 9] := by
  refine ⟨by decide, ?_, by decide⟩
  intro c hc i hi
  simp only [List.mem_cons, List.not_mem_nil, or_false] at hc
  rcases hc with rfl | rfl
  · have : i = 0 ∨ i = 1 := by simp at hi; omega
    rcases this with rfl | rfl <;> rfl
  · have : i = 0 := by simp at hi; omega
    subst this; rfl

/-- without `inside` a reader of chunks that agree with `content` and cover it need not get `content`: an EMPTY
    chunk beyond the content satisfies `agree` vacuously but extends the file (Entry.size = chunk extent), and the
    reader zero-fills up to it -/
theorem tiles_needs_inside :
    let e : Entry := { fileSize := 1, content := [], chunks := [⟨0, 1, [1]⟩, ⟨5, 1, []⟩] }
    (∀ c ∈ e.chunks, ∀ i, i < c.data.length → ([1] : List Nat)[c.off + i]? = c.data[i]?) ∧
    (∀ p, p < ([1] : List Nat).length → ∃ c ∈ e.chunks, c.off ≤ p ∧ p < c.off + c.data.length) ∧
    (readBack e).length = 5 := by
  intro e
  refine ⟨?_, by decide, ?_⟩
  · intro c hc i hi
    simp only [e, List.mem_cons, List.not_mem_nil, or_false] at hc
    rcases hc with rfl | rfl
    · have : i = 0 := by simp at hi; omega
      subst this; rfl
    · simp at hi
  · exact (readBack_spec e rfl (by decide)).1

theorem handle_of_save {existing : Option Entry} {m : Method} (hm : m ≠ .postRaw) {isAppend : Bool} {cs limit : Nat}
    {etc : Bool} {gen : Nat} {avail : List Nat} {fails : Bool} {u : Upload}
    (hu : uploadReaderToChunks cs limit isAppend etc gen avail fails = u) (hr : u.readErr = false) {e : Entry}
    (hs : saveMetaData existing isAppend u = .ok e) :
    handle existing m isAppend cs limit etc gen avail fails = (201, some e, []) := by
  subst hu
  cases m with
  | postRaw => exact absurd rfl hm
  | put => simp [handle, hr, hs]
  | postMultipart => simp [handle, hr, hs]

theorem saveMetaData_fresh {existing : Option Entry} {isAppend : Bool} (hfresh : isAppend = false ∨ existing = none)
    {u : Upload} :
    saveMetaData existing isAppend u = .ok { fileSize := u.chunkOffset, content := u.small, chunks := u.chunks } := by
  unfold saveMetaData
  rcases hfresh with h | h
  · subst h; simp
  · subst h; cases isAppend <;> simp

theorem saveMetaData_append {p : Entry} (hinl : p.content = []) {u : Upload} :
    saveMetaData (some p) true u =
      .ok { fileSize := p.fileSize + u.chunkOffset, content := [], chunks := p.chunks ++ u.chunks.map (shift p.fileSize) } := by
  unfold saveMetaData
  simp [hinl]

theorem upload_readErr_nofail (cs limit : Nat) (isAppend etc : Bool) (gen : Nat) (avail : List Nat) :
    (uploadReaderToChunks cs limit isAppend etc gen avail false).readErr = false :=
  loop_readErr_nofail _ _ _ _

/-- error-free body, inline branch not taken: everything is uploaded as chunks tiling the body, at least one per
    started `cs` bytes -/
theorem upload_nofail (cs limit gen : Nat) (hcs : 0 < cs) (isAppend etc : Bool) (avail : List Nat)
    (hni : avail = [] ∨ isAppend = true ∨ ¬ ((avail.take cs).length < limit ∨ etc = true)) :
    ∃ new, uploadReaderToChunks cs limit isAppend etc gen avail false = ⟨new, avail.length, [], false⟩ ∧
      TilesAt 0 new avail ∧ ∀ k, k * cs < avail.length → k < new.length := by
  have h := loop_nofail (limit := limit) (inlineOK := !isAppend) (etc := etc) (gen := gen) hcs (avail.length + 1) avail 0 []
    (Nat.lt_succ_self _)
    (hni.imp_right fun h ⟨_, h2, h3⟩ => h.elim (fun ha => by rw [ha] at h2; cases h2) (fun hl => hl h3))
  unfold uploadReaderToChunks
  simpa only [List.nil_append, Nat.zero_add] using h

theorem readBack_inline (piece : List Nat) :
    readBack { fileSize := piece.length, content := piece, chunks := [] } = piece := by
  unfold readBack
  simp [Entry.size, extent]

/-- FULL for error-free bodies outside the class `InlineDropsRest`, chunk size > 0: a PUT / multipart POST (no append, or
    append to a name that does not exist) is answered 201 and a reader of the stored entry gets the body -/
theorem stored_eq_body (cs limit gen : Nat) (hcs : 0 < cs) (body : List Nat) (hmax : body.length ≤ maxInt64)
    (m : Method) (hm : m ≠ .postRaw) (isAppend etc : Bool) (existing : Option Entry)
    (hfresh : isAppend = false ∨ existing = none)
    (hno : ¬ InlineDropsRest cs limit isAppend etc body) :
    ∃ e, handle existing m isAppend cs limit etc gen body false = (201, some e, []) ∧ readBack e = body := by
  by_cases hin : body ≠ [] ∧ isAppend = false ∧ ((body.take cs).length < limit ∨ etc = true)
  · -- the inline branch is taken: outside `InlineDropsRest` the first read is the whole body
    obtain ⟨hne, ha, hl⟩ := hin
    have hlen : body.length ≤ cs := Nat.le_of_not_lt fun hlt =>
      hno ⟨ha, hl.imp_left (fun h => by rw [List.length_take] at h; omega), hlt⟩
    have htk : body.take cs = body := List.take_of_length_le hlen
    subst ha
    have hu := upload_inline (gen := gen) false body Bool.noConfusion
      (fun h => hne (List.eq_nil_of_length_eq_zero (by rwa [htk] at h))) hl
    rw [htk] at hu
    exact ⟨_, handle_of_save hm hu rfl (saveMetaData_fresh hfresh), readBack_inline body⟩
  · obtain ⟨new, hu, ht, -⟩ := upload_nofail cs limit gen hcs isAppend etc body
      (Decidable.or_iff_not_imp_left.2 fun hb => Decidable.or_iff_not_imp_left.2 fun ha hl =>
        hin ⟨hb, eq_false_of_ne_true ha, hl⟩)
    exact ⟨_, handle_of_save hm hu rfl (saveMetaData_fresh hfresh), readBack_of_tilesAt hmax ht⟩

example : 0 < 4 ∧ ([1, 2, 3, 4, 5, 6] : List Nat).length ≤ maxInt64 ∧ Method.put ≠ .postRaw ∧
    (false = false ∨ (none : Option Entry) = none) ∧ ¬ InlineDropsRest 4 2 false false [1, 2, 3, 4, 5, 6] := by
  unfold InlineDropsRest; decide

/-- on `InlineDropsRest` the request is answered 201 and only the first read is stored -/
theorem inline_drops_rest (cs limit gen : Nat) (hcs : 0 < cs) (body : List Nat) (m : Method) (hm : m ≠ .postRaw) (etc : Bool)
    (existing : Option Entry) (h : InlineDropsRest cs limit false etc body) :
    ∃ e, handle existing m false cs limit etc gen body false = (201, some e, []) ∧ readBack e = body.take cs ∧ readBack e ≠ body := by
  obtain ⟨-, hl, hlt⟩ := h
  have hpl : (body.take cs).length = cs := List.length_take_of_le (Nat.le_of_lt hlt)
  have hu := upload_inline (gen := gen) false body Bool.noConfusion (by omega) (hpl.symm ▸ hl)
  have hrb := readBack_inline (body.take cs)
  refine ⟨_, handle_of_save hm hu rfl (saveMetaData_fresh (Or.inl rfl)), hrb, fun heq => ?_⟩
  have := congrArg List.length (hrb.symm.trans heq)
  omega

example : 0 < 4 ∧ Method.put ≠ .postRaw ∧ InlineDropsRest 4 8 false false [1, 2, 3, 4, 5, 6] := by
  unfold InlineDropsRest; decide

/-- witness: chunk size 4, inline limit 8, body of 6 bytes: answered 201, the stored file is the first 4 bytes -/
theorem inline_drops_rest_witness :
    handle none .put false 4 8 false 1 [1, 2, 3, 4, 5, 6] false = (201, some ⟨4, [1, 2, 3, 4], []⟩, []) ∧
    readBack ⟨4, [1, 2, 3, 4], []⟩ = [1, 2, 3, 4] := by
  decide +kernel

/-- the first read (one whole chunk, delivered before the failure) is taken as the inline content: the loop
    stops reading and never meets the error -/
def InlineHidesError (cs limit : Nat) (isAppend etc : Bool) (avail : List Nat) : Prop :=
  isAppend = false ∧ (cs < limit ∨ etc = true) ∧ cs ≤ avail.length

/-- the upload loop on a failing body outside `InlineHidesError`: the read error is remembered, and what was
    uploaded are chunks tiling the whole reads before the error -/
theorem upload_fails (cs limit gen : Nat) (hcs : 0 < cs) (isAppend etc : Bool) (avail : List Nat)
    (hno : ¬ InlineHidesError cs limit isAppend etc avail) :
    ∃ del j, uploadReaderToChunks cs limit isAppend etc gen avail true = ⟨del, j * cs, [], true⟩ ∧
      j * cs ≤ avail.length ∧ avail.length < (j + 1) * cs ∧ Tiles del (avail.take (j * cs)) := by
  have hj1 : avail.length / cs * cs ≤ avail.length := Nat.div_mul_le_self _ _
  have hj2 : avail.length < (avail.length / cs + 1) * cs := Nat.mul_comm _ cs ▸ Nat.lt_mul_div_succ _ hcs
  generalize avail.length / cs = j at hj1 hj2
  obtain ⟨new, hu, ht⟩ := loop_fails (limit := limit) (inlineOK := !isAppend) (etc := etc) (gen := gen) hcs
    (avail.length + 1) avail 0 [] j (Nat.lt_succ_self _) hj1 hj2 (fun ⟨_, h2, h3, h4⟩ => hno ⟨Bool.not_eq_true' _ ▸ h2, h3, h4⟩)
  refine ⟨new, j, ?_, hj1, hj2, .of_tilesAt ht⟩
  unfold uploadReaderToChunks
  simpa only [List.nil_append, Nat.zero_add] using hu

example : 0 < 4 ∧ ¬ InlineHidesError 4 0 false false [1, 2, 3, 4, 5, 6] := by
  unfold InlineHidesError; decide

/-- FULL for failing bodies outside the class `InlineHidesError` (the property's third clause), chunk size > 0: whatever the
    body delivered before it failed (`avail`), whatever is stored at the path, PUT or multipart POST, append or
    not — the request is answered 499, the entry at the path is what it was, and the chunks handed to
    Filer.DeleteChunks are ALL chunks this request uploaded: they tile exactly the whole reads before the error -/
theorem failed_body_not_committed (cs limit gen : Nat) (hcs : 0 < cs) (avail : List Nat) (m : Method) (hm : m ≠ .postRaw)
    (isAppend etc : Bool) (existing : Option Entry) (hno : ¬ InlineHidesError cs limit isAppend etc avail) :
    ∃ del j, handle existing m isAppend cs limit etc gen avail true = (499, existing, del) ∧
      del = (uploadReaderToChunks cs limit isAppend etc gen avail true).chunks ∧
      j * cs ≤ avail.length ∧ avail.length < (j + 1) * cs ∧ Tiles del (avail.take (j * cs)) := by
  obtain ⟨del, j, hu, h1, h2, ht⟩ := upload_fails cs limit gen hcs isAppend etc avail hno
  refine ⟨del, j, ?_, by rw [hu], h1, h2, ht⟩
  unfold handle
  cases m with
  | postRaw => exact absurd rfl hm
  | put => simp [hu]
  | postMultipart => simp [hu]

example : 0 < 4 ∧ Method.put ≠ .postRaw ∧ ¬ InlineHidesError 4 0 true false [1, 2, 3, 4, 5, 6] := by
  unfold InlineHidesError; decide

/-- in particular no failing body outside the class is answered 2xx (chunk size > 0), and a reader of the path gets what it got before -/
theorem failed_body_reported_failed (cs limit gen : Nat) (hcs : 0 < cs) (avail : List Nat) (m : Method) (hm : m ≠ .postRaw)
    (isAppend etc : Bool) (existing : Option Entry) (hno : ¬ InlineHidesError cs limit isAppend etc avail) :
    is2xx (handle existing m isAppend cs limit etc gen avail true).1 = false ∧
    contentOpt (handle existing m isAppend cs limit etc gen avail true).2.1 = contentOpt existing := by
  obtain ⟨del, j, h, -⟩ := failed_body_not_committed cs limit gen hcs avail m hm isAppend etc existing hno
  rw [h]
  exact ⟨by simp [is2xx], rfl⟩

example : 0 < 4 ∧ Method.postMultipart ≠ .postRaw ∧ ¬ InlineHidesError 4 8 false false [1, 2, 3] := by
  unfold InlineHidesError; decide

/-- a raw (non-multipart) POST is refused before any read of the body -/
theorem raw_post_refused (existing : Option Entry) (isAppend : Bool) (cs limit : Nat) (etc : Bool) (gen : Nat)
    (avail : List Nat) (fails : Bool) :
    handle existing .postRaw isAppend cs limit etc gen avail fails = (500, existing, []) := rfl

/-- the excluded class characterised exactly: the first whole chunk is stored inline, the request is answered
    201, the read error is never met (open findings …-keeps-first-chunk-only: "the rest of the body is dropped") -/
theorem failed_body_hidden_by_inline (cs limit gen : Nat) (hcs : 0 < cs) (avail : List Nat) (m : Method) (hm : m ≠ .postRaw)
    (etc : Bool) (existing : Option Entry) (h : InlineHidesError cs limit false etc avail) :
    ∃ e, handle existing m false cs limit etc gen avail true = (201, some e, []) ∧ readBack e = avail.take cs := by
  obtain ⟨-, hl, hge⟩ := h
  have hpl : (avail.take cs).length = cs := List.length_take_of_le hge
  have hu := upload_inline (gen := gen) true avail (fun _ => hge) (by omega) (hpl.symm ▸ hl)
  exact ⟨_, handle_of_save hm hu rfl (saveMetaData_fresh (Or.inl rfl)), readBack_inline (avail.take cs)⟩

example : 0 < 4 ∧ Method.put ≠ .postRaw ∧ InlineHidesError 4 8 false false [1, 2, 3, 4, 5, 6] := by
  unfold InlineHidesError; decide

/-- witness of the repaired behaviour: chunk size 4, the body [1..10] fails after 6 bytes: answered 499, nothing
    stored, the one uploaded chunk [1,2,3,4] handed to deletion (before the repair: 201, file = [1,2,3,4]) -/
theorem failed_body_witness :
    handle none .put false 4 0 false 1 (([1, 2, 3, 4, 5, 6, 7, 8, 9, 10] : List Nat).take 6) true
      = (499, none, [⟨0, 1, [1, 2, 3, 4]⟩]) ∧
    handle (some ⟨3, [], [⟨0, 1, [7, 8, 9]⟩]⟩) .postMultipart true 4 0 false 2 [1, 2, 3, 4, 5, 6, 7, 8, 9] true
      = (499, some ⟨3, [], [⟨0, 1, [7, 8, 9]⟩]⟩, [⟨0, 2, [1, 2, 3, 4]⟩, ⟨4, 2, [5, 6, 7, 8]⟩]) := by
  decide +kernel

/-- witness of the excluded class: inline limit 8 above chunk size 4, the body fails after 6 bytes: answered 201,
    the file is the first chunk (the error is dropped with the rest of the body) -/
theorem failed_body_hidden_witness :
    handle none .put false 4 8 false 1 [1, 2, 3, 4, 5, 6] true = (201, some ⟨4, [1, 2, 3, 4], []⟩, []) := by
  decide +kernel

theorem append_inline_refused (cs limit gen : Nat) (body : List Nat) (m : Method) (etc : Bool) (p : Entry) (h : p.content ≠ []) :
    handle (some p) m true cs limit etc gen body false = (500, some p, []) := by
  have hr := upload_readErr_nofail cs limit true etc gen body
  unfold handle
  cases m <;> simp [saveMetaData, h, hr]

/-- whether or not the body fails: an append to an inline entry is answered with an error and leaves the entry -/
theorem append_inline_unchanged (cs limit gen : Nat) (body : List Nat) (m : Method) (etc : Bool) (p : Entry) (h : p.content ≠ [])
    (fails : Bool) :
    ∃ st del, handle (some p) m true cs limit etc gen body fails = (st, some p, del) ∧ (st = 500 ∨ st = 499) := by
  cases hr : (uploadReaderToChunks cs limit true etc gen body fails).readErr with
  | false =>
    refine ⟨500, [], ?_, Or.inl rfl⟩
    unfold handle
    cases m <;> simp [saveMetaData, h, hr]
  | true =>
    cases m with
    | postRaw => exact ⟨500, [], rfl, Or.inl rfl⟩
    | put =>
      exact ⟨499, (uploadReaderToChunks cs limit true etc gen body fails).chunks, by unfold handle; simp [hr], Or.inr rfl⟩
    | postMultipart =>
      exact ⟨499, (uploadReaderToChunks cs limit true etc gen body fails).chunks, by unfold handle; simp [hr], Or.inr rfl⟩

example : ({ fileSize := 1, content := [7], chunks := [] } : Entry).content ≠ [] := by decide

/-- `_partial` (hypothesis `hattr` = the complement of the known finding saveMetaData/append-offset-from-FileSize-attr):
    an append to a chunked entry whose FileSize attribute equals its chunk extent is answered 201 and a reader
    gets the old content followed by the body.  (The finding bites where the attribute is BELOW the extent; an
    attribute beyond it is harmless, `readBack_append` asks only for `extent p.chunks ≤ p.fileSize`.) -/
theorem append_contiguous_partial (cs limit gen : Nat) (hcs : 0 < cs) (body : List Nat) (m : Method) (hm : m ≠ .postRaw) (etc : Bool)
    (p : Entry) (hinl : p.content = []) (hattr : extent p.chunks = p.fileSize)
    (hmax : p.fileSize + body.length ≤ maxInt64) :
    ∃ e, handle (some p) m true cs limit etc gen body false = (201, some e, []) ∧ readBack e = readBack p ++ body := by
  obtain ⟨new, hu, ht, -⟩ := upload_nofail cs limit gen hcs true etc body (Or.inr (Or.inl rfl))
  exact ⟨_, handle_of_save hm hu rfl (saveMetaData_append hinl), readBack_append p hinl (Nat.le_of_eq hattr) hmax ht⟩

example : ∃ p : Entry, 0 < 4 ∧ Method.put ≠ .postRaw ∧ p.content = [] ∧ extent p.chunks = p.fileSize ∧
    p.fileSize + ([9] : List Nat).length ≤ maxInt64 :=
  ⟨{ fileSize := 3, content := [], chunks := [⟨0, 1, [1, 2, 3]⟩] }, by decide⟩

open SwV.Model.C17 (Chunk Node resolveList resolveNode outside sortChunks viewFromChunks nonOverlapping) in
/-- the full statement (without `hattr`) is false: an entry made over gRPC with the FileSize attribute unset;
    the appended chunk lands at offset 0 and overlays the old content -/
theorem append_overlays_witness :
    let p : Entry := { fileSize := 0, content := [], chunks := [⟨0, 1, [1, 2, 3]⟩] }
    let e : Entry := { fileSize := 1, content := [], chunks := [⟨0, 1, [1, 2, 3]⟩, ⟨0, 2, [9]⟩] }
    handle (some p) .put true 4 0 false 2 [9] false = (201, some e, []) ∧
    readBack e = [9, 2, 3] ∧ readBack p = [1, 2, 3] ∧ readBack e ≠ readBack p ++ [9] := by
  intro p e
  -- `sortChunks` does not evaluate under `decide` (see the `readAtF` example of Props/C17): `hr`, `hsrt` put its result in
  have h1 : readBack e = [9, 2, 3] := by
    have hc : toC17 e.chunks = [⟨0, 3, 1, 0, 0⟩, ⟨0, 1, 2, 1, 1⟩] := by decide
    have hr : resolveList 0 (0 + maxInt64) [Node.data ⟨0, 3, 1, 0, 0⟩, Node.data ⟨0, 1, 2, 1, 1⟩]
        = [⟨0, 3, 1, 0, 0⟩, ⟨0, 1, 2, 1, 1⟩] := by
      simp [resolveList, resolveNode, outside, maxInt64]
    have hsrt : sortChunks [⟨0, 3, 1, 0, 0⟩, ⟨0, 1, 2, 1, 1⟩] = [⟨0, 3, 1, 0, 0⟩, ⟨0, 1, 2, 1, 1⟩] :=
      List.mergeSort_of_pairwise (by decide)
    unfold readBack
    rw [if_neg (by decide)]
    simp only [hc, List.map, SwV.Props.C17.viewFromChunks_eq]
    rw [hr, hsrt]
    decide +kernel
  have h2 : readBack p = [1, 2, 3] := by
    have hc : toC17 p.chunks = [⟨0, 3, 1, 0, 0⟩] := by decide
    have hr : resolveList 0 (0 + maxInt64) [Node.data ⟨0, 3, 1, 0, 0⟩] = [⟨0, 3, 1, 0, 0⟩] := by
      simp [resolveList, resolveNode, outside, maxInt64]
    have hsrt : sortChunks [⟨0, 3, 1, 0, 0⟩] = [⟨0, 3, 1, 0, 0⟩] := List.mergeSort_of_pairwise (by decide)
    unfold readBack
    rw [if_neg (by decide)]
    simp only [hc, List.map, SwV.Props.C17.viewFromChunks_eq]
    rw [hr, hsrt]
    decide +kernel
  refine ⟨by decide, h1, h2, ?_⟩
  rw [h1, h2]
  decide

/-- FULL: whatever is stored at the path, PUT or multipart POST, append or not, any body / chunk size / inline limit:
    when every attempt to store the chunk read `k`-th is refused — and the request does upload such a chunk — all
    three attempts of dataToChunk are used up, the request is answered 500, the entry at the path is what it was, and
    every OTHER chunk the request uploaded (the ones before and the ones that completed after the failure) is handed
    to Filer.DeleteChunks (the sticky `uploadErr` of uploadReaderToChunks; regression class
    uploadReaderToChunks/chunk-upload-failure-committed) -/
theorem upload_failure_not_committed (existing : Option Entry) (m : Method) (hm : m ≠ .postRaw) (isAppend : Bool)
    (cs limit : Nat) (etc : Bool) (gen : Nat) (body : List Nat) (k : Nat)
    (hk : k < (uploadReaderToChunks cs limit isAppend etc gen body false).chunks.length) :
    handleUploadFail existing m isAppend cs limit etc gen body k =
      (500, existing, (uploadReaderToChunks cs limit isAppend etc gen body false).chunks.eraseIdx k) ∧
    refusedAttempts m isAppend cs limit etc gen body k = 3 := by
  cases m with
  | postRaw => exact absurd rfl hm
  | put => exact ⟨by simp [handleUploadFail, hk], by simp [refusedAttempts, hk, uploadAttempts]⟩
  | postMultipart => exact ⟨by simp [handleUploadFail, hk], by simp [refusedAttempts, hk, uploadAttempts]⟩

/-- the MODEL satisfies the judge clause for refused chunk uploads (`uploadFailJudge`, stated from the property
    text) — for every request description `q` the judge could be asked about, every stored entry, method, body,
    chunk size, inline limit and every index `k` of a chunk the request uploads -/
theorem upload_failure_judge_ok (q : Req) (existing : Option Entry) (m : Method) (isAppend : Bool)
    (cs limit : Nat) (etc : Bool) (gen : Nat) (body : List Nat) (k : Nat)
    (hk : m = .postRaw ∨ k < (uploadReaderToChunks cs limit isAppend etc gen body false).chunks.length) :
    uploadFailJudge q existing (handleUploadFail existing m isAppend cs limit etc gen body k).1
      (handleUploadFail existing m isAppend cs limit etc gen body k).2.1 = none := by
  have h : (handleUploadFail existing m isAppend cs limit etc gen body k).1 = 500 ∧
      (handleUploadFail existing m isAppend cs limit etc gen body k).2.1 = existing := by
    rcases hk with rfl | hk
    · exact ⟨rfl, rfl⟩
    · cases m <;> simp [handleUploadFail, hk]
  rw [h.1, h.2]
  simp [uploadFailJudge, is2xx]

/-- which requests upload a chunk read `k`-th: every error-free body that reaches beyond `k` whole chunks, unless its
    first read is taken as the inline content (`hni`: an append, or not below /etc with the inline limit at most the
    first read) — so the two theorems above speak about every failing chunk index of every chunked body -/
theorem upload_has_chunk (cs limit gen : Nat) (hcs : 0 < cs) (isAppend etc : Bool) (body : List Nat) (k : Nat)
    (hni : isAppend = true ∨ (etc = false ∧ limit ≤ min cs body.length)) (hk : k * cs < body.length) :
    k < (uploadReaderToChunks cs limit isAppend etc gen body false).chunks.length := by
  obtain ⟨new, hu, -, hcount⟩ := upload_nofail cs limit gen hcs isAppend etc body
    (Or.inr (hni.imp_right fun ⟨he, hl⟩ h => by rw [List.length_take, he] at h; exact h.elim (by omega) Bool.noConfusion))
  rw [hu]
  exact hcount k hk

/-- a three-chunk body over an existing file, the FIRST chunk refused: the premises of the theorems hold … -/
example : Method.put ≠ .postRaw ∧ 0 < 4 ∧ (false = true ∨ (false = false ∧ 0 ≤ min 4 ([1, 2, 3, 4, 5, 6, 7, 8, 9] : List Nat).length)) ∧
    0 * 4 < ([1, 2, 3, 4, 5, 6, 7, 8, 9] : List Nat).length ∧
    0 < (uploadReaderToChunks 4 0 false false 2 [1, 2, 3, 4, 5, 6, 7, 8, 9] false).chunks.length := by decide

/-- … and the model answers 500, keeps the old file, uses three assigns and hands the two chunks that completed
    after the failure to deletion; an append with its middle chunk refused likewise -/
theorem upload_failure_witness :
    handleUploadFail (some ⟨3, [], [⟨0, 1, [7, 8, 9]⟩]⟩) .put false 4 0 false 2 [1, 2, 3, 4, 5, 6, 7, 8, 9] 0
      = (500, some ⟨3, [], [⟨0, 1, [7, 8, 9]⟩]⟩, [⟨4, 2, [5, 6, 7, 8]⟩, ⟨8, 2, [9]⟩]) ∧
    refusedAttempts .put false 4 0 false 2 [1, 2, 3, 4, 5, 6, 7, 8, 9] 0 = 3 ∧
    handleUploadFail (some ⟨3, [], [⟨0, 1, [7, 8, 9]⟩]⟩) .postMultipart true 4 0 false 2 [1, 2, 3, 4, 5, 6, 7, 8, 9] 1
      = (500, some ⟨3, [], [⟨0, 1, [7, 8, 9]⟩]⟩, [⟨0, 2, [1, 2, 3, 4]⟩, ⟨8, 2, [9]⟩]) ∧
    -- a body without a chunk read 5th: nothing is refused, the request is the fault-free one
    handleUploadFail none .put false 4 0 false 1 [1, 2, 3, 4, 5] 5 = handle none .put false 4 0 false 1 [1, 2, 3, 4, 5] false ∧
    refusedAttempts .put false 4 0 false 1 [1, 2, 3, 4, 5] 5 = 0 := by
  decide +kernel

/-- the judge clause is not vacuous: what the seeded regression produces (a later chunk's success clears the error:
    201, FileSize 9, the first chunk missing from the entry) is classified, and so is an error answer that changed the file -/
theorem upload_failure_judge_rejects :
    uploadFailJudge ⟨false, false, 4, 0, false, [1, 2, 3, 4, 5, 6, 7, 8, 9], none⟩ (some ⟨3, [], [⟨0, 1, [7, 8, 9]⟩]⟩) 201
      (some ⟨9, [], [⟨4, 2, [5, 6, 7, 8]⟩, ⟨8, 2, [9]⟩]⟩) = some "uploadReaderToChunks/chunk-upload-failure-committed" ∧
    uploadFailJudge ⟨false, false, 4, 0, false, [1, 2, 3, 4, 5], none⟩ (some ⟨3, [], [⟨0, 1, [7, 8, 9]⟩]⟩) 500
      (some ⟨1, [], [⟨0, 2, [5]⟩]⟩) = some "write/failed-request-changed-file" ∧
    uploadFailJudge ⟨false, false, 4, 0, false, [1, 2, 3, 4, 5], none⟩ none 201
      (some ⟨5, [], [⟨0, 1, [1, 2, 3, 4]⟩, ⟨4, 1, [5]⟩]⟩) = none := by
  decide +kernel

/-! ### bridges: the model's branch conditions are the ones in the source (regenerated from /repo on every check) -/

/-- the loop of uploadReaderToChunks ends on a read error or when nothing was read (`uploadLoop`'s first two tests) … -/
theorem bridge_upload_break : SwV.Gen.C25.upload_break_cond = "err != nil || dataSize == 0" := rfl
/-- … remembering the error (`readErr := true`; nil when only `dataSize == 0` held) … -/
theorem bridge_upload_read_err : SwV.Gen.C25.upload_read_err_assign = "readErr = err" := rfl
/-- … which becomes the function's error after the in-flight uploads, spelled so that autoChunk answers 499 … -/
theorem bridge_upload_read_err_cond : SwV.Gen.C25.upload_read_err_cond = "uploadErr == nil && readErr != nil" := rfl
theorem bridge_upload_read_err_report :
    SwV.Gen.C25.upload_read_err_report = "uploadErr = fmt.Errorf(\"read input: %v\", readErr)" := rfl
theorem bridge_read_input_status_cond :
    SwV.Gen.C25.read_input_status_cond = "strings.HasPrefix(err.Error(), \"read input:\")" := rfl
theorem bridge_read_input_status : SwV.Gen.C25.read_input_status = "499" := rfl
/-- … and the chunks uploaded so far go to Filer.DeleteChunks (`handle`'s third component) -/
theorem bridge_upload_err_delete : SwV.Gen.C25.upload_err_delete_arg = "fileChunks" := rfl
/-- the inline branch is only considered for the first read of a non-append request (`off = 0 ∧ inlineOK`) … -/
theorem bridge_upload_first_read : SwV.Gen.C25.upload_first_read_cond = "chunkOffset == 0 && !isAppend(r)" := rfl
/-- … and taken when that read is shorter than the limit or the path is below /etc (`piece.length < limit ∨ etc`) -/
theorem bridge_upload_inline :
    SwV.Gen.C25.upload_inline_cond = "dataSize < fs.option.SaveToFilerLimit || strings.HasPrefix(r.URL.Path, filer.DirectoryEtcRoot)" := rfl
theorem bridge_upload_last_chunk : SwV.Gen.C25.upload_last_chunk_cond = "dataSize < int64(chunkSize)" := rfl
/-- saveMetaData moves appended chunks by the FileSize ATTRIBUTE (`shift e.fileSize`) and adds chunkOffset to it -/
theorem bridge_append_offset : SwV.Gen.C25.append_offset_assign = "chunk.Offset += int64(entry.FileSize)" := rfl
theorem bridge_append_filesize : SwV.Gen.C25.append_filesize_assign = "entry.FileSize += uint64(chunkOffset)" := rfl
theorem bridge_append_inline_refused : SwV.Gen.C25.append_inline_refused_cond = "len(entry.Content) > 0" := rfl
/-- the public chunk size is a multiple of 1 MiB: the harness enters below this line (VerifPostHandlerChunkBytes) -/
theorem bridge_chunk_size : SwV.Gen.C25.chunk_size_assign = "chunkSize := 1024 * 1024 * maxMB" := rfl
/-- hashes of the sources of the modelled functions (a source edit breaks the obligation and asks for a model review) -/
theorem bridge_src_upload : SwV.Gen.C25.src_uploadReaderToChunks = "ed1fc11962c16667" := rfl
theorem bridge_src_save : SwV.Gen.C25.src_saveMetaData = "6dd0252be60d4eb8" := rfl
theorem bridge_src_put : SwV.Gen.C25.src_doPutAutoChunk = "ad44a5197caf5b0e" := rfl
theorem bridge_src_post : SwV.Gen.C25.src_doPostAutoChunk = "54e27d98baaab27d" := rfl
theorem bridge_src_autoChunk : SwV.Gen.C25.src_autoChunk = "2797d32df966388f" := rfl
theorem bridge_src_dataToChunk : SwV.Gen.C25.src_dataToChunk = "dae63355c35f662b" := rfl
theorem bridge_src_postHandler : SwV.Gen.C25.src_PostHandler = "dc65882417be28d1" := rfl
theorem bridge_src_hook : SwV.Gen.C25.src_VerifPostHandlerChunkBytes = "c1df5c57e94214bf" := rfl

end SwV.Props.C25
