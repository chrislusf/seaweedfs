/-
C29 — S3 keys never escape their bucket.

FULL STATEMENT: for every bucket B and every string x a client can send (key, upload id, batch-delete
name), the filer path the handlers resolve — `filepath.Clean(/buckets/B[/.uploads]/x)`, the router cleans
nothing (`SkipClean(true)`, validated end to end by the correspondence runs) — has `/buckets/B` as a
component-wise prefix.

It is FALSE of the code (the refutations below, by evaluation; the same strings are replayed on the real
router in corpus/C29/witnesses.ops, where another bucket is read, deleted, and directories are created outside).

PROVED for all inputs (`path_contained_partial`): if B is none of "", ".", ".." (`normal`; with B = "." the path
`/buckets/./a` resolves to `/buckets/a`) and no segment of x is ".." the resolved path stays
below the base directory, whatever else x contains ("", ".", ".uploads", names of other buckets, any
bytes) — so for such B ".." segments (after percent-decoding) are exactly the excluded inputs.
-/
import SwV.Model.C29
import SwV.Spec.C29
import SwV.Gen.C29
namespace SwV.Props.C29
open SwV.Model.C19 (Bytes)
open SwV.Model.C29 SwV.Spec.C29

theorem cleanAux_no_dotdot : ∀ (xs acc : List Bytes), (∀ s ∈ xs, s ≠ dotdot) →
    cleanAux acc xs = acc.reverse ++ xs.filter normal
  | [], acc, _ => by simp [cleanAux]
  | s :: rest, acc, h => by
    have hs : s ≠ dotdot := h s List.mem_cons_self
    have ih := fun acc' => cleanAux_no_dotdot rest acc' (fun t ht => h t (List.mem_cons_of_mem _ ht))
    unfold cleanAux
    by_cases h1 : s = [] ∨ s = dot
    · have : normal s = false := by
        cases h1 with
        | inl e => subst e; rfl
        | inr e => subst e; rfl
      simp [h1, ih, this]
    · have hn : normal s = true := by
        simp only [not_or] at h1
        simp [normal, h1.1, h1.2, hs]
      simp [h1, hs, ih, hn]

/-- MAIN (partial): over a base of `normal` segments, without ".." segments behind it the cleaned path keeps
    the base directory as a prefix. -/
theorem path_contained_partial (base xs : List Bytes) (hb : ∀ s ∈ base, normal s = true) (hx : ∀ s ∈ xs, s ≠ dotdot) :
    clean (base ++ xs) = base ++ xs.filter normal ∧ isPrefixOf base (clean (base ++ xs)) = true := by
  have hbd : ∀ s ∈ base, s ≠ dotdot := by
    intro s hs e; have := hb s hs; rw [e] at this; revert this; decide
  have h1 : clean (base ++ xs) = base ++ xs.filter normal := by
    unfold clean
    rw [cleanAux_no_dotdot (base ++ xs) [] (List.forall_mem_append.2 ⟨hbd, hx⟩)]
    simp only [List.reverse_nil, List.nil_append, List.filter_append]
    congr 1
    exact List.filter_eq_self.2 hb
  refine ⟨h1, ?_⟩
  rw [h1]
  simp [isPrefixOf]

/-- the bucket directory, the uploads folder below it: both are legitimate bases -/
theorem bucket_base_normal (b : Bytes) (h : normal b = true) :
    (∀ s ∈ [buckets, b], normal s = true) ∧ (∀ s ∈ [buckets, b, uploads], normal s = true) := by
  have h1 : normal buckets = true := by decide
  have h2 : normal uploads = true := by decide
  simp [h, h1, h2]

/-- corollary for the object routes (the default case of `addressed`: PUT, GET, HEAD, DELETE): a key without
    ".." segment after percent-decoding addresses a path inside the bucket -/
theorem object_route_contained (b key : Bytes) (hb : normal b = true)
    (hk : ∀ s ∈ splitSlash (pctDecode key), s ≠ dotdot) :
    contained b [clean ([buckets, b] ++ splitSlash (pctDecode key))] = true := by
  simp only [contained, List.all_cons, List.all_nil, Bool.and_true]
  exact (path_contained_partial [buckets, b] _ (bucket_base_normal b hb).1 hk).2

def s (x : String) : Bytes := x.toList.map Char.toNat

example : ∀ t ∈ splitSlash (pctDecode (s "a//./.uploads/other/%2F")), t ≠ dotdot := by decide +kernel

theorem upload_id_escapes :
    clean ([buckets, s "bkt", uploads] ++ splitSlash (s "../../other")) = [buckets, s "other"] := by decide +kernel

theorem batch_name_escapes :
    clean ([buckets, s "bkt"] ++ splitSlash (s "../../topsecret")) = [s "topsecret"] := by decide +kernel

theorem key_escapes_after_percent_decoding :
    contained (s "bkt") (addressed (s "bkt") "get" (s "%2e%2e/other/secret") [] []) = false := by decide +kernel

theorem copy_source_escapes_buckets_dir :
    clean ([buckets] ++ splitSlash (pctDecode (s "bkt/../../etc/secret"))) = [s "etc", s "secret"] := by decide +kernel

/-- CompleteMultipartUpload: the upload id is a plain name below `.uploads`, the KEY carries the "..":
    the completed object is addressed at /buckets/newbkt/obj (finding CompleteMultipartUploadHandler/writes-outside-bucket;
    the filer creates the cleaned parent chain, i.e. the directory /buckets/newbkt) -/
theorem complete_key_escapes :
    addressed (s "bkt") "mpdone" (s "../newbkt/obj") (s "up1") []
      = [[buckets, s "bkt", uploads, s "up1"], [buckets, s "newbkt", s "obj"]] ∧
    contained (s "bkt") (addressed (s "bkt") "mpdone" (s "../newbkt/obj") (s "up1") []) = false ∧
    reqJudge "mpdone" (s "../newbkt/obj") [] [s "/buckets/newbkt"] [s "/buckets/newbkt"] [s "/buckets/newbkt"]
      = some "CompleteMultipartUploadHandler/writes-outside-bucket" ∧
    reqJudge "mpdone" (s "../other/d/planted") [] [s "/buckets/other/d"] [] []
      = some "CompleteMultipartUploadHandler/reads-outside-bucket" := by decide +kernel

/-- `genUploadsFolder` is the path string of the segments `[buckets, b, uploads]` under which `addressed`
    puts the multipart routes -/
theorem uploads_folder_shape (b : Bytes) : genUploadsFolder b = joinSegs [buckets, b, uploads] := by
  simp [genUploadsFolder, joinSegs]

/-! ## T1 bridges: facts regenerated from the source by `extract` (props/C29/extract.json → `SwV.Gen.C29`)

Each theorem but `bridge_pins` states the text of a filer-path / filer-URL construction site as it stands in the working tree,
four of them (`bridge_object_urls`, `bridge_uploads_folder`, `bridge_copy_source`, `bridge_batch_delete`)
together with the model equation that mirrors it; an edit to the Go code changes the generated string and
breaks the theorem of that name. -/

/-- `getBucketAndObject` (the object always starts with "/") and `urlPathEscape` (escape every "/"-separated
    part, keep the separators: the filer sees the same segments after decoding) -/
theorem bridge_request_to_key :
    SwV.Gen.C29.gbo_bucket = "bucket = vars[\"bucket\"]" ∧ SwV.Gen.C29.gbo_object = "object = vars[\"object\"]" ∧
    SwV.Gen.C29.gbo_no_lead_slash = "!strings.HasPrefix(object, \"/\")" ∧
    SwV.Gen.C29.gbo_add_lead_slash = "object = \"/\" + object" ∧
    SwV.Gen.C29.esc_split_what = "object" ∧ SwV.Gen.C29.esc_split_sep = "\"/\"" ∧
    SwV.Gen.C29.esc_part = "part" ∧ SwV.Gen.C29.esc_join_sep = "\"/\"" :=
  ⟨rfl, rfl, rfl, rfl, rfl, rfl, rfl, rfl⟩

/-- the object routes PUT / GET / HEAD / DELETE / POST-policy address `BucketsPath/bucket` + escaped key
    (model: route default case of `addressed`) -/
theorem bridge_object_urls :
    SwV.Gen.C29.put_url = "uploadUrl := fmt.Sprintf(\"http://%s%s/%s%s\", s3a.option.Filer, s3a.option.BucketsPath, bucket, urlPathEscape(object))" ∧
    SwV.Gen.C29.get_url = "destUrl := fmt.Sprintf(\"http://%s%s/%s%s\", s3a.option.Filer, s3a.option.BucketsPath, bucket, urlPathEscape(object))" ∧
    SwV.Gen.C29.head_url = "destUrl := fmt.Sprintf(\"http://%s%s/%s%s\", s3a.option.Filer, s3a.option.BucketsPath, bucket, urlPathEscape(object))" ∧
    SwV.Gen.C29.delete_url = "destUrl := fmt.Sprintf(\"http://%s%s/%s%s?recursive=true\", s3a.option.Filer, s3a.option.BucketsPath, bucket, urlPathEscape(object))" ∧
    SwV.Gen.C29.post_url = "uploadUrl := fmt.Sprintf(\"http://%s%s/%s%s\", s3a.option.Filer, s3a.option.BucketsPath, bucket, urlPathEscape(object))" ∧
    (∀ (b key uid : Bytes) (names : List Bytes),
      addressed b "put" key uid names = [clean ([buckets, b] ++ splitSlash (pctDecode key))] ∧
      addressed b "get" key uid names = [clean ([buckets, b] ++ splitSlash (pctDecode key))] ∧
      addressed b "del" key uid names = [clean ([buckets, b] ++ splitSlash (pctDecode key))]) :=
  ⟨rfl, rfl, rfl, rfl, rfl, fun _ _ _ _ => ⟨rfl, rfl, rfl⟩⟩

/-- `genUploadsFolder` and the multipart routes (`BucketsPath/bucket/.uploads` + "/" + upload id) -/
theorem bridge_uploads_folder :
    SwV.Gen.C29.uploads_fmt = "\"%s/%s/.uploads\"" ∧ SwV.Gen.C29.uploads_root = "s3a.option.BucketsPath" ∧
    SwV.Gen.C29.uploads_bucket = "bucket" ∧
    String.ofList (uploads.map Char.ofNat) = ".uploads" ∧ String.ofList (buckets.map Char.ofNat) = "buckets" ∧
    (∀ b : Bytes, genUploadsFolder b = [slash] ++ buckets ++ [slash] ++ b ++ [slash] ++ uploads) ∧
    SwV.Gen.C29.part_url = "uploadUrl := fmt.Sprintf(\"http://%s%s/%s/%04d.part?collection=%s\", s3a.option.Filer, s3a.genUploadsFolder(bucket), uploadID, partID, bucket)" ∧
    SwV.Gen.C29.part_exists_dir = "s3a.genUploadsFolder(bucket)" ∧ SwV.Gen.C29.part_exists_name = "uploadID" ∧
    SwV.Gen.C29.copypart_dst_url = "dstUrl := fmt.Sprintf(\"http://%s%s/%s/%04d.part?collection=%s\", s3a.option.Filer, s3a.genUploadsFolder(dstBucket), uploadID, partID, dstBucket)" ∧
    SwV.Gen.C29.done_upload_dir = "uploadDirectory := s3a.genUploadsFolder(*input.Bucket) + \"/\" + *input.UploadId" ∧
    SwV.Gen.C29.done_rm_dir = "s3a.genUploadsFolder(*input.Bucket)" ∧ SwV.Gen.C29.done_rm_name = "*input.UploadId" ∧
    SwV.Gen.C29.abort_exists_dir = "s3a.genUploadsFolder(*input.Bucket)" ∧ SwV.Gen.C29.abort_exists_name = "*input.UploadId" ∧
    SwV.Gen.C29.abort_rm_dir = "s3a.genUploadsFolder(*input.Bucket)" ∧ SwV.Gen.C29.abort_rm_name = "*input.UploadId" ∧
    SwV.Gen.C29.parts_list_dir = "s3a.genUploadsFolder(*input.Bucket) + \"/\" + *input.UploadId" ∧
    (∀ (b key uid : Bytes) (names : List Bytes),
      addressed b "mpabort" key uid names = [clean ([buckets, b] ++ [uploads] ++ splitSlash uid)] ∧
      addressed b "mppart" key uid names = [clean ([buckets, b] ++ [uploads] ++ splitSlash uid)] ∧
      addressed b "mplist" key uid names = [clean ([buckets, b] ++ [uploads] ++ splitSlash uid)] ∧
      addressed b "mpdone" key uid names =
        [clean ([buckets, b] ++ [uploads] ++ splitSlash uid), clean ([buckets, b] ++ splitSlash (pctDecode key))]) :=
  ⟨rfl, rfl, rfl, by decide +kernel, by decide +kernel, fun _ => rfl, rfl, rfl, rfl, rfl,
   rfl, rfl, rfl, rfl, rfl, rfl, rfl, rfl,
   fun _ _ _ _ => ⟨rfl, rfl, rfl, rfl⟩⟩

/-- CompleteMultipartUpload writes the final object at `BucketsPath/bucket/Dir(key)` + "/" + `Base(key)` -/
theorem bridge_complete_target :
    SwV.Gen.C29.done_entry_name = "entryName := filepath.Base(*input.Key)" ∧
    SwV.Gen.C29.done_dir_name = "dirName := filepath.Dir(*input.Key)" ∧
    SwV.Gen.C29.done_full_dir = "dirName = fmt.Sprintf(\"%s/%s/%s\", s3a.option.BucketsPath, *input.Bucket, dirName)" ∧
    SwV.Gen.C29.done_mkfile_dir = "dirName" ∧ SwV.Gen.C29.done_mkfile_name = "entryName" :=
  ⟨rfl, rfl, rfl, rfl, rfl⟩

/-- copy sources: `pathToBucketAndObject` and the source / destination URLs -/
theorem bridge_copy_source :
    SwV.Gen.C29.p2bo_trim = "path = strings.TrimPrefix(path, \"/\")" ∧
    SwV.Gen.C29.p2bo_split = "parts := strings.SplitN(path, \"/\", 2)" ∧
    SwV.Gen.C29.p2bo_has_object = "len(parts) == 2" ∧
    SwV.Gen.C29.copy_src_split = "srcBucket, srcObject := pathToBucketAndObject(cpSrcPath)" ∧
    SwV.Gen.C29.copy_dst_url = "dstUrl := fmt.Sprintf(\"http://%s%s/%s%s?collection=%s\", s3a.option.Filer, s3a.option.BucketsPath, dstBucket, dstObject, dstBucket)" ∧
    SwV.Gen.C29.copy_src_url = "srcUrl := fmt.Sprintf(\"http://%s%s/%s%s\", s3a.option.Filer, s3a.option.BucketsPath, srcBucket, srcObject)" ∧
    SwV.Gen.C29.copypart_src_split = "srcBucket, srcObject := pathToBucketAndObject(cpSrcPath)" ∧
    SwV.Gen.C29.copypart_src_url = "srcUrl := fmt.Sprintf(\"http://%s%s/%s%s\", s3a.option.Filer, s3a.option.BucketsPath, srcBucket, srcObject)" ∧
    (∀ (p b o : Bytes), cutFirstSlash (if p.head? = some slash then p.drop 1 else p) = some (b, o) →
      pathToBucketAndObject p = (b, [slash] ++ o)) ∧
    (∀ (p : Bytes), cutFirstSlash (if p.head? = some slash then p.drop 1 else p) = none →
      pathToBucketAndObject p = ((if p.head? = some slash then p.drop 1 else p), [slash])) := by
  refine ⟨rfl, rfl, rfl, rfl, rfl, rfl, rfl, rfl, ?_, ?_⟩
  · intro p b o h; simp only [pathToBucketAndObject, h]
  · intro p h; simp only [pathToBucketAndObject, h]

/-- batch delete: every listed name is resolved below `BucketsPath/bucket` (model route "bdel") -/
theorem bridge_batch_delete :
    SwV.Gen.C29.bdel_last_sep = "lastSeparator := strings.LastIndex(object.ObjectName, \"/\")" ∧
    SwV.Gen.C29.bdel_has_dir = "lastSeparator > 0 && lastSeparator+1 < len(object.ObjectName)" ∧
    SwV.Gen.C29.bdel_name = "entryName = object.ObjectName[lastSeparator+1:]" ∧
    SwV.Gen.C29.bdel_dir = "parentDirectoryPath = \"/\" + object.ObjectName[:lastSeparator]" ∧
    SwV.Gen.C29.bdel_full_dir = "parentDirectoryPath = fmt.Sprintf(\"%s/%s%s\", s3a.option.BucketsPath, bucket, parentDirectoryPath)" ∧
    SwV.Gen.C29.bdel_call_dir = "parentDirectoryPath" ∧ SwV.Gen.C29.bdel_call_name = "entryName" ∧
    (∀ (b key uid : Bytes) (names : List Bytes),
      addressed b "bdel" key uid names = names.map fun n => clean ([buckets, b] ++ splitSlash n)) :=
  ⟨rfl, rfl, rfl, rfl, rfl, rfl, rfl, fun _ _ _ _ => rfl⟩

/-- weakest supplement: hashes of the whole mirrored functions; `util.JoinPath` / `util.Join` (= `clean`) is
    where every filer entry point resolves `directory + "/" + name` -/
theorem bridge_pins :
    SwV.Gen.C29.src_getBucketAndObject = "5930b7fd405180b1" ∧ SwV.Gen.C29.src_urlPathEscape = "e3d53def12d52dca" ∧
    SwV.Gen.C29.src_genUploadsFolder = "642f7a8fe1ad052c" ∧ SwV.Gen.C29.src_pathToBucketAndObject = "f0b67e2a47959e2d" ∧
    SwV.Gen.C29.src_GetObjectHandler = "5cb3c0048f36219d" ∧ SwV.Gen.C29.src_HeadObjectHandler = "9b148520d9b7927b" ∧
    SwV.Gen.C29.src_DeleteObjectHandler = "38edd39c6fcc0bad" ∧ SwV.Gen.C29.src_DirAndName = "e60a0f7d0a5a6e53" ∧
    SwV.Gen.C29.src_JoinPath = "d79f570ab2892ed9" ∧ SwV.Gen.C29.src_Join = "4f2a33a966f6ce1f" :=
  ⟨rfl, rfl, rfl, rfl, rfl, rfl, rfl, rfl, rfl, rfl⟩

end SwV.Props.C29
