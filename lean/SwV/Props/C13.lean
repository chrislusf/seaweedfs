/-
C13 — property theorems: "file keys and volume ids are never handed out twice".
The run functions (events, ghost logs: `mrun`, `erun`, `vrun`), the invariants and their preservation
lemmas live in SwV/Lemmas/C13.lean, the uint64 run `erunW` in SwV/Lemmas/C13W.lean.  The theorems about runs and
steps are about the executable machines of SwV/Model/C13.lean, which the correspondence check ties to the Go code on every
run (the etcd machines in their uint64 form `startW`/`kvStepW`: the unbounded `start`/`kvStep` only where nothing wraps); the others are about the judges of SwV/Spec/C13.lean, the SnowflakeSequencer (not modelled: two remarks about `overlap`)
and the source the models were written from.  Logs are newest first.
-/
import SwV.Lemmas.C13W
import SwV.Gen.C13
import SwV.Gen.C13Hb

namespace SwV.Props.C13
open SwV.Model.C13 SwV.Spec.C13 SwV.Lemmas.C13

/- FULL-STRENGTH statement (FALSE of the model and of the code):

     theorem mem_ranges_disjoint (i : Nat) (evs : List MEv) : GoodLog (mrun i Mem.new evs []).2

   It fails when the uint64 counter wraps (`mem_wrap_witness`, `mem_setmax_wrap_witness`); started from another
   instance's log the property fails without any wrap (a new leader starts from 1 again and only learns the
   heartbeat maxima: `mem_leader_change_witness`). -/

/-- from ANY state and log such that everything handed out so far is below the
    counter and everything reported to `i` is below the counter, a run without uint64 wrap keeps the
    log good — this is what a new leader `i` needs from the old leader's log before serving -/
theorem mem_run_good (i : Nat) (m : Mem) (log : List Obs) (evs : List MEv)
    (hg : GoodLog log) (hi : ∀ j s c, Obs.issue j s c ∈ log → s + c ≤ m.counter)
    (hr : ∀ seen, Obs.report i seen ∈ log → seen < m.counter) (hw : NoWrap m evs) :
    GoodLog (mrun i m evs log).2 :=
  (mrun_inv i evs m log ⟨hg, hi, hr⟩ hw).1

theorem mem_run_below (i : Nat) (m : Mem) (log : List Obs) (evs : List MEv)
    (hg : GoodLog log) (hi : ∀ j s c, Obs.issue j s c ∈ log → s + c ≤ m.counter)
    (hr : ∀ seen, Obs.report i seen ∈ log → seen < m.counter) (hw : NoWrap m evs) :
    ∀ j s c, Obs.issue j s c ∈ (mrun i m evs log).2 → s + c ≤ (mrun i m evs log).1.counter :=
  (mrun_inv i evs m log ⟨hg, hi, hr⟩ hw).2.1

/-- one MemorySequencer from its initial state: every range handed out is disjoint from every earlier
    one and starts above every max key reported before, as long as no uint64 addition wraps
    (`¬ NoWrap` = the excluded inputs) -/
theorem mem_ranges_disjoint_partial (i : Nat) (evs : List MEv) (hw : NoWrap Mem.new evs) :
    GoodLog (mrun i Mem.new evs []).2 :=
  mem_run_good i Mem.new [] evs trivial (fun _ _ _ hm => by cases hm) (fun _ hm => by cases hm) hw

/-- non-vacuity of `mem_ranges_disjoint_partial` / `mem_run_good` -/
example : NoWrap Mem.new [.next 3, .setMax 10, .next 2] := by decide +kernel

example : GoodLog (mrun 0 Mem.new [.next 3, .setMax 10, .next 2] []).2 :=
  mem_ranges_disjoint_partial 0 _ (by decide +kernel)

/-- FULL statement fails: the counter wraps past 2^64 and key 5 is handed out twice -/
theorem mem_wrap_witness : ¬ GoodLog (mrun 0 Mem.new [.next 5, .next (W - 1), .next 1] []).2 := by
  decide +kernel

/-- FULL statement fails: `SetMax(2^64-1)` wraps the counter to 0, the next key is below the report -/
theorem mem_setmax_wrap_witness :
    ¬ GoodLog (mrun 0 Mem.new [.next 3, .setMax (W - 1), .next 1] []).2 := by
  decide +kernel

/-- leader change, positive form: a fresh MemorySequencer `i` taking over a good log `log0` is safe
    provided that BEFORE serving it is told (`SetMax seen`) a max key `seen` that covers every key handed
    out so far (and every earlier report to `i`), and nothing wraps, that `SetMax` included (`hs`).
    `mem_leader_change_witness` shows what happens when the reported max lags. -/
theorem mem_leader_change_partial (i : Nat) (log0 : List Obs) (seen : Nat) (evs : List MEv)
    (hg : GoodLog log0) (hi : ∀ j s c, Obs.issue j s c ∈ log0 → s + c ≤ seen + 1)
    (hr : ∀ seen', Obs.report i seen' ∈ log0 → seen' ≤ seen) (hs : seen + 1 < W)
    (hw : NoWrap (Mem.new.setMax seen) evs) :
    GoodLog (mrun i Mem.new (.setMax seen :: evs) log0).2 := by
  have hc : (Mem.new.setMax seen).counter = seen + 1 := by
    rw [setMax_counter _ seen hs]; exact Nat.max_eq_right (Nat.le_add_left 1 seen)
  show GoodLog (mrun i (Mem.new.setMax seen) evs (.report i seen :: log0)).2
  refine mem_run_good i _ (.report i seen :: log0) evs hg ?_ ?_ hw
  · intro j s c hm
    rw [hc]
    exact hi j s c (List.mem_of_ne_of_mem Obs.noConfusion hm)
  · intro seen' hm
    rw [hc]
    rcases List.mem_cons.mp hm with hm | hm
    · cases hm; omega
    · exact Nat.lt_add_one_of_le (hr seen' hm)

/-- non-vacuity of `mem_leader_change_partial`: the old leader handed out [1,6), the new one is told 5 -/
example : GoodLog (mrun 1 Mem.new [.setMax 5, .next 1] [.issue 0 1 5]).2 :=
  mem_leader_change_partial 1 [.issue 0 1 5] 5 [.next 1]
    (by simp [GoodLog])
    (fun j s c h => by simp at h; omega) (fun _ h => by simp at h) (by decide)
    (by decide +kernel)

/-- FULL statement fails across a leader change: the old leader handed out [1,6), the new leader is
    told max key 3 only (heartbeats lag) and hands out 4 again -/
theorem mem_leader_change_witness :
    ¬ GoodLog (mrun 1 Mem.new [.setMax 3, .next 1] (mrun 0 Mem.new [.next 5] []).2).2 := by
  decide +kernel

/- FULL-STRENGTH statement (FALSE of the model and of the code):

     theorem etcd_ranges_good (evs : List EEv) : GoodLog (erun ({}, []) evs).2

   The "above every reported max key" half fails (`etcd_setmax_equals_witness`,
   `etcd_report_ignored_witness`).  The disjointness half holds: -/

/-- UNBOUNDED ARITHMETIC.  ALL interleavings of any number of EtcdSequencer instances over one etcd value — any
    schedule of key/value steps, any injected etcd failures, constructor runs (`.new`, leader changes) and
    `SetMax` included: the ranges handed out are pairwise disjoint.  This is about the machines `start`/`kvStep`
    that compute with naturals; the Go code computes in uint64 — see `etcd_ranges_disjoint_partial` below.
    The only excluded thing: a failed reservation (`Ret.failKey`, which the real code returns as key 0,
    finding class EtcdSequencer.NextFileId/etcd-error-returns-key-0) is not logged as a range (see `logOut`). -/
theorem etcd_ranges_disjoint_unbounded (evs : List EEv) : DisjLog (erun ({}, []) evs).2 :=
  (erun_inv evs {} [] einv_init).disj

/- FULL-STRENGTH statement for the uint64 machines the correspondence check runs against the Go code
   (FALSE of the model and of the code, `etcd_wrap_witness`):

     theorem etcd_ranges_disjoint (evs : List EEv) : DisjLog (erunW ({}, []) evs).2 -/

/-- UINT64 ARITHMETIC (`startW`/`kvStepW` = what the Go code computes).  The same for every schedule in which
    no uint64 addition wraps — `ENoWrap`, an explicit decidable predicate evaluated along the run:
    `currentSeqId + count`, `DefaultEtcdSteps + count` at every `NextFileId(count)`, `prevSeqValue + step` and
    `currentSeqId + count` at every compare-and-swap of `batchGetSequenceFromEtcd`, all ≤ 2^64-1.
    (`count` is client supplied, so the excluded schedules are reachable: finding class
    EtcdSequencer.NextFileId/counter-wraps-uint64.) -/
theorem etcd_ranges_disjoint_partial (evs : List EEv) (hw : ENoWrap ({}, []) evs) : DisjLog (erunW ({}, []) evs).2 := by
  rw [erunW_eq evs _ hw]
  exact etcd_ranges_disjoint_unbounded evs

/-- … and under the same hypothesis the uint64 machines ARE the unbounded ones, so every theorem below transfers -/
theorem etcd_uint64_run_eq (evs : List EEv) (st : ESt × List Obs) (hw : ENoWrap st evs) : erunW st evs = erun st evs :=
  erunW_eq evs st hw

/-- the schedule of `etcd_wrap_witness`: one key, then `NextFileId(2^64-1)`, then one key -/
def etcdWrapEvs : List EEv :=
  [.start 0 (.new 0), .kv 0 false, .kv 0 false, .kv 0 false,
   .start 0 (.next 1), .kv 0 false, .kv 0 false,
   .start 0 (.next (W - 1)), .start 0 (.next 1)]

/-- WHAT HAPPENS AT THE BOUNDARY: with the window [2,501), `NextFileId(2^64-1)` computes
    `2 + (2^64-1) = 1 (mod 2^64) < 501`, serves the request from the local window and leaves
    `currentSeqId = 1`: key 1 is handed out a second time. -/
theorem etcd_wrap_witness : ¬ DisjLog (erunW ({}, []) etcdWrapEvs).2 := by
  decide +kernel

/-- … and the witness is exactly an excluded schedule -/
theorem etcd_wrap_witness_is_excluded : ¬ ENoWrap ({}, []) etcdWrapEvs := by decide +kernel

/-- non-vacuity of `etcd_ranges_disjoint_partial`: two instances racing on the compare-and-swap -/
example : ENoWrap ({}, []) [.start 0 (.new 0), .kv 0 false, .kv 0 false, .kv 0 false,
      .start 1 (.new 1), .kv 1 false, .start 0 (.next 1), .start 1 (.next 1),
      .kv 0 false, .kv 1 false, .kv 0 false, .kv 1 false, .kv 1 false, .kv 1 false] := by decide +kernel

/-- disjointness from any state, not only the initial one: `EInv` (which has `DisjLog` of the log as a field) is what
    a step relies on, and what it gives back -/
theorem etcd_step_preserves (s : ESt) (log : List Obs) (ev : EEv) (h : EInv s log) :
    EInv (estep (s, log) ev).1 (estep (s, log) ev).2 := estep_inv s log ev h

example : EInv {} [] := einv_init

/-- non-vacuity: two instances racing on the compare-and-swap both get a range (the loser retries) -/
example :
    (erun ({}, []) [.start 0 (.new 0), .kv 0 false, .kv 0 false, .kv 0 false,
      .start 1 (.new 1), .kv 1 false, .start 0 (.next 1), .start 1 (.next 1),
      .kv 0 false, .kv 1 false, .kv 0 false, .kv 1 false, .kv 1 false, .kv 1 false]).2 =
      [.issue 1 501 1, .issue 0 1 1] := by
  decide +kernel

/-- FULL statement fails: after `SetMax(300)` the sequencer hands out key 300 itself
    (memory sequencer: seen+1; etcd sequencer: seen) -/
theorem etcd_setmax_equals_witness :
    ¬ GoodLog (erun ({}, []) [.start 0 (.new 0), .kv 0 false, .kv 0 false, .kv 0 false,
      .start 0 (.setMax 300), .kv 0 false, .kv 0 false, .kv 0 false,
      .start 0 (.next 1), .kv 0 false, .kv 0 false]).2 := by
  decide +kernel

/-- FULL statement fails: `SetMax(400)` with 400 ≤ maxSeqId (501) is ignored although
    currentSeqId = 2, and key 2 is handed out next -/
theorem etcd_report_ignored_witness :
    ¬ GoodLog (erun ({}, []) [.start 0 (.new 0), .kv 0 false, .kv 0 false, .kv 0 false,
      .start 0 (.next 1), .kv 0 false, .kv 0 false,
      .start 0 (.setMax 400), .start 0 (.next 1)]).2 := by
  decide +kernel

/- FULL-STRENGTH statement (FALSE of the model without the volume growth lock):

     theorem vids_distinct_full (evs : List VEv) : Distinct (vrun ({}, []) evs).2

   see `vids_unlocked_witness`. -/

/-- from any state with no thread in flight whose returned ids are distinct and ≤ max: for every
    schedule with at most one `NextVolumeId` in flight at a time (`Serial` = the growth lock), any raft
    failures and any heartbeats raising max, the returned ids are pairwise distinct and ≤ the final max -/
theorem vids_distinct (s : VSt) (ids : List Nat) (evs : List VEv)
    (hp : ∀ k, s.pend k = none) (hd : Distinct ids) (hm : ∀ id, id ∈ ids → id ≤ s.max)
    (hs : Serial s evs) :
    Distinct (vrun (s, ids) evs).2 ∧ ∀ id, id ∈ (vrun (s, ids) evs).2 → id ≤ (vrun (s, ids) evs).1.max := by
  have := vrun_inv evs s ids (.of_idle hp hd hm) hs
  exact ⟨this.1, this.2.1⟩

/-- a serial schedule with a failed raft call and a heartbeat -/
theorem serial_sample :
    Serial {} [.start 0, .apply 0 false, .hb 7, .start 1, .apply 1 true, .start 0, .apply 0 false] := by
  simp [Serial, startOk, vnext, vStart, vApply, vHb]
  intro k hk
  by_cases h0 : k = 0 <;> simp [hk, h0]

/-- non-vacuity of `vids_distinct` -/
example : Serial {} [.start 0, .apply 0 false, .hb 7, .start 1, .apply 1 true, .start 0, .apply 0 false] :=
  serial_sample

/-- … to which the theorem applies -/
example : Distinct (vrun ({}, []) [.start 0, .apply 0 false, .hb 7, .start 1, .apply 1 true, .start 0,
    .apply 0 false]).2 :=
  (vids_distinct {} [] _ (fun _ => rfl) trivial (fun _ h => by cases h) serial_sample).1

/-- without the lock two threads read the same max and both return id 1 -/
theorem vids_unlocked_witness :
    ¬ Distinct (vrun ({}, []) [.start 0, .start 1, .apply 0 false, .apply 1 false]).2 := by
  decide +kernel

/-- a volume id is above the max reported (heartbeat / restore) in the step BEFORE the thread read the max:
    `vStart` proposes max+1, and after `vHb s m` the max is at least `m` -/
theorem vid_above_reported (s : VSt) (m t nx : Nat) (h : (vStart (vHb s m) t).2 = some nx) : m < nx := by
  unfold vStart at h
  cases hp : (vHb s m).pend t with
  | some _ => simp [hp] at h
  | none =>
    simp [hp] at h
    exact h ▸ Nat.lt_succ_of_le (le_bump s.max m).2

/-- what the driver tests on every returned volume id (`vidJudge`: not returned before) is exactly the step of
    `Distinct`, and a list passes the judge id by id iff it is `Distinct` -/
theorem vid_judge_is_distinct (ids : List Nat) (id : Nat) :
    (Distinct (id :: ids) ↔ vidJudge ids id = true ∧ Distinct ids) ∧ (vidJudgeAll (id :: ids) = true ↔ Distinct (id :: ids)) :=
  ⟨vidJudge_iff ids id, vidJudgeAll_iff (id :: ids)⟩

example : vidJudge [3, 2, 1] 4 = true ∧ vidJudge [3, 2, 1] 2 = false := by decide +kernel

/-! ### SnowflakeSequencer (clock/library based: only "distinct if the library's ids are distinct") -/

/-- single-key assignments with distinct ids never overlap … -/
theorem snowflake_single_keys_disjoint_partial (a b : Nat) (h : a ≠ b) : overlap a 1 b 1 = false :=
  overlap_false_of (by omega)

/-- … but `NextFileId(count)` ignores `count`: two ids of the same millisecond differ by 1, so the
    ranges of multi-key assignments overlap (finding SnowflakeSequencer.NextFileId/count-ignored) -/
theorem snowflake_count_ignored_witness (a : Nat) : overlap a 4 (a + 1) 4 = true :=
  overlap_true_of (by omega)

/-! ### a heartbeat on a new leader is two steps: `SetMax`, THEN volume registration -/

/-- With the order of `SendHeartbeat` (`hbOrder` = raise the sequencer, then register the volumes) an assign that
    runs before, between or after the two steps and lands on one of the heartbeat's volumes gets a key ABOVE the
    heartbeat's max key (every key in use in those volumes is ≤ it): before and between the volume is not pickable
    yet (`hnew`: the leader did not have it as writable), afterwards the sequencer has been raised.
    (`maxFileKey + 1 < 2^64`: otherwise finding MemorySequencer.SetMax/wraps-to-zero.) -/
theorem hb_assign_safe_in_order (hb : Heartbeat) (s s' : MSt) (k vid count key : Nat)
    (hnew : ∀ v ∈ hb.vols, v ∉ s.writable) (hv : vid ∈ hb.vols) (hw : hb.maxFileKey + 1 < W)
    (h : assignAfter hbOrder hb s k vid count = some (key, s')) : hb.maxFileKey < key := by
  have hnot : vid ∉ s.writable := hnew vid hv
  unfold assignAfter hbOrder assign at h
  match k with
  | 0 =>
    simp at h
    exact absurd h.1 hnot
  | 1 =>
    simp [hbStep] at h
    exact absurd h.1 hnot
  | k + 2 =>
    simp [hbStep, Mem.next] at h
    have := mem_setMax_gt s.seq hb.maxFileKey hw
    omega

/-- FULL statement for the opposite order is false: register first, and an assign between the two steps hands
    out key 1 for volume 7 although the volume server reported keys up to 1000000 in use -/
theorem hb_swapped_order_witness :
    (assignAfter [.register, .setMax] ⟨1000000, [7]⟩ ⟨Mem.new, []⟩ 1 7 1).map (·.1) = some 1 := by decide +kernel

/-- … for every new leader whose sequencer is still at or below the reported max -/
theorem hb_swapped_order_unsafe (hb : Heartbeat) (s : MSt) (vid count : Nat) (hv : vid ∈ hb.vols)
    (hc : s.seq.counter ≤ hb.maxFileKey) :
    ∃ key s', assignAfter [.register, .setMax] hb s 1 vid count = some (key, s') ∧ key ≤ hb.maxFileKey := by
  refine ⟨s.seq.counter, { seq := (s.seq.next count).2, writable := s.writable ++ hb.vols }, ?_, hc⟩
  unfold assignAfter assign
  simp [hbStep, hv, Mem.next]

/-- non-vacuity of `hb_assign_safe_in_order`: after both steps the assign succeeds, above the reported max -/
example : (assignAfter hbOrder ⟨1000000, [7]⟩ ⟨Mem.new, []⟩ 2 7 1).map (·.1) = some 1000001 := by decide +kernel
example : assignAfter hbOrder ⟨1000000, [7]⟩ ⟨Mem.new, []⟩ 1 7 1 = none := by decide +kernel

theorem mem_hbGrants {order : List HbStep} {hb : Heartbeat} {s : MSt} {g : Nat × Nat} (hg : g ∈ hbGrants order hb s) :
    ∃ k vid r, vid ∈ hb.vols ∧ assignAfter order hb s k vid 1 = some r ∧ g = (vid, r.1) := by
  unfold hbGrants at hg
  simp only [List.mem_flatMap, List.mem_filterMap, Option.map_eq_some_iff] at hg
  obtain ⟨k, _, vid, hvid, r, hr, rfl⟩ := hg
  exact ⟨k, vid, r, hvid, hr, rfl⟩

/-- the heartbeat judge (`hbJudge`: no grant on one of the heartbeat's volumes carries a key ≤ the reported max —
    what the driver tests on the grants the clients of `hbrace` got from the REAL `SendHeartbeat`/`PickForWrite`)
    accepts every grant the model can produce in the source order, at whatever point of the heartbeat the assign
    runs, under `hnew` and `hw` of `hb_assign_safe_in_order` -/
theorem hb_grants_pass_judge (hb : Heartbeat) (s : MSt)
    (hnew : ∀ v ∈ hb.vols, v ∉ s.writable) (hw : hb.maxFileKey + 1 < W) :
    hbJudge hb.maxFileKey hb.vols (hbGrants hbOrder hb s) = none := by
  rw [hbJudge_none_iff]
  intro g hg _
  obtain ⟨k, vid, r, hvid, hr, rfl⟩ := mem_hbGrants hg
  exact hb_assign_safe_in_order hb s r.2 k vid 1 r.1 hnew hvid hw hr

/-- … so the model's `below` count (the driver's prediction for the `below` output of `hbrace`) is 0 -/
theorem hb_below_zero (hb : Heartbeat) (s : MSt)
    (hnew : ∀ v ∈ hb.vols, v ∉ s.writable) (hw : hb.maxFileKey + 1 < W) :
    hbBelow hbOrder hb s = 0 := by
  have h := (hbJudge_none_iff _ _ _).mp (hb_grants_pass_judge hb s hnew hw)
  unfold hbBelow
  rw [List.length_eq_zero_iff, List.filter_eq_nil_iff]
  intro g hg
  obtain ⟨_, vid, _, hvid, _, rfl⟩ := mem_hbGrants hg
  have := h _ hg hvid
  simp
  omega

/-- non-vacuity: the model does grant (after both steps), and the grant is the one above the reported max -/
example : hbGrants hbOrder ⟨1000000, [7, 8]⟩ ⟨Mem.new, []⟩ = [(7, 1000001), (8, 1000001)] := by decide +kernel

/-- the opposite order is rejected by the judge: the grant between the two steps carries key 1 -/
theorem hb_swapped_order_judged :
    hbJudge 1000000 [7] (hbGrants [.register, .setMax] ⟨1000000, [7]⟩ ⟨Mem.new, []⟩) = some hbClass ∧
    hbBelow [.register, .setMax] ⟨1000000, [7]⟩ ⟨Mem.new, []⟩ = 1 := by decide +kernel

/-! ### bridges: the source the models were written from (a source edit breaks these obligations) -/

theorem bridge_DefaultEtcdSteps : SwV.Gen.C13.DefaultEtcdSteps = (DefaultEtcdSteps : Int) := rfl
theorem bridge_mem_setmax_cond : SwV.Gen.C13.mem_setmax_cond = "m.counter <= seenValue" := rfl
theorem bridge_mem_setmax_assign : SwV.Gen.C13.mem_setmax_assign = "m.counter = seenValue + 1" := rfl
theorem bridge_mem_next_assign : SwV.Gen.C13.mem_next_assign = "m.counter += count" := rfl
theorem bridge_etcd_next_cond : SwV.Gen.C13.etcd_next_cond = "(es.currentSeqId + count) >= es.maxSeqId" := rfl
theorem bridge_etcd_setmax_cond : SwV.Gen.C13.etcd_setmax_cond = "seenValue > es.maxSeqId" := rfl
theorem bridge_src_mem_NextFileId : SwV.Gen.C13.src_mem_NextFileId = "764f2714c7772a5f" := rfl
theorem bridge_src_mem_SetMax : SwV.Gen.C13.src_mem_SetMax = "8c694e65ad36e61d" := rfl
theorem bridge_src_etcd_NextFileId : SwV.Gen.C13.src_etcd_NextFileId = "079538e9953c45a7" := rfl
theorem bridge_src_etcd_SetMax : SwV.Gen.C13.src_etcd_SetMax = "4bef06017b25c46c" := rfl
theorem bridge_src_batchGet : SwV.Gen.C13.src_batchGetSequenceFromEtcd = "9bc0caa8b905038a" := rfl
theorem bridge_src_setMaxToEtcd : SwV.Gen.C13.src_setMaxSequenceToEtcd = "bee1b21e1e79981e" := rfl
theorem bridge_src_NewEtcdSequencer : SwV.Gen.C13.src_NewEtcdSequencer = "3da880fe3f575517" := rfl
theorem bridge_src_snow_NextFileId : SwV.Gen.C13.src_snow_NextFileId = "3b8e2827272679d8" := rfl
theorem bridge_src_NextVolumeId : SwV.Gen.C13.src_NextVolumeId = "75f61923e4ca5b22" := rfl
theorem bridge_src_MaxVolumeIdCommand_Apply : SwV.Gen.C13.src_MaxVolumeIdCommand_Apply = "3fcd340200047e34" := rfl
theorem bridge_src_UpAdjustMaxVolumeId : SwV.Gen.C13.src_UpAdjustMaxVolumeId = "1f9aba7b9176c19b" := rfl
/-- the growth lock assumed by `vids_distinct` (`Serial`): GrowByCountAndType holds vg.accessLock around findAndGrow → NextVolumeId -/
theorem bridge_src_GrowByCountAndType : SwV.Gen.C13.src_GrowByCountAndType = "6b9266a38f8e879b" := rfl
theorem bridge_src_findAndGrow : SwV.Gen.C13.src_findAndGrow = "a8da4b07174c9366" := rfl

/-- which step of the heartbeat model a call of the receive loop is -/
def stepOfCall : String → HbStep
  | "SetMax" => .setMax
  | _ => .register

/-- the step order of the heartbeat model is the call order in `MasterServer.SendHeartbeat`: `Sequence.SetMax` is the
    FIRST of the watched calls and an unconditional statement of the receive loop (depth 0); every call that makes
    volumes pickable comes after it -/
theorem bridge_hb_order :
    SwV.Gen.C13Hb.hbCalls.head? = some ("SetMax", 0) ∧
    (SwV.Gen.C13Hb.hbCalls.map (fun c => stepOfCall c.1)).eraseDups = hbOrder ∧
    SwV.Gen.C13Hb.hbCalls = [("SetMax", 0), ("IncrementalSyncDataNodeRegistration", 1), ("SyncDataNodeRegistration", 1)] := by
  decide +kernel

end SwV.Props.C13
