/-
C31 — property theorems: the mount's chunk cache is transparent.

Full statement (FALSE of the code, kept visible):

    ∀ u disk ops f m,  Admissible (stores ops) f 0 (((newCache u disk).run ops).get f m)

"after ANY sequence of stores / lookups / restarts / evictions, a lookup for a file id returns nothing
or leading bytes that were stored for that same file id".  It fails because the disk tiers index by
needle key only (`cache_transparent_fails_on_shared_key`, confirmed on the real code: findings
GetChunk/other-file-id-bytes, GetChunkSlice/other-file-id-bytes).  What holds, for ALL operation
sequences, restart oracles (volume order, index regeneration) and evictions, is the statement under
the exact hypothesis that excludes the aliasing: `KeyOwned` — no OTHER file id with the same needle
key was stored (`cache_transparent_partial`, `slice_transparent_partial`).

"Bytes LAST stored" instead of "bytes stored" (`AdmissibleLast`) additionally needs `WriteOnce`
(an id is always stored with the same content, which is how SeaweedFS uses file ids): a re-store
with different content in another tier leaves the old bytes findable (`last_stored_fails_on_restore`);
the property text asks for "bytes that were stored for that same file id", so that is not a finding.

After these: what lookups return in any state of the cache (`get_length`, `slice_offset_positive_returns_nothing`)
and right after a store into a well-formed one (`store_then_lookup_hits`), the byte-level volume of `Model/C31Dat` (`bvol_write_refines`), the T1 bridges.
-/
import SwV.Model.C31
import SwV.Spec.C31
import SwV.Gen.C31
import SwV.Lemmas.C31

namespace SwV.Props.C31
open SwV.Model.C31 SwV.Spec.C31 SwV.Lemmas.C31

theorem admissibleB_iff (h : History) (f : Fid) (off : Nat) (r : Bytes) :
    admissibleB h f off r = true ↔ Admissible h f off r := by
  simp only [admissibleB, Admissible, Bool.or_eq_true, List.isEmpty_iff, List.any_eq_true, Bool.and_eq_true,
    beq_iff_eq, List.isPrefixOf_iff_prefix]
  constructor
  · rintro (h0 | ⟨⟨g, d⟩, hm, hg, hp⟩)
    · exact Or.inl h0
    · simp only at hg hp; subst hg; exact Or.inr ⟨d, hm, hp⟩
  · rintro (h0 | ⟨d, hm, hp⟩)
    · exact Or.inl h0
    · exact Or.inr ⟨(f, d), hm, rfl, hp⟩

theorem admissibleLastB_iff (h : History) (f : Fid) (off : Nat) (r : Bytes) :
    admissibleLastB h f off r = true ↔ AdmissibleLast h f off r := by
  simp only [admissibleLastB, AdmissibleLast, Bool.or_eq_true, List.isEmpty_iff]
  cases lastStored h f with
  | none => simp
  | some d => simp [List.isPrefixOf_iff_prefix]

/-- the driver reports a SPECFAIL exactly when the answer is not admissible -/
theorem judge_none_iff (h : History) (f : Fid) (off : Nat) (r : Bytes) :
    judge h f off r = none ↔ Admissible h f off r := by
  rw [← admissibleB_iff]
  unfold judge
  split
  · simp [*]
  · split
    · simp [*]
    · split <;> simp [*]

/-- **GetChunk is transparent for ids that own their needle key.**  For every unit/disk size, every
    sequence of stores, lookups, slice lookups, restarts (any volume order, any set of regenerated
    indexes) and evictions (any subsets), and every minimum size: the answer is nothing, or a prefix
    of bytes stored for the same file id. -/
theorem cache_transparent_partial (u disk : Nat) (ops : List Op) (f : Fid) (m : Nat)
    (hown : KeyOwned (stores ops) f) :
    Admissible (stores ops) f 0 (((newCache u disk).run ops).get f m) := by
  rcases get_cases ((newCache u disk).run ops) f m with h0 | hf
  · exact Or.inl h0
  · exact Or.inr ⟨_, (run_newCache_ok u disk ops).fromCache hown hf, by simp⟩

/-- the hypothesis is satisfiable (and the conclusion non-trivial): one stored id, looked up again -/
example : KeyOwned (stores [.store ⟨1, 17, 5⟩ [1, 2, 3]]) ⟨1, 17, 5⟩ := by
  intro g d hm _
  simp only [stores, List.mem_singleton, Prod.mk.injEq] at hm
  exact hm.1

example : ((newCache 64 16).run [.store ⟨1, 17, 5⟩ [1, 2, 3]]).get ⟨1, 17, 5⟩ 2 = [1, 2, 3] := by decide

/-- **GetChunkSlice is transparent for ids that own their needle key**: the answer is nothing or exactly
    the bytes [off, off+|answer|) of bytes stored for the same file id. -/
theorem slice_transparent_partial (u disk : Nat) (ops : List Op) (f : Fid) (off len : Nat)
    (hown : KeyOwned (stores ops) f) :
    Admissible (stores ops) f off (((newCache u disk).run ops).getSlice f off len) := by
  rcases getSlice_cases ((newCache u disk).run ops) f off len with h0 | ⟨d, hf, hr⟩
  · exact Or.inl h0
  · exact Or.inr ⟨d, (run_newCache_ok u disk ops).fromCache hown hf, by rw [hr]; exact List.take_prefix ..⟩

theorem lastStored_of_writeOnce {h : History} {f : Fid} {d : Bytes} (hm : (f, d) ∈ h) (hw : WriteOnce h f) :
    lastStored h f = some d := by
  cases hl : lastStored h f with
  | none =>
    have := List.find?_eq_none.mp (Option.map_eq_none_iff.mp hl) (f, d) (List.mem_reverse.mpr hm)
    simp at this
  | some d' =>
    have h3 : (f, d') ∈ h := List.mem_reverse.mp (memGet_some hl)
    rw [hw d' d h3 hm]

theorem admissibleLast_of_writeOnce {h : History} {f : Fid} {off : Nat} {r : Bytes}
    (ha : Admissible h f off r) (hw : WriteOnce h f) : AdmissibleLast h f off r :=
  ha.imp id fun ⟨d, hm, hp⟩ => ⟨d, lastStored_of_writeOnce hm hw, hp⟩

/-- **the strong reading** (prefix of the bytes LAST stored for the id) holds for ids that own their key
    and are stored with one content only -/
theorem cache_transparent_last_partial (u disk : Nat) (ops : List Op) (f : Fid) (m : Nat)
    (hown : KeyOwned (stores ops) f) (honce : WriteOnce (stores ops) f) :
    AdmissibleLast (stores ops) f 0 (((newCache u disk).run ops).get f m) :=
  admissibleLast_of_writeOnce (cache_transparent_partial u disk ops f m hown) honce

theorem slice_transparent_last_partial (u disk : Nat) (ops : List Op) (f : Fid) (off len : Nat)
    (hown : KeyOwned (stores ops) f) (honce : WriteOnce (stores ops) f) :
    AdmissibleLast (stores ops) f off (((newCache u disk).run ops).getSlice f off len) :=
  admissibleLast_of_writeOnce (slice_transparent_partial u disk ops f off len hown) honce

example : WriteOnce (stores [.store ⟨1, 17, 5⟩ [1, 2, 3], .lookup ⟨1, 17, 5⟩ 1, .store ⟨1, 17, 5⟩ [1, 2, 3]]) ⟨1, 17, 5⟩ := by
  intro d d' h1 h2
  simp only [stores, List.mem_cons, Prod.mk.injEq, true_and, List.not_mem_nil, or_false, or_self] at h1 h2
  rw [h1, h2]

/-- a chunk of volume 1 … -/
def aliasOps : List Op := [.store ⟨1, 17, 168496141⟩ [65, 65, 65, 65, 65, 65, 65, 65]]

/-- … is returned for a NEVER-STORED id of volume 2 with the same needle key (other cookie too):
    the unrestricted statement is false (corpus/C31/alias_witness.ops shows the real code doing it) -/
theorem cache_transparent_fails_on_shared_key :
    ((newCache 64 16).run aliasOps).get ⟨2, 17, 4276993775⟩ 1 = [65, 65, 65, 65, 65, 65, 65, 65] ∧
    ¬ Admissible (stores aliasOps) ⟨2, 17, 4276993775⟩ 0 (((newCache 64 16).run aliasOps).get ⟨2, 17, 4276993775⟩ 1) ∧
    ¬ Admissible (stores aliasOps) ⟨2, 17, 4276993775⟩ 0 (((newCache 64 16).run aliasOps).getSlice ⟨2, 17, 4276993775⟩ 0 4) ∧
    ¬ KeyOwned (stores aliasOps) ⟨2, 17, 4276993775⟩ := by
  refine ⟨by decide, ?_, ?_, ?_⟩
  · rw [← admissibleB_iff]; decide
  · rw [← admissibleB_iff]; decide
  · intro h
    have := h ⟨1, 17, 168496141⟩ _ (List.mem_singleton.mpr rfl) rfl
    exact absurd this (by decide)

/-- the same id stored twice with different content, in different tiers (5 bytes → layer 1, 1 byte → layer 0
    and memory; unit 2): a lookup that needs 3 bytes finds the OLD chunk — admissible (bytes stored for this
    id), but not a prefix of the bytes last stored -/
def restoreOps : List Op := [.store ⟨1, 17, 5⟩ [1, 2, 3, 4, 5], .store ⟨1, 17, 5⟩ [9]]

theorem last_stored_fails_on_restore :
    ((newCache 2 64).run restoreOps).get ⟨1, 17, 5⟩ 3 = [1, 2, 3, 4, 5] ∧
    KeyOwned (stores restoreOps) ⟨1, 17, 5⟩ ∧
    Admissible (stores restoreOps) ⟨1, 17, 5⟩ 0 (((newCache 2 64).run restoreOps).get ⟨1, 17, 5⟩ 3) ∧
    ¬ AdmissibleLast (stores restoreOps) ⟨1, 17, 5⟩ 0 (((newCache 2 64).run restoreOps).get ⟨1, 17, 5⟩ 3) := by
  refine ⟨by decide, ?_, ?_, ?_⟩
  · intro g d hm _
    simp only [restoreOps, stores, List.mem_cons, Prod.mk.injEq, List.not_mem_nil, or_false] at hm
    rcases hm with h | h <;> exact h.1
  · rw [← admissibleB_iff]; decide
  · rw [← admissibleLastB_iff]; decide

/-! ### what lookups return (all states, not only reachable ones) -/

/-- a non-empty `GetChunk` answer is at least `minSize` long -/
theorem get_length (c : Cache) (f : Fid) (m : Nat) : c.get f m = [] ∨ m ≤ (c.get f m).length :=
  firstLong_length ..

/-- `doGetChunkSlice` accepts a tier's answer only if it is `offset+length` long, but answers are at most
    `length` long: a slice lookup with a positive offset NEVER returns anything (a lost cache hit, not a
    transparency defect; the correspondence check observes the same on the real code) -/
theorem slice_offset_positive_returns_nothing (c : Cache) (f : Fid) (off len : Nat) (hoff : 0 < off) :
    c.getSlice f off len = [] := by
  have hlen : (c.getSlice f off len).length ≤ len :=
    firstLong_ind (fun r => r.length ≤ len) (fun _ => memSlice_length_le ..)
      (fun _ => sliceVols_length_le ..) (fun _ => sliceVols_length_le ..) (fun _ => sliceVols_length_le ..) (Nat.zero_le _)
  rcases (firstLong_length .. : c.getSlice f off len = [] ∨ off + len ≤ (c.getSlice f off len).length) with h | h
  · exact h
  · exact absurd (Nat.le_trans h hlen) (by omega)

/-- a cache whose layers have volumes (the constructor's result; kept by stores) -/
def WellFormed (c : Cache) : Prop :=
  c.lim0 ≤ c.lim1 ∧ c.l0.vols ≠ [] ∧ c.l1.vols ≠ [] ∧ c.l2.vols ≠ []

theorem getVols_after_set (l : Layer) (hne : l.vols ≠ []) (key : Nat) (d : Bytes) (hd : d ≠ []) :
    getVols (l.set key d).vols key = d := by
  obtain ⟨w, ws, e, _⟩ := set_vols hne key d
  have hlen : d.length ≠ 0 := fun h => hd (List.eq_nil_of_length_eq_zero h)
  simp [e, getVols, Vol.get, Vol.write, hlen]

/-- **the cache does cache**: right after a store of a non-empty chunk into a well-formed cache, a lookup that asks for
    the whole chunk returns exactly it — whatever else the cache holds (so "nothing" is not how transparency is won) -/
theorem store_then_lookup_hits (c : Cache) (hc : WellFormed c) (f : Fid) (d : Bytes) (hd : d ≠ []) :
    (c.set f d).get f d.length = d := by
  rcases hc with ⟨hlim, hn0, hn1, hn2⟩
  unfold Cache.set
  by_cases h0 : d.length ≤ c.lim0
  · have hmem : memGet (memSet c.mem f d) f = some d := by simp [memGet, memSet]
    simp [h0, Cache.get, hmem]
  · by_cases h1 : d.length ≤ c.lim1
    · simp [h0, h1, Cache.get, getVols_after_set c.l1 hn1 f.key d hd]
    · have := getVols_after_set c.l2 hn2 f.key d hd
      simp [h0, h1, Cache.get, this]

example : WellFormed (newCache 64 16) := by
  refine ⟨by decide, ?_, ?_, ?_⟩ <;> decide

/-- **WriteNeedle on the byte-level volume refines the model's write**: appending the data (and padding) at
    `fileSize` and pointing the key at it leaves every other entry reading the same bytes, the new entry reads
    exactly the written bytes, and all entries stay inside the file — for every well-formed volume -/
theorem bvol_write_refines (v : BVol) (hw : v.Wf) (i key : Nat) (d : Bytes) :
    (v.write key d).abs i = (v.abs i).write key d ∧ (v.write key d).Wf := by
  constructor
  · simp only [BVol.abs, BVol.write, Vol.write, Vol.mk.injEq, true_and]
    refine ⟨?_, ?_⟩
    · have := padded_ge d.length
      simp only [List.length_append, List.length_replicate]; omega
    · simp only [List.map_cons, List.filter_map, List.cons.injEq, Entry.mk.injEq, true_and]
      refine ⟨?_, ?_⟩
      · simp [BVol.read]
      · apply List.map_congr_left
        intro e he
        have hin := hw e (List.mem_filter.mp he).1
        simp only [Entry.mk.injEq, true_and]
        exact read_append v _ e hin
  · intro e he
    simp only [BVol.write, List.mem_cons, List.mem_filter] at he
    simp only [BVol.write, List.length_append, List.length_replicate]
    rcases he with rfl | ⟨he, _⟩
    · simp only; omega
    · have := hw e he; omega

/-- a freshly reset volume is well-formed, and reads back what is written -/
example : (BVol.mk [] []).Wf ∧ ((BVol.mk [] []).write 17 [1, 2, 3]).abs 0 = ⟨0, 8, [⟨17, 0, [1, 2, 3]⟩]⟩ :=
  ⟨List.forall_mem_nil _, by decide⟩

theorem bridge_consts : (padding : Int) = SwV.Gen.C31.NeedlePaddingSize := by decide

/-- the comparisons / arguments the model mirrors are the ones in the source: rotation test, "first non-empty
    answer", tier selection, the key-only index (`fid.Key` is ALL that reaches the disk layers), and what an
    index regeneration keeps -/
theorem bridge_conditions :
    SwV.Gen.C31.rotateCond = "c.diskCaches[0].fileSize+int64(len(data)) > c.diskCaches[0].sizeLimit" ∧
    SwV.Gen.C31.layerHitCond = "len(data) != 0" ∧
    SwV.Gen.C31.setTier0Cond = "len(data) <= int(c.onDiskCacheSizeLimit0)" ∧
    SwV.Gen.C31.setTier1Cond = "len(data) <= int(c.onDiskCacheSizeLimit1)" ∧
    SwV.Gen.C31.setKeyArg = "fid.Key" ∧
    SwV.Gen.C31.getKeyArg = "fid.Key" ∧
    SwV.Gen.C31.regenKeepCond = "!offset.IsZero() && size.IsValid()" :=
  ⟨rfl, rfl, rfl, rfl, rfl, rfl, rfl⟩

/-- twelve of the modelled functions are the ones the model was written against (an edit of any of them breaks this
    obligation); `Reset`, `LoadOrCreateChunkCacheVolume`, the rest of `ChunkCacheInMemory` and the leveldb reopen path
    (`NewLevelDbNeedleMap`, `isLevelDbFresh`, `generateLevelDbFile` beyond `regenKeepCond`) are not among them -/
theorem bridge_pins :
    SwV.Gen.C31.src_NewTieredChunkCache = "5748341016958b2c" ∧ SwV.Gen.C31.src_doGetChunk = "20fa71b70677a603" ∧
    SwV.Gen.C31.src_doGetChunkSlice = "d3a9f3227f120ed6" ∧ SwV.Gen.C31.src_doSetChunk = "e646a1b8612944c0" ∧
    SwV.Gen.C31.src_NewOnDiskCacheLayer = "3978989af6031265" ∧ SwV.Gen.C31.src_setChunk = "ab34095a1df12321" ∧
    SwV.Gen.C31.src_getChunk = "262199b605892c84" ∧ SwV.Gen.C31.src_getChunkSlice = "238578e95f42cd89" ∧
    SwV.Gen.C31.src_WriteNeedle = "3a1c6f837de9851a" ∧ SwV.Gen.C31.src_GetNeedle = "714f23c15d9e9467" ∧
    SwV.Gen.C31.src_getNeedleSlice = "03b58580ab1d3f7d" ∧ SwV.Gen.C31.src_memGetChunkSlice = "1b4f3773bff774a8" :=
  ⟨rfl, rfl, rfl, rfl, rfl, rfl, rfl, rfl, rfl, rfl, rfl, rfl⟩

end SwV.Props.C31
