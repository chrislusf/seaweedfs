/-
C28 — S3 objects and multipart uploads round-trip.

`completeMultipartUpload` concatenates the `.part` entries in the NAME order of the filer listing;
parts are named `fmt.Sprintf("%04d.part", n)`. The property needs ascending part NUMBER order.
Up to 9999 the name order is the number order (four decimal digits compared from the left spell the
number), so for any sequence of uploaded parts numbered ≤ 9999 the listing is the ascending-number list and the
completed object the concatenation in number order. The handlers admit part numbers up to `globalMaxPartID` =
100000, beyond what the 4-digit padding orders: the known finding
completeMultipartUpload/parts-not-in-numeric-order (the property text demands 1..10000).
`layout_contiguous` is the offset accumulation over the chunks in listing order. CopyObject against the
specification's copy and the bridges to the source stand at the end.
-/
import SwV.Model.C28
import SwV.Spec.C28
import SwV.Gen.C28
import SwV.Lemmas.C19
namespace SwV.Props.C28
open SwV.Model.C19 (Bytes ltB)
open SwV.Model.C28 SwV.Spec.C28 SwV.Lemmas.C19

theorem ltB_cons (a b : Nat) (as bs : Bytes) :
    ltB (a :: as) (b :: bs) = if a < b then true else if b < a then false else ltB as bs := rfl

/-- one step of a comparison that reads the most significant item first: the leading items decide,
    unless they are equal -/
def lexStep (a b : Nat) (t : Bool) : Bool := if a < b then true else if b < a then false else t

theorem ltB_cons_lexStep (a b : Nat) (as bs : Bytes) : ltB (a :: as) (b :: bs) = lexStep a b (ltB as bs) := rfl

theorem lexStep_lt {a b : Nat} {t : Bool} (h : a < b) : lexStep a b t = true := if_pos h

theorem lexStep_gt {a b : Nat} {t : Bool} (h : b < a) : lexStep a b t = false := by
  unfold lexStep
  rw [if_neg (Nat.lt_asymm h), if_pos h]

theorem lexStep_digit (a b : Nat) (t : Bool) : lexStep (digit a) (digit b) t = lexStep a b t := by
  simp only [lexStep, digit, Nat.add_lt_add_iff_left]

theorem lexStep_false (a b : Nat) : lexStep a b false = decide (a < b) := by
  unfold lexStep
  by_cases h : a < b <;> simp [h]

/-- comparing two leading parts and then one more decimal digit each is comparing the numbers they spell -/
theorem lexStep_merge {A B x y : Nat} {t : Bool} (hx : x < 10) (hy : y < 10) :
    lexStep A B (lexStep x y t) = lexStep (A * 10 + x) (B * 10 + y) t := by
  rcases Nat.lt_trichotomy A B with h | h | h
  · rw [lexStep_lt h, lexStep_lt (by omega)]
  · subst h
    simp only [lexStep, Nat.lt_irrefl, if_false, Nat.add_lt_add_iff_left]
  · rw [lexStep_gt h, lexStep_gt (by omega)]

/-- the four digits `pad4` prints spell the number -/
theorem spell4 (n : Nat) : ((n / 1000 * 10 + n / 100 % 10) * 10 + n / 10 % 10) * 10 + n % 10 = n := by
  have h3 : n / 1000 = n / 100 / 10 := by rw [Nat.div_div_eq_div_mul]
  have h2 : n / 100 = n / 10 / 10 := by rw [Nat.div_div_eq_div_mul]
  rw [h3, Nat.div_add_mod', h2, Nat.div_add_mod', Nat.div_add_mod']

/-- MAIN: for part numbers up to 9999 the byte order of the entry names is the numeric order. -/
theorem parts_in_numeric_order (a b : Nat) (ha : a ≤ 9999) (hb : b ≤ 9999) :
    ltB (partName a) (partName b) = decide (a < b) := by
  have ha' : a < 10000 := Nat.lt_succ_of_le ha
  have hb' : b < 10000 := Nat.lt_succ_of_le hb
  have digit_lt : ∀ n, n % 10 < 10 := fun n => Nat.mod_lt n (Nat.zero_lt_succ _)
  simp only [partName, pad4, ha', hb', if_true, List.cons_append, List.nil_append, ltB_cons_lexStep, lexStep_digit,
    ltB_irrefl]
  rw [lexStep_merge (digit_lt _) (digit_lt _), lexStep_merge (digit_lt _) (digit_lt _),
    lexStep_merge (digit_lt _) (digit_lt _), spell4, spell4, lexStep_false]

theorem partName_inj (a b : Nat) (ha : a ≤ 9999) (hb : b ≤ 9999) (h : partName a = partName b) : a = b := by
  have h1 := parts_in_numeric_order a b ha hb
  have h2 := parts_in_numeric_order b a hb ha
  rw [h, ltB_irrefl] at h1
  rw [← h, ltB_irrefl] at h2
  have : ¬ a < b := of_decide_eq_false h1.symm
  have : ¬ b < a := of_decide_eq_false h2.symm
  omega

theorem insert_agree (p : Part) (hp : p.no ≤ 9999) :
    ∀ l : List Part, (∀ x ∈ l, x.no ≤ 9999) → insertByName p l = insertByNo p l
  | [], _ => rfl
  | x :: xs, h => by
    have hx : x.no ≤ 9999 := h x List.mem_cons_self
    have ih := insert_agree p hp xs (fun y hy => h y (List.mem_cons_of_mem _ hy))
    unfold insertByName insertByNo
    rw [parts_in_numeric_order p.no x.no hp hx]
    by_cases h1 : p.no < x.no
    · simp [h1]
    · by_cases h2 : p.no = x.no
      · simp [h2]
      · have : partName p.no ≠ partName x.no := fun he => h2 (partName_inj _ _ hp hx he)
        simp [h1, h2, this, ih]

theorem mem_insertByNo (p y : Part) : ∀ l : List Part, y ∈ insertByNo p l → y = p ∨ y ∈ l
  | [], hy => Or.inl (List.mem_singleton.1 hy)
  | x :: xs, hy => by
    unfold insertByNo at hy
    split at hy
    · exact List.mem_cons.1 hy
    · split at hy
      · exact (List.mem_cons.1 hy).imp_right (List.mem_cons_of_mem _)
      · rcases List.mem_cons.1 hy with e | e
        · exact Or.inr (e ▸ List.mem_cons_self)
        · exact (mem_insertByNo p y xs e).imp_right (List.mem_cons_of_mem _)

theorem mem_foldr_insertByNo (y : Part) : ∀ ps : List Part, y ∈ ps.foldr insertByNo [] → y ∈ ps
  | [], hy => hy
  | p :: ps, hy => by
    rcases mem_insertByNo p y _ hy with e | e
    · exact e ▸ List.mem_cons_self
    · exact List.mem_cons_of_mem _ (mem_foldr_insertByNo y ps e)

/-- the directory listing of ANY sequence of uploaded parts ≤ 9999 (re-uploads included) is the
    ascending-number list: unbounded in the number of parts -/
theorem listing_is_numeric : ∀ ps : List Part, (∀ p ∈ ps, p.no ≤ 9999) →
    ps.foldr insertByName [] = ps.foldr insertByNo []
  | [], _ => rfl
  | p :: ps, h => by
    have hps : ∀ x ∈ ps, x.no ≤ 9999 := fun x hx => h x (List.mem_cons_of_mem _ hx)
    rw [List.foldr_cons, List.foldr_cons, listing_is_numeric ps hps]
    exact insert_agree p (h p List.mem_cons_self) _ (fun x hx => hps x (mem_foldr_insertByNo x ps hx))

/-- the completed object is the specification's object when every part number is ≤ 9999 -/
theorem complete_eq_spec_partial (ps : List Part) (h : ∀ p ∈ ps, p.no ≤ 9999) :
    concatParts (ps.foldr insertByName []) = specComplete ps ∧ orderMatters ps = false := by
  have := listing_is_numeric ps h
  constructor
  · unfold specComplete; rw [this]
  · unfold orderMatters; rw [this]; simp

example : ∀ p ∈ [(⟨1, []⟩ : Part), ⟨9999, []⟩], p.no ≤ 9999 := by decide

/-- NEGATION at 10000 (admitted by the handlers): part 10000 is listed before part 9999 -/
theorem part_10000_sorts_before_9999 : ltB (partName 10000) (partName 9999) = true := by decide

theorem order_matters_witness : orderMatters [⟨9999, [⟨1, 0, 1⟩]⟩, ⟨10000, [⟨2, 0, 1⟩]⟩] = true := by decide

theorem layout_contiguous : ∀ (cs : List Nat) (off : Nat),
    (layoutFrom off cs).map (·.2) = cs ∧
    (∀ (i : Nat) (h : i < (layoutFrom off cs).length), ((layoutFrom off cs)[i]).1 = off + (cs.take i).sum)
  | [], off => by simp [layoutFrom]
  | c :: cs, off => by
    obtain ⟨h1, h3⟩ := layout_contiguous cs (off + c)
    refine ⟨by simp [layoutFrom, h1], ?_⟩
    intro i hi
    cases i with
    | zero => simp [layoutFrom]
    | succ j =>
      simp only [layoutFrom, List.getElem_cons_succ, List.take_succ_cons, List.sum_cons]
      rw [h3 j (Nat.lt_of_succ_lt_succ hi)]
      omega

/-! ### CopyObject

  FULL statement (false of the code): `∀ st src dst, findObj st src = none → copyObj st src dst` changes nothing
  and the request is refused (S3: NoSuchKey). `CopyObjectHandler` never looks at the status of the filer's
  answer for the source, so the body of the 404 answer (empty) — or the filer's directory listing page when the
  source names a directory — is stored under the destination and 200 is returned. -/

/-- WITNESS (finding CopyObjectHandler/missing-source-creates-empty-object): in an empty bucket, copying the
    missing key "no" to "cp" leaves a 0-byte object "cp" in the model of the code, while the specification
    refuses the copy and the judge names the class -/
theorem copy_of_missing_source_creates_empty_object :
    (copyObj {} [[110, 111]] [[99, 112]]).map (fun r => r.1.objs) = some [⟨[[99, 112]], []⟩] ∧
    specCopy [] [[110, 111]] [[99, 112]] = none ∧
    copyJudge [] [[110, 111]] [[99, 112]] true = some "CopyObjectHandler/missing-source-creates-empty-object" :=
  ⟨rfl, rfl, rfl⟩

/-- WITNESS, same class: the destination may be an EXISTING object, whose bytes are replaced by nothing -/
theorem copy_of_missing_source_truncates_existing_object :
    (copyObj { objs := [⟨[[97]], [⟨2, 0, 20⟩]⟩] } [[110, 111]] [[97]]).map (fun r => r.1.objs) = some [⟨[[97]], []⟩] := rfl

/-- WITNESS (finding CopyObjectHandler/directory-source-stores-filer-listing-page): with only "a/b" stored,
    copying "a" to "cp" stores bytes nobody wrote (the model keeps them opaque) -/
theorem copy_of_directory_source_stores_listing_page :
    copyBody { objs := [⟨[[97], [98]], [⟨7, 0, 100⟩]⟩] } [[97]] = .listingPage ∧
    copyJudge [⟨[[97], [98]], [⟨7, 0, 100⟩]⟩] [[97]] [[99, 112]] true
      = some "CopyObjectHandler/directory-source-stores-filer-listing-page" := ⟨rfl, rfl⟩

/-- PARTIAL: when the source key holds an object (in model and specification alike) and the destination is stored
    under its own key, the copy is exactly the specification's copy and the judge is silent -/
theorem copy_eq_spec_partial (st : St) (src dst : List Bytes) (ob : Obj)
    (hs : findObj st src = some ob) (ht : putTarget st dst = some dst) :
    (copyObj st src dst).map (fun r => r.1.objs) = specCopy st.objs src dst ∧
    copyJudge st.objs src dst true = none := by
  have hf : st.objs.find? (fun x => x.key == src) = some ob := hs
  simp [copyObj, ht, copyBody, hs, CopyBody.data, specCopy, hf, putObj, specPut, copyJudge]

example : findObj { objs := [⟨[[97]], [⟨2, 0, 20⟩]⟩] } [[97]] = some ⟨[[97]], [⟨2, 0, 20⟩]⟩ ∧
    putTarget { objs := [⟨[[97]], [⟨2, 0, 20⟩]⟩] } [[99, 112]] = some [[99, 112]] := by decide

/-! ### bridges to the source (`SwV.Gen.C28` is regenerated by the extractor on every run) -/

theorem bridge_max_part_id : SwV.Gen.C28.globalMaxPartID = (maxPartID : Int) := by decide
theorem bridge_limit_cond : SwV.Gen.C28.putPartLimitCond = "partID > globalMaxPartID" := rfl
theorem bridge_part_format :
    SwV.Gen.C28.putPartUrlFormat = "\"http://%s%s/%s/%04d.part?collection=%s\"" ∧
    SwV.Gen.C28.copyPartUrlFormat = SwV.Gen.C28.putPartUrlFormat := ⟨rfl, rfl⟩
theorem bridge_suffix : SwV.Gen.C28.completeSuffix = "\".part\"" := rfl
/-- the admitted range exceeds what four digits order -/
theorem bridge_limit_exceeds_padding : (9999 : Int) < SwV.Gen.C28.globalMaxPartID := by decide

end SwV.Props.C28
