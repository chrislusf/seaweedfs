/-
C35 — property theorems about the backing-array model of vidMap (SwV/Model/C35.lean), which the
correspondence check ties to the real weed/wdclient/vid_map.go (lengths, CAPACITIES, contents of
every slice, and what a kept slice shows later).

What `GetLocations` returns after a history (one update stream, or any interleaving of several) rests on
`run_refines`: every map entry represents its reference list (`Rep`).  The reader theorems rest on
`heldShows_step`: no step other than another `hold` changes what the kept slice shows (`HeldShows`).
-/
import SwV.Model.C35
import SwV.Spec.C35
import SwV.Lemmas.C35
import SwV.Gen.C35

namespace SwV.Props.C35
open SwV.Model.C35 SwV.Spec.C35 SwV.Lemmas.C35

/-- a map entry against its reference list: the slice shows the list, fits its array and shows each url once -/
def Rep (oc : Option Cell) (ol : Option (List Loc)) : Prop :=
  oc.map Cell.view = ol ∧ ∀ c, oc = some c → WF c ∧ UrlsNodup c.view

theorem addLocation_vids (st : St) (vid : Nat) (loc : Loc) (v : Nat) :
    (addLocation st vid loc).vids v =
      if v = vid then some (match st.vids vid with | none => { arr := [loc], len := 1 } | some c => (c.add loc).1)
      else st.vids v := by
  unfold addLocation
  cases h : st.vids vid <;> simp

theorem deleteLocation_vids (st : St) (vid : Nat) (u : String) (v : Nat) :
    (deleteLocation st vid u).vids v = if v = vid then (st.vids vid).map (fun c => (c.del u).1) else st.vids v := by
  unfold deleteLocation
  cases h : st.vids vid with
  | none => by_cases hv : v = vid <;> simp [hv, h]
  | some c => simp

theorem hold_vids (st : St) (vid : Nat) : (hold st vid).vids = st.vids := by
  unfold hold; cases st.vids vid <;> rfl

theorem rep_add {oc : Option Cell} {ol : Option (List Loc)} (h : Rep oc ol) (loc : Loc) :
    Rep (some (match (generalizing := false) oc with | none => { arr := [loc], len := 1 } | some c => (c.add loc).1))
      (some (atomicAdd (ol.getD []) loc)) := by
  obtain ⟨hv, hc⟩ := h
  subst hv
  cases oc with
  | none => exact ⟨rfl, fun c e => Option.some.inj e ▸ ⟨Nat.le_refl 1, List.pairwise_singleton _ _⟩⟩
  | some c0 =>
    obtain ⟨hw, hn⟩ := hc c0 rfl
    obtain ⟨hw', hview, _⟩ := add_spec c0 loc hw
    exact ⟨congrArg some hview, fun c e => Option.some.inj e ▸ ⟨hw', hview ▸ nodup_atomicAdd _ loc hn⟩⟩

theorem rep_del {oc : Option Cell} {ol : Option (List Loc)} (h : Rep oc ol) (u : String) :
    Rep (oc.map fun c => (c.del u).1) (ol.map fun l => l.filter (fun x => x.url != u)) := by
  obtain ⟨hv, hc⟩ := h
  subst hv
  cases oc with
  | none => exact ⟨rfl, fun c e => nomatch e⟩
  | some c0 =>
    obtain ⟨hw, hn⟩ := hc c0 rfl
    obtain ⟨hw', hv, _⟩ := del_spec c0 u hw
    have hview := hv.trans (eraseIdx_findIdx_eq_filter _ u hn)
    exact ⟨congrArg some hview, fun c e => Option.some.inj e ▸ ⟨hw', hview ▸ nodup_filter _ u hn⟩⟩

theorem step_refines (st : St) (m : Ref) (op : Op) (h : ∀ v, Rep (st.vids v) (m v)) (v : Nat) :
    Rep ((applyOp st op).vids v) (refApply m op v) := by
  cases op with
  | add vid loc =>
    show Rep ((addLocation st vid loc).vids v) (refAdd m vid loc v)
    rw [addLocation_vids, refAdd_eq]
    by_cases hv : v = vid
    · rw [if_pos hv, if_pos hv]; exact rep_add (h vid) loc
    · rw [if_neg hv, if_neg hv]; exact h v
  | del vid u =>
    show Rep ((deleteLocation st vid u).vids v) (refDel m vid u v)
    rw [deleteLocation_vids]; unfold refDel
    by_cases hv : v = vid
    · rw [if_pos hv, if_pos hv]; exact rep_del (h vid) u
    · rw [if_neg hv, if_neg hv]; exact h v
  | hold vid => show Rep ((hold st vid).vids v) (m v); rw [hold_vids]; exact h v

theorem run_refines (ops : List Op) (v : Nat) : Rep ((run ops).vids v) (denote ops v) := by
  suffices h : ∀ st m, (∀ v, Rep (st.vids v) (m v)) → ∀ v, Rep ((ops.foldl applyOp st).vids v) (ops.foldl refApply m v) from
    h {} (fun _ => none) (fun _ => ⟨rfl, fun c e => nomatch e⟩) v
  induction ops with
  | nil => exact fun _ _ h => h
  | cons op rest ih => exact fun st m h => ih _ _ (step_refines st m op h)

/-- MAIN (sequential histories): after ANY sequence of add / remove notifications (and readers keeping
    slices), `GetLocations` returns for every volume exactly the reference: not-found if the volume was
    never announced, else the locations currently added, in the order they were added (a location removed and
    announced again stands where its latest announcement put it: at the end) -/
theorem lookup_eq_reference (ops : List Op) (vid : Nat) : getLocations (run ops) vid = denote ops vid :=
  (run_refines ops vid).1

theorem each_location_once (ops : List Op) (vid : Nat) (l : List Loc) (h : getLocations (run ops) vid = some l) :
    (l.map (·.url)).Nodup := by
  obtain ⟨c, hc, rfl⟩ := Option.map_eq_some_iff.mp h
  exact ((run_refines ops vid).2 c hc).2

/-- `LookupVolumeServerUrl` orders the urls: the same-data-center locations (latest first), then all others -/
theorem lookup_same_dc_first (dc : String) (l : List Loc) :
    orderUrls dc l = ((l.filter (sameDc dc)).reverse ++ l.filter (fun x => !sameDc dc x)).map (·.url) := by
  unfold orderUrls
  rw [orderUrls_acc]
  simp

/-- … and returns exactly the urls of the locations (nothing lost, nothing invented) -/
theorem lookup_urls_exact (dc : String) (l : List Loc) (u : String) :
    u ∈ orderUrls dc l ↔ u ∈ l.map (·.url) := by
  rw [lookup_same_dc_first]
  simp only [List.map_append, List.mem_append, List.mem_map, List.mem_reverse, List.mem_filter]
  constructor
  · rintro (⟨x, ⟨hx, _⟩, e⟩ | ⟨x, ⟨hx, _⟩, e⟩) <;> exact ⟨x, hx, e⟩
  · rintro ⟨x, hx, e⟩
    by_cases hs : sameDc dc x = true
    · exact Or.inl ⟨x, ⟨hx, hs⟩, e⟩
    · exact Or.inr ⟨x, ⟨hx, by simpa using hs⟩, e⟩

/-! ### readers that keep a returned slice

"A slice returned by GetLocations keeps showing what it showed when it was returned (no duplicated /
lost / torn entries), whatever is added or removed later."  This is FALSE of the in-place `deleteLocation`
(finding GetLocations/returned-slice-shows-duplicate-after-delete, repaired in /repo): it shifts the tail
inside the backing array the reader holds.  The in-place operator is kept in the model as `Cell.delInPlace` /
`deleteLocationInPlace`; the witness below is about THAT operator, the theorem `readers_never_torn` about
the repaired code. -/

/-- the pre-repair step function (in-place delete), for contrast only -/
def applyOpInPlace (st : St) : Op → St
  | .add v l => addLocation st v l
  | .del v u => deleteLocationInPlace st v u
  | .hold v => hold st v

/-- what the pre-repair code did: the kept slice [u1 u2 u3] shows [u2 u3 u3] after u1 is removed (and a
    following add overwrites the cell the reader still covers); the repaired step leaves it alone -/
theorem inplace_delete_tears_witness :
    let a : Loc := ⟨"u1", "dc1"⟩; let b : Loc := ⟨"u2", "dc2"⟩; let c : Loc := ⟨"u3", "dc1"⟩; let d : Loc := ⟨"u4", ""⟩
    peek (run [.add 1 a, .add 1 b, .add 1 c, .hold 1]) = [a, b, c] ∧
    peek ([Op.add 1 a, .add 1 b, .add 1 c, .hold 1, .del 1 "u1"].foldl applyOpInPlace {}) = [b, c, c] ∧
    peek ([Op.add 1 a, .add 1 b, .add 1 c, .hold 1, .del 1 "u1", .add 1 d].foldl applyOpInPlace {}) = [b, c, d] ∧
    peek (run [.add 1 a, .add 1 b, .add 1 c, .hold 1, .del 1 "u1"]) = [a, b, c] ∧
    peek (run [.add 1 a, .add 1 b, .add 1 c, .hold 1, .del 1 "u1", .add 1 d]) = [a, b, c] := by decide +kernel

/-- the repair does not change what lookups return: both deletes leave the same slice (they differ only in
    WHERE the remaining entries live) -/
theorem repair_keeps_lookup_results (c : Cell) (u : String) (h : WF c) :
    (c.del u).1.view = (c.delInPlace u).view := by
  rw [(del_spec c u h).2.1, view_delInPlace c u h]

/-- the reader's slot is not re-used: no later `hold` (a later hold is ANOTHER returned slice; the theorem
    then applies to that one).  This is the only condition on the later operations. -/
def notHold : Op → Prop
  | .hold _ => False
  | _ => True

/-- what the reader is entitled to: the slice still shows `snap`; while its array is the live one of the entry, also
    what an in-place add needs to stay clear of it: the entry is `WF` and at least as long as the kept slice -/
def HeldShows (st : St) (vid : Nat) (snap : List Loc) : Prop :=
  ∃ h, st.held = some h ∧ h.vid = vid ∧
    match h.frozen with
    | some a => a.take h.len = snap
    | none => ∃ c, st.vids vid = some c ∧ c.arr.take h.len = snap ∧ h.len ≤ c.len ∧ WF c

theorem freezeHeld_other (h : Held) {realloc : Bool} {v : Nat} {old : List Loc} (hne : ¬ h.vid = v) :
    freezeHeld (some h) realloc v old = some h := by
  simp [freezeHeld, hne]

theorem freezeHeld_frozen (h : Held) {realloc : Bool} {v : Nat} {old : List Loc} (a : List Loc) (hf : h.frozen = some a) :
    freezeHeld (some h) realloc v old = some h := by
  simp [freezeHeld, hf]

theorem freezeHeld_false (h : Held) (v : Nat) (old : List Loc) :
    freezeHeld (some h) false v old = some h := by
  simp [freezeHeld]

theorem freezeHeld_true (h : Held) {v : Nat} (old : List Loc) (hv : h.vid = v) (hf : h.frozen = none) :
    freezeHeld (some h) true v old = some { h with frozen := some old } := by
  simp [freezeHeld, hv, hf]

theorem addLocation_held (st : St) (v : Nat) (loc : Loc) :
    (addLocation st v loc).held =
      match st.vids v with
      | none => st.held
      | some c => freezeHeld st.held (c.add loc).2 v c.arr := by
  unfold addLocation; cases st.vids v <;> rfl

theorem deleteLocation_held (st : St) (v : Nat) (u : String) :
    (deleteLocation st v u).held =
      match st.vids v with
      | none => st.held
      | some c => freezeHeld st.held (c.del u).2 v c.arr := by
  unfold deleteLocation; cases st.vids v <;> rfl

theorem heldShows_kept (st : St) (vid : Nat) (snap : List Loc) (st' : St) (hheld : st'.held = st.held)
    (hvids : ∀ c, st.vids vid = some c → st'.vids vid = some c)
    (hs : HeldShows st vid snap) : HeldShows st' vid snap := by
  obtain ⟨h, hh, hv, hm⟩ := hs
  refine ⟨h, by rw [hheld, hh], hv, ?_⟩
  cases hf : h.frozen with
  | some a => simpa [hf] using hm
  | none =>
    simp only [hf] at hm ⊢
    obtain ⟨c, hc, rest⟩ := hm
    exact ⟨c, hvids c hc, rest⟩

/-- a step on ANOTHER volume, or on the reader's volume after its array was left behind, changes nothing
    the reader sees; a step on the reader's live array either leaves the covered cells alone (in-place
    add, no-op) or re-allocates and leaves the old array to the reader (growing add, delete) -/
theorem heldShows_update (st : St) (vid : Nat) (snap : List Loc) (v : Nat) (st' : St) (c0 : Cell)
    (r : Cell × Bool) (hc0 : st.vids v = some c0)
    (hvids : ∀ w, st'.vids w = if w = v then some r.1 else st.vids w)
    (hheld : st'.held = freezeHeld st.held r.2 v c0.arr)
    (hupd : ∀ n, WF c0 → n ≤ c0.len → r.2 = false → WF r.1 ∧ n ≤ r.1.len ∧ r.1.arr.take n = c0.arr.take n)
    (hs : HeldShows st vid snap) : HeldShows st' vid snap := by
  obtain ⟨h, hh, hv, hm⟩ := hs
  rw [hh] at hheld
  by_cases hvv : v = vid
  · subst hvv
    cases hf : h.frozen with
    | some a =>
      rw [freezeHeld_frozen h a hf] at hheld
      exact ⟨h, hheld, hv, by simpa [hf] using hm⟩
    | none =>
      simp only [hf] at hm
      obtain ⟨c, hc, htake, hlen, hw⟩ := hm
      rw [hc0] at hc; cases hc
      cases hr : r.2 with
      | true =>
        rw [hr, freezeHeld_true h c0.arr hv hf] at hheld
        exact ⟨{ h with frozen := some c0.arr }, hheld, hv, htake⟩
      | false =>
        rw [hr, freezeHeld_false] at hheld
        obtain ⟨hw', hlen', htake'⟩ := hupd h.len hw hlen hr
        refine ⟨h, hheld, hv, ?_⟩
        simp only [hf]
        exact ⟨r.1, by simp [hvids], by rw [htake', htake], hlen', hw'⟩
  · have hne : ¬ h.vid = v := by rw [hv]; exact Ne.symm hvv
    rw [freezeHeld_other h hne] at hheld
    exact heldShows_kept st vid snap st' (hheld.trans hh.symm)
      (fun c hc => by rw [hvids, if_neg (Ne.symm hvv)]; exact hc) ⟨h, hh, hv, hm⟩

theorem heldShows_step (st : St) (vid : Nat) (snap : List Loc) (op : Op) (hop : notHold op)
    (hs : HeldShows st vid snap) : HeldShows (applyOp st op) vid snap := by
  cases op with
  | hold v => exact absurd hop not_false
  | del v u =>
    cases hc : st.vids v with
    | none =>
      have : applyOp st (.del v u) = st := by simp [applyOp, deleteLocation, hc]
      rw [this]; exact hs
    | some c0 =>
      refine heldShows_update st vid snap v _ c0 (c0.del u) hc (fun w => ?_) ?_
        (fun n hw hn hr => by rw [(del_spec c0 u hw).2.2 hr]; exact ⟨hw, hn, rfl⟩) hs
      · simp only [applyOp, deleteLocation_vids, hc, Option.map_some]
      · simp only [applyOp, deleteLocation_held, hc]
  | add v loc =>
    cases hc : st.vids v with
    | none =>
      -- the first announcement of a volume creates a new entry: no returned slice lives there
      refine heldShows_kept st vid snap _ ?_ (fun c hvc => ?_) hs
      · simp only [applyOp, addLocation_held, hc]
      · have : ¬ vid = v := fun e => by rw [e, hc] at hvc; cases hvc
        simp only [applyOp, addLocation_vids, if_neg this, hvc]
    | some c0 =>
      refine heldShows_update st vid snap v _ c0 (c0.add loc) hc (fun w => ?_) ?_
        (fun n hw hn hr => let s := add_spec c0 loc hw; ⟨s.1, s.2.2 hr n hn⟩) hs
      · simp only [applyOp, addLocation_vids, hc]
      · simp only [applyOp, addLocation_held, hc]

theorem peek_of_heldShows (st : St) (vid : Nat) (snap : List Loc) (hs : HeldShows st vid snap) : peek st = snap := by
  obtain ⟨h, hh, hv, hm⟩ := hs
  simp only [peek, hh]
  cases hf : h.frozen with
  | some a => simpa [hf] using hm
  | none =>
    simp only [hf] at hm
    obtain ⟨c, hc, htake, _⟩ := hm
    simp [hv, hc, htake]

/-- MAIN (readers keeping a returned slice): whatever is added or removed later —
    on that volume or any other, in place or with re-allocation — a kept slice keeps showing exactly what
    `GetLocations` returned: later updates never write a cell it covers -/
theorem readers_never_torn (pre post : List Op) (vid : Nat) (snap : List Loc)
    (hfound : getLocations (run pre) vid = some snap) (hpost : ∀ op ∈ post, notHold op) :
    peek (run (pre ++ [.hold vid] ++ post)) = snap := by
  apply peek_of_heldShows _ vid
  simp only [run, List.foldl_append, List.foldl_cons, List.foldl_nil]
  have hinv := fun c => (run_refines pre vid).2 c
  simp only [run] at hinv hfound
  generalize List.foldl applyOp {} pre = st0 at hinv hfound
  have h0 : HeldShows (applyOp st0 (.hold vid)) vid snap := by
    obtain ⟨c, hc, hfound⟩ := Option.map_eq_some_iff.mp hfound
    refine ⟨{ vid := vid, len := c.len, frozen := none }, by simp [applyOp, hold, hc], rfl, ?_⟩
    simp only
    exact ⟨c, by simp [applyOp, hold_vids, hc], hfound, Nat.le_refl _, (hinv c hc).1⟩
  generalize applyOp st0 (.hold vid) = st1 at h0
  induction post generalizing st1 with
  | nil => exact h0
  | cons op rest ih =>
    simp only [List.foldl_cons]
    exact ih (List.forall_mem_cons.1 hpost).2 _ (heldShows_step st1 vid snap op (List.forall_mem_cons.1 hpost).1 h0)

/-- non-vacuity: removals on the reader's own volume are allowed -/
example : ∀ op ∈ [Op.add 1 ⟨"u4", ""⟩, Op.del 1 "u1", Op.del 2 "u1"], notHold op := by
  intro op h; simp at h; rcases h with rfl | rfl | rfl <;> simp [notHold]

/-- … in particular a kept slice never shows a url twice (one of the things the judge `heldJudge` checks
    on the implementation's answers) -/
theorem readers_never_see_duplicate (pre post : List Op) (vid : Nat) (snap : List Loc)
    (hfound : getLocations (run pre) vid = some snap) (hpost : ∀ op ∈ post, notHold op) :
    ((peek (run (pre ++ [.hold vid] ++ post))).map (·.url)).Nodup := by
  rw [readers_never_torn pre post vid snap hfound hpost]
  exact each_location_once pre vid snap hfound

/-! ### concurrent writers: atomic steps versus split steps

Several update streams run concurrently; because `addLocation` / `deleteLocation` hold the write lock
from their first statement to their return, an execution is some ordering of whole steps.  Every
interleaving of the threads' steps is in particular a permutation of all their steps, so the theorems
below quantify over ALL orderings `s` of the steps of ALL thread lists. -/

def isAdd : Op → Prop
  | .add _ _ => True
  | _ => False

def urlsOf (m : Ref) (vid : Nat) : List String := ((m vid).getD []).map (·.url)

theorem urls_refAdd (m : Ref) (v : Nat) (loc : Loc) (vid : Nat) (u : String) :
    u ∈ urlsOf (refAdd m v loc) vid ↔ u ∈ urlsOf m vid ∨ (v = vid ∧ loc.url = u) := by
  unfold urlsOf
  rw [refAdd_eq]
  by_cases hv : vid = v
  · subst hv; simp [mem_atomicAdd]
  · have hv' : ¬ v = vid := Ne.symm hv
    simp [hv, hv']

theorem mem_denote_adds (s : List Op) (hs : ∀ op ∈ s, isAdd op) (m : Ref) (vid : Nat) (u : String) :
    u ∈ urlsOf (s.foldl refApply m) vid ↔ u ∈ urlsOf m vid ∨ ∃ loc, Op.add vid loc ∈ s ∧ loc.url = u := by
  induction s generalizing m with
  | nil => simp
  | cons op rest ih =>
    rw [List.foldl_cons, ih fun o ho => hs o (List.mem_cons_of_mem _ ho)]
    cases op with
    | del v x => exact (hs _ (List.mem_cons_self ..)).elim
    | hold v => exact (hs _ (List.mem_cons_self ..)).elim
    | add v loc =>
      show u ∈ urlsOf (refAdd m v loc) vid ∨ _ ↔ _
      rw [urls_refAdd, or_assoc]
      refine or_congr_right ⟨?_, ?_⟩
      · rintro (⟨rfl, e⟩ | ⟨l2, h, e⟩)
        · exact ⟨loc, List.mem_cons_self .., e⟩
        · exact ⟨l2, List.mem_cons_of_mem _ h, e⟩
      · rintro ⟨l2, h, e⟩
        rcases List.mem_cons.mp h with h | h
        · cases h; exact Or.inl ⟨rfl, e⟩
        · exact Or.inr ⟨l2, h, e⟩

/-- MAIN (concurrent adders, atomic steps): whatever the interleaving `s` of the writers' `addLocation`
    steps, afterwards a volume lists each url once, and lists exactly the urls some writer announced for it -/
theorem concurrent_adds_each_once (threads : List (List Op)) (s : List Op) (hperm : s.Perm threads.flatten)
    (hadds : ∀ t ∈ threads, ∀ op ∈ t, isAdd op) (vid : Nat) (l : List Loc)
    (h : getLocations (run s) vid = some l) :
    (l.map (·.url)).Nodup ∧
    ∀ u, u ∈ l.map (·.url) ↔ ∃ t ∈ threads, ∃ loc, Op.add vid loc ∈ t ∧ loc.url = u := by
  refine ⟨each_location_once s vid l h, fun u => ?_⟩
  have hmem : ∀ op, op ∈ s ↔ ∃ t ∈ threads, op ∈ t := fun op => hperm.mem_iff.trans List.mem_flatten
  have hl : urlsOf (denote s) vid = l.map (·.url) := by rw [urlsOf, ← lookup_eq_reference, h]; rfl
  rw [← hl]
  refine (mem_denote_adds s (fun op ho => let ⟨t, ht, hot⟩ := (hmem op).mp ho; hadds t ht op hot) _ vid u).trans ⟨?_, ?_⟩
  · rintro (h0 | ⟨loc, hs, e⟩)
    · nomatch h0
    · obtain ⟨t, ht, hot⟩ := (hmem _).mp hs
      exact ⟨t, ht, loc, hot, e⟩
  · rintro ⟨t, ht, loc, hot, e⟩
    exact .inr ⟨loc, (hmem _).mpr ⟨t, ht, hot⟩, e⟩

/-- non-vacuity: two writers announcing the same location -/
example : ([Op.add 1 ⟨"u1", ""⟩, Op.add 1 ⟨"u1", ""⟩] : List Op).Perm [[Op.add 1 ⟨"u1", ""⟩], [Op.add 1 ⟨"u1", ""⟩]].flatten := by
  simp

/-- … and with removals mixed in, still each url once under every interleaving -/
theorem concurrent_steps_each_once (threads : List (List Op)) (s : List Op) (_hperm : s.Perm threads.flatten)
    (vid : Nat) (l : List Loc) (h : getLocations (run s) vid = some l) : (l.map (·.url)).Nodup :=
  each_location_once s vid l h

/-- the SPLIT model (check and append scheduled separately) does NOT have the property: two writers
    announcing the same location can both see "not listed" and both append -/
theorem split_add_not_each_once_witness :
    let a : Loc := ⟨"u1", "dc1"⟩
    (splitRun [.check 1 a, .check 2 a, .append 1 a, .append 2 a]).view = [a, a] ∧
    (splitRun [.check 1 a, .append 1 a, .check 2 a, .append 2 a]).view = [a] := by decide +kernel

/-- run back to back (no other step in between) the split steps ARE the atomic step -/
theorem split_sequential_eq_atomic (ws : List (Nat × Loc)) (st : SSt) :
    ((ws.flatMap fun w => [SStep.check w.1 w.2, SStep.append w.1 w.2]).foldl splitStep st).view
      = ws.foldl (fun l w => atomicAdd l w.2) st.view := by
  induction ws generalizing st with
  | nil => rfl
  | cons w rest ih =>
    simp only [List.flatMap_cons, List.cons_append, List.nil_append, List.foldl_cons]
    rw [ih]
    congr 1
    simp only [splitStep, List.lookup_cons, beq_self_eq_true, atomicAdd]
    cases hasUrl st.view w.2.url <;> simp

/-! ### T1: the atomic-step reading is tied to the source

`src_addLocation` is the hash of the source of `vidMap.addLocation` as extracted on every run.  The
version with the hash below was read as: first statement `vc.Lock()`, `defer vc.Unlock()`, then the map lookup, the
`loc.Url == location.Url` loop and the append — all inside the one critical section.  Any edit of the
function (e.g. moving the presence check under a separate read lock) breaks these obligations. -/

theorem bridge_addLocation_atomic_pinned : SwV.Gen.C35.src_addLocation = "ad5c9200c5cd0453" := rfl

/-- the duplicate check stands inside `addLocation` itself -/
theorem bridge_addLocation_dupcheck_inside : SwV.Gen.C35.addLocation_dupCheck = "loc.Url == location.Url" := rfl

/-- `deleteLocation` as repaired (fresh array, see `Cell.del`) and `GetLocations` (hands out the map's
    slice itself) are the versions the model was written from -/
theorem bridge_delete_get_pinned :
    SwV.Gen.C35.src_deleteLocation = "070a69660e6a7a55" ∧ SwV.Gen.C35.src_GetLocations = "c5b85c4768527a6c" ∧
    SwV.Gen.C35.deleteLocation_match = "loc.Url == location.Url" :=
  ⟨rfl, rfl, rfl⟩

/-- the shortened list is built in a new array of exactly len-1 cells (`Cell.del`: arr = the erased view, no
    spare cell); an in-place `append(locations[0:i], …)` does not have this statement and breaks the obligation -/
theorem bridge_deleteLocation_fresh_array :
    SwV.Gen.C35.deleteLocation_freshArray = "remaining := make([]Location, 0, len(locations)-1)" := rfl

end SwV.Props.C35
