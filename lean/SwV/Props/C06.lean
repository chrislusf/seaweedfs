/-
C06 — property theorems; the lemmas they rest on are in SwV/Lemmas/C06*.lean.

The model (SwV/Model/C06.lean) is parametric in the shard count `k`, the block lengths `L`, `S`
and the operators of the two large-row loop guards.  The values the CODE uses are regenerated
from the Go source into SwV/Gen/C06.lean on every check run; the `bridge_*` theorems pin them,
and the `…_production` theorems instantiate the parametric theorems AT the regenerated values, so
editing a constant or a comparison operator in Go changes what Lean has to check here.
-/
import SwV.Model.C06
import SwV.Spec.C06
import SwV.Gen.C06
import SwV.Lemmas.C06
import SwV.Model.C06RS
import SwV.Lemmas.C06RS
import SwV.Lemmas.C06Certs
import SwV.Lemmas.C06MDS
import SwV.Lemmas.C06Chunks

namespace SwV.Props.C06
open SwV.Model.C06 SwV.Spec.C06 SwV.Lemmas.C06

def genK : Nat := SwV.Gen.C06.DataShardsCount.toNat
def genM : Nat := SwV.Gen.C06.ParityShardsCount.toNat
def genL : Nat := SwV.Gen.C06.ErasureCodingLargeBlockSize.toNat
def genS : Nat := SwV.Gen.C06.ErasureCodingSmallBlockSize.toNat
/-- operator of `for remainingSize > largeBlockSize*DataShardsCount` (encodeDatFile) -/
def genEncStrict : Option Bool := guardStrictOfText SwV.Gen.C06.encLargeLoopCond
/-- operator of `for datFileSize > DataShardsCount*ErasureCodingLargeBlockSize` (WriteDatFile; it was `>=`
    before the repair, /repo commit e82dce52) -/
def genDecStrict : Option Bool := guardStrictOfText SwV.Gen.C06.decLargeLoopCond

theorem bridge_constants :
    SwV.Gen.C06.DataShardsCount = 10 ∧ SwV.Gen.C06.ParityShardsCount = 4 ∧
    SwV.Gen.C06.TotalShardsCount = SwV.Gen.C06.DataShardsCount + SwV.Gen.C06.ParityShardsCount ∧
    SwV.Gen.C06.ErasureCodingLargeBlockSize = 1024 * 1024 * 1024 ∧
    SwV.Gen.C06.ErasureCodingSmallBlockSize = 1024 * 1024 := by decide +kernel

/-- the assumptions of the parametric theorems hold of the production constants -/
theorem bridge_constants_admissible : 0 < genK ∧ 0 < genS ∧ 0 < genL ∧ genS ∣ genL ∧ (256 * 1024) ∣ genS := by
  decide +kernel

theorem bridge_enc_guard :
    SwV.Gen.C06.encLargeLoopCond = "remainingSize > largeBlockSize*DataShardsCount" ∧
    SwV.Gen.C06.encSmallLoopCond = "remainingSize > 0" ∧ genEncStrict = some true := ⟨rfl, rfl, by decide +kernel⟩

/-- the decoder's guards as repaired by /repo commit e82dce52 (`fix: WriteDatFile copies a row of large blocks
    only while datFileSize > …`): re-introducing `>=` breaks this obligation and `bridge_guards_equal` -/
theorem bridge_dec_guard :
    SwV.Gen.C06.decLargeLoopCond = "datFileSize > DataShardsCount*ErasureCodingLargeBlockSize" ∧
    SwV.Gen.C06.decSmallLoopCond = "datFileSize > 0" ∧ genDecStrict = some true := ⟨rfl, rfl, by decide +kernel⟩

/-- encoder and decoder read the SAME comparison operator in their large-row loops (whatever it is) -/
theorem bridge_guards_equal : genEncStrict = genDecStrict ∧ genEncStrict.isSome = true := by decide +kernel

/-- LocateEcShardNeedle calls LocateData with the production block sizes and `10 * shard size` -/
theorem bridge_locate_call :
    SwV.Gen.C06.locCallLarge = "ErasureCodingLargeBlockSize" ∧
    SwV.Gen.C06.locCallSmall = "ErasureCodingSmallBlockSize" ∧
    SwV.Gen.C06.locCallDatSize = "DataShardsCount * shard.ecdFileSize" := ⟨rfl, rfl, rfl⟩

/-- the hand-modelled expressions of LocateData -/
theorem bridge_locate_exprs :
    SwV.Gen.C06.locRowsExpr = "nLargeBlockRows := int((datSize + DataShardsCount*smallBlockLength) / (largeBlockLength * DataShardsCount))" ∧
    SwV.Gen.C06.locSwitchCond = "isLargeBlock && blockIndex == nLargeBlockRows*DataShardsCount" ∧
    SwV.Gen.C06.locFitCond = "int64(size) <= blockRemaining" := ⟨rfl, rfl, rfl⟩

/-- the functions whose loops are modelled by hand are unchanged (normalised source hash) -/
theorem bridge_source_pins :
    SwV.Gen.C06.src_LocateData = "04cac66f7204e4cb" ∧ SwV.Gen.C06.src_encodeDatFile = "98a46bfab029a1d7" ∧
    SwV.Gen.C06.src_encodeData = "1ca502f75d4a3392" ∧ SwV.Gen.C06.src_encodeDataOneBatch = "86174d22bcec4731" ∧
    SwV.Gen.C06.src_WriteDatFile = "bf3f735eeab11244" ∧ SwV.Gen.C06.src_rebuildEcFiles = "ebc0ceb2eb561136" :=
  ⟨rfl, rfl, rfl, rfl, rfl, rfl⟩

/-! ### the EC read path returns exactly the stored bytes

FULL-STRENGTH statement (DESIGN §5 `ec_read_exact`):
  ∀ k L S (0<k, 0<S, S ∣ L) D off size, off+size ≤ |D| →
      ecRead k L S (layout k L S strict D) off size = some (D[off, off+size))
is FALSE of the model and of the code (finding LocateEcShardNeedle/large-row-count-from-shard-size):
see `ec_read_exact_false_witness`.  `ec_read_exact_partial` proves it outside `rowCountAmbiguous`. -/

/-- reading any byte range of `D` through LocateData (fed `k * shardSize`) and the shard files
    returns `D[off, off+size)`, for every block geometry with `0 < k`, `0 < S` and every file whose trailing small rows
    do not fill a large block (minus one small block) -/
theorem ec_read_exact_partial (k L S : Nat) (strict : Bool) (D : List Nat) (off size : Nat)
    (hk : 0 < k) (hS : 0 < S) (hD : off + size ≤ D.length)
    (hg : rowCountAmbiguous k L S strict D.length = false) :
    ecRead k L S (layout k L S strict D) off size = some ((D.drop off).take size) := by
  have hg' : (nSmallRows k L S strict D.length + 1) * S < L := by
    unfold rowCountAmbiguous at hg
    simpa using hg
  exact ecRead_laid (layout_laid k L S strict D hk hS) hg' off size hD

/-- hypotheses of `ec_read_exact_partial` are satisfiable (two large rows, one small row) -/
example : rowCountAmbiguous 10 50 10 true 1001 = false ∧ 0 + 1001 ≤ (List.replicate 1001 7).length :=
  ⟨by decide +kernel, by rw [List.length_replicate]; omega⟩

/-- the sizes DESIGN §6 names are excluded: with `S ∣ L`, every `|D| > 0` with `|D| mod kL ∈ (kL − 2kS, kL]` (one
    direction; that no other size is excluded is not stated) -/
theorem ambiguous_of_mod (k q S n : Nat) (hk : 0 < k) (hS : 0 < S) (hn : 0 < n)
    (h : k * (q * S) < smallArea k (q * S) true n + 2 * (k * S)) :
    rowCountAmbiguous k (q * S) S true n = true := by
  unfold rowCountAmbiguous
  simp only [decide_eq_true_eq]
  have hkS : 0 < k * S := Nat.mul_pos hk hS
  have hceil := le_ceil_mul (smallArea k (q * S) true n) (k * S) hkS
  -- nS * kS ≥ area > kqS − 2kS  ⇒  (nS + 2) > q  ⇒  (nS + 1) * S ≥ q * S
  have h1 : q * (k * S) = k * (q * S) := Nat.mul_left_comm ..
  have h2 : q * (k * S) < (nSmallRows k (q * S) S true n + 2) * (k * S) := by
    have : (nSmallRows k (q * S) S true n + 2) * (k * S) = nSmallRows k (q * S) S true n * (k * S) + 2 * (k * S) :=
      Nat.add_mul ..
    unfold nSmallRows at this ⊢
    omega
  have h3 : q < nSmallRows k (q * S) S true n + 2 := Nat.lt_of_mul_lt_mul_right h2
  exact Nat.mul_le_mul_right S (by omega)

/-- the full-strength statement fails inside the excluded region: `k = 2, L = 4, S = 1`, an 8-byte
    file (exactly one row of large blocks, encoded as four small rows): the read of the whole file
    returns other bytes; the first byte of a 6-byte file cannot be read -/
theorem ec_read_exact_false_witness :
    rowCountAmbiguous 2 4 1 true 8 = true ∧
    ecRead 2 4 1 (layout 2 4 1 true [1, 2, 3, 4, 5, 6, 7, 8]) 0 8 = some [1, 3, 5, 7, 2, 4, 6, 8] ∧
    ecRead 2 4 1 (layout 2 4 1 true [1, 2, 3, 4, 5, 6]) 0 1 = none := by decide +kernel

/-- production instance: at the regenerated constants (1 GiB / 1 MiB, 10 data shards, the encoder's
    guard operator) every needle of a volume whose size is outside the ambiguous window is served exactly -/
theorem ec_read_exact_production (strict : Bool) (hs : genEncStrict = some strict) (D : List Nat) (off size : Nat)
    (hD : off + size ≤ D.length) (hg : rowCountAmbiguous genK genL genS strict D.length = false) :
    ecRead genK genL genS (layout genK genL genS strict D) off size = some ((D.drop off).take size) :=
  ec_read_exact_partial genK genL genS strict D off size bridge_constants_admissible.1 bridge_constants_admissible.2.1
    hD hg

/-- the ends of the ambiguous window at the production constants, at the first multiple of 10 GiB: it is the last
    20 MiB up to and including `10 GiB` (four sizes evaluated; `ambiguous_of_mod` covers the inside of the window at
    every multiple) -/
theorem ambiguous_window_production :
    rowCountAmbiguous genK genL genS true (10 * genL - 20 * genS) = false ∧
    rowCountAmbiguous genK genL genS true (10 * genL - 20 * genS + 1) = true ∧
    rowCountAmbiguous genK genL genS true (10 * genL) = true ∧
    rowCountAmbiguous genK genL genS true (10 * genL + 1) = false := by decide +kernel

/-! ### decoding the data shards gives back the data file

FULL-STRENGTH statement (DESIGN §5 `ec_decode_exact`):
  ∀ k L S D, decode k L S <decoder guard> (layout k L S <encoder guard> D) |D| = some D
HOLDS of the operators the code uses, both loops reading `>`: for positive `k`, `L`, `S` by
`ec_decode_exact_same_guard`, at the production constants and the extracted operators by `ec_decode_exact` below.

Finding WriteDatFile/large-row-guard-differs-from-encoder (fixed by /repo commit e82dce52): the decoder used `>=`
while the encoder used `>`, and the statement was false when `|D|` is a positive multiple of `k·L`.
`ec_decode_exact_partial`, `large_rows_agree` and `ec_decode_exact_false_witness` speak of THAT operator pair (the
model is parametric in the operators): they say what the repair removed and what a patch that re-introduces `>=`
would bring back. -/

/-- with the same guard operator on both sides the round trip is exact for EVERY file -/
theorem ec_decode_exact_same_guard (k L S : Nat) (strict : Bool) (D : List Nat)
    (hk : 0 < k) (hL : 0 < L) (hS : 0 < S) :
    decode k L S strict (layout k L S strict D) D.length = some D :=
  decode_laid (layout_laid k L S strict D hk hS) hL strict rfl

/-- `>` and `>=` count the same number of large rows except at positive multiples of `k·L` -/
theorem large_rows_agree (k L n : Nat) (hkL : 0 < k * L) (hx : ¬ (0 < n ∧ n % (k * L) = 0)) :
    nLargeRows k L false n = nLargeRows k L true n :=
  nLargeRows_agree k L n hkL hx

/-- the operators of the code BEFORE the repair (encoder strict, decoder inclusive): exact for every file whose
    size is not a positive multiple of `k·L` -/
theorem ec_decode_exact_partial (k L S : Nat) (D : List Nat) (hk : 0 < k) (hL : 0 < L) (hS : 0 < S)
    (hx : ¬ (0 < D.length ∧ D.length % (k * L) = 0)) :
    decode k L S false (layout k L S true D) D.length = some D :=
  decode_layout_guards k L S true false D hk hL hS (Or.inr hx)

example : ¬ (0 < (List.replicate 7 1).length ∧ (List.replicate 7 1).length % (2 * 4) = 0) := by decide +kernel

/-- with the pre-repair operator pair the excluded sizes really fail: `k = 2, L = 4, S = 1`, an 8-byte file
    (and with the repaired pair the same file decodes exactly) -/
theorem ec_decode_exact_false_witness :
    decode 2 4 1 false (layout 2 4 1 true [1, 2, 3, 4, 5, 6, 7, 8]) 8 = some [1, 3, 5, 7, 2, 4, 6, 8] ∧
    decode 2 4 1 true (layout 2 4 1 true [1, 2, 3, 4, 5, 6, 7, 8]) 8 = some [1, 2, 3, 4, 5, 6, 7, 8] := by decide +kernel

/-- production instance, parameterised by the operators read from the source: whatever the two
    extracted operators are, decoding is exact when they coincide, and otherwise for every size that
    is not a positive multiple of 10 GiB -/
theorem ec_decode_exact_production (es ds : Bool) (he : genEncStrict = some es) (hd : genDecStrict = some ds)
    (D : List Nat) (hx : es = ds ∨ ¬ (0 < D.length ∧ D.length % (genK * genL) = 0)) :
    decode genK genL genS ds (layout genK genL genS es D) D.length = some D :=
  decode_layout_guards genK genL genS es ds D bridge_constants_admissible.1 bridge_constants_admissible.2.2.1
    bridge_constants_admissible.2.1 hx

/-- the operators in the source today are both `>` (the decoder's since /repo commit e82dce52) -/
theorem guards_equal_today : genEncStrict = some true ∧ genDecStrict = some true :=
  ⟨bridge_enc_guard.2.2, bridge_dec_guard.2.2⟩

/-- FULL STRENGTH, no hypothesis on the file: at the constants and the two operators regenerated from the source,
    decoding the data shards of ANY data file `D` with its original size returns `D`.  `es`/`ds` are whatever the
    extractor read from encodeDatFile/WriteDatFile; `bridge_guards_equal` makes them the same operator and
    `ec_decode_exact_production` does the rest -/
theorem ec_decode_exact (es ds : Bool) (he : genEncStrict = some es) (hd : genDecStrict = some ds) (D : List Nat) :
    decode genK genL genS ds (layout genK genL genS es D) D.length = some D :=
  ec_decode_exact_production es ds he hd D (Or.inl (Option.some.inj (he ▸ hd ▸ bridge_guards_equal.1)))

/-- the hypotheses of `ec_decode_exact` are satisfied by the extracted operators; at a size the pre-repair code
    got wrong (`|D| = 10·genL`) `>` counts no large row and `>=` one, and both loops read `>` -/
example : genEncStrict = some true ∧ genDecStrict = some true ∧
    nLargeRows genK genL true (10 * genL) = 0 ∧ nLargeRows genK genL false (10 * genL) = 1 :=
  ⟨guards_equal_today.1, guards_equal_today.2, by decide +kernel, by decide +kernel⟩

/-! ### rebuilding lost shards, for any codec with the MDS property (hypothesis `MDS`; the concrete code has it on
byte columns, `rs_codec_mds` and `ec_rebuild_concrete` below; what stays trusted of the library: prop.json
trusted_base) -/

/-- any set of at most `m` lost shards is regenerated byte-identically: over every range of columns in
    which the `k + m` shards are codewords (that `encode` writes such columns is not proved), the Reconstruct step
    of rebuildEcFiles returns exactly the original columns, whatever shards were erased -/
theorem ec_rebuild (cd : Codec) (k m : Nat) (hmds : MDS cd k m)
    (shards : List (List Nat)) (mask : List Bool)
    (hmask : mask.length = k + m) (hlost : (mask.filter (· == false)).length ≤ m)
    (start cnt : Nat) (hcw : ∀ p, start ≤ p → p < start + cnt → IsCodewordAt cd k m shards p) :
    reconChunk cd (eraseShards shards mask) start cnt
      = some ((List.range cnt).map fun t => columnAt shards (start + t)) := by
  refine reconChunk_of_columns cd _ (columnAt shards) cnt start fun p h1 h2 => ?_
  obtain ⟨data, hd, hp, hcol⟩ := hcw p h1 h2
  rw [optColumn_erase, hcol]
  exact hmds data mask hd hp hmask hlost

/-- the MDS hypothesis is satisfiable (a 2-fold repetition code: k = 1, m = 1) -/
example : MDS { parity := fun d => d, recon := fun c => some (let x := (c.filterMap id).headD 0; c.map fun _ => x) } 1 1 := by
  intro data mask hd _ hm hl
  match data, mask, hd, hm with
  | [x], [b0, b1], _, _ =>
    cases b0 <;> cases b1 <;> simp_all [List.filter]

/-! ### the encoder model produces the layout the read path and the decoder were proved against -/

/-- encodeDatFile/encodeData/encodeDataOneBatch (two loops, batches of `buf` bytes, zero fill) write
    exactly the closed-form layout, for every file and every admissible geometry -/
theorem enc_layout (c : EncCfg) (D : List Nat)
    (hk : 0 < c.k) (hL : 0 < c.L) (hS : 0 < c.S) (hb : 0 < c.buf) (hbL : c.buf ∣ c.L) (hbS : c.buf ∣ c.S) :
    (List.range c.k).map (dataShard c D) = layout c.k c.L c.S c.strict D := by
  unfold layout
  apply List.map_congr_left
  intro i _
  exact dataShard_eq_layout c D i hk hL hS hb hbL hbS

example : (0 < 10 ∧ 0 < 50 ∧ 0 < 10 ∧ 0 < 5) ∧ (5 ∣ 50) ∧ (5 ∣ 10) := by decide +kernel

/-- read path over the shards the ENCODER MODEL writes -/
theorem ec_read_exact_encoded_partial (c : EncCfg) (D : List Nat) (off size : Nat)
    (hk : 0 < c.k) (hL : 0 < c.L) (hS : 0 < c.S) (hb : 0 < c.buf) (hbL : c.buf ∣ c.L) (hbS : c.buf ∣ c.S)
    (hD : off + size ≤ D.length) (hg : rowCountAmbiguous c.k c.L c.S c.strict D.length = false) :
    ecRead c.k c.L c.S ((List.range c.k).map (dataShard c D)) off size = some ((D.drop off).take size) := by
  rw [enc_layout c D hk hL hS hb hbL hbS]
  exact ec_read_exact_partial c.k c.L c.S c.strict D off size hk hS hD hg

/-- decoder (guard operator `ds`) over the shards the ENCODER MODEL writes -/
theorem ec_decode_exact_encoded_partial (c : EncCfg) (ds : Bool) (D : List Nat)
    (hk : 0 < c.k) (hL : 0 < c.L) (hS : 0 < c.S) (hb : 0 < c.buf) (hbL : c.buf ∣ c.L) (hbS : c.buf ∣ c.S)
    (hx : c.strict = ds ∨ ¬ (0 < D.length ∧ D.length % (c.k * c.L) = 0)) :
    decode c.k c.L c.S ds ((List.range c.k).map (dataShard c D)) D.length = some D := by
  rw [enc_layout c D hk hL hS hb hbL hbS]
  exact decode_layout_guards c.k c.L c.S c.strict ds D hk hL hS hx

/-- the production call `generateEcFiles(base, 256*1024, ErasureCodingLargeBlockSize, ErasureCodingSmallBlockSize)`
    satisfies the hypotheses of `enc_layout` -/
theorem enc_layout_production (strict : Bool) (D : List Nat) :
    (List.range genK).map (dataShard ⟨genK, genL, genS, 256 * 1024, strict⟩ D) = layout genK genL genS strict D :=
  enc_layout ⟨genK, genL, genS, 256 * 1024, strict⟩ D bridge_constants_admissible.1 bridge_constants_admissible.2.2.1
    bridge_constants_admissible.2.1 (show 0 < 256 * 1024 by decide)
    (Nat.dvd_trans bridge_constants_admissible.2.2.2.2 bridge_constants_admissible.2.2.2.1) bridge_constants_admissible.2.2.2.2

/-- FULL STRENGTH over the shards the ENCODER MODEL writes with the production call
    `generateEcFiles(base, 256*1024, ErasureCodingLargeBlockSize, ErasureCodingSmallBlockSize)` and the extracted
    operators: the decoder returns the data file, for every data file -/
theorem ec_decode_exact_encoded (es ds : Bool) (he : genEncStrict = some es) (hd : genDecStrict = some ds) (D : List Nat) :
    decode genK genL genS ds ((List.range genK).map (dataShard ⟨genK, genL, genS, 256 * 1024, es⟩ D)) D.length = some D := by
  rw [enc_layout_production es D]
  exact ec_decode_exact es ds he hd D

/-! ### the concrete Reed–Solomon code: MDS is a theorem, not an assumption

`rsParity` (SwV/Model/C06RS.lean) is the parity part of the encoding matrix of `reedsolomon.New(10, 4)`; the
harness recovers the matrix from the real library (encoding the ten unit vectors) and the driver compares it
with `rsParity` on every run (`config` line).  GF(2^8) is the model's `gfMul` (polynomial 0x11D), whose ring
laws are proved in SwV/Lemmas/C06RS.lean and collected in `gf256_laws` below (no law about inverses: the proofs
take every inverse matrix they need as a checked certificate). -/

/-- the literal matrix is what `buildMatrix(10, 14)` constructs: vandermonde(14,10) · (top square)⁻¹, computed
    here with the model's GF(2^8) arithmetic and Gauss–Jordan inversion -/
theorem rs_matrix_is_buildMatrix : rsMatrixBuilt = some (generator 10 rsParity) := by decide +kernel

/-- GF(2^8) multiplication of the model is commutative, associative, distributes over xor, has unit 1 — on bytes -/
theorem gf256_laws (a b c : Nat) (ha : a < 256) (hb : b < 256) (hc : c < 256) :
    gfMul a b = gfMul b a ∧ gfMul a (gfMul b c) = gfMul (gfMul a b) c ∧
    gfMul a (b ^^^ c) = gfMul a b ^^^ gfMul a c ∧ gfMul 1 a = a ∧ gfMul a b < 256 :=
  ⟨gfMul_comm a b ha hb, gfMul_assoc a b c ha hb, gfMul_add_right a b c, gfMul_one_left a ha, gfMul_lt a b ha⟩

/-- MDS, matrix form: for EVERY erasure pattern that loses at most 4 of the 14 shards (all 1471 patterns, i.e.
    every 10-row subset of the 14×10 generator matrix, C(14,10) = 1001 of them, arises as `selectedRows`), the ten
    selected rows of `[I ; rsParity]` have a left inverse over GF(2^8): a byte matrix `inv` of ten rows with
    `inv · rows = I`, hence `inv · (rows · d) = d` for every data column `d` of ten bytes -/
theorem rs_mds (mask : List Bool) (hm : mask.length = 14) (hl : (mask.filter (· == false)).length ≤ 4) :
    ∃ inv : List (List Nat),
      (selectedRows mask).length = 10 ∧ (∀ row ∈ inv, IsBytes row) ∧
      inv.map (fun row => vecMat 10 row (selectedRows mask)) = (List.range 10).map (identityRow 10) ∧
      ∀ d : List Nat, d.length = 10 → IsBytes d → matVec inv (matVec (selectedRows mask) d) = d := by
  obtain ⟨c, _, hc⟩ := certDM_spec mask hm hl
  obtain ⟨h1, _, h3⟩ := (checkCert_iff mask c).mp hc
  exact ⟨unpackInv c, h1, unpackInv_bytes c, h3, certInverse_cancel mask c hc⟩

/-- MDS, as the design states it: any 10 of the 14 bytes of a codeword column determine the data column (and
    with it the other 4 bytes) -/
theorem rs_any_ten_determine (d d' : List Nat) (hd : d.length = 10) (hd' : d'.length = 10)
    (hb : IsBytes d) (hb' : IsBytes d') (mask : List Bool) (hm : mask.length = 14)
    (hl : (mask.filter (· == false)).length ≤ 4)
    (hagree : ∀ i, mask.getD i false = true →
      (d ++ matVec rsParity d).getD i 0 = (d' ++ matVec rsParity d').getD i 0) : d = d' := by
  -- both columns are the certified inverse applied to the bytes at the ten selected positions
  obtain ⟨c, _, hc⟩ := certDM_spec mask hm hl
  rw [← certInverse_cancel mask c hc d hd hb, ← certInverse_cancel mask c hc d' hd' hb',
    selectedRows_apply d hd hb, selectedRows_apply d' hd' hb']
  congr 1
  exact List.map_congr_left fun i hi => hagree i (mem_firstPresent 10 mask i hi)

/-- the assumption `MDS` of `ec_rebuild`, proved for the concrete codec on byte columns: the model decoder
    (`gfRecon`, the one the driver runs against `Reconstruct`, with the certified decoding matrix) returns the
    whole codeword from any erasure pattern losing at most 4 shards -/
theorem rs_codec_mds : MDSBytes rsCodec 10 4 := rsCodec_mdsBytes

/-- `ec_rebuild` WITHOUT the MDS hypothesis: for the concrete Reed–Solomon codec any set of at most 4 lost shards
    is regenerated byte-identically over every range of columns in which the 14 shards are codewords of bytes -/
theorem ec_rebuild_concrete (shards : List (List Nat)) (mask : List Bool)
    (hmask : mask.length = 14) (hlost : (mask.filter (· == false)).length ≤ 4)
    (start cnt : Nat) (hcw : ∀ p, start ≤ p → p < start + cnt → IsByteCodewordAt rsCodec 10 4 shards p) :
    reconChunk rsCodec (eraseShards shards mask) start cnt
      = some ((List.range cnt).map fun t => columnAt shards (start + t)) := by
  refine reconChunk_of_columns rsCodec _ (columnAt shards) cnt start fun p h1 h2 => ?_
  obtain ⟨data, hd, hb, hp, hcol⟩ := hcw p h1 h2
  rw [optColumn_erase, hcol]
  exact rsCodec_mdsBytes data mask hd hb hp hmask hlost

/-- non-vacuity: a column of bytes with its parity is a byte codeword; a 4-shard loss; and the decoder run -/
example : IsByteCodewordAt rsCodec 10 4
    ((([1, 2, 3, 4, 5, 6, 7, 8, 9, 10] : List Nat) ++ matVec rsParity [1, 2, 3, 4, 5, 6, 7, 8, 9, 10]).map fun x => [x]) 0 :=
  ⟨[1, 2, 3, 4, 5, 6, 7, 8, 9, 10], rfl, by decide +kernel, by decide +kernel, by decide +kernel⟩
example : ([false, true, false, true, true, false, true, true, true, true, true, true, false, true].filter (· == false)).length ≤ 4 := by
  decide +kernel
set_option maxRecDepth 100000 in
example : rsCodec.recon (eraseCol ([1, 2, 3, 4, 5, 6, 7, 8, 9, 10] ++ matVec rsParity [1, 2, 3, 4, 5, 6, 7, 8, 9, 10])
      [false, true, false, true, true, false, true, true, true, true, true, true, false, true])
    = some ([1, 2, 3, 4, 5, 6, 7, 8, 9, 10] ++ matVec rsParity [1, 2, 3, 4, 5, 6, 7, 8, 9, 10]) :=
  rsCodec_mdsBytes [1, 2, 3, 4, 5, 6, 7, 8, 9, 10] _ rfl (by decide) rfl rfl (by decide)

/-! ### the rebuilder's chunk loop (shards larger than one rebuild buffer)

rebuildEcFiles reads, reconstructs and writes `C = ErasureCodingSmallBlockSize` bytes per iteration.  For shards
far above `C` the driver follows the loop on the shard LENGTHS (`rebuildLen`; each chunk's content is covered by
`ec_rebuild_concrete`), and the harness reports per regenerated shard its length and one equality flag per chunk
of the ORIGINAL shard file; `rebuildChunksJudge` is the judge "regenerated byte-identically" over such a report. -/

/-- the length-level read phase is the read phase of the byte-level model `rebuild` -/
theorem rebuild_reads_len (C start : Nat) (present : List (Option (List Nat))) (ibds : Nat) :
    rebuildReads C start present ibds = rebuildReadsLen C start (present.map (·.map List.length)) ibds := by
  induction present generalizing ibds with
  | nil => rfl
  | cons o rest ih =>
    cases o with
    | none => simpa [rebuildReads, rebuildReadsLen] using ih ibds
    | some sh =>
      simp only [rebuildReads, rebuildReadsLen, List.map_cons, Option.map_some, ih]

/-- shard files of one common length that is a multiple of the chunk size (every production shard: `nL·L + nS·S`
    with `C = S ∣ L`), at least `k` (> 0) of them present, ANY number of chunks `q`: the loop ends without error having
    written exactly the original length to every regenerated shard — and the report the model then predicts
    (original length, every chunk equal) is accepted by the chunk judge for every set of lost shards -/
theorem rebuild_chunks_model_passes (k m C q : Nat) (mask : List Bool) (lost : List Nat) (hC : 0 < C) (hk0 : 0 < k)
    (hk : k ≤ (mask.filter id).length) :
    rebuildLen k C (uniformLens (q * C) mask) = some (q * C) ∧
    rebuildChunksJudge m C (q * C) lost true (lost.map fun _ => (q * C, List.replicate q true)) = none :=
  ⟨rebuildLen_uniform k C q mask hC hk0 hk, by simp [rebuildChunksJudge]⟩

/-- non-vacuity: chunk size 4, `k = 10`, shards 0 and 12 lost of 14 -/
example : (0 < 4 ∧ 0 < 10) ∧
    10 ≤ (([false, true, true, true, true, true, true, true, true, true, true, true, false, true] : List Bool).filter id).length := by
  decide +kernel

/-- the judge is not vacuous: a regenerated shard whose second and third chunk repeat the first (right length, first
    flag set, the others not — what a rebuild that keeps reconstructed buffers across iterations writes), a short
    one, a report that does not cover the whole shard and a call that failed are all rejected; the exact one passes -/
example : rebuildChunksJudge 4 4 12 [0, 12] true [(12, [true, true, true]), (12, [true, false, false])]
    = some "rebuildEcFiles/regenerated-differs-after-first-chunk" := by decide +kernel
example : rebuildChunksJudge 4 4 12 [0] true [(4, [true, false, false])] = some "rebuildEcFiles/regenerated-length-differs" := by decide +kernel
example : rebuildChunksJudge 4 4 12 [0] true [(12, [true])] = some "rebuildEcFiles/regenerated-not-fully-compared" := by decide +kernel
example : rebuildChunksJudge 4 4 12 [0] false [] = some "rebuildEcFiles/regenerated-differs" := by decide +kernel
example : rebuildChunksJudge 4 4 12 [0, 12] true [(12, [true, true, true]), (12, [true, true, true])] = none := by decide +kernel

end SwV.Props.C06
