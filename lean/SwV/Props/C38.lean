/-
C38 — concurrent volume operations are linearizable per file id.

The content is C01 (every admissible sequential history of the model is a history of the key-value
specification) plus the ATOMICITY ASSUMPTION: every call takes effect in one atomic step
(`dataFileAccessLock`, taken inside syncWrite / syncDelete / readNeedle; the batched worker applies
its whole batch inside one critical section) at some instant between its invocation and its
response.  `atomic_steps_linearizable` is deliberately thin: GIVEN atomic steps, the order of the
steps is a linearization.  The assumption itself is validated at run time (Drv/C38.lean searches a
linearization of recorded histories from the real Store with the model's step function), and is known
to fail for HTTP DELETE, whose handler reads and then deletes in two critical sections (finding
`history/http-delete-read-then-delete-not-atomic`, see `Spec.C38.relaxHttpDelete`).

The second half of the file is about that search: the driver runs it per file id, and
`linearizable_of_per_key` proves that per-id linearizations make one of the whole history.
-/
import SwV.Props.C01
import SwV.Lemmas.C38b
import SwV.Gen.C38

namespace SwV.Props.C38
open SwV.Model.C01 SwV.Spec.C01 SwV.Lemmas.C01 SwV.Spec.C38 SwV.Props.C01

/-- one completed call of a concurrent execution: who, what, the output it returned, and the
    instants of invocation, of its atomic step, and of its response -/
structure Call where
  client : Nat
  op  : Op
  out : MOut
  inv : Nat
  lin : Nat
  ret : Nat

/-- An execution with atomic steps, listed in the order of the steps: the steps happen at
    distinct increasing instants, each inside its call's interval, and every call returned
    the output its step produced when the steps are applied to the volume in that order. -/
def AtomicRun (st0 : Vol) (calls : List Call) : Prop :=
  calls.Pairwise (fun a b => a.lin < b.lin) ∧
  (∀ a ∈ calls, a.inv < a.lin ∧ a.lin < a.ret) ∧
  (run st0 (calls.map (·.op))).2 = calls.map (·.out)

/-- real-time order: whenever call i had returned before call j was invoked, i comes first -/
def RespectsRealTime (calls : List Call) : Prop :=
  ∀ i j (hi : i < calls.length) (hj : j < calls.length), calls[i].ret < calls[j].inv → i < j

/-- Every interleaving of atomic steps of concurrent clients is a sequential history that
    respects real-time order; outside the C01 exclusions it is a history of the key-value
    SPECIFICATION and the volume's final contents are the specification's final state. -/
theorem atomic_steps_linearizable (st0 : Vol) (hI : Inv st0) (calls : List Call) (h : AtomicRun st0 calls) :
    RespectsRealTime calls ∧
    (Admissible (abs st0) (calls.map (·.op)) →
      (srun (abs st0) (calls.map (·.op))).2 = calls.map (fun a => absOut a.out) ∧
      abs (run st0 (calls.map (·.op))).1 = (srun (abs st0) (calls.map (·.op))).1) := by
  obtain ⟨hsorted, hint, hout⟩ := h
  constructor
  · intro i j hi hj hlt
    have hi' := hint calls[i] (List.getElem_mem hi)
    have hj' := hint calls[j] (List.getElem_mem hj)
    rcases Nat.lt_trichotomy i j with hij | hij | hij
    · exact hij
    · subst hij; omega
    · have := (List.pairwise_iff_getElem.mp hsorted) j i hj hi hij
      omega
  · intro hA
    obtain ⟨_, hs, ho⟩ := volume_refines_kv_partial (calls.map (·.op)) st0 hI hA
    refine ⟨?_, hs⟩
    rw [← ho, hout, List.map_map]
    rfl

/-- the hypotheses are satisfiable: two overlapping calls whose steps happen in the order write, read -/
example : AtomicRun (Vol.init (0, 0))
    [⟨1, .write 1 7 { data := "61" }, .w (.ok false), 1, 3, 6⟩,
     ⟨2, .read 1 7, .r (.ok 1 7 6 { data := "61" }), 2, 4, 5⟩] :=
  ⟨by decide, by decide, by decide⟩

/-- a sequential execution (each call returns before the next is invoked) is linearized in its
    own order: the real-time clause then pins the order completely -/
theorem sequential_history_is_its_own_linearization (calls : List Call)
    (hseq : calls.Pairwise (fun a b => a.ret < b.inv)) (hint : ∀ a ∈ calls, a.inv < a.lin ∧ a.lin < a.ret) :
    calls.Pairwise (fun a b => a.lin < b.lin) := by
  refine hseq.imp_of_mem fun {a b} ha hb h => ?_
  have ha' := hint a ha
  have hb' := hint b hb
  omega

/-- the search used on recorded histories answers `found` on an empty history, whatever the fuel:
    with no pending call there is nothing to order -/
theorem linearize_empty {σ : Type} (stepf : σ → Op → σ × List String) (okf : Rcd → List String → Bool)
    (st0 : σ) (fuel : Nat) : linearize stepf okf st0 [] fuel = .found := by
  simp [linearize, search]

/-! ## T1 bridges for the ATOMICITY ASSUMPTION (props/C38/extract.json → `SwV.Gen.C38`)

The step function itself (`doWriteRequest`, `doDeleteRequest`, `readNeedle`, `isFileUnchanged`) is bridged in
`SwV.Props.C01` (imported above; its `SwV.Gen.C01` is regenerated through props/C01/extract.json).  What C38
adds is WHERE those steps run: under `dataFileAccessLock` in `syncWrite` / `syncDelete`, and for the batched (fsync) path inside
the single critical section of `startWorker`.  Lock placement is not an expression the extractor can name, so
it is pinned by the hash of the whole (short) functions: moving an `Unlock`, adding a lock-free fast path or
releasing the lock around `Sync()` breaks `bridge_atomicity_pins`. -/

/-- which path a call takes and what the batch worker applies to each request -/
theorem bridge_worker_steps :
    SwV.Gen.C38.write_path_choice = "!fsync" ∧
    SwV.Gen.C38.worker_empty_batch = "len(currentRequests) == 0" ∧
    SwV.Gen.C38.worker_is_write = "currentRequests[i].IsWriteRequest" ∧
    SwV.Gen.C38.worker_write_arg = "currentRequests[i].N" ∧
    SwV.Gen.C38.worker_delete_arg = "currentRequests[i].N" ∧
    SwV.Gen.C38.worker_rollback_cond = "currentRequests[i].IsSucceed()" :=
  ⟨rfl, rfl, rfl, rfl, rfl, rfl⟩

/-- the functions that hold `dataFileAccessLock` around the atomic step (`syncWrite`, `syncDelete`, `startWorker`)
    and those that route a call to them -/
theorem bridge_atomicity_pins :
    SwV.Gen.C38.src_syncWrite = "474a364d8c232e39" ∧ SwV.Gen.C38.src_syncDelete = "fda0258c18889fe6" ∧
    SwV.Gen.C38.src_writeNeedle2 = "5a500af09b68573a" ∧ SwV.Gen.C38.src_deleteNeedle2 = "c119c730acc1e08e" ∧
    SwV.Gen.C38.src_startWorker = "34ecf45dfe50dd6b" ∧ SwV.Gen.C38.src_asyncRequestAppend = "808761d9be4fb006" :=
  ⟨rfl, rfl, rfl, rfl, rfl, rfl⟩

/-- the step functions applied inside those critical sections are the ones bridged for C01 -/
theorem bridge_step_functions :
    SwV.Gen.C01.src_doWriteRequest = "673b0ac565c7bfce" ∧ SwV.Gen.C01.src_doDeleteRequest = "bb4f3b7b20271c7d" ∧
    SwV.Gen.C01.src_readNeedle = "f3764387cee126f8" ∧ SwV.Gen.C01.src_isFileUnchanged = "9b0c84174250e52d" :=
  ⟨rfl, rfl, rfl, rfl⟩

/-! ## the per-key decomposition of the run-time search is sound

The driver does not search one linearization of a whole recorded history; for every file id `k` it runs
`linearize modelStep strict (Vol.init _) (subHistory calls k)` and accepts when each answers `found`.
`linearizable_of_per_key` proves that this accept condition yields a linearization of the WHOLE history: a step
on id `a` leaves the view of every other id unchanged and its own output and new view depend on the old view of
`a` only, an accepting search run is an explicit linearization of its input, and the per-key orders are merged
by invocation stamp of their heads.

Hypotheses = what the driver checks on every history (`bad-stamps`, `global-toggle-in-history`) plus distinct line
numbers, which hold by construction (`line := n`). -/

open SwV.Lemmas.C38

theorem frame_and_locality_spec : Local sstep sview (fun _ => True) := local_sstep

/-- FRAME and LOCALITY for the C01 model's step function with token outputs (the oracle of the search) -/
theorem frame_and_locality_model : Local modelStep mview minv := local_modelStep

/-- operations on different file ids commute in the C01 specification: same outputs in either order and the same
    resulting entry for every id (and the same flags) -/
theorem ops_on_different_ids_commute (s : KV) (o1 o2 : Op) (h1 : keyed o1 = true) (h2 : keyed o2 = true)
    (hne : opId o1 ≠ opId o2) :
    (sstep s o1).2 = (sstep (sstep s o2).1 o1).2 ∧ (sstep (sstep s o1).1 o2).2 = (sstep s o2).2 ∧
    ∀ k, sview (sstep (sstep s o1).1 o2).1 k = sview (sstep (sstep s o2).1 o1).1 k :=
  commute_of_local local_sstep s trivial o1 o2 h1 h2 hne

example : keyed (.write 1 7 { data := "61" }) = true ∧ keyed (.delete 2 0) = true ∧
    opId (.write 1 7 { data := "61" }) ≠ opId (.delete 2 0) := by decide

/-- the same for the model (observed through the per-id view) -/
theorem model_ops_on_different_ids_commute (st : Vol) (hI : minv st) (o1 o2 : Op) (h1 : keyed o1 = true)
    (h2 : keyed o2 = true) (hne : opId o1 ≠ opId o2) :
    (modelStep st o1).2 = (modelStep (modelStep st o2).1 o1).2 ∧
    (modelStep (modelStep st o1).1 o2).2 = (modelStep st o2).2 ∧
    ∀ k, mview (modelStep (modelStep st o1).1 o2).1 k = mview (modelStep (modelStep st o2).1 o1).1 k :=
  commute_of_local local_modelStep st hI o1 o2 h1 h2 hne

example : minv (Vol.init (0, 0)) := minv_init _

/-- an accepting search run on calls with distinct line numbers IS a linearization: a permutation of the calls in
    which whoever comes first was invoked before the later one returned, and in which `okf` accepts the oracle's
    output for every call (`strict`: the oracle reproduces the recorded output) -/
theorem search_accept_is_linearization {σ : Type} (stepf : σ → Op → σ × List String) (okf : Rcd → List String → Bool)
    (st0 : σ) (calls : List Rcd) (fuel : Nat) (hd : DistinctLines calls)
    (h : linearize stepf okf st0 calls fuel = .found) : ∃ order, IsLin stepf okf st0 calls order :=
  linearize_sound stepf okf st0 calls fuel hd h

/-- COMPOSITION (locality of linearizability): if the search accepts the sub-history of every file id, the whole
    history has a linearization — for every okf (strict, or strict-or-wildcard). -/
theorem linearizable_of_per_key (okf : Rcd → List String → Bool) (ttl : Nat × Nat) (calls : List Rcd) (fuel : Nat)
    (hstamps : ∀ c ∈ calls, c.inv < c.ret) (hkeyed : ∀ c ∈ calls, keyed c.op = true) (hlines : DistinctLines calls)
    (hacc : ∀ k ∈ keysOf calls, linearize modelStep okf (Vol.init ttl) (subHistory calls k) fuel = .found) :
    ∃ order, IsLin modelStep okf (Vol.init ttl) calls order := by
  apply compose local_modelStep okf (Vol.init ttl) (minv_init ttl) calls hstamps hkeyed
  intro k
  by_cases hk : k ∈ keysOf calls
  · exact linearize_sound _ _ _ _ fuel (distinct_filter calls _ hlines) (hacc k hk)
  · rw [subHistory_nil_of_not_mem calls k hk]
    exact ⟨[], isLin_nil _ _ _⟩

/-- conversely a linearization of the whole history restricts to one of every sub-history, so a sub-history
    WITHOUT linearization refutes linearizability of the whole.  The driver reports `history/not-linearizable`
    (or the HTTP DELETE finding, when the relaxed history linearizes) for a key when the search answers `notFound`;
    that the search is complete is trusted, not proved. -/
theorem per_key_of_linearizable (okf : Rcd → List String → Bool) (ttl : Nat × Nat) (calls order : List Rcd)
    (hkeyed : ∀ c ∈ calls, keyed c.op = true) (h : IsLin modelStep okf (Vol.init ttl) calls order) (k : Nat) :
    IsLin modelStep okf (Vol.init ttl) (subHistory calls k) (subHistory order k) :=
  project local_modelStep okf (Vol.init ttl) (minv_init ttl) calls order hkeyed h k

theorem linearization_respects_real_time {σ : Type} {stepf : σ → Op → σ × List String} {okf : Rcd → List String → Bool}
    {st0 : σ} {calls order : List Rcd} (h : IsLin stepf okf st0 calls order) :
    order.Pairwise (fun c d => ¬ d.ret < c.inv) :=
  List.Pairwise.imp Nat.lt_asymm h.rt

def hw : Rcd := ⟨1, 1, 6, .write 1 7 { data := "61" }, ["ok", "0"], 1⟩
def hr : Rcd := ⟨2, 2, 5, .read 1 7, (modelStep (modelStep (Vol.init (0, 0)) hw.op).1 (.read 1 7)).2, 2⟩
def hd2 : Rcd := ⟨3, 3, 4, .delete 2 0, ["ok", "0"], 3⟩

/-- the hypotheses are satisfiable: two overlapping calls on id 1, one on id 2 -/
example : (∀ c ∈ [hw, hr, hd2], c.inv < c.ret) ∧ (∀ c ∈ [hw, hr, hd2], keyed c.op = true) ∧ DistinctLines [hw, hr, hd2] ∧
    keysOf [hw, hr, hd2] = [1, 2] := by
  refine ⟨by decide, by decide, by unfold DistinctLines; decide, by decide⟩
/-- … and on that history the search accepts every sub-history (the accept condition of `linearizable_of_per_key`) -/
example : ∀ k ∈ keysOf [hw, hr, hd2], linearize modelStep strict (Vol.init (0, 0)) (subHistory [hw, hr, hd2] k) 10 = .found := by
  have hk : keysOf [hw, hr, hd2] = [1, 2] := by decide
  rw [hk]
  intro k hkm
  simp only [List.mem_cons, List.not_mem_nil, or_false] at hkm
  rcases hkm with rfl | rfl
  · have : subHistory [hw, hr, hd2] 1 = [hw, hr] := by rfl
    rw [this]
    simp [linearize, search, search.tryAll, minimal, hw, hr, strict, modelStep]
    rw [if_pos (by decide)]
  · have : subHistory [hw, hr, hd2] 2 = [hd2] := by rfl
    rw [this]
    simp [linearize, search, search.tryAll, minimal, hd2, strict, modelStep]
    rw [if_pos (by decide)]

end SwV.Props.C38
