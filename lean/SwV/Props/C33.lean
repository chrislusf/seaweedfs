/-
C33 — theorems.  `fetch_eq_original`: for EVERY data, file name, mime type, cipher flag and every outcome of the
stdlib sniffers, what `ReadUrlAsStream` returns for the upload made by `doUploadData` is the original (full fetch) or the
requested slice of it (ranged fetch of a non-empty range inside the original), and the reported size is the
original's length — relative to the codec laws
(gunzip ∘ gzip = id, gzip output carries the magic, dec ∘ enc = id) and an honest `isInputCompressed` flag.
The clause "decompressing arbitrary input never crashes" is not a statement about this model (library memory
safety): bounded fuzzing in the harness only.
-/
import SwV.Model.C33
import SwV.Spec.C33
import SwV.Gen.C33
namespace SwV.Props.C33
open SwV.Model.C33 SwV.Spec.C33

theorem isGz_ne_nil {x : Bytes} (h : isGz x = true) : x.isEmpty = false := by
  cases x with
  | nil => simp [isGz] at h
  | cons a r => rfl

theorem decompress_gzip (c : Codec) (L : CodecLaws c) (x : Bytes) : decompress c (c.gzip x) = (x, true) := by
  simp [decompress, L.magic_gzip, L.gunzip_gzip]

theorem decompress_not_gz (c : Codec) {x : Bytes} (h : isGz x = false) : decompress c x = (x, false) := by
  simp [decompress, h]

theorem serverGet_plain (c : Codec) {body : Bytes} {nm ct em : List Char} (acc : Bool) :
    serverGet c (serverStore body nm ct em false) acc = (body, false) := by
  simp [serverGet, serverStore]

theorem serverGet_gzip (c : Codec) (L : CodecLaws c) {x : Bytes} {nm ct em : List Char} (acc : Bool) :
    serverGet c (serverStore (c.gzip x) nm ct em true) acc = if acc then (c.gzip x, true) else (x, false) := by
  cases acc <;> simp [serverGet, serverStore, isGz_ne_nil (L.magic_gzip x), L.magic_gzip, decompress_gzip c L]

theorem serverGet_not_gz (c : Codec) {body : Bytes} {nm ct em : List Char} (h : isGz body = false) (acc : Bool) :
    serverGet c (serverStore body nm ct em true) acc = (body, false) := by
  simp only [serverGet, serverStore, h, Bool.and_false, Bool.false_eq_true, if_false, decompress_not_gz c h]
  split <;> rfl

/-- a GET of the stored needle yields `x`: as it is without `Accept-Encoding: gzip`, and with it either as it is or as
    gzip of `x` under `Content-Encoding: gzip` -/
def Serves (c : Codec) (st : Stored) (x : Bytes) : Prop :=
  serverGet c st false = (x, false) ∧ (serverGet c st true = (x, false) ∨ serverGet c st true = (c.gzip x, true))

theorem Serves.of_eq {c : Codec} {st : Stored} {x : Bytes} (h : ∀ acc, serverGet c st acc = (x, false)) : Serves c st x :=
  ⟨h false, .inl (h true)⟩

theorem serves_gzip (c : Codec) (L : CodecLaws c) {x : Bytes} {nm ct em : List Char} :
    Serves c (serverStore (c.gzip x) nm ct em true) x :=
  ⟨serverGet_gzip c L .., .inr (serverGet_gzip c L ..)⟩

/-- a fetch without a key, from a server that hands back `x` — gzipped only to a client that accepts it -/
theorem fetch_of_serves (c : Codec) (L : CodecLaws c) {o : UpOut} {x : Bytes} (hk : o.hasKey = false)
    (hs : Serves c o.stored x) :
    fetch c o .full = some x ∧
    ∀ off size, 0 < size → off + size ≤ x.length → fetch c o (.range off size) = some ((x.drop off).take size) := by
  obtain ⟨h0, h1⟩ := hs
  constructor
  · rcases h1 with h1 | h1 <;> simp [fetch, hk, h1, L.gunzip_gzip]
  · intro off size hs hb
    simp only [fetch, hk, h0, Bool.false_eq_true, if_false]
    exact if_neg (by omega)

theorem decide1_inputCompressed (i : UpIn) (h : i.inputCompressed = true) : decide1 i = (i.mime, false) := by
  simp [decide1, h]

/-- an honest upload without a cipher leaves the server serving the original: it stores the original as it is, its gzip
    form, or — flagged compressed — bytes that do not look like gzip; the size it reports is the original's -/
theorem upload_plain (c : Codec) (L : CodecLaws c) (i : UpIn) (hc : i.cipher = false) (hon : Honest c i) :
    (upload c i).hasKey = false ∧ (upload c i).size = (original c i).length ∧
    Serves c (upload c i).stored (original c i) := by
  cases hic : i.inputCompressed
  · -- the uploader decides
    have horig : original c i = i.data := by simp [original, hic]
    rw [horig]
    cases hd : decide1 i with
    | mk mtype sg =>
      cases sg <;> simp only [upload, hd, hc, hic, Bool.false_and, Bool.true_and, Bool.not_false, Bool.or_self,
        Bool.false_or, Bool.false_eq_true, if_true, if_false]
      · exact ⟨trivial, trivial, .of_eq (serverGet_plain c)⟩
      · exact ⟨trivial, trivial, serves_gzip c L⟩
  · -- the caller says: already compressed
    have hd := decide1_inputCompressed i hic
    rcases hon hic with ⟨o, ho⟩ | hng
    · have horig : original c i = o := by simp [original, hic, ho, decompress_gzip c L]
      rw [horig]
      simp only [upload, hd, hc, hic, ho, decompress_gzip c L, Bool.false_and, Bool.or_false, Bool.false_eq_true,
        if_true, if_false]
      exact ⟨trivial, trivial, serves_gzip c L⟩
    · have horig : original c i = i.data := by simp [original, hic, decompress_not_gz c hng]
      rw [horig]
      simp only [upload, hd, hc, hic, decompress_not_gz c hng, Bool.false_and, Bool.or_false, Bool.false_eq_true,
        if_true, if_false]
      exact ⟨trivial, trivial, .of_eq (serverGet_not_gz c hng)⟩

/-- a cipher upload stores the encrypted original, never gzipped -/
theorem upload_cipher (c : Codec) (L : CodecLaws c) (i : UpIn) (hc : i.cipher = true) (hon : Honest c i) :
    upload c i = { size := (original c i).length, gzip := false, hasKey := true, name := i.name, mime := (decide1 i).1,
                   stored := serverStore (c.enc (original c i)) [] [] [] false } := by
  cases hic : i.inputCompressed
  · cases hd : decide1 i with
    | mk mtype sg => simp [original, upload, hd, hc, hic]
  · have hd := decide1_inputCompressed i hic
    rcases hon hic with ⟨o, ho⟩ | hng
    · simp [original, upload, hd, hc, hic, ho, decompress_gzip c L]
    · simp [original, upload, hd, hc, hic, decompress_not_gz c hng]

theorem fetch_eq_original (c : Codec) (L : CodecLaws c) (i : UpIn) (hon : Honest c i) :
    (upload c i).size = (original c i).length ∧
    fetch c (upload c i) .full = some (original c i) ∧
    ∀ off size, 0 < size → off + size ≤ (original c i).length →
      fetch c (upload c i) (.range off size) = some (((original c i).drop off).take size) := by
  cases hc : i.cipher
  · obtain ⟨hk, hsize, hs⟩ := upload_plain c L i hc hon
    exact ⟨hsize, fetch_of_serves c L hk hs⟩
  · rw [upload_cipher c L i hc hon]
    simp only [fetch, if_true, serverGet_plain, Bool.false_eq_true, if_false, L.dec_enc]
    refine ⟨trivial, trivial, fun off size _ hb => ?_⟩
    have : ¬ (original c i).length < off + size := Nat.not_lt_of_le hb
    simp [this]

/-- the hypotheses are satisfiable: a codec obeying the laws -/
def tagCodec : Codec :=
  { gzip := fun x => 31 :: 139 :: x,
    gunzip := fun x => match x with | 31 :: 139 :: r => some r | _ => none,
    enc := fun x => 255 :: x,
    dec := fun x => match x with | 255 :: r => some r | _ => none }

theorem tagCodec_laws : CodecLaws tagCodec := ⟨fun _ => rfl, fun _ => rfl, fun _ => rfl⟩

example : Honest tagCodec ⟨"a.txt".toList, [], false, false, [1, 2, 3], "text/plain; charset=utf-8".toList, [], false⟩ := by
  intro h; cases h

/-- the size reported for an honest upload is the original's length even when the stored bytes are the gzip form -/
theorem reported_size (c : Codec) (L : CodecLaws c) (i : UpIn) (hon : Honest c i) :
    (upload c i).size = (original c i).length := (fetch_eq_original c L i hon).1

/-- a cipher upload is never marked gzip, and the needle it stores is not flagged compressed -/
theorem cipher_never_gzip (c : Codec) (i : UpIn) (h : i.cipher = true) :
    (upload c i).gzip = false ∧ (upload c i).hasKey = true ∧ (upload c i).stored.compressed = false := by
  cases hd : decide1 i with
  | mk mtype sg => simp [upload, hd, h, serverStore]

/-- bytes with the gzip magic declared "already compressed" do not come back as they were handed over: they are taken for
    gzip.  This input is NOT outside `Honest`: `[31, 139, 7]` is `tagCodec.gzip [7]` (every string with the magic is a
    `tagCodec` gzip), and the fetch yields the original `[7]`, as `fetch_eq_original` says.  A witness outside `Honest`
    needs a codec whose `gunzip` fails on some string with the magic; none is given here. -/
theorem dishonest_witness :
    let i : UpIn := ⟨[], [], false, true, [31, 139, 7], [], [], false⟩
    fetch tagCodec (upload tagCodec i) .full ≠ some i.data := by decide +kernel

/-- an edit of any of these functions breaks this obligation: the model (Model/C33.lean) has to be re-read against the new text -/
theorem bridge_source_pins :
    SwV.Gen.C33.src_doUploadData = "523d3f8700ad5bb5" ∧
    SwV.Gen.C33.src_upload_content = "1865caac937330a7" ∧
    SwV.Gen.C33.src_IsCompressableFileType = "f13ca084edb33e44" ∧
    SwV.Gen.C33.src_DecompressData = "d113d7b990a08dda" ∧
    SwV.Gen.C33.src_ungzipData = "bcef7f751b482259" ∧
    SwV.Gen.C33.src_ReadUrlAsStream = "f82f7616faa8b3f8" ∧
    SwV.Gen.C33.src_readEncryptedUrl = "9cc4016521da0613" ∧
    SwV.Gen.C33.src_ParseUpload = "aa29abd9d280d9c0" ∧
    SwV.Gen.C33.src_parseMultipart = "e57aea27bc466fb3" :=
  ⟨rfl, rfl, rfl, rfl, rfl, rfl, rfl, rfl, rfl⟩

end SwV.Props.C33
