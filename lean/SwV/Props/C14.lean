/-
C14 theorems: one master vacuum round (Model/C14) against the spec (Spec/C14), for ALL layouts —
any number of replicas, any outcome vector.
-/
import SwV.Model.C14
import SwV.Spec.C14
import SwV.Gen.C14
namespace SwV.Props.C14
open SwV.Model.C14 SwV.Spec.C14

/-- what the driver observes of a model round -/
def observe (l : Layout) : List ObsRep := l.reps.map fun r => { rep := r, got := rpcs l r }

theorem mem_rpcs_iff (l : Layout) (r : Rep) (x : Rpc) :
    x ∈ rpcs l r ↔ l.readOnly = false ∧ (x = .check ∨ (needVacuum l = true ∧ r.chk = .ok ∧
      (x = .compact ∨ (x = .commit ∧ compactOk l = true) ∨ (x = .cleanup ∧ compactOk l = false)))) := by
  unfold rpcs
  cases l.readOnly
  · cases needVacuum l <;> cases compactOk l <;> by_cases h4 : r.chk = .ok <;> simp [h4]
  · simp

theorem compact_mem_iff (l : Layout) (r : Rep) :
    Rpc.compact ∈ rpcs l r ↔ l.readOnly = false ∧ needVacuum l = true ∧ r.chk = .ok := by
  simp [mem_rpcs_iff]

theorem commit_mem_iff (l : Layout) (r : Rep) :
    Rpc.commit ∈ rpcs l r ↔ l.readOnly = false ∧ needVacuum l = true ∧ r.chk = .ok ∧ compactOk l = true := by
  simp [mem_rpcs_iff]

theorem cleanup_mem_iff (l : Layout) (r : Rep) :
    Rpc.cleanup ∈ rpcs l r ↔ l.readOnly = false ∧ needVacuum l = true ∧ r.chk = .ok ∧ compactOk l = false := by
  simp [mem_rpcs_iff]

theorem commit_implies_all_compacted (l : Layout) (r : Rep) (h : Rpc.commit ∈ rpcs l r) :
    ∀ q ∈ l.reps, Rpc.compact ∈ rpcs l q → q.cmp = .ok := by
  intro q hq hc
  have hcm := (commit_mem_iff l r).1 h
  have hcq := (compact_mem_iff l q).1 hc
  have hall := hcm.2.2.2
  unfold compactOk vacuumList at hall
  rw [List.all_eq_true] at hall
  exact eq_of_beq (hall q (List.mem_filter.mpr ⟨hq, beq_iff_eq.mpr hcq.2.2⟩))

theorem commit_sequence (l : Layout) (r : Rep) (h : Rpc.commit ∈ rpcs l r) :
    rpcs l r = [.check, .compact, .commit] := by
  have hcm := (commit_mem_iff l r).1 h
  unfold rpcs
  simp [hcm.1, hcm.2.1, hcm.2.2.1, hcm.2.2.2]

/-- **commit_only_after_all_compacted** (full): a replica is sent VacuumVolumeCommit only if EVERY
    replica that was sent VacuumVolumeCompact compacted successfully, and the replica itself was
    checked and compacted first: its RPC sequence is exactly check, compact, commit. -/
theorem commit_only_after_all_compacted (l : Layout) (r : Rep) (h : Rpc.commit ∈ rpcs l r) :
    (∀ q ∈ l.reps, Rpc.compact ∈ rpcs l q → q.cmp = .ok) ∧ rpcs l r = [.check, .compact, .commit] :=
  ⟨commit_implies_all_compacted l r h, commit_sequence l r h⟩

example : ∃ (l : Layout) (r : Rep), Rpc.commit ∈ rpcs l r :=
  ⟨⟨1, [⟨false, false, .ok, .ok, .ok, true⟩]⟩, ⟨false, false, .ok, .ok, .ok, true⟩, by decide⟩

/-- commit and cleanup never both happen in a round: the one needs `compactOk`, the other its failure -/
theorem cleanup_excludes_commit (l : Layout) (r q : Rep) (h : Rpc.cleanup ∈ rpcs l r) : Rpc.commit ∉ rpcs l q := by
  intro hc
  have a := (cleanup_mem_iff l r).1 h
  have b := (commit_mem_iff l q).1 hc
  rw [a.2.2.2] at b
  exact absurd b.2.2.2 Bool.false_ne_true

theorem any_observe (l : Layout) (p : ObsRep → Bool) :
    (observe l).any p = l.reps.any fun r => p { rep := r, got := rpcs l r } := by
  unfold observe; rw [List.any_map]; rfl

/-- the executable judge used on the implementation accepts every model round -/
theorem commit_judge_accepts_model (l : Layout) : commitJudge (observe l) = none := by
  unfold commitJudge
  rw [if_neg, if_neg]
  · -- a replica that gets a commit has got its compact before
    simp only [any_observe, List.any_eq_true, Bool.and_eq_true, List.contains_iff_mem, not_exists, not_and]
    intro r _ hc
    rw [commit_sequence l r hc]
    decide
  · -- a commit anywhere means that every compaction asked for succeeded
    simp only [any_observe, List.any_eq_true, Bool.and_eq_true, List.contains_iff_mem, bne_iff_ne, not_and, not_exists,
      forall_exists_index, and_imp]
    intro r _ hc q hq hqc
    exact fun hne => hne (commit_implies_all_compacted l r hc q hq hqc)

theorem saidReadOnly_observe (l : Layout) :
    saidReadOnly (observe l) = (vacuums l && compactOk l && commitSaysReadOnly l) := by
  have hc : ∀ r, (rpcs l r).contains .commit = (vacuums l && compactOk l && (r.chk == .ok)) := by
    intro r
    rw [Bool.eq_iff_iff, List.contains_iff_mem, commit_mem_iff]
    simp [vacuums, and_assoc, and_comm]
  unfold saidReadOnly commitSaysReadOnly vacuumList
  rw [any_observe, List.any_filter]
  simp only [hc]
  cases vacuums l && compactOk l <;> simp

/-- writable_restored — FULL statement, FALSE of the code:
      ∀ l, writableAfter l = writableExpected l.writableBefore (observe l)
    (see the three witnesses below). What holds: the statement for every round in which no
    compaction and no commit failed, on a volume that is not oversized. The excluded inputs take in
    the known-finding classes
      batchVacuumVolumeCompact/failed-compaction-leaves-volume-unwritable,
      batchVacuumVolumeCommit/failed-commit-leaves-volume-unwritable,
      batchVacuumVolumeCommit/oversized-volume-becomes-writable
    (and rounds on which the statement holds all the same: a failed phase on a volume that was not
    writable before, an oversized volume that is not vacuumed). -/
theorem writable_restored_partial (l : Layout)
    (hphase : vacuums l = true → compactOk l = true ∧ commitOk l = true)
    (hov : l.oversized = false) :
    writableAfter l = writableExpected l.writableBefore (observe l) := by
  unfold writableExpected
  rw [saidReadOnly_observe]
  unfold writableAfter
  cases hv : vacuums l
  · simp
  · obtain ⟨hc, hm⟩ := hphase hv
    have hro : l.readOnly = false := by
      unfold vacuums at hv
      cases h : l.readOnly <;> simp_all
    simp [hc, hm, Layout.writableBefore, hov, hro, Bool.and_comm]

example : ∃ l : Layout, (vacuums l = true → compactOk l = true ∧ commitOk l = true) ∧ l.oversized = false ∧ vacuums l = true :=
  ⟨⟨1, [⟨false, false, .ok, .ok, .ok, true⟩]⟩, by decide⟩

/-- the judge accepts every model round that meets the two hypotheses of `writable_restored_partial` -/
theorem writable_judge_accepts_model_partial (l : Layout)
    (hphase : vacuums l = true → compactOk l = true ∧ commitOk l = true) (hov : l.oversized = false) :
    writableJudge l.writableBefore (writableAfter l) (observe l) = none := by
  unfold writableJudge
  rw [writable_restored_partial l hphase hov]
  simp

/-- the defect behind the first two classes: after a failed compaction or commit the volume is out of
    `writables`, whatever it was before -/
theorem unwritable_after_failed_phase (l : Layout) (hv : vacuums l = true)
    (hf : compactOk l = false ∨ commitOk l = false) : writableAfter l = false := by
  unfold writableAfter
  rcases hf with h | h <;> simp [hv, h]

/-- a round that does not get past the check phase changes nothing and sends at most the check -/
theorem no_effect_without_vacuum (l : Layout) (hv : vacuums l = false) :
    writableAfter l = l.writableBefore ∧ ∀ r, rpcs l r = [] ∨ rpcs l r = [.check] := by
  refine ⟨by unfold writableAfter; simp [hv], ?_⟩
  intro r
  unfold vacuums at hv
  unfold rpcs
  cases h1 : l.readOnly
  · right
    have : needVacuum l = false := by simpa [h1] using hv
    simp [this]
  · left; simp

/-! witnesses: the full `writable_restored` fails (each is a recorded finding) -/

def wCompactFails : Layout := ⟨2, [⟨false, false, .ok, .ok, .ok, true⟩, ⟨false, false, .ok, .err, .ok, true⟩]⟩
def wCommitFails : Layout := ⟨2, [⟨false, false, .ok, .ok, .ok, true⟩, ⟨false, false, .ok, .ok, .err, true⟩]⟩
def wOversized : Layout := ⟨1, [⟨false, true, .ok, .ok, .ok, true⟩]⟩

theorem writable_restored_fails_compact :
    writableAfter wCompactFails ≠ writableExpected wCompactFails.writableBefore (observe wCompactFails) := by decide +kernel
theorem writable_restored_fails_commit :
    writableAfter wCommitFails ≠ writableExpected wCommitFails.writableBefore (observe wCommitFails) := by decide +kernel
theorem writable_restored_fails_oversized :
    writableAfter wOversized ≠ writableExpected wOversized.writableBefore (observe wOversized) := by decide +kernel
/-- after a failed commit some replicas HAVE committed (the commit loop does not stop) -/
theorem commit_failure_is_partial : Rpc.commit ∈ rpcs wCommitFails ⟨false, false, .ok, .ok, .ok, true⟩ ∧ commitOk wCommitFails = false := by decide +kernel

/-! ## bridges: the source of the round as it was modelled (a source edit breaks these obligations; the timeout
    arms, which the quick tier does not wait for, are tied here) -/

theorem bridge_check_timer : SwV.Gen.C14.check_timer = "time.Minute * time.Duration(t.volumeSizeLimit/1024/1024/1000+1)" := rfl
theorem bridge_compact_timer : SwV.Gen.C14.compact_timer = "3 * time.Minute * time.Duration(t.volumeSizeLimit/1024/1024/1000+1)" := rfl
theorem bridge_check_threshold : SwV.Gen.C14.check_threshold_cond = "resp.GarbageRatio >= garbageThreshold" := rfl
theorem bridge_src_check : SwV.Gen.C14.src_batchVacuumVolumeCheck = "070e9955e1b16ddf" := rfl
theorem bridge_src_compact : SwV.Gen.C14.src_batchVacuumVolumeCompact = "0c8f95dc0c694aae" := rfl
theorem bridge_src_commit : SwV.Gen.C14.src_batchVacuumVolumeCommit = "4c01a2773ba077c0" := rfl
theorem bridge_src_cleanup : SwV.Gen.C14.src_batchVacuumVolumeCleanup = "c22676725fd0caba" := rfl
theorem bridge_src_round : SwV.Gen.C14.src_vacuumOneVolumeLayout = "26505cab76697360" := rfl
theorem bridge_src_setVolumeAvailable : SwV.Gen.C14.src_SetVolumeAvailable = "88ba78bb63aed4a8" := rfl
theorem bridge_src_removeFromWritable : SwV.Gen.C14.src_removeFromWritable = "d043d8ad96387755" := rfl
theorem bridge_src_ensureCorrectWritables : SwV.Gen.C14.src_ensureCorrectWritables = "c9cc1ac32e193f8c" := rfl

end SwV.Props.C14
