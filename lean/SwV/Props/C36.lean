/-
C36 — property theorems about the string model of the replication path decisions
(SwV/Model/C36.lean; tied to Replicator.Replicate and genProcessFunction by the correspondence check).
-/
import SwV.Model.C36
import SwV.Spec.C36
import SwV.Lemmas.C36
import SwV.Gen.C36

namespace SwV.Props.C36
open SwV.Model.C36 SwV.Spec.C36 SwV.Lemmas.C36

/-- FULL-STRENGTH statement "a change is applied iff its path is inside the source directory
    (component-wise)" is FALSE of the model and of the code: `strings.HasPrefix(key, dir)` accepts the
    sibling `/data2/x` for the source `/data` and mirrors it to `/backup/2/x` (known findings
    */replicates-sibling-of-source-dir). -/
theorem maps_inside_ignores_outside_witness :
    inside "/data".toList "/data2/x".toList = false ∧
    replicate "/data".toList "/backup".toList false false true false "/data2/x".toList none (some false) "/data2".toList
      = [.create "/backup/2/x".toList] ∧
    syncEv "/data".toList "/backup".toList false true "/data2".toList none (some (false, "x".toList)) "/data2".toList
      = some [.create "/backup/2/x".toList] := by decide +kernel

/-- PARTIAL: whatever the code accepts is inside the source directory, EXCEPT when the accepted path
    continues the source directory's last name (hypothesis `hb` excludes exactly those inputs: it asks that the
    source path ends with a slash, or the path is the source path, or the next character is a slash) -/
theorem accepted_is_inside_partial (src key : Str) (h : hasPrefix key src = true)
    (hb : (∃ d, src = d ++ ['/']) ∨ key = src ∨ (key.drop src.length).head? = some '/') :
    inside src key = true :=
  inside_of_insideStr ⟨h, hb⟩

/-- non-vacuity: `/data/x` under `/data` passes the string test and meets the third alternative of `hb` -/
example : hasPrefix "/data/x".toList "/data".toList = true ∧ ("/data/x".toList.drop "/data".toList.length).head? = some '/' := by decide +kernel

/-- a path outside by components whose first differing component does not merely extend the source
    directory's last name is ignored (contrapositive reading of the partial theorem for `/dat/x`, `/x`, …) -/
theorem ignores_outside_partial (src snk : Str) (isFiler incr found fromOther : Bool) (key : Str) (old new : Option Bool) (np : Str)
    (hout : inside src key = false)
    (hb : (∃ d, src = d ++ ['/']) ∨ key = src ∨ (key.drop src.length).head? = some '/' ∨ hasPrefix key src = false) :
    replicate src snk isFiler incr found fromOther key old new np = [] :=
  replicate_non_prefix <| not_prefix_of_outsideStr ⟨hout, fun hp => by
    rcases hb with h | h | h | h
    · exact .inl h
    · exact .inr (.inl h)
    · exact .inr (.inr h)
    · rw [hp] at h; cases h⟩

/-- changes that originated from the other cluster are never re-applied through a filer sink -/
theorem no_reapply_from_target (src snk : Str) (incr found : Bool) (key : Str) (old new : Option Bool) (np : Str) :
    replicate src snk true incr found true key old new np = [] :=
  replicate_from_other rfl

/-- FULL-STRENGTH "a rename from outside into the source directory creates the entry" is FALSE for the
    sync process function: the event is dropped by the first guard (known finding
    genProcessFunction/ignores-rename-into-source-dir); and a rename whose new parent is shorter than the
    source path panics (genProcessFunction/panics) -/
theorem sync_rename_into_ignored_witness :
    syncEv "/data".toList "/backup".toList false true "/dat".toList (some (false, "x".toList)) (some (false, "x".toList)) "/data".toList = some [] ∧
    syncEv "/data/".toList "/backup".toList false true "/data/d".toList (some (false, "y".toList)) (some (false, "x".toList)) "/data".toList = none := by
  decide +kernel

/-! ## T1 bridges: facts regenerated from the source by `extract` (props/C36/extract.json → `SwV.Gen.C36`)

Each theorem but `bridge_pins` states the text of the decisive Go conditions / call arguments as they stand in the working tree
together with the model expression that mirrors them; an edit to the Go code changes the generated string and
breaks the theorem of that name. -/

/-- the two guards of `Replicator.Replicate` and the key mapping -/
theorem bridge_replicate_guards :
    SwV.Gen.C36.rep_from_other = "message.IsFromOtherCluster && r.sink.GetName() == \"filer\"" ∧
    SwV.Gen.C36.rep_outside = "!strings.HasPrefix(key, r.source.Dir)" ∧
    SwV.Gen.C36.rep_incremental = "r.sink.IsIncremental()" ∧
    SwV.Gen.C36.rep_new_key = "newKey := util.Join(r.sink.GetSinkToDirectory(), dateKey, key[len(r.source.Dir):])" ∧
    SwV.Gen.C36.rep_key_is_new_key = "key = newKey" ∧
    (∀ (src snk : Str) (isFiler incr found fromOther : Bool) (key : Str) (old new : Option Bool) (np : Str),
      (fromOther && isFiler) = true → replicate src snk isFiler incr found fromOther key old new np = []) ∧
    (∀ (src snk : Str) (isFiler incr found fromOther : Bool) (key : Str) (old new : Option Bool) (np : Str),
      (!hasPrefix key src) = true → replicate src snk isFiler incr found fromOther key old new np = []) ∧
    (∀ (src snk : Str) (isFiler incr found fromOther : Bool) (key : Str) (d : Bool) (np : Str),
      (fromOther && isFiler) = false → hasPrefix key src = true →
      replicate src snk isFiler incr found fromOther key (some d) none np =
        [.del (join [snk, dateKey incr, key.drop src.length]) d true]) :=
  ⟨rfl, rfl, rfl, rfl, rfl, fun _ _ _ _ _ _ _ _ _ _ h => replicate_from_other h,
    fun _ _ _ _ _ _ _ _ _ _ h => replicate_non_prefix (Bool.not_eq_true' _ ▸ h),
    fun _ _ _ _ _ _ _ _ _ h1 h2 => replicate_accepted h1 h2⟩

/-- which sink call `Replicate` makes, on which key, with which delete-chunks flag -/
theorem bridge_replicate_calls :
    SwV.Gen.C36.rep_is_delete = "message.OldEntry != nil && message.NewEntry == nil" ∧
    SwV.Gen.C36.rep_delete_key = "key" ∧ SwV.Gen.C36.rep_delete_chunks = "message.DeleteChunks" ∧
    SwV.Gen.C36.rep_is_create = "message.OldEntry == nil && message.NewEntry != nil" ∧
    SwV.Gen.C36.rep_create_key = "key" ∧
    SwV.Gen.C36.rep_is_empty = "message.OldEntry == nil && message.NewEntry == nil" ∧
    SwV.Gen.C36.rep_update_key = "key" ∧ SwV.Gen.C36.rep_update_parent = "message.NewParentPath" ∧
    SwV.Gen.C36.rep_found = "foundExisting" ∧
    SwV.Gen.C36.rep_fallback_delete_key = "key" ∧ SwV.Gen.C36.rep_fallback_delete_chunks = "false" ∧
    SwV.Gen.C36.rep_fallback_create_key = "key" ∧
    (∀ (src snk : Str) (incr found : Bool) (key : Str) (d n : Bool) (np : Str), hasPrefix key src = true →
      replicate src snk false incr found false key (some d) (some n) np =
        (let k := join [snk, dateKey incr, key.drop src.length]
         if found then [.update k np] else [.update k np, .del k d false, .create k])) :=
  ⟨rfl, rfl, rfl, rfl, rfl, rfl, rfl, rfl, rfl, rfl, rfl, rfl, fun _ _ _ _ _ _ _ _ h => replicate_accepted rfl h⟩

/-- `FullPath.Child` and `buildKey` (filer.sync / filer.backup) -/
theorem bridge_build_key :
    SwV.Gen.C36.child_cond = "strings.HasSuffix(dir, \"/\")" ∧
    SwV.Gen.C36.key_not_incremental = "!dataSink.IsIncremental()" ∧
    SwV.Gen.C36.key_plain = "key = util.Join(targetPath, string(sourceKey)[len(sourcePath):])" ∧
    SwV.Gen.C36.key_dated = "key = util.Join(targetPath, dateKey, string(sourceKey)[len(sourcePath):])" ∧
    (∀ (dir name : Str), child dir name = if dir.getLast? = some '/' then dir ++ name else dir ++ '/' :: name) ∧
    (∀ (src tgt k : Str), buildKey src tgt false k = join [tgt, k.drop src.length]) ∧
    (∀ (src tgt k : Str), buildKey src tgt true k = join [tgt, dateKey true, k.drop src.length]) :=
  ⟨rfl, rfl, rfl, rfl, fun _ _ => rfl, fun _ _ _ => rfl, fun _ _ _ => rfl⟩

/-- the guards of the filer.sync process function: directory, delete, create -/
theorem bridge_sync_guards :
    SwV.Gen.C36.sync_old_key = "sourceOldKey = util.FullPath(resp.Directory).Child(message.OldEntry.Name)" ∧
    SwV.Gen.C36.sync_new_key = "sourceNewKey = util.FullPath(message.NewParentPath).Child(message.NewEntry.Name)" ∧
    SwV.Gen.C36.sync_dir_outside = "!strings.HasPrefix(resp.Directory, sourcePath)" ∧
    SwV.Gen.C36.sync_is_delete = "message.OldEntry != nil && message.NewEntry == nil" ∧
    SwV.Gen.C36.sync_delete_outside = "!strings.HasPrefix(string(sourceOldKey), sourcePath)" ∧
    SwV.Gen.C36.sync_delete_key_src = "sourceOldKey" ∧
    SwV.Gen.C36.sync_is_create = "message.OldEntry == nil && message.NewEntry != nil" ∧
    SwV.Gen.C36.sync_create_outside = "!strings.HasPrefix(string(sourceNewKey), sourcePath)" ∧
    SwV.Gen.C36.sync_create_key_src = "sourceNewKey" ∧
    SwV.Gen.C36.sync_is_empty = "message.OldEntry == nil && message.NewEntry == nil" ∧
    (∀ (src tgt : Str) (incr found : Bool) (dir : Str) (old new : Option (Bool × Str)) (np : Str),
      (!hasPrefix dir src) = true → syncEv src tgt incr found dir old new np = some []) ∧
    (∀ (src tgt : Str) (incr found : Bool) (dir : Str) (o : Bool × Str) (np : Str), hasPrefix dir src = true →
      syncEv src tgt incr found dir (some o) none np =
        (if !hasPrefix (child dir o.2) src then some []
         else some [.del (buildKey src tgt incr (child dir o.2)) o.1 true])) ∧
    (∀ (src tgt : Str) (incr found : Bool) (dir : Str) (n : Bool × Str) (np : Str), hasPrefix dir src = true →
      syncEv src tgt incr found dir none (some n) np =
        (if !hasPrefix (child np n.2) src then some []
         else some [.create (buildKey src tgt incr (child np n.2))])) :=
  ⟨rfl, rfl, rfl, rfl, rfl, rfl, rfl, rfl, rfl, rfl,
    fun _ _ _ _ _ _ _ _ h => syncEv_dir_outside (Bool.not_eq_true' _ ▸ h),
    fun _ _ _ _ _ _ _ h => syncEv_delete h, fun _ _ _ _ _ _ _ h => syncEv_create h⟩

/-- the update (rename) branch of the process function -/
theorem bridge_sync_update :
    SwV.Gen.C36.sync_old_inside = "strings.HasPrefix(string(sourceOldKey), sourcePath)" ∧
    SwV.Gen.C36.sync_new_inside = "strings.HasPrefix(string(sourceNewKey), sourcePath)" ∧
    SwV.Gen.C36.sync_both_not_incremental = "!dataSink.IsIncremental()" ∧
    SwV.Gen.C36.sync_update_old_key = "oldKey := util.Join(targetPath, string(sourceOldKey)[len(sourcePath):])" ∧
    SwV.Gen.C36.sync_update_new_parent = "message.NewParentPath = util.Join(targetPath, message.NewParentPath[len(sourcePath):])" ∧
    SwV.Gen.C36.sync_update_key = "string(oldKey)" ∧ SwV.Gen.C36.sync_update_parent = "message.NewParentPath" ∧
    SwV.Gen.C36.sync_found = "foundExisting" ∧
    SwV.Gen.C36.sync_fallback_delete_key = "string(oldKey)" ∧ SwV.Gen.C36.sync_fallback_delete_chunks = "false" ∧
    SwV.Gen.C36.sync_both_create_key = "newKey := buildKey(dataSink, message, targetPath, sourceNewKey, sourcePath)" ∧
    SwV.Gen.C36.sync_both_create_arg = "newKey" ∧
    SwV.Gen.C36.sync_moved_out_not_incremental = "!dataSink.IsIncremental()" ∧
    SwV.Gen.C36.sync_moved_out_key_src = "sourceOldKey" ∧
    SwV.Gen.C36.sync_moved_in = "strings.HasPrefix(string(sourceNewKey), sourcePath)" ∧
    SwV.Gen.C36.sync_moved_in_key_src = "sourceNewKey" ∧
    (∀ (src tgt : Str) (found : Bool) (dir : Str) (o n : Bool × Str) (np : Str), hasPrefix dir src = true →
      hasPrefix (child dir o.2) src = true → hasPrefix (child np n.2) src = true → src.length ≤ np.length →
      syncEv src tgt false found dir (some o) (some n) np =
        (let oldT := join [tgt, (child dir o.2).drop src.length]
         let parent := join [tgt, np.drop src.length]
         if found then some [.update oldT parent]
         else some [.update oldT parent, .del oldT o.1 false, .create (buildKey src tgt false (child np n.2))])) ∧
    (∀ (src tgt : Str) (incr found : Bool) (dir : Str) (o n : Bool × Str) (np : Str), hasPrefix dir src = true →
      hasPrefix (child dir o.2) src = false → hasPrefix (child np n.2) src = true →
      syncEv src tgt incr found dir (some o) (some n) np = some [.create (buildKey src tgt incr (child np n.2))]) := by
  refine ⟨rfl, rfl, rfl, rfl, rfl, rfl, rfl, rfl, rfl, rfl, rfl, rfl, rfl, rfl, rfl, rfl, ?_, ?_⟩
  · intro src tgt found dir o n np h1 h2 h3 h4
    simp [syncEv_rename h1, h2, h3, Nat.not_lt.mpr h4]
  · intro src tgt incr found dir o n np h1 h2 h3
    simp [syncEv_rename h1, h2, h3]

/-- weakest supplement: hashes of the whole mirrored functions (`escapeKey` is the identity off Windows) -/
theorem bridge_pins :
    SwV.Gen.C36.src_Replicate = "7bf4b7e35d42c8d6" ∧ SwV.Gen.C36.src_genProcessFunction = "11459a516e797fab" ∧
    SwV.Gen.C36.src_buildKey = "7cd07c41109d6a7c" ∧ SwV.Gen.C36.src_escapeKey = "6da2b6fc158f4d6a" ∧
    SwV.Gen.C36.src_Child = "b20f273dc7210176" ∧ SwV.Gen.C36.src_Join = "4f2a33a966f6ce1f" :=
  ⟨rfl, rfl, rfl, rfl, rfl, rfl⟩

/-! ## the mapped key, component-wise (`util.Join` / `buildKey` read as a path-component computation)

`InsideStr src p` (Lemmas/C36.lean) = the code's string test `strings.HasPrefix(p, src)` PLUS the boundary condition
(source path ends in '/', or p = src, or the next character of p is '/').  Accepted paths without the boundary
condition are exactly the recorded sibling-prefix findings (`*/replicates-sibling-of-source-dir`,
`genProcessFunction/treats-sibling-as-inside-on-rename`); the remaining hypotheses of `SyncClear` name the other
findings (first guard on the event directory: `…/ignores-rename-into-source-dir`, `…/trailing-slash-source-ignores-top-level`;
new parent inside: `…/panics`). -/

/-- `util.Join`, component-wise, for all argument lists of the model: the components of the parts in order
    (empty parts, doubled and trailing slashes vanish).  The model's `clean` does not resolve `.` and `..`
    components as `filepath.Clean` does: for parts that contain them this says nothing about the code. -/
theorem join_is_component_concat (parts : List Str) : comps (join parts) = parts.flatMap comps := comps_join parts

/-- the mapped key of Replicator.Replicate: for every key that passes the string test with the boundary condition (`InsideStr`; of an event not filtered, `hf`) the sink key is
    `sinkDir ⧸ [date] ⧸ (key relative to the source directory)`, and the sink calls are exactly those of the event kind -/
theorem mapped_key_exact_partial (src snk : Str) (isFiler incr found fromOther : Bool) (key : Str)
    (old new : Option Bool) (np : Str) (hin : InsideStr src key) (hf : (fromOther && isFiler) = false) :
    ∃ k, comps k = mappedComps src snk incr key ∧
      replicate src snk isFiler incr found fromOther key old new np =
        (match old, new with
         | some d, none => [.del k d true]
         | none, some _ => [.create k]
         | none, none => []
         | some d, some _ => if found then [.update k np] else [.update k np, .del k d false, .create k]) :=
  ⟨join [snk, dateKey incr, key.drop src.length], comps_mapped snk incr hin, replicate_accepted hf hin.1⟩

example : InsideStr "/data".toList "/data/d/x".toList ∧ InsideStr "/data/".toList "/data/x".toList ∧
    InsideStr "/".toList "/x".toList ∧ ¬ InsideStr "/data".toList "/data2/x".toList := by decide +kernel

/-- … hence the model passes the specification's judge on every `InsideStr` event that is not filtered -/
theorem replicate_realises_spec_partial (src snk : Str) (isFiler incr found fromOther : Bool) (key : Str)
    (old new : Option Bool) (np : Str) (hin : InsideStr src key) (hf : (fromOther && isFiler) = false) :
    replJudge src snk incr false key old new (replicate src snk isFiler incr found fromOther key old new np) = none := by
  obtain ⟨k, hk, hcalls⟩ := mapped_key_exact_partial src snk isFiler incr found fromOther key old new np hin hf
  rw [hcalls]
  unfold replJudge
  by_cases hroot : atRoot src key = true
  · simp [hroot]
  · simp only [hroot, inside_of_insideStr hin, Bool.false_eq_true, if_false, Bool.not_true]
    cases old <;> cases new <;> (try cases found) <;> simp [callKeyComps, hk]

/-- the events of filer.sync / filer.backup on which path strings and path components agree -/
def SyncClear (src : Str) (incr : Bool) (dir : Str) (old new : Option (Bool × Str)) (np : Str) : Prop :=
  hasPrefix dir src = true ∧
  (∀ o, old = some o → InsideStr src (child dir o.2)) ∧
  (∀ n, new = some n → InsideStr src (child np n.2) ∨ OutsideStr src (child np n.2)) ∧
  (∀ o n, old = some o → new = some n → InsideStr src (child np n.2) → incr = false → InsideStr src np)

/-- the mapped key of genProcessFunction / buildKey: create, delete, update and BOTH halves of a rename.  On a clear
    event the process function does not panic and its sink calls realise the mirror specification: the delete /
    create / update keys (and the new parent of a rename) are `target ⧸ [date] ⧸ (path relative to source)`;
    a rename out of the source directory deletes the mapped old key (non-incremental sinks). -/
theorem mapped_key_exact_sync_partial (src tgt : Str) (incr found : Bool) (dir : Str) (old new : Option (Bool × Str))
    (np : Str) (h : SyncClear src incr dir old new np) :
    ∃ cs, syncEv src tgt incr found dir old new np = some cs ∧
      realises (expectSync src tgt incr (old.map fun o => child dir o.2) (new.map fun n => child np n.2) np) cs = true := by
  obtain ⟨hdir, hold, hnew, hnp⟩ := h
  cases old with
  | none =>
    cases new with
    | none => exact ⟨[], syncEv_empty, rfl⟩
    | some n => exact create_mirrored hdir (hnew n rfl)
  | some o =>
    have hino := hold o rfl
    cases new with
    | none => exact delete_mirrored hdir hino
    | some n =>
      simp only [Option.map]
      cases incr with
      | true =>
        rw [syncEv_rename_incr hdir, expectSync_rename_incr]
        exact create_mirrored hdir (hnew n rfl)
      | false =>
        rcases hnew n rfl with hin | hout
        · exact move_mirrored hdir hino hin (hnp o n rfl rfl hin rfl)
        · rw [syncEv_rename_out hdir (not_prefix_of_outsideStr hout), expectSync_rename_out hout.1]
          exact delete_mirrored hdir hino

/-- a rename inside the watched tree satisfies the hypotheses (and so do its create / delete halves) -/
example : SyncClear "/data".toList false "/data/d".toList (some (false, "x".toList)) (some (false, "y".toList)) "/data/e".toList := by
  refine ⟨by decide +kernel, ?_, ?_, ?_⟩
  · intro o ho; cases ho; decide +kernel
  · intro n hn; cases hn; exact Or.inl (by decide +kernel)
  · intro o n ho hn _ _; decide +kernel

/-- … hence the judge of the correspondence check accepts the model on every clear event -/
theorem sync_realises_spec_partial (src tgt : Str) (incr found : Bool) (dir : Str) (old new : Option (Bool × Str))
    (np : Str) (h : SyncClear src incr dir old new np) :
    syncJudge src tgt incr (old.map fun o => child dir o.2) (new.map fun n => child np n.2) np
      (syncEv src tgt incr found dir old new np) = none := by
  obtain ⟨cs, hcs, hre⟩ := mapped_key_exact_sync_partial src tgt incr found dir old new np h
  simp only [hcs, syncJudge, hre, if_true, ite_self]

/-- outside is ignored, component-wise: an event all of whose paths are outside the source directory by
    components — and are not sibling-prefixes of it — produces no sink call; here for the process function of
    filer.sync / filer.backup, below for `Replicate` -/
theorem outside_ignored_partial (src tgt : Str) (incr found : Bool) (dir : Str) (old new : Option (Bool × Str)) (np : Str)
    (hold : ∀ o, old = some o → OutsideStr src (child dir o.2))
    (hnew : ∀ n, new = some n → OutsideStr src (child np n.2)) :
    syncEv src tgt incr found dir old new np = some [] := by
  cases hdir : hasPrefix dir src with
  | false => exact syncEv_dir_outside hdir
  | true =>
    cases old with
    | none =>
      cases new with
      | none => exact syncEv_empty
      | some n => simp [syncEv_create hdir, not_prefix_of_outsideStr (hnew n rfl)]
    | some o =>
      cases new with
      | none => simp [syncEv_delete hdir, not_prefix_of_outsideStr (hold o rfl)]
      | some n => simp [syncEv_rename hdir, not_prefix_of_outsideStr (hold o rfl), not_prefix_of_outsideStr (hnew n rfl)]

theorem outside_ignored_replicate_partial (src snk : Str) (isFiler incr found fromOther : Bool) (key : Str)
    (old new : Option Bool) (np : Str) (hout : OutsideStr src key) :
    replicate src snk isFiler incr found fromOther key old new np = [] :=
  replicate_non_prefix (not_prefix_of_outsideStr hout)

example : OutsideStr "/data".toList "/dat/x".toList ∧ OutsideStr "/data".toList "/other/data/x".toList ∧
    ¬ OutsideStr "/data".toList "/data2/x".toList := by decide +kernel

/-! ## LocalSink behind the process function (localsink tree comparison, `lsync` lines)

FULL-STRENGTH statement "after every well-formed event sequence the files below the sink directory
are exactly the mapped files of the watched subtree (`listing` restricted to files = `mirror`)" is
FALSE of the model and of the code — two witnesses below (`localsink_rename_keeps_old_path`,
`localsink_nonempty_directory_kept`); the judge reports them as
`LocalSink.UpdateEntry/rename-keeps-old-path` and `LocalSink.DeleteEntry/non-empty-directory-kept`. -/

/-- the judge's mapped key is the specification's `mappedComps` relative to the sink directory -/
theorem mirrorKey_eq_mappedComps (src p : Str) : mirrorKey src (comps p) = mappedComps src [] false p := by
  simp [mirrorKey, mappedComps, comps_nil]

/-- `LocalSink.CreateEntry` never materialises a directory entry -/
theorem lsCreate_directory_noop (t : Tree) (key : Str) : lsCreate t key true = (t, true) := by
  simp [lsCreate]

/-- `LocalSink.UpdateEntry` on a key that is a file in the sink directory (its parent being a
    directory, as the tree invariant says) answers "found" and leaves the tree as it is — for EVERY
    new parent path, which is why a rename of a mirrored file never moves it -/
theorem lsUpdate_existing_file (t : Tree) (key : Str) (hm : isMultiPart key = false)
    (hf : stat t (comps key) = .file) (hd : stat t (comps key).dropLast = .dir) :
    lsUpdate t key false = (t, true, true) := by
  simp [lsUpdate, lsCreate, fileExists, hm, hf, hd]

theorem rename_of_existing_file_keeps_tree (t : Tree) (key np : Str) (hm : isMultiPart key = false)
    (hf : stat t (comps key) = .file) (hd : stat t (comps key).dropLast = .dir) :
    lsFound t [.update key np] = true ∧ applyCalls t false [.update key np] = (t, true) := by
  simp [lsFound, applyCalls, lsUpdate_existing_file t key hm hf hd]

example : isMultiPart "/t/x".toList = false ∧ stat ⟨[["t", "x"].map String.toList], [["t"].map String.toList]⟩ (comps "/t/x".toList) = .file ∧
    stat ⟨[["t", "x"].map String.toList], [["t"].map String.toList]⟩ (comps "/t/x".toList).dropLast = .dir := by decide +kernel

def evCreateF (dir name : String) : LEv := ⟨dir.toList, none, some (false, name.toList), dir.toList⟩
def evDelete (isDir : Bool) (dir name : String) : LEv := ⟨dir.toList, some (isDir, name.toList), none, []⟩
def evRenameF (dir name dir' name' : String) : LEv := ⟨dir.toList, some (false, name.toList), some (false, name'.toList), dir'.toList⟩

def finalListing (src : String) (evs : List LEv) : List String :=
  match (lsyncRun src.toList "/t".toList false Tree.empty evs).getLast? with
  | some r => (listing (comps "/t".toList) r.1).map String.ofList
  | none => []

/-- witness against the full statement: create /data/x, rename it to /data/y — the sink directory still
    holds `x` and no `y` (UpdateEntry re-creates the OLD key and ignores the new parent path) -/
theorem localsink_rename_keeps_old_path :
    finalListing "/data" [evCreateF "/data" "x", evRenameF "/data" "x" "/data" "y"] = ["x"] ∧
    (srcApply SrcTree.empty (evCreateF "/data" "x") >>= (srcApply · (evRenameF "/data" "x" "/data" "y"))).map (mirror "/data".toList)
      = some ["y".toList] := by decide +kernel

/-- witness against the full statement: create /data/d/y, delete the directory /data/d — `os.Remove`
    fails on the non-empty directory, the error is only logged, `d/y` stays -/
theorem localsink_nonempty_directory_kept :
    finalListing "/data" [evCreateF "/data/d" "y", evDelete true "/data" "d"] = ["d/", "d/y"] ∧
    (srcApply SrcTree.empty (evCreateF "/data/d" "y") >>= (srcApply · (evDelete true "/data" "d"))).map (mirror "/data".toList)
      = some [] := by decide +kernel

/-- …while deleting the children first (what the filer's recursive delete announces) is mirrored -/
theorem localsink_children_first_delete_mirrored :
    finalListing "/data" [evCreateF "/data/d" "y", evCreateF "/data" "x", evDelete false "/data/d" "y", evDelete true "/data" "d"] = ["x"] := by decide +kernel

end SwV.Props.C36
