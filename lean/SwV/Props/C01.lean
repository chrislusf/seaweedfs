/-
C01 — property theorems (only theorems here; helper lemmas live in SwV/Lemmas/C01.lean).
Model: SwV/Model/C01.lean (tied to the Go code by the correspondence check on every run);
Spec : SwV/Spec/C01.lean  (the map  id ↦ (cookie, content) | deleted).

FULL-STRENGTH STATEMENT (the property text):
    ∀ ops, (run (Vol.init t) ops).2.map absOut = (srun (KV.init t) ops).2
           ∧ abs (run (Vol.init t) ops).1 = (srun (KV.init t) ops).1
It is FALSE of the model, and of the code: `refines_fails_*` below prove the negation on three
concrete histories (the three known findings), and corpus/C01/witnesses.ops replays them on the
real Store.  `volume_refines_kv_partial` proves it, from any state satisfying `Inv`, for every history of
well-formed writes (`Spec.C01.wfContent`) that stays outside those three input classes and outside a fourth
that is not a finding, a DELETE with a wrong cookie aimed at a live empty blob (`Spec.C01.excluded`,
`Spec.C01.unchecked`); `volume_refines_kv_from_empty_partial` is the case of the empty volume.
Left out of the model: the TTL-expiry branch at the end of `readNeedle` (reads are taken to happen
within the TTL; expiry is C09's subject).
-/
import SwV.Lemmas.C01
import SwV.Gen.C01

namespace SwV.Props.C01
open SwV.Model.C01 SwV.Spec.C01 SwV.Lemmas.C01

/-! ### bridges to the source (SwV/Gen/C01.lean is regenerated from /repo on every run) -/

/-- The three tests of `Volume.isFileUnchanged` as written in the source, next to what the model
    does with the first two: the shortcut is taken only for a live entry (positive size), the
    SAME COOKIE and the SAME BYTES (the checksum test is implied by equal bytes); the TTL test is
    `ttlNonEmpty` in the model and is not stated here.
    Weakening the byte comparison in the source changes the first conjunct. -/
theorem bridge_isFileUnchanged_condition :
    SwV.Gen.C01.unchangedSameCond =
      "oldNeedle.Cookie == n.Cookie && oldNeedle.Checksum == n.Checksum && bytes.Equal(oldNeedle.Data, n.Data)" ∧
    SwV.Gen.C01.unchangedLiveCond = "ok && !nv.Offset.IsZero() && nv.Size.IsValid()" ∧
    SwV.Gen.C01.unchangedTtlCond = "v.Ttl.String() != \"\"" ∧
    (∀ (st : Vol) (id ck : Nat) (c : Content) (e : Ent) (r : Rec), st.idx id = some e → recAt st.log e.off = some r →
      isFileUnchanged st id ck c = true → 0 < e.size ∧ r.cookie = ck ∧ r.c.data = c.data) :=
  ⟨rfl, rfl, rfl, fun _ _ _ _ _ _ hi hr hu => isFileUnchanged_true hi hr hu⟩

/-- the other decisions the model mirrors, as written in the source -/
theorem bridge_decision_conditions :
    SwV.Gen.C01.writeCookieCond = "existingNeedle.Cookie != n.Cookie" ∧
    SwV.Gen.C01.writePutCond = "!ok || uint64(nv.Offset.ToActualOffset()) < offset" ∧
    SwV.Gen.C01.deleteLiveCond = "ok && nv.Size.IsValid()" ∧
    SwV.Gen.C01.readNotFoundCond = "!ok || nv.Offset.IsZero()" ∧
    SwV.Gen.C01.readEmptyCond = "readSize == 0" ∧
    SwV.Gen.C01.storeWriteGuard = "v.IsReadOnly()" ∧
    SwV.Gen.C01.storeDeleteGuard = "v.noWriteOrDelete" ∧
    SwV.Gen.C01.getCookieCond = "n.Cookie != cookie" ∧
    SwV.Gen.C01.deleteCookieCond = "n.Cookie != cookie" :=
  ⟨rfl, rfl, rfl, rfl, rfl, rfl, rfl, rfl, rfl⟩

/-- `Size.IsValid` / `Size.IsDeleted` (translated from the source) are the model's sign tests,
    and the field widths used by `needleSize` are the source's constants -/
theorem bridge_size_predicates :
    (∀ z : Int, SwV.Gen.C01.Size_IsValid z = decide (0 < z)) ∧
    (∀ z : Int, SwV.Gen.C01.Size_IsDeleted z = decide (z < 0)) ∧
    SwV.Gen.C01.LastModifiedBytesLength = 5 ∧ SwV.Gen.C01.TtlBytesLength = 2 ∧
    SwV.Gen.C01.TombstoneFileSize = -1 := by
  refine ⟨?_, ?_, by decide, by decide, by decide⟩
  · intro z
    by_cases h : 0 < z
    · have h2 : z ≠ -1 := by omega
      simp [SwV.Gen.C01.Size_IsValid, h, h2]
    · simp [SwV.Gen.C01.Size_IsValid, h]
  · intro z
    by_cases h : z < 0
    · simp [SwV.Gen.C01.Size_IsDeleted, h]
    · have h2 : z ≠ -1 := by omega
      simp [SwV.Gen.C01.Size_IsDeleted, h, h2]

/-- six functions the model transcribes have not been edited since the model was written; not among them:
    `prepareWriteBuffer` and `ReadBytes` (behind `stored` and `needleSize`) and the two HTTP handlers (their
    cookie tests are in `bridge_decision_conditions`) -/
theorem bridge_source_pins :
    SwV.Gen.C01.src_isFileUnchanged = "9b0c84174250e52d" ∧ SwV.Gen.C01.src_doWriteRequest = "673b0ac565c7bfce" ∧
    SwV.Gen.C01.src_doDeleteRequest = "bb4f3b7b20271c7d" ∧ SwV.Gen.C01.src_readNeedle = "f3764387cee126f8" ∧
    SwV.Gen.C01.src_WriteVolumeNeedle = "db4d4c6af1284d4b" ∧ SwV.Gen.C01.src_DeleteVolumeNeedle = "04623d97718ca70c" :=
  ⟨rfl, rfl, rfl, rfl, rfl, rfl⟩

/-- One simulation square: from a state satisfying the representation invariant, a well-formed
    operation outside the excluded classes takes model and spec to related states with the
    same observation. -/
theorem step_sim (st : Vol) (op : Op) (hI : Inv st) (hw : opWf op = true)
    (hx : excluded (abs st) op = none) :
    Inv (step st op).1 ∧ abs (step st op).1 = (sstep (abs st) op).1 ∧
      absOut (step st op).2 = (sstep (abs st) op).2 := by
  refine ⟨inv_step hI op, ?_⟩
  cases op with
  | write id ck c => exact write_sim hI id ck c hw hx
  | delete id ck => exact delete_sim hI id ck hx
  | read id ck => exact read_sim hI id ck
  | setRO b => exact ⟨rfl, rfl⟩
  | hread id ck => exact hread_sim hI id ck
  | hdelete id ck => exact hdelete_sim hI id ck hx

/-- REFINEMENT, for every list of well-formed operations and every start state that satisfies `Inv`: outside the
    excluded classes every model output is the specification's output and the abstraction of the final
    state is the specification's final state (simulation by induction over the operations). -/
theorem volume_refines_kv_partial (ops : List Op) : ∀ (st : Vol), Inv st → Admissible (abs st) ops →
    Inv (run st ops).1 ∧ abs (run st ops).1 = (srun (abs st) ops).1 ∧
      (run st ops).2.map absOut = (srun (abs st) ops).2 := by
  induction ops with
  | nil => intro st hI _; exact ⟨hI, rfl, rfl⟩
  | cons op ops ih =>
    intro st hI hA
    obtain ⟨hw, hx, hrest⟩ := hA
    obtain ⟨hI1, hs1, ho1⟩ := step_sim st op hI hw hx
    rw [← hs1] at hrest
    obtain ⟨hI2, hs2, ho2⟩ := ih (step st op).1 hI1 hrest
    simp only [run, srun]
    refine ⟨hI2, ?_, ?_⟩
    · rw [hs2, hs1]
    · simp only [List.map_cons, ho1, ho2, hs1]

theorem volume_refines_kv_from_empty_partial (t : Nat × Nat) (ops : List Op) (hA : Admissible (KV.init t) ops) :
    abs (run (Vol.init t) ops).1 = (srun (KV.init t) ops).1 ∧
      (run (Vol.init t) ops).2.map absOut = (srun (KV.init t) ops).2 := by
  have h0 : abs (Vol.init t) = KV.init t := by
    simp only [abs, KV.init, Vol.init]
    congr 1
  have := volume_refines_kv_partial ops (Vol.init t) (inv_init t) (by rw [h0]; exact hA)
  rw [h0] at this
  exact this.2

/-- the hypotheses are satisfiable: write, overwrite with other data, read, GET and DELETE with a wrong
    cookie, delete, read, rewrite -/
example : Admissible (KV.init (0, 0))
    [.write 1 7 { data := "61" }, .write 1 7 { data := "62", fl := { hasName := true }, name := "6e" },
     .read 1 7, .hread 1 8, .hdelete 1 8, .delete 1 7, .read 1 7, .write 1 7 { data := "63" }] := by
  simp only [Admissible]
  decide +kernel

/-! ### the full-strength statement fails: one witness per finding, classes (i)–(iii) of `Spec.C01.excluded` -/

/-- (i) same data, new name: the write reports success, the read still returns the old name -/
theorem refines_fails_unchanged_write :
    (run (Vol.init (0, 0)) [.write 1 7 { data := "61", fl := { hasName := true }, name := "61" },
                            .write 1 7 { data := "61", fl := { hasName := true }, name := "62" }, .read 1 7]).2.map absOut
    ≠ (srun (KV.init (0, 0)) [.write 1 7 { data := "61", fl := { hasName := true }, name := "61" },
                            .write 1 7 { data := "61", fl := { hasName := true }, name := "62" }, .read 1 7]).2 := by
  decide +kernel

/-- (ii) deleting an empty blob reports success and the blob stays readable -/
theorem refines_fails_delete_empty :
    (run (Vol.init (0, 0)) [.write 1 7 {}, .delete 1 7, .read 1 7]).2.map absOut
    ≠ (srun (KV.init (0, 0)) [.write 1 7 {}, .delete 1 7, .read 1 7]).2 := by
  decide +kernel

/-- (iii) the metadata of an empty blob is not stored -/
theorem refines_fails_empty_metadata :
    (run (Vol.init (0, 0)) [.write 1 7 { fl := { hasName := true }, name := "61" }, .read 1 7]).2.map absOut
    ≠ (srun (KV.init (0, 0)) [.write 1 7 { fl := { hasName := true }, name := "61" }, .read 1 7]).2 := by
  decide +kernel

/-- a GET with a cookie different from the stored one never returns data (any state satisfying `Inv`, no exclusions):
    the body is empty — 404, or the 200 of an empty blob whose cookie cannot be compared -/
theorem wrong_cookie_read_returns_no_data (st : Vol) (hI : Inv st) (id ck k : Nat) (v : Option Content)
    (hs : (abs st).m id = some ⟨k, v⟩) (hne : k ≠ ck) :
    (httpRead st id ck).2 = "" ∧ ((httpRead st id ck).1 = 404 ∨ v = some Content.empty) := by
  cases slot hI id with
  | absent _ habs _ => rw [habs] at hs; cases hs
  | deleted e r _ _ _ hread => simp [httpRead, hread]
  | empty e r _ _ habs hread =>
    rw [habs] at hs; cases hs
    simp [httpRead, hread, Content.empty]
  | live e r _ _ _ _ habs hread =>
    rw [habs] at hs; cases hs
    simp [httpRead, hread, hne]

/-- a DELETE with a cookie different from the stored one never removes anything (any state satisfying
    `Inv`, no exclusions): the abstract contents are unchanged -/
theorem wrong_cookie_delete_removes_nothing (st : Vol) (hI : Inv st) (id ck k : Nat) (v : Option Content)
    (hs : (abs st).m id = some ⟨k, v⟩) (hne : k ≠ ck) :
    abs (httpDelete st id ck).1 = abs st := by
  cases slot hI id with
  | absent _ habs _ => rw [habs] at hs; cases hs
  | deleted e r _ _ _ hread => simp only [httpDelete, hread]
  | empty e r hidx hz _ hread =>
    -- empty blob: the cookie is not compared, but `doDeleteRequest` does nothing for size 0
    by_cases hro : st.ro = true
    · simp [httpDelete, hread, deleteStep_ro hro]
    · simp [httpDelete, hread, deleteStep_noop hro hidx (by omega)]
  | live e r _ _ _ _ habs hread =>
    rw [habs] at hs; cases hs
    simp [httpDelete, hread, hne]

/-- writes, deletes and DELETEs on a read-only volume are rejected and change nothing at all.  Read-only is
    what `MarkVolumeReadonly` sets (`noWriteOrDelete`, the one flag both guards of `bridge_decision_conditions`
    look at); the states in which `IsReadOnly()` holds and deletes still go through (`noWriteCanDelete`, low
    disk space) are not modelled. -/
theorem readonly_rejects_and_changes_nothing (st : Vol) (hro : st.ro = true) (id ck : Nat) (c : Content) :
    writeStep st id ck c = (st, .ro) ∧ deleteStep st id ck = (st, .ro) ∧ (httpDelete st id ck).1 = st ∧
      (httpDelete st id ck).2.1 ≠ 202 := by
  refine ⟨writeStep_ro hro, deleteStep_ro hro, ?_⟩
  -- whatever the read says, the storage-level delete it may lead to is rejected
  unfold httpDelete
  simp only [deleteStep_ro hro]
  (repeat' split) <;> simp

/-- read-your-writes, derived from the refinement: after an accepted admissible write every
    read of that id returns exactly the written content (with the inherited TTL) -/
theorem read_your_writes (st : Vol) (hI : Inv st) (id ck ck' : Nat) (c : Content) (hw : wfContent c = true)
    (hx : excluded (abs st) (.write id ck c) = none) (hok : (writeStep st id ck c).2 ≠ .ro ∧ (writeStep st id ck c).2 ≠ .cookie) :
    absOut (.r (readStep (writeStep st id ck c).1 id ck')) = .rOk (inheritTtl st.volTtl c) := by
  obtain ⟨hs1, ho1⟩ := write_sim hI id ck c hw hx
  have hI1 : Inv (writeStep st id ck c).1 := inv_step hI (.write id ck c)
  rw [(read_sim hI1 id ck').2, hs1]
  -- the model's answer is the specification's; the specification, when it accepts, stores the content
  rcases sstep_write_cases (abs st) id ck c with h | h | h <;> rw [h] at ho1 ⊢
  · exact absurd (absOut_w_wRo ho1) hok.1
  · exact absurd (absOut_w_wCookie ho1) hok.2
  · simp only [sstep, setM, if_true]
    rfl

/-- once deleted, not found: after a delete that removed something, reads answer "deleted" -/
theorem deleted_then_gone (st : Vol) (hI : Inv st) (id ck ck' : Nat) (sz : Int)
    (hd : (deleteStep st id ck).2 = .ok sz) (hpos : 0 < sz) :
    readStep (deleteStep st id ck).1 id ck' = .deleted := by
  rcases deleteStep_state st id ck with h | h | ⟨e, hidx, -, h⟩ <;> rw [h] at hd ⊢
  · cases hd
  · cases hd; exact absurd hpos (Int.lt_irrefl 0)
  · -- a live entry: its size is negated in place, so the offset is still that of a record
    cases hd
    obtain ⟨r, hr, _, _⟩ := hI id e hidx
    exact readStep_deleted (e := ⟨e.off, -e.size⟩) (setIdx_same _ _ _) (recAt_some_le hr).1
      (Int.neg_neg_of_pos hpos) ck'

/-- the sorted-file needle map after a read-only reopen serves the same reads, except that
    deleted ids are forgotten (not-found instead of deleted), and the volume is read-only -/
theorem reopen_sorted_reads (st : Vol) (id ck : Nat) :
    readStep (reopenSorted st) id ck = (match readStep st id ck with | .deleted => .notfound | o => o) ∧
      (reopenSorted st).ro = true := by
  refine ⟨?_, rfl⟩
  cases hidx : st.idx id with
  | none => simp only [readStep, reopenSorted, hidx]
  | some e =>
    by_cases hlt : e.size < 0
    · -- a tombstone: the sorted file has no entry for the id; the open volume said not-found (offset 0) or deleted
      by_cases h0 : e.off = 0 <;> simp only [readStep, reopenSorted, hidx, hlt, h0, if_true, if_false]
    · -- every other entry is kept, the log is the same, and no branch left answers "deleted"
      have hkeep : (reopenSorted st).idx id = some e := by simp only [reopenSorted, hidx, if_neg hlt]
      simp only [readStep, hkeep, hidx, if_neg hlt, show (reopenSorted st).log = st.log from rfl]
      by_cases h0 : e.off = 0
      · simp only [if_pos h0]
      by_cases hz : e.size = 0
      · simp only [if_neg h0, if_pos hz]
      simp only [if_neg h0, if_neg hz]
      cases recAt st.log e.off with
      | none => rfl
      | some r =>
        by_cases hs : r.size ≠ e.size
        · simp only [if_pos hs]
        · simp only [if_neg hs]

end SwV.Props.C01
