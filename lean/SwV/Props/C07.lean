/-
C07 — property theorems, about the byte-level model in SwV/Model/C07.lean, which the correspondence check
compares with the real .ecx/.ecj/.idx/.sdx files after every call; the `bridge_*` theorems tie
the model's constants and the callback-offset expression to the Go source (SwV/Gen/C07*.lean,
regenerated on every run for both offset widths).
-/
import SwV.Model.C07
import SwV.Spec.C07
import SwV.Gen.C07
import SwV.Gen.C07B5
import SwV.Lemmas.C07

namespace SwV.Props.C07
open SwV.Model.C07 SwV.Spec.C07 SwV.Lemmas.C07

/-- the callback of `SearchNeedleFromSortedIndex` is called with `m * NeedleMapEntrySize`, the same
    expression that addresses the entry for reading (this is the line repaired by the `fix:` commit) -/
theorem bridge_callback_multiplier :
    SwV.Gen.C07.callbackOffsetExpr = "m * types.NeedleMapEntrySize" ∧
    SwV.Gen.C07.readOffsetExpr = SwV.Gen.C07.callbackOffsetExpr ∧
    SwV.Gen.C07.searchLoopCond = "l < h" := by decide +kernel

/-- entry width of the model = `NeedleMapEntrySize` of the source, for both build tags -/
theorem bridge_entry_width :
    (entryWidth SwV.Gen.C07.OffsetSize.toNat : Int) = SwV.Gen.C07.NeedleMapEntrySize ∧
    (entryWidth SwV.Gen.C07B5.OffsetSize.toNat : Int) = SwV.Gen.C07B5.NeedleMapEntrySize ∧
    SwV.Gen.C07.OffsetSize = 4 ∧ SwV.Gen.C07B5.OffsetSize = 5 ∧
    SwV.Gen.C07.NeedleIdSize = 8 ∧ SwV.Gen.C07.SizeSize = 4 ∧ SwV.Gen.C07.TombstoneFileSize = -1 := by decide +kernel

/-- `IsDeleted`/`IsValid` of the model agree with the translated Go functions on every size -/
theorem bridge_size_predicates (s : Int) :
    isDeleted s = SwV.Gen.C07.Size_IsDeleted s ∧ isValid s = SwV.Gen.C07.Size_IsValid s := by
  unfold isDeleted isValid SwV.Gen.C07.Size_IsDeleted SwV.Gen.C07.Size_IsValid
  constructor
  · by_cases h : s < 0 <;> by_cases h2 : s = -1 <;> simp [h, h2] <;> omega
  · by_cases h : s > 0 <;> by_cases h2 : s = -1 <;> simp [h, h2]

/-- For EVERY index file holding a whole number of entries of
    either width (`os` arbitrary), every journal, every deleted key `key` and every looked-up key
    `k`: after `DeleteNeedleFromEcx key`, a lookup of `key` returns its old offset with the
    tombstone size, and a lookup of any other key returns exactly what it returned before
    (found-ness, offset and size).  No sortedness assumption is needed. -/
theorem ecx_delete_exact (os n : Nat) (bs ecj : List Nat) (hlen : bs.length = n * entryWidth os) (key k : Nat) :
    find os (deleteEcx os bs ecj key).1 k =
      if k = key then (find os bs key).map (fun r => (r.1, (-1 : Int))) else find os bs k := by
  unfold deleteEcx searchAndMark searchAndMarkWith
  cases hs : search os bs key with
  | none =>
    by_cases hk : k = key
    · subst hk; simp [find, hs]
    · simp [hk]
  | some m =>
    obtain ⟨hm, hkey⟩ := search_sound os bs key m hs
    rw [entries_div hlen] at hm
    show find os (markDeleted os bs (m * entryWidth os)) k = _
    rw [find_markDeleted os n bs hlen m hm k]
    by_cases hk : k = key
    · subst hk
      simp only [if_pos hs, if_true]
    · -- entry `m` carries `key`: a search for another key ends elsewhere
      have hne : search os bs k ≠ some m := fun e => hk ((search_sound os bs k m e).2.symm.trans hkey)
      simp only [if_neg hne, if_neg hk]
      cases find os bs k <;> rfl

example : ∃ (os n : Nat) (bs : List Nat), bs.length = n * entryWidth os ∧ n = 2 ∧ os = 5 :=
  ⟨5, 2, List.replicate 34 0, by decide +kernel, rfl, rfl⟩

/-- the journal gets exactly the deleted key, and only when the key is in the index; an absent key
    leaves the index as it is -/
theorem ecx_delete_journal (os : Nat) (bs ecj : List Nat) (key : Nat) :
    (deleteEcx os bs ecj key).2 = (if (search os bs key).isSome then ecj ++ beBytes 8 key else ecj) ∧
    ((search os bs key).isNone → (deleteEcx os bs ecj key).1 = bs) := by
  unfold deleteEcx searchAndMark searchAndMarkWith
  cases search os bs key <;> simp

/-- with the multiplier the code had before the fix (`NeedleHeaderSize` = 16) the statement of
    `ecx_delete_exact` is FALSE for 17-byte entries: two entries with keys 5 and 8, delete 8 —
    key 8 reads with size -56 instead of the tombstone size and its offset is corrupted -/
theorem old_multiplier_wrong_for_17_byte_entries :
    let bs := entryBytes 5 5 1000 100 ++ entryBytes 5 8 2000 200
    find 5 ((searchAndMarkWith 16 5 bs 8).getD []) 8 ≠ (find 5 bs 8).map (fun r => (r.1, (-1 : Int))) ∧
    find 5 ((searchAndMarkWith 17 5 bs 8).getD []) 8 = some (2000, -1) := by decide +kernel

/-- one deletion with the journal kept as a list of keys -/
def delStep (os : Nat) (st : List Nat × List Nat) (k : Nat) : List Nat × List Nat :=
  match searchAndMark os st.1 k with
  | none => st
  | some e => (e, st.2 ++ [k])

/-- a run of deletions with the journal kept as a list of keys -/
def deleteAll (os : Nat) (ecx : List Nat) (ks : List Nat) : List Nat × List Nat :=
  ks.foldl (delStep os) (ecx, [])

/-- For EVERY index and EVERY sequence of deleted keys (present or
    absent, repeated or not): re-applying the journal to the ORIGINAL index (`RebuildEcxFile`)
    yields byte-for-byte the index that the deletions produced; in particular the decoded entries
    and the live sets are the same. -/
theorem rebuild_same_index (os : Nat) (orig : List Nat) (ks : List Nat) :
    rebuildWith os orig (deleteAll os orig ks).2 = (deleteAll os orig ks).1 := by
  refine List.foldlRecOn (motive := fun st => rebuildWith os orig st.2 = st.1) ks (delStep os) (b := (orig, [])) rfl fun st h k _ => ?_
  unfold delStep
  cases hs : searchAndMark os st.1 k with
  | none => exact h
  | some e =>
    simp only [rebuildWith, List.foldl_append, List.foldl_cons, List.foldl_nil]
    have h' : List.foldl (fun bs k => (searchAndMark os bs k).getD bs) orig st.2 = st.1 := h
    rw [h', hs]; rfl

theorem rebuild_same_live_set (os : Nat) (orig : List Nat) (ks : List Nat) :
    liveSet (decode os (rebuildWith os orig (deleteAll os orig ks).2)) =
    liveSet (decode os (deleteAll os orig ks).1) := by
  rw [rebuild_same_index]

/-- the journal file written by `DeleteNeedleFromEcx` decodes to the list of keys: one 8-byte
    record reads back as the key it encodes (checked on the boundary keys of the id space) -/
theorem journal_record_roundtrip :
    ecjKeys (beBytes 8 0 ++ beBytes 8 1 ++ beBytes 8 (2 ^ 64 - 1) ++ beBytes 8 (2 ^ 63)) = [0, 1, 2 ^ 64 - 1, 2 ^ 63] := by
  decide +kernel

/-- the entry that `WriteIdxFileFromEcIndex` appends for a journal key decodes to (key, offset 0, size -1) and
    has the entry width, for both widths (evaluated for key 77) -/
theorem tombstone_entry_decodes :
    decodeEntry 4 (tombstoneEntry 4 77) = ⟨77, 0, -1⟩ ∧ decodeEntry 5 (tombstoneEntry 5 77) = ⟨77, 0, -1⟩ ∧
    (tombstoneEntry 4 77).length = entryWidth 4 ∧ (tombstoneEntry 5 77).length = entryWidth 5 := by decide +kernel

/-- the journal append seeks to the END of the file before writing, and a new session opens the
    existing journal WITHOUT O_APPEND (so without that seek it would write from position 0): the
    two facts `Vol.journalWrite` / `Vol.reopen` are modelled from -/
theorem bridge_journal_append :
    SwV.Gen.C07.journalSeekOffset = "0" ∧ SwV.Gen.C07.journalSeekWhence = "io.SeekEnd" ∧
    SwV.Gen.C07.journalOpenName = "indexBaseFileName + \".ecj\"" ∧
    SwV.Gen.C07.journalOpenFlags = "os.O_RDWR | os.O_CREATE" := by decide +kernel

def delsOf : List Ev → List Nat
  | [] => []
  | .del k :: rest => k :: delsOf rest
  | .reopen :: rest => delsOf rest

/-- Sessions: for EVERY index, EVERY sequence of deletes interleaved with ANY
    number of close/reopen events: the served index is the one the deletes produce, and the
    journal file is exactly the 8-byte records of all deleted PRESENT keys of ALL sessions, in
    order (nothing is overwritten or lost by a reopen). -/
theorem sessions_journal_complete (os : Nat) (orig : List Nat) (evs : List Ev) :
    (Vol.run os orig evs).ecx = (deleteAll os orig (delsOf evs)).1 ∧
    (Vol.run os orig evs).ecj = ((deleteAll os orig (delsOf evs)).2).flatMap (beBytes 8) := by
  unfold Vol.run deleteAll
  suffices h : ∀ (evs : List Ev) (v : Vol) (st : List Nat × List Nat),
      v.ecx = st.1 → v.ecj = st.2.flatMap (beBytes 8) →
      (evs.foldl (Vol.step os) v).ecx = ((delsOf evs).foldl (delStep os) st).1 ∧
      (evs.foldl (Vol.step os) v).ecj = (((delsOf evs).foldl (delStep os) st).2).flatMap (beBytes 8) from
    h evs ⟨orig, [], 0⟩ (orig, []) rfl rfl
  intro evs
  induction evs with
  | nil => intro v st h1 h2; exact ⟨h1, h2⟩
  | cons e rest ih =>
    intro v st h1 h2
    cases e with
    | reopen =>
      simp only [List.foldl_cons, delsOf, Vol.step]
      exact ih v.reopen st h1 h2
    | del k =>
      simp only [List.foldl_cons, delsOf, Vol.step]
      apply ih
      · unfold Vol.delete delStep; rw [h1]
        cases searchAndMark os st.1 k with
        | none => exact h1
        | some e => rfl
      · unfold Vol.delete delStep; rw [h1]
        cases searchAndMark os st.1 k with
        | none => exact h2
        | some e =>
          simp only [Vol.journalWrite]
          rw [writeAt_end, h2]
          simp [List.flatMap_append]

/-- Over sessions: rebuilding from a PRISTINE copy of the index plus the
    journal FILE left by any number of sessions gives byte-for-byte the served index (ids are
    64-bit), hence the same live set. -/
theorem sessions_rebuild_same_index (os : Nat) (orig : List Nat) (evs : List Ev)
    (hk : ∀ k ∈ delsOf evs, k < 2 ^ 64) :
    rebuild os orig (Vol.run os orig evs).ecj = (Vol.run os orig evs).ecx := by
  obtain ⟨h1, h2⟩ := sessions_journal_complete os orig evs
  unfold rebuild
  rw [h2, h1, ecjKeys_flatMap]
  · exact rebuild_same_index os orig (delsOf evs)
  · -- journalled keys are among the deleted keys
    refine List.foldlRecOn (motive := fun st => ∀ x ∈ st.2, x < 2 ^ 64) (delsOf evs) (delStep os) (b := (orig, [])) (List.forall_mem_nil _)
      fun st hs k hk' => ?_
    unfold delStep
    cases searchAndMark os st.1 k with
    | none => exact hs
    | some e =>
      intro x hx
      rcases List.mem_append.mp hx with hx | hx
      · exact hs x hx
      · rw [List.mem_singleton.mp hx]; exact hk k hk'

theorem sessions_rebuild_same_live_set (os : Nat) (orig : List Nat) (evs : List Ev)
    (hk : ∀ k ∈ delsOf evs, k < 2 ^ 64) :
    liveSet (decode os (rebuild os orig (Vol.run os orig evs).ecj)) = liveSet (decode os (Vol.run os orig evs).ecx) := by
  rw [sessions_rebuild_same_index os orig evs hk]

example : ∃ evs : List Ev, delsOf evs = [7, 42, 90] ∧ evs.length = 5 :=
  ⟨[.del 7, .del 42, .reopen, .del 90, .reopen], rfl, rfl⟩

/-- without the seek-to-end (write at the handle position, 0 after a reopen) the statement is
    FALSE: two entries, delete 5, reopen, delete 8 — the record of key 5 is overwritten -/
theorem journal_without_seek_end_witness :
    let bs := entryBytes 4 5 1 10 ++ entryBytes 4 8 2 20
    let v1 := Vol.reopen (Vol.delete 4 ⟨bs, [], 0⟩ 5)
    ecjKeys (writeAt v1.ecj v1.pos (beBytes 8 8)) = [8] ∧ ecjKeys (Vol.delete 4 v1 8).ecj = [5, 8] := by decide +kernel

/-- FULL-STRENGTH statement "deleting a live key from a sorted-file map makes it read as deleted"
    is FALSE of the code (findings SortedFileNeedleMap.Delete/not-marked-deleted and
    /idx-records-overwritten): witness with two entries. -/
theorem sorted_delete_witness :
    let sdx := entryBytes 4 5 1 10 ++ entryBytes 4 8 2 20
    let r := sortedDelete 4 sdx sdx 0 8 3
    r.1 = false ∧ find 4 r.2.1 8 = some (2, 20) ∧ r.2.2.1.take 16 ≠ sdx.take 16 := by decide +kernel

/-- what does hold: the sorted file itself is never changed by `Delete`, so every lookup keeps
    returning what it returned before -/
theorem sorted_delete_partial (os : Nat) (sdx idx : List Nat) (io key off k : Nat) :
    find os (sortedDelete os sdx idx io key off).2.1 k = find os sdx k := by
  unfold sortedDelete
  cases find os sdx key with
  | none => rfl
  | some r => simp only; split <;> rfl

example : ∃ os sdx, find os sdx 8 = some (2, 20) := ⟨4, entryBytes 4 5 1 10 ++ entryBytes 4 8 2 20, by decide +kernel⟩

end SwV.Props.C07
