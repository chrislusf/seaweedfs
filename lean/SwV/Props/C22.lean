/-
C22 — Metadata change subscribers see every change once, in order.

Model: SwV.Model.C22 (the log buffer and the subscribe loop as atomic steps).  Spec: SwV.Spec.C22
(`DeliveryPrefix`: what a subscriber has received is a prefix of the timestamp-ordered changes
later than its start).

FULL STATEMENT (false of the code, see `witness`):
    ∀ cfg ops, ∀ r ∈ (run ⟨init cfg, []⟩ ops).rds, DeliveryPrefix (run ⟨init cfg, []⟩ ops).lb.log r.got r.t0
PROVED: `delivery_prefix_partial` — the same for every schedule in which no memory read happens at a
position T for which a recycled, not yet flush-acknowledged entry later than T exists (`ReadSafe`,
checked at each memory read: `SafeRun`).  `delivery_prefix_flush_keeps_up` instantiates it for the
schedules in which a sealed buffer is never recycled before its flush was acknowledged.
An empty current buffer after an interval seal only DELAYS delivery (`read_after_seal_is_nil`);
the delay is allowed by `DeliveryPrefix` and loses nothing (the main theorem covers `sealNow`).
Data-race freedom is a runtime fact and not covered by any theorem here.

Persisted path (SwV.Model.C22Disk): one call of `ReadPersistedLogBuffer` hands over exactly the persisted changes
later than its start provided no segment file it skips by name holds one (`NoStraddle`) and there are no more than 366
day directories from the start date on (`FewDays`): `disk_delivery_exact_partial`; false without the first, `disk_witness`.
`delivery_prefix_disk_partial` is `delivery_prefix_partial` for subscribers that read the segment files the production
flush function writes, each disk read under these two conditions.  The `bridge_*` theorems set the constants, conditions
and source hashes of SwV.Gen.C22 beside the model.
-/
import SwV.Lemmas.C22
import SwV.Lemmas.C22Disk
import SwV.Gen.C22
namespace SwV.Props.C22
open SwV.Model.C22 SwV.Spec.C22 SwV.Lemmas.C22

/-- what the subscribe loop maintains: what has been delivered, followed by what is later than `T`, is what is owed.
    `T` is still the start or lies between the start and the newest timestamp, so that the next append, which is later
    than that, is owed after `T` exactly if it is owed after the start (`RInv_add`). -/
def RInv (lb : LB) (r : Rd) : Prop :=
  expected lb.log r.t0 = r.got ++ expected lb.log r.T ∧ (r.T = r.t0 ∨ (r.t0 ≤ r.T ∧ r.T ≤ (lb.lastTs : Int)))

theorem RInv_congr {lb : LB} {r r' : Rd} (h : RInv lb r) (h0 : r'.t0 = r.t0) (hT : r'.T = r.T) (hg : r'.got = r.got) :
    RInv lb r' := by
  unfold RInv at *; rw [h0, hT, hg]; exact h

theorem RInv_lb {lb lb' : LB} {r : Rd} (h : RInv lb r) (hf : lb'.log = lb.log ∧ lb'.lastTs = lb.lastTs) : RInv lb' r := by
  unfold RInv at *; rw [hf.1, hf.2]; exact h

theorem RInv_deliveryPrefix {lb : LB} {r : Rd} (hr : RInv lb r) : DeliveryPrefix lb.log r.got r.t0 :=
  ⟨_, hr.1.symm⟩

theorem RInv_deliver {lb : LB} {r r' : Rd} {l : List Nat} (hi : LInv lb) (hr : RInv lb r) (hl : l <+: expected lb.log r.T)
    (h0 : r'.t0 = r.t0) (hT : r'.T = lastOr l r.T) (hg : r'.got = r.got ++ l) : RInv lb r' := by
  unfold RInv
  rw [h0, hT, hg, hr.1, expected_rest hi.sorted hl, List.append_assoc]
  refine ⟨rfl, ?_⟩
  rcases lastOr_eq l r.T with ⟨_, e⟩ | ⟨D, x, rfl, e⟩
  · rw [e]; exact hr.2
  · obtain ⟨hx, hxT⟩ := mem_expected.mp (hl.subset List.mem_concat_self)
    have hxb := hi.bound x hx
    rw [e]; exact Or.inr ⟨by rcases hr.2 with h | h <;> omega, by omega⟩

theorem RInv_add {lb : LB} {r : Rd} {ets dlen : Nat} (hr : RInv lb r) : RInv (add lb ets dlen) r := by
  have ha := add_frame lb ets dlen
  have hgt := fixTs_gt lb ets
  unfold RInv at *
  rw [ha.1.1, ha.1.2, expected_append, expected_append, hr.1, List.append_assoc]
  have e : ∀ T : Int, T ≤ lb.lastTs → expected [fixTs lb ets] T = [fixTs lb ets] := fun T hT =>
    expected_eq_self (List.forall_mem_singleton.mpr (by omega))
  rcases hr.2 with h | h
  · exact ⟨by rw [h], Or.inl h⟩
  · exact ⟨by rw [e _ h.2, e _ (by omega)], Or.inr ⟨h.1, by omega⟩⟩

theorem RInv_append_new {lb : LB} {rds : List Rd} (hr : ∀ r ∈ rds, RInv lb r) (T : Int) :
    ∀ r ∈ rds ++ [{ t0 := T, T := T }], RInv lb r :=
  List.forall_mem_append.mpr ⟨hr, List.forall_mem_singleton.mpr ⟨rfl, Or.inl rfl⟩⟩

/-- `LoopProcessLogData` keeps the invariant as long as its first read is safe -/
theorem memLoop_RInv (lb : LB) (hi : LInv lb) : ∀ (f : Nat) (r : Rd), RInv lb r → ReadSafe lb r.T → RInv lb (memLoop lb f r) := by
  intro f
  induction f with
  | zero => intro r hr _; exact RInv_congr hr rfl rfl rfl
  | succ f ih =>
    intro r hr hsafe
    unfold memLoop
    cases hrf : readFrom lb r.T with
    | resume => exact RInv_congr hr rfl rfl rfl
    | nil => exact RInv_congr hr rfl rfl rfl
    | buf l =>
      simp only
      have hl := readFrom_spec lb r.T l hi hsafe hrf
      refine ih _ (RInv_deliver hi hr hl rfl rfl rfl) ?_
      -- the read was not redirected to the disk, so `ReadSafe` came from its second disjunct, which only grows with T
      have hd : ∀ t ∈ lb.dropped, (t : Int) ≤ r.T := hsafe.resolve_left (readFrom_buf hrf).1
      have hge := lastOr_ge l r.T fun t ht => (mem_expected.mp (hl.subset ht)).2
      exact Or.inr (fun t ht => by have := hd t ht; simp only; omega)

/-- a disk read hands over the persisted entries later than T, a first part of what the log owes after T -/
theorem RInv_diskRead {lb : LB} {r r' : Rd} (hi : LInv lb) (hr : RInv lb r)
    (h0 : r'.t0 = r.t0) (hT : r'.T = lastOr (diskRead lb r.T) r.T) (hg : r'.got = r.got ++ diskRead lb r.T) : RInv lb r' := by
  refine RInv_deliver hi hr ?_ h0 hT hg
  rw [hi.dseg, List.append_assoc, expected_append]
  exact List.prefix_append ..

theorem rstep_RInv (lb : LB) (r : Rd) (hi : LInv lb) (hr : RInv lb r) (hsafe : r.onDisk = true ∨ ReadSafe lb r.T) :
    RInv lb (rstep lb r) := by
  unfold rstep
  by_cases hd : r.onDisk = true
  · rw [if_pos hd]
    simp only
    split
    · exact RInv_diskRead hi hr rfl rfl rfl
    · split
      · exact hr
      · exact RInv_congr hr rfl rfl rfl
  · rw [if_neg hd]
    exact memLoop_RInv lb hi _ r hr (hsafe.resolve_left hd)

/-- the only obligation on a schedule: each memory read is `ReadSafe` at the reader's position -/
def SafeStep (s : Sys) : Op → Prop
  | .rstep i => match s.rds[i]? with
    | some r => r.onDisk = true ∨ ReadSafe s.lb r.T
    | none => True
  | _ => True

def SafeRun (s : Sys) : List Op → Prop
  | [] => True
  | o :: os => SafeStep s o ∧ SafeRun (step s o) os

def SInv (s : Sys) : Prop := LInv s.lb ∧ ∀ r ∈ s.rds, RInv s.lb r

/-- the log buffer's invariant needs nothing from the schedule -/
theorem step_LInv (s : Sys) (o : Op) (h : LInv s.lb) : LInv (step s o).lb := by
  cases o with
  | add ts dlen => exact LInv_add h
  | sealNow => exact LInv_copyToFlush h
  | fwrite => exact LInv_fwrite h
  | fack => exact LInv_fack h
  | newReader T => exact h
  | rstep i => exact h

theorem log_invariant_all_schedules (ops : List Op) :
    ∀ s, LInv s.lb → LInv (run s ops).lb := by
  induction ops with
  | nil => exact fun s h => h
  | cons o os ih => exact fun s h => ih _ (step_LInv s o h)

theorem step_SInv (s : Sys) (o : Op) (hi : SInv s) (hs : SafeStep s o) : SInv (step s o) := by
  obtain ⟨hl, hr⟩ := hi
  refine ⟨step_LInv s o hl, ?_⟩
  cases o with
  | add ts dlen => exact fun r h => RInv_add (hr r h)
  | sealNow => exact fun r h => RInv_lb (hr r h) (copyToFlush_frame s.lb).1
  | fwrite => exact fun r h => RInv_lb (hr r h) (fwrite_frame s.lb)
  | fack => exact fun r h => RInv_lb (hr r h) (fack_frame s.lb)
  | newReader T => exact RInv_append_new hr T
  | rstep i =>
    refine modifyAt_forall hr fun r hri hrr => rstep_RInv s.lb r hl hrr ?_
    simpa only [SafeStep, hri] using hs

theorem run_SInv : ∀ (ops : List Op) (s : Sys), SInv s → SafeRun s ops → SInv (run s ops) := by
  intro ops
  induction ops with
  | nil => intro s h _; exact h
  | cons o os ih => intro s h hs; exact ih _ (step_SInv s o h hs.1) hs.2

def start (cfg : Cfg) : Sys := { lb := init cfg }

theorem start_SInv (cfg : Cfg) (h : 0 < cfg.prevCount) : SInv (start cfg) :=
  ⟨LInv_init cfg h, List.forall_mem_nil _⟩

/-- MAIN THEOREM.  For every configuration that keeps at least one sealed buffer, every schedule of appends
    (any timestamps, any sizes), interval seals, flush writes, flush acknowledgements, new subscribers (any
    start) and subscriber steps in which every memory read is `ReadSafe`, every subscriber has received exactly
    a prefix of the timestamp-ordered changes later than its start: no skip, no duplicate, in order. -/
theorem delivery_prefix_partial (cfg : Cfg) (hc : 0 < cfg.prevCount) (ops : List Op) (hs : SafeRun (start cfg) ops) :
    ∀ r ∈ (run (start cfg) ops).rds, DeliveryPrefix (run (start cfg) ops).lb.log r.got r.t0 :=
  fun r hr => RInv_deliveryPrefix ((run_SInv ops _ (start_SInv cfg hc) hs).2 r hr)

/-- what is delivered is strictly increasing (hence duplicate-free) -/
theorem delivery_strictly_increasing (cfg : Cfg) (hc : 0 < cfg.prevCount) (ops : List Op) (hs : SafeRun (start cfg) ops) :
    ∀ r ∈ (run (start cfg) ops).rds, r.got.Pairwise (· < ·) := by
  intro r hr
  obtain ⟨hl, hrs⟩ := run_SInv ops _ (start_SInv cfg hc) hs
  exact hl.sorted.sublist ((RInv_deliveryPrefix (hrs r hr)).sublist.trans List.filter_sublist)

/-- every recycled entry is covered by an acknowledged flush -/
def Acked (lb : LB) : Prop := ∀ t ∈ lb.dropped, lb.lastFlush ≠ zeroT ∧ (t : Int) ≤ lb.lastFlush

theorem acked_readSafe {lb : LB} {T : Int} (h : Acked lb) : ReadSafe lb T := by
  by_cases hc : lb.lastFlush ≠ zeroT ∧ lb.lastFlush > T
  · exact Or.inl hc
  · refine Or.inr fun t ht => ?_
    have := h t ht
    by_cases hle : (t : Int) ≤ T
    · exact hle
    · exact absurd ⟨this.1, by omega⟩ hc

/-- `Acked` holds in every state from which the schedule takes a step: no sealed buffer is recycled before its flush
    is acknowledged -/
def AckedRun (s : Sys) : List Op → Prop
  | [] => True
  | o :: os => Acked s.lb ∧ AckedRun (step s o) os

theorem ackedRun_safeRun : ∀ (ops : List Op) (s : Sys), AckedRun s ops → SafeRun s ops := by
  intro ops
  induction ops with
  | nil => intro s _; trivial
  | cons o os ih =>
    intro s h
    refine ⟨?_, ih _ h.2⟩
    cases o with
    | rstep i =>
      simp only [SafeStep]
      split
      · exact Or.inr (acked_readSafe h.1)
      · trivial
    | _ => trivial

/-- COROLLARY for the schedules the code handles by design: while every sealed buffer is flush-acknowledged
    before it is recycled, what a subscriber has received is a prefix of the changes later than its start
    (no skip, no duplicate, in order). -/
theorem delivery_prefix_flush_keeps_up (cfg : Cfg) (hc : 0 < cfg.prevCount) (ops : List Op) (ha : AckedRun (start cfg) ops) :
    ∀ r ∈ (run (start cfg) ops).rds, DeliveryPrefix (run (start cfg) ops).lb.log r.got r.t0 :=
  delivery_prefix_partial cfg hc ops (ackedRun_safeRun ops _ ha)

/-- DELAY, not loss: right after an interval seal the current buffer is empty and every read at a
    non-negative position returns nothing (nil) or is sent to the disk — it never returns a wrong buffer. -/
theorem read_after_seal_is_nil (lb : LB) (hi : LInv lb) (hp : lb.cur.pos > 0) (T : Int) (hT : 0 ≤ T) :
    readFrom (sealNow lb) T = .nil ∨ readFrom (sealNow lb) T = .resume := by
  unfold sealNow copyToFlush
  rw [if_pos hp]
  cases hprev : lb.prev with
  | nil => exact absurd hprev hi.prevNe
  | cons old rest =>
    simp only
    unfold readFrom
    simp only
    by_cases c1 : lb.lastFlush ≠ zeroT ∧ lb.lastFlush > T
    · rw [if_pos c1]; exact Or.inr rfl
    · rw [if_neg c1]
      by_cases c2 : T = 0
      · rw [if_pos c2]; exact Or.inl rfl
      · rw [if_neg c2, if_pos (by omega)]; exact Or.inl rfl

/-- `AddToBuffer` makes the logged timestamps strictly increasing for EVERY schedule and every input
    timestamp sequence (no hypothesis on the schedule) -/
theorem log_strictly_increasing (cfg : Cfg) (hc : 0 < cfg.prevCount) (ops : List Op) :
    (run (start cfg) ops).lb.log.Pairwise (· < ·) :=
  (log_invariant_all_schedules ops _ (LInv_init cfg hc)).sorted

instance (lb : LB) (T : Int) : Decidable (ReadSafe lb T) := by unfold ReadSafe; infer_instance
instance (s : Sys) (o : Op) : Decidable (SafeStep s o) := by
  unfold SafeStep
  cases o with
  | rstep i => simp only; split <;> infer_instance
  | _ => simp only; infer_instance
instance decSafeRun : (ops : List Op) → (s : Sys) → Decidable (SafeRun s ops)
  | [], _ => isTrue trivial
  | o :: os, s => by
    unfold SafeRun
    exact @instDecidableAnd _ _ _ (decSafeRun os (step s o))
instance (lb : LB) : Decidable (Acked lb) := by unfold Acked; infer_instance
instance decAckedRun : (ops : List Op) → (s : Sys) → Decidable (AckedRun s ops)
  | [], _ => isTrue trivial
  | o :: os, s => by
    unfold AckedRun
    exact @instDecidableAnd _ _ _ (decAckedRun os (step s o))
instance (log got : List Nat) (t0 : Int) : Decidable (DeliveryPrefix log got t0) := by
  unfold DeliveryPrefix; infer_instance

/-- the configuration the harness runs: hash of its partition key, `BufferSize` and `PreviousBufferCount` of the
    source tree (`bridge_consts`), flush interval 1 h (the harness's; production has 1 minute, `prodCfg`) -/
def realCfg : Cfg := ⟨-2104701234, 4194304, 3, 3600000000000⟩

/-- corpus/C22/witness_recycled_unflushed.ops: the subscriber has read 1000; the buffer [1000, 2000] is
    sealed by the first of four rotations and recycled by the fourth while flushFn is still blocked; the next
    memory read is handed the oldest retained buffer. -/
def witnessOps : List Op :=
  [.newReader 0, .add 1000 5, .rstep 0, .rstep 0, .add 2000 5, .add 4000000000000 5, .add 8000000000000 5,
   .add 12000000000000 5, .add 16000000000000 5, .rstep 0]

/-- WITNESS: the full statement is false of the code — event 2000 is skipped -/
theorem witness :
    (run (start realCfg) witnessOps).lb.log = [1000, 2000, 4000000000000, 8000000000000, 12000000000000, 16000000000000] ∧
    (run (start realCfg) witnessOps).rds.map (·.got) = [[1000, 4000000000000, 8000000000000, 12000000000000, 16000000000000]] := by
  decide +kernel

theorem delivery_prefix_fails_without_readSafe :
    ¬ ∀ r ∈ (run (start realCfg) witnessOps).rds, DeliveryPrefix (run (start realCfg) witnessOps).lb.log r.got r.t0 := by
  decide +kernel

/-- and the witness is an excluded schedule: it is no `SafeRun`.  (Traced by hand, not part of the statement: the read
    that is not `ReadSafe` is the last one, at 1000 with 2000 recycled and no flush acknowledged.) -/
theorem witness_is_excluded : ¬ SafeRun (start realCfg) witnessOps := by decide +kernel

/-- the hypotheses of the theorems are satisfiable by schedules that rotate, flush and read -/
def goodOps : List Op :=
  [.newReader 0, .add 1000 5, .rstep 0, .rstep 0, .add 2000 5, .add 4000000000000 5, .fwrite, .fack,
   .add 8000000000000 5, .fwrite, .fack, .add 12000000000000 5, .fwrite, .fack, .add 16000000000000 5, .rstep 0, .rstep 0, .rstep 0]

example : SafeRun (start realCfg) goodOps := by decide +kernel
example : AckedRun (start realCfg) goodOps := by decide +kernel
example : (run (start realCfg) goodOps).rds.map (·.got) = [[1000, 2000, 4000000000000, 8000000000000, 12000000000000, 16000000000000]] := by decide +kernel
example : 0 < realCfg.prevCount := by decide +kernel

/- FULL STATEMENT for one call of `ReadPersistedLogBuffer` (FALSE of the code, see `disk_witness`):

     theorem disk_delivery_exact (files : List Seg) (T : Int) : (persistedRead files T).1 = expected (persisted files) T

   `logFlushFunc` names a segment file after the minute of the flushed buffer's START, the buffer holds
   entries up to one flush interval later, and `ReadPersistedLogBuffer` skips files by NAME.  -/

/-- one call of `ReadPersistedLogBuffer` from `T` hands over exactly the persisted changes later than `T`,
    once and in order, PROVIDED no segment file whose name sorts before `T`'s minute holds an entry later
    than `T` (`NoStraddle`, the excluded inputs = finding ReadPersistedLogBuffer/skips-segment-file-by-name)
    and there are at most 366 day directories from the start date on (`FewDays`: one call lists no more) -/
theorem disk_delivery_exact_partial (files : List Seg) (T : Int) (hn : NoStraddle files T) (hd : FewDays files T) :
    (persistedRead files T).1 = expected (persisted files) T := by
  unfold persistedRead expected persisted
  simp only
  rw [selected_eq files T hd, List.filter_flatMap]
  apply flatMap_filter_skip
  intro F hF hs
  have hs' : skippedByName T F = true := Bool.not_eq_false' _ ▸ hs
  exact expected_eq_nil (hn F hF hs')

/-- … in particular for every start time from the epoch on (still under `FewDays`) when no flushed buffer crosses a
    minute boundary -/
theorem disk_delivery_exact_within_minute (files : List Seg) (T : Int) (hT : 0 ≤ T) (hw : WithinMinute files)
    (hd : FewDays files T) : (persistedRead files T).1 = expected (persisted files) T :=
  have _ := hT  -- not needed: a start time before the epoch is read as the epoch's minute, before which no file is named
  disk_delivery_exact_partial files T (withinMinute_noStraddle files hw T) hd

/-- when the persisted timestamps are strictly increasing and positive and no file is empty, the `lastTsNs` returned is
    the last change handed over (0 iff none): the subscribe loop continues from there -/
theorem disk_last_ts (files : List Seg) (T : Int) (hs : (persisted files).Pairwise (· < ·)) (hne : ∀ F ∈ files, F.ents ≠ [])
    (hpos : ∀ t ∈ persisted files, 0 < t) :
    ((persistedRead files T).1 = [] → (persistedRead files T).2 = 0) ∧
    ((persistedRead files T).1 ≠ [] → (persistedRead files T).1.getLast? = some (persistedRead files T).2 ∧ (persistedRead files T).2 ≠ 0) := by
  have hsel : ∀ F ∈ selected files T, F ∈ files := fun F hF => (List.mem_filter.mp hF).1
  have hss : Sorted ((selected files T).flatMap (·.ents)) := hs.sublist (filter_flatMap_sublist files)
  unfold persistedRead
  simp only
  cases hl : (selected files T).getLast? with
  | none => rw [List.getLast?_eq_none_iff.mp hl]; exact ⟨fun _ => rfl, fun h => absurd rfl h⟩
  | some F =>
    obtain ⟨ini, hini⟩ := List.getLast?_eq_some_iff.mp hl
    have hF : F ∈ files := hsel F (List.mem_of_getLast? hl)
    rw [hini, List.flatMap_append, List.flatMap_singleton] at hss ⊢
    simp only
    constructor
    · intro hnil
      rw [(List.append_eq_nil_iff.mp hnil).2]; rfl
    · intro hnn
      -- the last file is not empty and lies after the earlier ones: if they hand something over, so does it
      have hrF : readSeg T F ≠ [] := fun hnil => by
        rw [hnil, List.append_nil] at hnn
        refine expected_later_ne_nil hss (hne F hF) ?_ hnil
        rwa [expected, List.filter_flatMap]
      rw [List.getLast?_append]
      cases hg : (readSeg T F).getLast? with
      | none => exact absurd (List.getLast?_eq_none_iff.mp hg) hrF
      | some z =>
        refine ⟨rfl, fun hz => ?_⟩
        have hzF : z ∈ F.ents := (List.mem_filter.mp (List.mem_of_getLast? hg)).1
        exact Nat.ne_of_gt (hpos z (List.mem_flatMap_of_mem hF hzF)) hz

/-- the production configuration: flush interval `filer.LogFlushInterval` = 1 minute -/
def prodCfg : Cfg := ⟨-2104701234, 4194304, 3, 60000000000⟩

/-- corpus/C22/witness_segment_skipped_by_name.ops: events at 12:26:40 and 12:27:10 (2020-09-13 UTC) share a buffer -/
def diskWitnessOps : List DOp := [.add 1600000000000000000 5, .add 1600000030000000000 5, .sealNow]

def witnessFiles : List Seg := [⟨18518, 746, [1600000000000000000, 1600000030000000000]⟩]

/-- the production flush function writes both events to 2020-09-13/12-26.segment -/
theorem disk_witness_layout : (drun (dstart prodCfg) diskWitnessOps).d.files = witnessFiles := by decide +kernel

/-- WITNESS: the full statement is false — from 12:27:05 nothing is handed over although 12:27:10 is persisted -/
theorem disk_witness :
    persistedRead witnessFiles 1600000025000000000 = ([], 0) ∧
    expected (persisted witnessFiles) 1600000025000000000 = [1600000030000000000] := by decide +kernel

theorem disk_delivery_exact_fails : ¬ ∀ (files : List Seg) (T : Int), (persistedRead files T).1 = expected (persisted files) T := by
  intro h
  have := h witnessFiles 1600000025000000000
  rw [disk_witness.1, disk_witness.2] at this
  cases this

/-- … and the witness is exactly an excluded input -/
theorem disk_witness_is_excluded : ¬ NoStraddle witnessFiles 1600000025000000000 := by decide +kernel

/-- non-vacuity: from the first event the same layout is read exactly -/
example : NoStraddle witnessFiles 1600000000000000000 ∧ FewDays witnessFiles 1600000000000000000 := by decide +kernel
example : (persistedRead witnessFiles 1600000000000000000) = ([1600000030000000000], 1600000030000000000) := by decide +kernel
example : WithinMinute [⟨18518, 746, [1600000000000000000, 1600000010000000000]⟩, ⟨18518, 747, [1600000030000000000]⟩] := by decide +kernel

/-- what a schedule must satisfy at a subscriber step: a disk read does not start inside a straddling
    segment file (`NoStraddle`) and lists every day directory from its start date on (`FewDays`), a memory read is `ReadSafe` -/
def DSafeStep (s : DSys) : DOp → Prop
  | .rstep i => match s.rds[i]? with
    | some r => if r.onDisk = true then NoStraddle s.d.files r.T ∧ FewDays s.d.files r.T else ReadSafe s.d.lb r.T
    | none => True
  | _ => True

def DSafeRun (s : DSys) : List DOp → Prop
  | [] => True
  | o :: os => DSafeStep s o ∧ DSafeRun (dstep s o) os

def DSInv (s : DSys) : Prop := DInv s.d ∧ ∀ r ∈ s.rds, RInv s.d.lb r

theorem rstepD_RInv (d : DLB) (r : Rd) (hd : DInv d) (hr : RInv d.lb r)
    (hsafe : if r.onDisk = true then NoStraddle d.files r.T ∧ FewDays d.files r.T else ReadSafe d.lb r.T) :
    RInv d.lb (rstepD d r) := by
  unfold rstepD
  by_cases ho : r.onDisk = true
  · rw [if_pos ho] at hsafe ⊢
    -- under the hypotheses the files hand over what the flat `disk` of the buffer model does, and `lastTsNs` is its last entry
    have h1 : (persistedRead d.files r.T).1 = diskRead d.lb r.T := by
      rw [disk_delivery_exact_partial d.files r.T hsafe.1 hsafe.2, hd.files_eq_disk]; rfl
    obtain ⟨h2a, h2b⟩ := disk_last_ts d.files r.T (by rw [hd.files_eq_disk]; exact disk_sorted _ hd.linv) hd.nonempty
      (by rw [hd.files_eq_disk]; intro t ht; exact (hd.linv.bound t (disk_sub_log _ hd.linv t ht)).1)
    rw [h1] at h2a h2b
    generalize persistedRead d.files r.T = pr at h1 h2a h2b
    obtain ⟨l, last⟩ := pr
    simp only at h1 h2a h2b ⊢
    subst h1
    by_cases hl : diskRead d.lb r.T = []
    · rw [h2a hl, hl]
      simp only [ne_eq, not_true_eq_false, if_false, List.append_nil]
      split <;> exact RInv_congr hr rfl rfl rfl
    · obtain ⟨hlast, hnz⟩ := h2b hl
      rw [if_pos hnz]
      refine RInv_diskRead hd.linv hr rfl ?_ rfl
      unfold lastOr; rw [hlast]
  · rw [if_neg ho] at hsafe ⊢
    exact memLoop_RInv d.lb hd.linv _ r hr hsafe

/-- the tie between the files and the buffer model needs nothing from the schedule; the flush keeps up -/
theorem dstep_DInv (s : DSys) (o : DOp) (h : DInv s.d) :
    DInv (dstep s o).d ∧ (s.d.lb.queue = [] → (dstep s o).d.lb.queue = []) := by
  cases o with
  | add ts dlen => have := DInv_settle (DInv_add ts dlen h); exact ⟨this.1, fun _ => this.2⟩
  | sealNow => have := DInv_settle (DInv_seal h); exact ⟨this.1, fun _ => this.2⟩
  | newReader T => exact ⟨h, id⟩
  | rstep i => exact ⟨h, id⟩

theorem dstep_DSInv (s : DSys) (o : DOp) (hi : DSInv s) (hs : DSafeStep s o) : DSInv (dstep s o) := by
  obtain ⟨hd, hr⟩ := hi
  refine ⟨(dstep_DInv s o hd).1, ?_⟩
  cases o with
  | add ts dlen => exact fun r h => RInv_lb (RInv_add (hr r h)) (settle_frame _)
  | sealNow => exact fun r h => RInv_lb (RInv_lb (hr r h) (copyToFlush_frame s.d.lb).1) (settle_frame _)
  | newReader T => exact RInv_append_new hr T
  | rstep i =>
    refine modifyAt_forall hr fun r hri hrr => rstepD_RInv s.d r hd hrr ?_
    simpa only [DSafeStep, hri] using hs

theorem drun_DSInv : ∀ (ops : List DOp) (s : DSys), DSInv s → DSafeRun s ops → DSInv (drun s ops) := by
  intro ops
  induction ops with
  | nil => intro s h _; exact h
  | cons o os ih => intro s h hs; exact ih _ (dstep_DSInv s o h hs.1) hs.2

/-- MAIN THEOREM over the real disk path.  The log buffer with its PRODUCTION flush function (sealed
    buffers are appended to the segment file named after the minute of their start; the flush keeps up)
    and subscribers whose disk phase is `ReadPersistedLogBuffer` (directory walk, files skipped by name,
    `lastTsNs` of the last file): for every schedule of appends (any timestamps), interval seals, new
    subscribers (any start) and subscriber steps in which no disk read starts inside a straddling segment
    file or has more than 366 day directories ahead and every memory read is `ReadSafe`, every subscriber has
    received exactly a prefix of the timestamp-ordered changes later than its start. -/
theorem delivery_prefix_disk_partial (cfg : Cfg) (hc : 0 < cfg.prevCount) (ops : List DOp) (hs : DSafeRun (dstart cfg) ops) :
    ∀ r ∈ (drun (dstart cfg) ops).rds, DeliveryPrefix (drun (dstart cfg) ops).d.lb.log r.got r.t0 :=
  fun r hr => RInv_deliveryPrefix ((drun_DSInv ops _ ⟨DInv_init cfg hc, List.forall_mem_nil _⟩ hs).2 r hr)

/-- the segment files ARE the flat persisted log of the buffer model, whatever the schedule: the engine's
    `disk` abstraction (concatenation of the flushed buffers) is what the production flush function writes -/
theorem files_are_the_flushed_log (cfg : Cfg) (hc : 0 < cfg.prevCount) (ops : List DOp) :
    persisted (drun (dstart cfg) ops).d.files = (drun (dstart cfg) ops).d.lb.disk ∧
    (drun (dstart cfg) ops).d.lb.queue = [] := by
  have key : ∀ (ops : List DOp) (s : DSys), DInv s.d → s.d.lb.queue = [] →
      DInv (drun s ops).d ∧ (drun s ops).d.lb.queue = [] := by
    intro ops
    induction ops with
    | nil => exact fun s h hq => ⟨h, hq⟩
    | cons o os ih => exact fun s h hq => ih _ (dstep_DInv s o h).1 ((dstep_DInv s o h).2 hq)
  obtain ⟨h1, h2⟩ := key ops (dstart cfg) (DInv_init cfg hc) rfl
  exact ⟨h1.files_eq_disk, h2⟩

instance (s : DSys) (o : DOp) : Decidable (DSafeStep s o) := by
  unfold DSafeStep
  cases o with
  | rstep i => simp only; split <;> infer_instance
  | _ => simp only; infer_instance
instance decDSafeRun : (ops : List DOp) → (s : DSys) → Decidable (DSafeRun s ops)
  | [], _ => isTrue trivial
  | o :: os, s => by
    unfold DSafeRun
    exact @instDecidableAnd _ _ _ (decDSafeRun os (dstep s o))

/-- the subscriber of the witness corpus: starts at 12:27:05, loses 12:27:10 for good -/
def diskSubWitnessOps : List DOp :=
  [.add 1600000000000000000 5, .add 1600000030000000000 5, .sealNow, .newReader 1600000025000000000,
   .rstep 0, .rstep 0, .rstep 0, .add 1600000200000000000 5, .sealNow, .rstep 0, .rstep 0]

theorem disk_sub_witness :
    (drun (dstart prodCfg) diskSubWitnessOps).rds.map (·.got) = [[1600000200000000000]] ∧
    ¬ ∀ r ∈ (drun (dstart prodCfg) diskSubWitnessOps).rds,
        DeliveryPrefix (drun (dstart prodCfg) diskSubWitnessOps).d.lb.log r.got r.t0 := by decide +kernel

theorem disk_sub_witness_is_excluded : ¬ DSafeRun (dstart prodCfg) diskSubWitnessOps := by decide +kernel

/-- non-vacuity of `delivery_prefix_disk_partial`: the same appends and seals with the subscriber starting at the first event -/
def diskGoodOps : List DOp :=
  [.add 1600000000000000000 5, .add 1600000030000000000 5, .sealNow, .newReader 1600000000000000000,
   .rstep 0, .rstep 0, .add 1600000200000000000 5, .sealNow, .rstep 0, .rstep 0, .rstep 0]

example : DSafeRun (dstart prodCfg) diskGoodOps := by decide +kernel
example : (drun (dstart prodCfg) diskGoodOps).rds.map (·.got) = [[1600000030000000000, 1600000200000000000]] := by decide +kernel

/-- `realCfg`, in which the witnesses and examples of the memory path run, has the buffer size and the number of sealed buffers of the
    source tree (its hash and its interval of 1 h are the harness's) -/
theorem bridge_consts : (realCfg.bufSize : Int) = SwV.Gen.C22.BufferSize ∧ (realCfg.prevCount : Int) = SwV.Gen.C22.PreviousBufferCount
    ∧ 0 < SwV.Gen.C22.PreviousBufferCount := by decide +kernel

/-- the comparisons the model mirrors (`fixTs`, `needRotate`, `readFrom`, `bsearch`, `locate`) are the ones in the source -/
theorem bridge_conditions :
    SwV.Gen.C22.addFixupCond = "m.lastTsNs >= eventTsNs" ∧
    SwV.Gen.C22.addRotateCond = "m.startTime.Add(m.flushInterval).Before(ts) || len(m.buf)-m.pos < size+4" ∧
    SwV.Gen.C22.readResumeCond = "!m.lastFlushTime.IsZero() && m.lastFlushTime.After(lastReadTime)" ∧
    SwV.Gen.C22.readSearchCond = "t <= lastTs" ∧
    SwV.Gen.C22.readSearchHitCond = "prevT <= lastTs" ∧
    SwV.Gen.C22.locateCond = "t > lastReadTs" := ⟨rfl, rfl, rfl, rfl, rfl, rfl⟩

/-- source hashes of the functions modelled statement by statement (`copyToFlush`; `loopFlush` for `fwrite`/`fack`;
    `LoopProcessLogData` for `memLoop`) and of `SealBuffer` at its REPAIRED text (the oldest byte slice is recycled, see
    props/C22/findings.json) -/
theorem bridge_pins :
    SwV.Gen.C22.src_SealBuffer = "49ef37a949883d36" ∧ SwV.Gen.C22.src_copyToFlush = "200cfaf5ef2d87a1" ∧
    SwV.Gen.C22.src_loopFlush = "548e8b458718ff9a" ∧ SwV.Gen.C22.src_LoopProcessLogData = "3a30c65e01c32225" := ⟨rfl, rfl, rfl, rfl⟩

/-- the disk path: the flush interval of the production buffer, the name a segment file gets (minute of the
    buffer's START time), the by-name skipping of `ReadPersistedLogBuffer` and the `TsNs > start` filter of
    `ReadEachLogEntry` are the ones the disk model mirrors (`prodCfg` above; `logFlush`, `selected`, `readSeg` in
    Model/C22Disk) -/
theorem bridge_disk :
    SwV.Gen.C22.LogFlushInterval = prodCfg.interval ∧
    SwV.Gen.C22.flushNameFormat = "\"%s/%04d-%02d-%02d/%02d-%02d.segment\"" ∧
    SwV.Gen.C22.flushNameHour = "startTime.Hour()" ∧ SwV.Gen.C22.flushNameMinute = "startTime.Minute()" ∧
    SwV.Gen.C22.diskSkipDayCond = "dayEntry.Name() == startDate" ∧
    SwV.Gen.C22.diskSkipCond = "strings.Compare(hourMinuteEntry.Name(), startHourMinute) < 0" ∧
    SwV.Gen.C22.diskEntryCond = "logEntry.TsNs <= ns" := ⟨rfl, rfl, rfl, rfl, rfl, rfl, rfl⟩

theorem bridge_disk_pins :
    SwV.Gen.C22.src_logFlushFunc = "8ce3841f445d052e" ∧ SwV.Gen.C22.src_ReadPersistedLogBuffer = "e841cfed381c635c" ∧
    SwV.Gen.C22.src_ReadEachLogEntry = "c596ed5be434ba36" ∧ SwV.Gen.C22.src_appendToFile = "c1e53426675633a4" := ⟨rfl, rfl, rfl, rfl⟩

end SwV.Props.C22
