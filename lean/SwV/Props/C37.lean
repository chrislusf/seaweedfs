/-
C37 — Incremental volume backup converges to the source: property theorems.

Full-strength statement (FALSE of the code, see the `*_witness` theorems):
    after any history of writes / deletes / compactions on the source, a backup run leaves the backup
    serving what the source serves:  ∀ k, backupView (backupRun b src ..).1 t k = view src t k.
Proved: `backup_converges_partial` (`backupRun_converges` at a reachable source) — for every source reached
from a fresh volume WITHOUT compaction by operations issued at strictly increasing clock values (`Incr`: the reads
count too; hence strictly increasing AppendAtNs) and without empty blobs, and
every backup that holds a prefix of that source (the empty backup, or the result of any earlier run):
after the run the backup's files ARE the source's files (so the statement holds again for the next run:
any number of runs) and every id reads the same on both sides.  `bsearch_finds_first_newer` is the
binary-search fact it rests on: the position found is the only one that separates old from newer entries
(`bsearch_eq`), hence the backup's length.  Behind the witnesses: the judge of `Spec/C37` accepts the model's backup on
the covered runs and files a failure under a recorded class only when the model serves the observed answer (`judge_*`);
the T1 bridges.
-/
import SwV.Lemmas.C04b
import SwV.Lemmas.C37
import SwV.Spec.C37
import SwV.Gen.C37
namespace SwV.Props.C37
open SwV.Model.C01 SwV.Model.C04 SwV.Model.C37 SwV.Spec.C37 SwV.Lemmas.C04 SwV.Lemmas.C37
open SwV.Lemmas.C01 (pred_lt)

/-- class `IncrementalBackup/empty-blob-indexed-as-delete` excluded: no idx entry of size 0 -/
def NoEmpty (s : CVol) : Prop := ∀ e ∈ s.ilog, e.size ≠ 0

/-- the backup's files are the first `n` records / idx entries of the source's files -/
def Prefix (b src : CVol) (n : Nat) : Prop :=
  n ≤ src.v.log.length ∧ b.v.log = src.v.log.take n ∧ b.ats = src.ats.take n ∧ b.ilog = src.ilog.take n

/-- `BinarySearchByAppendAtNs` on a sorted index: the first entry newer than `since` -/
theorem bsearch_finds_first_newer (ns : Nat → Nat) (since n : Nat) (hmono : ∀ i j, i ≤ j → j < n → ns i ≤ ns j) :
    (∀ i, i < bsearch ns since (n + 1) 0 n → ns i ≤ since) ∧
    (∀ i, bsearch ns since (n + 1) 0 n ≤ i → i < n → since < ns i) ∧ bsearch ns since (n + 1) 0 n ≤ n :=
  bsearch_spec ns since n hmono (n + 1) 0 n (Nat.zero_le _) (Nat.le_refl _) (Nat.le_succ n) (fun _ h => nomatch h)
    (fun _ h1 h2 => absurd h1 (Nat.not_le_of_lt h2))

theorem bsearch_eq (ns : Nat → Nat) (since N n : Nat) (hmono : ∀ i j, i ≤ j → j < N → ns i ≤ ns j) (hn : n ≤ N)
    (hlo : ∀ i, i < n → ns i ≤ since) (hhi : ∀ i, n ≤ i → i < N → since < ns i) : bsearch ns since (N + 1) 0 N = n := by
  obtain ⟨h1, h2, h3⟩ := bsearch_finds_first_newer ns since N hmono
  generalize bsearch ns since (N + 1) 0 N = l at h1 h2 h3
  refine Nat.le_antisymm (Nat.le_of_not_lt fun h => ?_) (Nat.le_of_not_lt fun h => ?_)
  · exact absurd (h1 n h) (Nat.not_le_of_lt (hhi n (Nat.le_refl _) (Nat.lt_of_lt_of_le h h3)))
  · exact absurd (hlo l h) (Nat.not_le_of_lt (h2 l (Nat.le_refl _) (Nat.lt_of_lt_of_le h hn)))

theorem scanStep_files (b : CVol) (p : Rec × Nat) :
    (scanStep b p).v.log = b.v.log ++ [p.1] ∧ (scanStep b p).ats = b.ats ++ [p.2] ∧
    (scanStep b p).ilog = b.ilog ++ [⟨p.1.id, b.v.log.length + 1, if 0 < p.1.size then p.1.size else -1⟩] := by
  unfold scanStep
  split <;> exact ⟨rfl, rfl, rfl⟩

theorem scan_one {src b : CVol} {n : Nat} (hok : SrcOK src) (hne : NoEmpty src) (hp : Prefix b src n)
    {r : Rec} {a : Nat} (hr : src.v.log[n]? = some r) (ha : src.ats[n]? = some a) :
    Prefix (scanStep b (r, a)) src (n + 1) := by
  obtain ⟨hn, hl, hat, hil⟩ := hp
  have hlt : n < src.v.log.length := (List.getElem?_eq_some_iff.1 hr).1
  obtain ⟨e, he⟩ : ∃ e, src.ilog[n]? = some e := ⟨_, List.getElem?_eq_getElem (hok.ilen ▸ hlt)⟩
  obtain ⟨h1, h2, h3⟩ := scanStep_files b (r, a)
  refine ⟨hlt, ?_, ?_, ?_⟩
  · rw [h1, hl, List.take_add_one, hr]; rfl
  · rw [h2, hat, List.take_add_one, ha]; rfl
  · rw [h3, hil, List.take_add_one, he, hl, List.length_take, Nat.min_eq_left hn]
    -- the source's entry for this record is the one the scanner writes: no entry has size 0
    have hoff := hok.ioff n e he
    obtain ⟨hkey, hsz⟩ := hok.ient n e r he hr
    have hne' := hne e (List.mem_of_getElem? he)
    obtain ⟨ek, eo, es⟩ := e
    simp only at hoff hkey hsz hne'
    have : es = if 0 < r.size then r.size else -1 := by
      by_cases hpos : 0 < r.size
      · rw [if_pos hpos]; exact hsz.elim (·.2) fun h => absurd hpos (h.1 ▸ Int.lt_irrefl 0)
      · rw [if_neg hpos]
        exact hsz.elim (fun h => absurd (h.2.trans (Int.le_antisymm (Int.not_lt.1 hpos) h.1)) hne') (·.2)
    rw [hoff, hkey, this]; rfl

theorem scan_fold {src : CVol} (hok : SrcOK src) (hne : NoEmpty src) {n : Nat} {b : CVol} (hp : Prefix b src n) :
    Prefix (((src.v.log.zip src.ats).drop n).foldl scanStep b) src src.v.log.length := by
  have hzip : (src.v.log.zip src.ats).length = src.v.log.length := by rw [List.length_zip, hok.alen, Nat.min_self]
  generalize hd : src.v.log.length - n = d
  induction d generalizing n b with
  | zero =>
    have hn : n = src.v.log.length := Nat.le_antisymm hp.1 (Nat.sub_eq_zero_iff_le.1 hd)
    rw [List.drop_of_length_le (Nat.le_of_eq (hzip.trans hn.symm)), ← hn]
    exact hp
  | succ d ih =>
    rw [List.drop_eq_getElem_cons (hzip ▸ Nat.lt_of_sub_eq_succ hd), List.foldl_cons, List.getElem_zip]
    exact ih (scan_one hok hne hp (List.getElem?_eq_getElem _) (List.getElem?_eq_getElem _))
      (by rw [Nat.sub_succ, hd]; rfl)

theorem prefix_full {b src : CVol} (hok : SrcOK src) (hp : Prefix b src src.v.log.length) :
    b.v.log = src.v.log ∧ b.ats = src.ats ∧ b.ilog = src.ilog := by
  obtain ⟨_, h1, h2, h3⟩ := hp
  refine ⟨by rw [h1, List.take_length], ?_, ?_⟩
  · rw [h2, ← hok.alen, List.take_length]
  · rw [h3, ← hok.ilen, List.take_length]

/-- `findLastAppendAtNs` of a backup that holds the first `n` records -/
theorem sinceOf_prefix {src b : CVol} {n : Nat} (hok : SrcOK src) (hp : Prefix b src n) :
    sinceOf b = if n = 0 then 0 else src.ats.getD (n - 1) 0 := by
  obtain ⟨hn, _, hat, hil⟩ := hp
  unfold sinceOf
  by_cases h0 : n = 0
  · rw [if_pos h0, hil, h0]; rfl
  · obtain ⟨e, he, hoff⟩ := srcok_getLast_take hok h0 hn
    rw [if_neg h0, hil, he]
    simp only [hoff, h0, if_false]
    rw [hat, atOf_take _ h0 (Nat.le_refl n)]; rfl

/-- `IncrementalBackup` of a backup that holds a prefix of a never-compacted, time-ordered source
    without empty blobs copies exactly the missing records -/
theorem incremental_completes {src b : CVol} {n : Nat} (hok : SrcOK src) (hne : NoEmpty src) (hp : Prefix b src n) :
    Prefix (incremental b src) src src.v.log.length := by
  have hn := hp.1
  -- AppendAtNs of the record the i-th idx entry points at = the i-th timestamp
  have hns : ∀ i, i < src.v.log.length → atOf src.ats (entOff src.ilog i) = src.ats.getD i 0 := fun i hi => by
    rw [srcok_entOff hok hi]; rfl
  -- the search lands exactly behind the backup's records: those are older than the request, the rest newer
  have hres : bsearch (fun m => atOf src.ats (entOff src.ilog m)) (sinceOf b) (src.v.log.length + 1) 0 src.v.log.length = n := by
    refine bsearch_eq _ _ _ n (fun i j hij hj => ?_) hn (fun i hi => ?_) (fun i hi hiN => ?_)
    · show atOf src.ats (entOff src.ilog i) ≤ atOf src.ats (entOff src.ilog j)
      rw [hns i (Nat.lt_of_le_of_lt hij hj), hns j hj]
      exact srcok_getD_le hok hij hj
    · show atOf src.ats (entOff src.ilog i) ≤ sinceOf b
      rw [hns i (Nat.lt_of_lt_of_le hi hn), sinceOf_prefix hok hp, if_neg (Nat.ne_of_gt (Nat.zero_lt_of_lt hi))]
      exact srcok_getD_le hok (Nat.le_sub_one_of_lt hi) (pred_lt (Nat.ne_of_gt (Nat.zero_lt_of_lt hi)) hn)
    · show sinceOf b < atOf src.ats (entOff src.ilog i)
      rw [hns i hiN, sinceOf_prefix hok hp]
      by_cases h0 : n = 0
      · rw [if_pos h0]; exact srcok_getD_pos hok hiN
      · rw [if_neg h0]; exact srcok_getD_lt hok (pred_lt h0 hi) hiN
  unfold incremental copyFrom
  simp only [hok.ilen, hres]
  by_cases hfull : n = src.v.log.length
  · rw [if_pos hfull, ← hfull]; exact hp
  · rw [if_neg hfull]
    simp only [srcok_entOff hok (Nat.lt_of_le_of_ne hn hfull), Nat.add_sub_cancel]
    exact scan_fold hok hne hp

theorem prefix_cut {b src : CVol} {n : Nat} (hok : SrcOK src) (hp : Prefix b src n) : cutAt b.ilog b.v.log = none := by
  obtain ⟨hn, hl, _, hil⟩ := hp
  refine cutAt_none_of_tailOK fun e he => Or.inr ?_
  by_cases h0 : n = 0
  · rw [hil, h0] at he; cases he
  · obtain ⟨e', he', hoff⟩ := srcok_getLast_take hok h0 hn
    rw [hil, he'] at he; cases he
    rw [hl, List.length_take, hoff]; exact Nat.min_le_left _ _

theorem prefix_reload {b src : CVol} {n : Nat} (hok : SrcOK src) (hp : Prefix b src n) : Prefix (reload b) src n := by
  have hc := prefix_cut hok hp
  obtain ⟨hn, hl, hat, hil⟩ := hp
  refine ⟨hn, ?_, ?_, hil⟩
  · show (reload b).v.log = _; simp only [reload, hc]; exact hl
  · show (reload b).ats = _; simp only [reload, hc]; exact hat

theorem datSize_take_le (log : List Rec) (n : Nat) : datSize (log.take n) ≤ datSize log := by
  unfold datSize
  conv => rhs; rw [← List.take_append_drop n log]
  rw [List.map_append, List.sum_append]
  exact Nat.add_le_add_left (Nat.le_add_right _ _) 8

/-- One run of `weed backup`, for a backup that holds a prefix of the source's files (`hp`), against a source `src` that
    operations produced from a fresh volume (so it was never compacted and its index follows its .idx file), with one
    .idx entry per record, increasing AppendAtNs and no empty blob: afterwards the backup holds the source's files and
    reads like the source. -/
theorem backupRun_converges {kind : Kind} {ttl : Nat × Nat} {src b : CVol} {n : Nat} (hs : Suf (CVol.init kind ttl) src)
    (hok : SrcOK src) (hne : NoEmpty src) (hp : Prefix b src n) (nowSec nowNs t k : Nat) :
    Prefix (backupRun b src nowSec nowNs).1 src src.v.log.length ∧
    backupView (backupRun b src nowSec nowNs).1 t k = view src t k := by
  have hp0 := prefix_reload hok hp
  -- the source was never compacted and is not smaller than the backup: neither local compaction nor re-creation
  have hrun : (backupRun b src nowSec nowNs).1 = incremental (reload b) src := by
    unfold backupRun
    have hc : decide ((reload b).rev < src.rev) = false := by rw [hs.rev]; exact decide_eq_false (Nat.not_lt_zero _)
    have hr : decide (datSize src.v.log < datSize (reload b).v.log) = false := by
      rw [hp0.2.1]; exact decide_eq_false (Nat.not_lt_of_le (datSize_take_le src.v.log n))
    simp only [hc, Bool.false_eq_true, if_false, hr]
  rw [hrun]
  have hfull := incremental_completes hok hne hp0
  refine ⟨hfull, ?_⟩
  obtain ⟨hl, hat, hil⟩ := prefix_full hok hfull
  -- both sides read through the last .idx entry of the key: the reloaded index and the source's online index
  have hv := suf_view hs t k
  rw [show src.ilog.drop (CVol.init kind ttl).ilog.length = src.ilog from rfl] at hv
  unfold backupView
  rw [view_reload_nocut _ (prefix_cut hok hfull), hl, hat, hil, viewOf_reloadIdx, hv]
  cases hlast : lastFor src.ilog k with
  | none => rfl
  | some e =>
    dsimp only
    have hnz := hne e (lastFor_some hlast).1
    by_cases hpos : 0 < e.size
    · rw [if_pos ((validEnt_iff e).2 ⟨(hs.touched hlast).1, hpos⟩), if_pos (Int.le_of_lt hpos)]
    · rw [if_neg (fun h => hpos ((validEnt_iff e).1 h).2), if_neg fun h => hpos (Int.lt_iff_le_and_ne.2 ⟨h, Ne.symm hnz⟩)]

/-- **Incremental backup converges** — partial: the source is ANY volume reached from a fresh one by
    writes / deletes / reads (no compaction) issued at strictly increasing clock values (`Incr`: the reads count
    too; hence strictly increasing AppendAtNs) and without empty blobs; the backup holds any prefix of it (empty,
    or the result of an earlier run against an earlier state of the source).  After one run of `weed backup` the backup's .dat/.idx are the
    source's (hence the same holds for every later run), and every id reads the same on both sides. -/
theorem backup_converges_partial (kind : Kind) (ttl : Nat × Nat) (ops : List (Nat × Op)) (hinc : Incr 0 ops)
    (hne : NoEmpty (runOps (CVol.init kind ttl) ops)) (b : CVol) (n : Nat)
    (hp : Prefix b (runOps (CVol.init kind ttl) ops) n) (nowSec nowNs t k : Nat) :
    Prefix (backupRun b (runOps (CVol.init kind ttl) ops) nowSec nowNs).1 (runOps (CVol.init kind ttl) ops)
        (runOps (CVol.init kind ttl) ops).v.log.length ∧
    backupView (backupRun b (runOps (CVol.init kind ttl) ops) nowSec nowNs).1 t k
      = view (runOps (CVol.init kind ttl) ops) t k :=
  backupRun_converges (suf_run (wf_init kind ttl) ops) (srcok_reachable kind ttl ops hinc) hne hp nowSec nowNs t k

/-- the empty backup is a prefix of every source: the first run is covered -/
theorem prefix_empty (src : CVol) (kind : Kind) (ttl : Nat × Nat) : Prefix (CVol.init kind ttl) src 0 :=
  ⟨Nat.zero_le _, List.take_zero.symm, List.take_zero.symm, List.take_zero.symm⟩

theorem prefix_of_suf {b src src' : CVol} (hok : SrcOK src) (hs : Suf src src')
    (hfull : Prefix b src src.v.log.length) : Prefix b src' src.v.log.length := by
  obtain ⟨h1, h2, h3⟩ := prefix_full hok hfull
  refine ⟨hs.log.length_le, ?_, ?_, ?_⟩
  · rw [h1]; exact List.prefix_iff_eq_take.1 hs.log
  · rw [h2, ← hok.alen]; exact List.prefix_iff_eq_take.1 hs.ats
  · rw [h3, ← hok.ilen]; exact List.prefix_iff_eq_take.1 hs.ilog

theorem incr_append_left {lo : Nat} {a b : List (Nat × Op)} (h : Incr lo (a ++ b)) : Incr lo a := by
  induction a generalizing lo with
  | nil => trivial
  | cons o a ih => obtain ⟨t, op⟩ := o; exact ⟨h.1, ih h.2⟩

/-- two runs with the source moving on in between (the induction step for any number of runs) -/
theorem backup_converges_twice (kind : Kind) (ttl : Nat × Nat) (ops1 ops2 : List (Nat × Op))
    (hinc : Incr 0 (ops1 ++ ops2)) (hne : NoEmpty (runOps (CVol.init kind ttl) (ops1 ++ ops2)))
    (b0 : CVol) (n0 : Nat) (hp0 : Prefix b0 (runOps (CVol.init kind ttl) ops1) n0) (s1 t1 s2 t2 t k : Nat) :
    backupView (backupRun (backupRun b0 (runOps (CVol.init kind ttl) ops1) s1 t1).1
        (runOps (CVol.init kind ttl) (ops1 ++ ops2)) s2 t2).1 t k
      = view (runOps (CVol.init kind ttl) (ops1 ++ ops2)) t k := by
  have hinc1 := incr_append_left hinc
  have hs2 := suf_run (wf_reachable kind ttl ops1) ops2
  have hne1 : NoEmpty (runOps (CVol.init kind ttl) ops1) := fun e he =>
    hne e (runOps_append _ ops1 ops2 ▸ hs2.ilog.subset he)
  have h1 := (backup_converges_partial kind ttl ops1 hinc1 hne1 b0 n0 hp0 s1 t1 t k).1
  have h2 := prefix_of_suf (srcok_reachable kind ttl ops1 hinc1) hs2 h1
  rw [← runOps_append] at h2
  exact (backup_converges_partial kind ttl (ops1 ++ ops2) hinc hne _ _ h2 s2 t2 t k).2

/-! The full-strength statement is false of the code: witnesses (replayed in corpus/C37/witnesses.ops). -/

def blob (d : String) : Content := { data := d }
def fresh : CVol := CVol.init .mem (0, 0)

/-- overwrite + source compaction: the key-ordered index defeats the binary search, the backup keeps the old bytes -/
theorem stale_after_compaction_witness :
    let s1 := runOps fresh [(1, .write 1 7 (blob "aa")), (2, .write 2 7 (blob "bb"))]
    let b1 := (backupRun fresh s1 100 3).1
    let s2 := srcCompact (runOps s1 [(4, .write 1 7 (blob "cc"))]) 100 5
    let b2 := (backupRun b1 s2 100 6).1
    backupView b1 9 1 = view s1 9 1 ∧ view s2 9 1 = some (7, blob "cc") ∧ backupView b2 9 1 = some (7, blob "aa") := by decide +kernel

/-- a delete compacted away at the source never reaches the backup -/
theorem deleted_served_witness :
    let s1 := runOps fresh [(1, .write 1 7 (blob "aa")), (2, .write 2 7 (blob "bb"))]
    let b1 := (backupRun fresh s1 100 3).1
    let s2 := srcCompact (runOps s1 [(4, .delete 2 7), (5, .write 4 7 (blob "dd"))]) 100 6
    let b2 := (backupRun b1 s2 100 7).1
    view s2 9 2 = none ∧ backupView b2 9 2 = some (7, blob "bb") := by decide +kernel

/-- an empty blob is indexed as a deletion by the backup's scanner -/
theorem empty_blob_witness :
    let s1 := runOps fresh [(1, .write 3 7 (blob ""))]
    view s1 9 3 = some (0, Content.empty) ∧ backupView (backupRun fresh s1 100 2).1 9 3 = none := by decide +kernel

/-- the hypotheses of `backup_converges_partial` are satisfiable -/
example :
    let ops := [(1, Op.write 1 7 (blob "aa")), (2, Op.write 2 7 (blob "bb")), (3, Op.delete 1 7)]
    Incr 0 ops ∧ NoEmpty (runOps fresh ops) ∧ backupView (backupRun fresh (runOps fresh ops) 100 4).1 9 2 = some (7, blob "bb") := by
  refine ⟨by simp [Incr], by unfold NoEmpty; decide +kernel, by decide +kernel⟩

/-- the judge accepts a backup that serves what the source serves (whatever the model predicted) -/
theorem judge_accepts_equal (rev : Nat) (a m : Option (Nat × String)) : classify rev a m a = none := by
  cases a with
  | none => rfl
  | some x => simp [classify, verdict]

/-- the MODEL's backup passes the judge after every run covered by `backup_converges_partial` -/
theorem judge_accepts_model_partial (kind : Kind) (ttl : Nat × Nat) (ops : List (Nat × Op)) (hinc : Incr 0 ops)
    (hne : NoEmpty (runOps (CVol.init kind ttl) ops)) (b : CVol) (n : Nat)
    (hp : Prefix b (runOps (CVol.init kind ttl) ops) n) (nowSec nowNs t k : Nat) (mv : Option (Nat × String)) :
    classify (runOps (CVol.init kind ttl) ops).rev (obs (view (runOps (CVol.init kind ttl) ops) t k)) mv
      (obs (backupView (backupRun b (runOps (CVol.init kind ttl) ops) nowSec nowNs).1 t k)) = none := by
  rw [(backup_converges_partial kind ttl ops hinc hne b n hp nowSec nowNs t k).2]
  exact judge_accepts_equal _ _ _

/-- A failure is filed under a RECORDED defect only if the model of the recorded mechanisms serves
    exactly the observed answer; every other failure keeps the verdict's own (unrecorded) class. -/
theorem judge_unexplained_failure_is_unrecorded (rev : Nat) (sv mv impl : Option (Nat × String)) (c : String)
    (h : classify rev sv mv impl = some c) (hne : impl ≠ mv) :
    verdict sv impl = some c ∧ c ∈ ["backup/wrong-content", "backup/misses-live-blob", "backup/serves-deleted-blob"] := by
  unfold classify at h
  cases hv : verdict sv impl with
  | none => simp [hv] at h
  | some cls =>
    simp only [hv, hne, if_false, Option.some.injEq] at h
    subst h
    refine ⟨rfl, ?_⟩
    unfold verdict at hv
    cases sv <;> cases impl <;> simp at hv
    · simp [← hv]
    · simp [← hv]
    · rw [← hv.2]; simp

/-- non-vacuity, and the situation `judge_unexplained_failure_is_unrecorded` is there for: source compaction,
    then a write, then a run WITH the local-compaction step.  The model's backup (its local compaction keeps
    the AppendAtNs of the records it copies, so the delta request still starts behind the last backed-up
    record) fetches the new blob and the judge accepts; a backup that lacks it is reported under the
    unrecorded class. -/
example :
    let s1 := runOps fresh [(1, .write 1 7 (blob "aa")), (2, .write 2 7 (blob "bb"))]
    let b1 := (backupRun fresh s1 100 3).1
    let s1' := runOps s1 [(4, .delete 1 7)]
    let b1' := (backupRun b1 s1' 100 5).1
    let s2 := runOps (srcCompact s1' 100 6) [(7, .write 3 7 (blob "cc"))]
    let r2 := backupRun b1' s2 100 8
    r2.2.1 = true ∧ r2.2.2 = false ∧ backupView r2.1 9 3 = some (7, blob "cc") ∧
    classify s2.rev (obs (view s2 9 3)) (obs (backupView r2.1 9 3)) (obs (backupView r2.1 9 3)) = none ∧
    classify s2.rev (obs (view s2 9 3)) (obs (backupView r2.1 9 3)) none = some "backup/misses-live-blob" ∧
    classify s2.rev (obs (view s2 9 1)) (obs (backupView r2.1 9 1)) (some (7, "aa")) = some "backup/serves-deleted-blob" := by decide +kernel

/-- the Go functions the model mirrors, pinned by the first 8 bytes of the sha256 of their whitespace-normalised source -/
theorem bridge_sources :
    SwV.Gen.C37.src_runBackup = "9aa4a4568c568850" ∧ SwV.Gen.C37.src_IncrementalBackup = "ce96a1a7f2917c2c" ∧
    SwV.Gen.C37.src_BinarySearchByAppendAtNs = "4d080610939050c1" ∧ SwV.Gen.C37.src_findLastAppendAtNs = "5c18586c469d7c99" ∧
    SwV.Gen.C37.src_locateLastAppendEntry = "72538a5bc096438e" ∧ SwV.Gen.C37.src_GenIdx_VisitNeedle = "a3dc4b02e03de63d" ∧
    SwV.Gen.C37.src_VolumeIncrementalCopy = "be4cdcac1f56653c" ∧ SwV.Gen.C37.src_PaddingLength = "59817c1be0140032" := by decide +kernel

/-- `diskSize` is GetActualSize with the regenerated constants -/
theorem bridge_diskSize (size : Nat) :
    (diskSize size : Int) = SwV.Gen.C37.NeedleHeaderSize + size + SwV.Gen.C37.NeedleChecksumSize + SwV.Gen.C37.TimestampSize
      + (SwV.Gen.C37.NeedlePaddingSize - (SwV.Gen.C37.NeedleHeaderSize + size + SwV.Gen.C37.NeedleChecksumSize + SwV.Gen.C37.TimestampSize) % SwV.Gen.C37.NeedlePaddingSize) := by
  have h : diskSize size = 16 + size + 4 + 8 + (8 - (16 + size + 4 + 8) % 8) := by
    unfold diskSize; rw [Int.toNat_natCast]
  -- the one truncated subtraction is exact: a remainder mod 8 is at most 8
  have hm : (16 + size + 4 + 8) % 8 ≤ 8 := Nat.le_of_lt (Nat.mod_lt _ (Nat.zero_lt_succ _))
  rw [h, Int.natCast_add, Int.natCast_sub hm, Int.natCast_emod]
  simp only [Int.natCast_add]
  rfl

end SwV.Props.C37
