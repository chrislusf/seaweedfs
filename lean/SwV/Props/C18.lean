/-
C18 — property theorems: the filer namespace stays a well-formed tree.

The statements are about the executable model SwV/Model/C18.lean (for a create arriving during a
rename, Model/C18Late), which the correspondence check compares with the real Filer (leveldb2) after
every operation; the witnesses of the last two sections also run the judge of Spec/C18 on the model's
outcome and on outcomes the model does not produce. `TreeInv` (Lemmas/C18) is
the invariant: the store is a map, parent-closed, directories carry no link id, link records
are files. `OpOk` is the client contract "directories are never given a hard-link id".
-/
import SwV.Model.C18
import SwV.Gen.C18
import SwV.Spec.C18
import SwV.Lemmas.C18
import SwV.Lemmas.C18Rename
import SwV.Lemmas.C18Final

namespace SwV.Props.C18
open SwV.Model.C18 SwV.Spec.C18 SwV.Lemmas.C18

/-- MAIN: after any sequence of creates, updates, writes, links, unlinks, deletes (recursive or not, with or
    without data) and renames (also failing or diverging ones, which keep what they already did) that meets `OpOk`
    the store is a parent-closed map. By induction over the sequence; every building block of the model preserves `TreeInv`. -/
theorem tree_inv (ops : List Op) (ok : ∀ op ∈ ops, OpOk op) : TreeInv (run {} ops) :=
  inv_run ops {} inv_empty ok

example : ∃ ops : List Op, ops ≠ [] ∧ ∀ op ∈ ops, OpOk op :=
  ⟨[.rename ["a"] ["b"], .create ["a"] { isDir := true, tag := 1, chunks := [], hl := 0, cnt := 0 } false], List.cons_ne_nil _ _, by decide +kernel⟩

theorem tree_inv_step (s : St) (op : Op) (inv : TreeInv s) (ok : OpOk op) : TreeInv (step s op).1 := inv_step inv ok

/-- the invariant implies the judge's predicate `wellFormed` (what the driver checks on the implementation's dump) -/
theorem wellFormed_of_inv (s : St) (inv : TreeInv s) : wellFormed s.ents = true := by
  unfold wellFormed
  rw [List.all_eq_true]
  intro x hx
  have P := inv.parent x hx
  rcases x with ⟨p, e⟩
  cases p with
  | nil => exact absurd rfl P.1
  | cons n par =>
    simp only [List.tail_cons] at P
    rcases P.2 with h | ⟨d, hd, hdir⟩
    · simp [h]
    · simp [lookup_of_mem_nodup inv.nodup hd, hdir]

theorem tree_wellFormed (ops : List Op) (ok : ∀ op ∈ ops, OpOk op) : wellFormed (run {} ops).ents = true :=
  wellFormed_of_inv _ (tree_inv ops ok)

/-- "every entry's ancestors exist and are directories": every proper non-root ancestor q of a stored path -/
theorem tree_ancestors (ops : List Op) (ok : ∀ op ∈ ops, OpOk op) :
    ∀ (p : RPath) (e : Entry), (p, e) ∈ (run {} ops).ents →
    ∀ q : RPath, q ≠ [] → q <:+ p → q ≠ p → ∃ d, (q, d) ∈ (run {} ops).ents ∧ d.isDir = true :=
  ancestors_of_inv (tree_inv ops ok)

theorem file_has_no_children (s : St) (inv : TreeInv s) (p : RPath) (e : Entry) (hp : (p, e) ∈ s.ents) (hf : e.isDir = false) :
    ∀ x ∈ s.ents, x.1 ≠ [] → x.1.tail ≠ p :=
  fun x hx hne ht => not_pd_file inv hp hf x hx (pd_of_tail hne ht)

/-- CreateEntry (plain create, overwrite, O_EXCL, with implicit parent creation) never changes the kind of a stored path
    of a store that satisfies `TreeInv` -/
theorem no_type_flip_create (s : St) (inv : TreeInv s) (p : RPath) (e : Entry) (x : Bool) (q : RPath) (a b : Entry)
    (ha : (q, a) ∈ s.ents) (hb : (q, b) ∈ (createEntry s p e x).1.ents) : a.isDir = b.isDir :=
  createEntry_type_stable inv ha hb

/-- UpdateEntry never changes the kind of a stored path of a store that satisfies `TreeInv` -/
theorem no_type_flip_update (s : St) (inv : TreeInv s) (p : RPath) (e : Entry) (q : RPath) (a b : Entry)
    (ha : (q, a) ∈ s.ents) (hb : (q, b) ∈ (updateEntry s p e).1.ents) : a.isDir = b.isDir :=
  updateEntry_type_stable inv ha hb

/-- a create of the other kind over an existing path is refused and changes nothing -/
theorem create_other_kind_refused (s : St) (n : String) (par : RPath) (e old : Entry) (x : Bool)
    (h : find s (n :: par) = some old) (hk : old.isDir ≠ e.isDir) :
    createEntry s (n :: par) e x = (s, .err, []) := by
  rw [createEntry_present e x h, if_pos (bne_iff_ne.mpr hk), ite_self]

theorem delete_only_removes (s : St) (inv : TreeInv s) (p : RPath) (r dc : Bool) :
    ∀ x ∈ (deleteEntry s p r dc).1.ents, x ∈ s.ents :=
  deleteEntry_subset

/-- a non-recursive delete of a non-empty directory fails and changes nothing (state, sinks) -/
theorem delete_nonrecursive_nonempty_refused (s : St) (n : String) (par : RPath) (e : Entry) (dc : Bool)
    (h : find s (n :: par) = some e) (hd : e.isDir = true) (hc : children s (n :: par) ≠ []) :
    deleteEntry s (n :: par) false dc = (s, .err, []) :=
  deleteEntry_refused dc h hd hc

example : ∃ (s : St) (e : Entry), find s ["a"] = some e ∧ e.isDir = true ∧ children s ["a"] ≠ [] :=
  ⟨run {} [.create ["b", "a"] { isDir := false, tag := 1, chunks := [1], hl := 0, cnt := 0 } false],
   { isDir := true, tag := 1, chunks := [], hl := 0, cnt := 0 }, by decide +kernel, by decide +kernel, by decide +kernel⟩

/-- under `TreeInv` a recursive delete of any existing path succeeds and removes exactly the subtree rooted there: the entry and
    every descendant go, everything else stays as it was (whatever the data-deletion flag) -/
theorem delete_recursive_removes_exactly_subtree (s : St) (inv : TreeInv s) (n : String) (par : RPath) (e : Entry)
    (dc : Bool) (h : find s (n :: par) = some e) :
    (deleteEntry s (n :: par) true dc).2.1 = Res.ok ∧
    ∀ x, x ∈ (deleteEntry s (n :: par) true dc).1.ents ↔ x ∈ s.ents ∧ ¬ (n :: par) <:+ x.1 := by
  rcases deleteEntry_recursive inv dc h with ⟨s1, dcs, hs, heq, _, hx⟩
  rw [heq, delFinish_res]
  exact ⟨rfl, hx⟩

/-- … which is the abstract `specDelete` of the spec (what the judge compares the implementation's dump with) -/
theorem delete_recursive_is_specDelete (s : St) (inv : TreeInv s) (n : String) (par : RPath) (e : Entry)
    (dc : Bool) (h : find s (n :: par) = some e) :
    ∀ x, x ∈ (deleteEntry s (n :: par) true dc).1.ents ↔ x ∈ specDelete s.ents (n :: par) := by
  intro x
  rw [(delete_recursive_removes_exactly_subtree s inv n par e dc h).2 x]
  simp [specDelete, under, ← List.isSuffixOf_iff_suffix]

/-! ### rename into the own subtree

FULL-STRENGTH statement (property text): "renaming a directory into itself or one of its descendants is
refused", i.e. `∀ s src dst e, find s src = some e → src <:+ dst → src ≠ dst → renameEntry s src dst = (s, .err, [])`.
It is FALSE of the model and of the code (known finding rename/into-own-subtree-not-refused): -/

def witnessDir : Entry := { isDir := true, tag := 1, chunks := [], hl := 0, cnt := 0 }
def witnessState : St := run {} [.create ["a"] witnessDir false]

/-- /a → /a/c from the store holding /a alone: an instance of `moveEntry_into_child_diverges`, for every fuel -/
theorem witness_diverges (f : Nat) : (moveEntry f witnessState ["a"] witnessDir ["c", "a"]).2.1 = Res.diverge := by
  have he : witnessState.ents = [(["a"], witnessDir)] := by decide +kernel
  refine moveEntry_into_child_diverges "c" f witnessState ["a"] witnessDir (tree_inv _ (by decide +kernel))
    (he ▸ List.mem_singleton_self _) rfl fun x hx hpd => ?_
  rw [he, List.mem_singleton] at hx
  exact hpd.2 (hx ▸ rfl)

/-- /a → /a/c: the mechanism neither refuses nor finishes: nesting depth 6 is not enough … -/
theorem rename_into_own_subtree_witness :
    find witnessState ["a"] = some witnessDir ∧
    (moveEntry 6 witnessState ["a"] witnessDir ["c", "a"]).2.1 = Res.diverge :=
  ⟨by decide +kernel, witness_diverges 6⟩

/-- … nor is the model's full fuel (64 levels; the harness stops the real recursion at depth 40) -/
theorem rename_into_own_subtree_diverges_witness :
    (renameEntry witnessState ["a"] ["c", "a"]).2.1 = Res.diverge := by
  rw [renameEntry_found rename_into_own_subtree_witness.1]
  exact witness_diverges _

/-- when a file is on the way, a creation fails: a FILE is never moved below itself -/
theorem ensureParent_below_file (e : Entry) (s : St) (inv : TreeInv s) (src : RPath) (f : Entry)
    (hf : (src, f) ∈ s.ents) (hfile : f.isDir = false) :
    ∀ q : RPath, src <:+ q → ensureParent e q s = (s, false) := by
  intro q
  induction q with
  | nil => exact fun h => absurd (List.suffix_nil.mp h) (inv.parent _ hf).1
  | cons n q ih =>
    intro h
    cases hfd : find s (n :: q) with
    | some d =>
      -- the stored path n :: q is src, a file, or lies below it, which nothing does
      rcases find_stored inv hfd with ⟨d0, hm, hk⟩
      have hd : d.isDir = false := by
        by_cases heq : n :: q = src
        · rw [← hk, mem_unique inv.nodup hm (heq ▸ hf), hfile]
        · exact absurd ⟨h, heq⟩ (not_pd_file inv hf hfile _ hm)
      rw [ensureParent_found e hfd, hd]
    | none =>
      have h' : src <:+ q := (List.suffix_cons_iff.mp h).resolve_left fun heq => not_mem_of_find_none hfd f (heq ▸ hf)
      rw [ensureParent_absent e hfd, ih h']
      rfl

/-- PARTIAL (hypothesis = the source is not a directory; directories are the known finding):
    renaming a file below itself is refused and changes nothing. -/
theorem rename_into_own_subtree_refused_partial (s : St) (inv : TreeInv s) (src dst : RPath) (e : Entry)
    (h : find s src = some e) (hfile : e.isDir = false) (hsub : src <:+ dst) (hne : src ≠ dst) :
    renameEntry s src dst = (s, .err, []) := by
  rcases find_stored inv h with ⟨f, hf, hk⟩
  have hff : f.isDir = false := hk.trans hfile
  cases dst with
  | nil => exact absurd (List.suffix_nil.mp hsub) (inv.parent _ hf).1
  | cons n par =>
    -- the target is below a file: it is not stored, and creating it fails at the file
    have hnone : find s (n :: par) = none :=
      find_none_of_absent fun c hc => not_pd_file inv hf hff _ hc ⟨hsub, fun h => hne h.symm⟩
    rw [renameEntry_found h, moveEntry_succ, if_neg hne, createEntry_absent _ _ hnone,
      ensureParent_below_file _ s inv src f hf hff par ((List.suffix_cons_iff.mp hsub).resolve_left hne)]
    rfl

example : ∃ (s : St) (e : Entry), TreeInv s ∧ find s ["a"] = some e ∧ e.isDir = false :=
  ⟨run {} [.create ["a"] { isDir := false, tag := 1, chunks := [1], hl := 0, cnt := 0 } false],
   { isDir := false, tag := 1, chunks := [1], hl := 0, cnt := 0 }, tree_inv _ (by decide +kernel), by decide +kernel, by decide +kernel⟩

/-! ### rename onto an ancestor -/

/-- known finding rename/onto-ancestor-loses-entries: /b/c → /b with /b/c/c present: the rename reports success and
    /b/c/c's image /b/c is gone (FULL-STRENGTH "rename never loses an entry" is false) -/
theorem rename_onto_ancestor_loses_witness :
    let s := run {} [.create ["c", "c", "b"] witnessDir false]
    (s.ents.map (·.1)) = [["c", "c", "b"], ["c", "b"], ["b"]] ∧
    (renameEntry s ["c", "b"] ["b"]).2.1 = Res.ok ∧
    ((renameEntry s ["c", "b"] ["b"]).1.ents.map (·.1)) = [["b"]] := by decide +kernel

/-! ### rename of a plain file -/

/-- renaming a plain file to a new name whose directory exists moves exactly that entry: it shows under the new name
    with the same kind, attributes and chunks, is gone from the old one, nothing else changes, nothing is handed to a
    deletion sink (the model of moveSelfEntry: CreateEntry(new) then DeleteEntryMetaAndData(old) without data) -/
theorem rename_file_moves (s : St) (inv : TreeInv s) (src : RPath) (n : String) (par : RPath) (a : Entry)
    (hm : (src, a) ∈ s.ents) (hfile : a.isDir = false) (hplain : a.hl = 0)
    (habs : find s (n :: par) = none)
    (hpar : par = [] ∨ ∃ d, find s par = some d ∧ d.isDir = true) :
    ∃ s', renameEntry s src (n :: par) = (s', .ok, []) ∧ s'.kv = s.kv ∧
      ∀ x, x ∈ s'.ents ↔ x = (n :: par, { a with hl := 0, cnt := 0 }) ∨ (x ∈ s.ents ∧ x.1 ≠ src) := by
  have hf : find s src = some a := find_plain_of_mem inv hm hplain
  have hne : src ≠ n :: par := fun h => by rw [h, habs] at hf; cases hf
  have hpar' : par = [] ∨ ∃ d, (par, d) ∈ s.ents ∧ d.isDir = true :=
    hpar.imp_right fun ⟨d, hd, hdir⟩ => let ⟨d0, hd0, hk0⟩ := find_stored inv hd; ⟨d0, hd0, hk0.trans hdir⟩
  have hcreate := createEntry_fresh inv (strip a) false (not_mem_of_find_none habs) (List.cons_ne_nil n par) hpar'
  have inv1 : TreeInv (wInsert s (n :: par) (strip a)) :=
    inv_wInsert inv (fun _ => rfl) (List.cons_ne_nil n par) hpar' fun c hc => absurd hc (not_mem_of_find_none habs c)
  have hf1 : find (wInsert s (n :: par) (strip a)) src = some a :=
    find_plain_of_mem inv1 (mem_wInsert.mpr (Or.inr ⟨hm, hne⟩)) hplain
  cases src with
  | nil => exact absurd rfl (inv.parent _ hm).1
  | cons m q =>
    have hdel := deleteEntry_childless false false hf1 fun h => absurd (hfile.symm.trans h) Bool.false_ne_true
    refine ⟨deleteOne (wInsert s (n :: par) (strip a)) (m :: q) a, ?_, ?_, fun x => ?_⟩
    · rw [renameEntry_found hf, moveEntry_succ, if_neg hne, hcreate]
      simp only [hfile, Bool.false_eq_true, if_false, hdel]
      rfl
    · -- neither entry carries a link identity: the KV records are not touched
      simp [deleteOne, hplain, wInsert, handleUpdateToHardLinks, strip]
    · rw [deleteOne_ents, mem_erase, mem_wInsert_fresh (not_mem_of_find_none habs), or_and_right]
      exact or_congr_left (and_iff_left_of_imp fun h => h ▸ fun h' => hne h'.symm)

example : ∃ (s : St) (a : Entry), TreeInv s ∧ (["a"], a) ∈ s.ents ∧ a.isDir = false ∧ a.hl = 0 ∧ find s ["b"] = none :=
  ⟨run {} [.create ["a"] { isDir := false, tag := 1, chunks := [1], hl := 0, cnt := 0 } false],
   { isDir := false, tag := 1, chunks := [1], hl := 0, cnt := 0 }, tree_inv _ (by decide +kernel), by decide +kernel, rfl, rfl, by decide +kernel⟩

/-! ### rename of a DIRECTORY moves the whole subtree

FULL-STRENGTH statement (property text): "a rename moves the whole subtree without loss or duplication", for every
source and target. It is FALSE when the target lies inside the source (`rename_into_own_subtree_diverges_witness`) or
is an ancestor of the source (`rename_onto_ancestor_loses_witness`) — the two recorded findings. Outside these two
classes, for a fresh target whose directory exists, it holds for EVERY store that satisfies `TreeInv` and EVERY subtree
the fuel covers: -/

/-- the fuel of the model's recursion is sufficient: with ANY fuel exceeding the height of the source subtree, moveEntry of
    a stored entry (file or directory, with arbitrarily many descendants) to a fresh path whose directory exists and that is
    neither inside nor above the source finishes with `ok`, hands nothing to a deletion sink, keeps the invariant (so no path is duplicated) and
    yields exactly the subtree move: every entry under `old` re-rooted under `new`, everything else untouched -/
theorem rename_fuel_sufficient (f : Nat) (s : St) (inv : TreeInv s) (old new : RPath) (e : Entry)
    (hm : (old, e) ∈ s.ents) (hfresh : ∀ c, (new, c) ∉ s.ents) (hnn : new ≠ [])
    (hpar : new.tail = [] ∨ ∃ d, (new.tail, d) ∈ s.ents ∧ d.isDir = true)
    (h1 : ¬ old <:+ new) (h2 : ¬ new <:+ old)
    (hfuel : ∀ x ∈ s.ents, old <:+ x.1 → x.1.length < old.length + f) :
    ∃ s', moveEntry f s old e new = (s', .ok, []) ∧ TreeInv s' ∧
      ∀ x, x ∈ s'.ents ↔ x ∈ specRenameStrip s.ents old new := by
  rcases moveEntry_exact f s old e new inv hm hfresh hnn hpar h1 h2 hfuel with ⟨s', hr, inv', mv⟩
  exact ⟨s', hr, inv', fun x => (mv x).trans mem_specRenameStrip.symm⟩

/-- PARTIAL (hypotheses = the target is fresh with an existing directory, and is neither inside the source nor an ancestor
    of it — the two recorded findings rename/into-own-subtree-not-refused and rename/onto-ancestor-loses-entries; the
    subtree is less than `renameFuel` = 64 levels high, the model's recursion bound): AtomicRenameEntry of a directory
    with any number of descendants succeeds and the resulting store is the spec's subtree move of the old one: every
    path under `src` re-rooted under `dst` (none lost), nothing else changed, no path twice (`TreeInv`), no chunk handed
    to a deletion sink. Moved entries carry no link identity (`strip`: moveSelfEntry clears HardLinkId) -/
theorem rename_dir_moves_subtree_partial (s : St) (inv : TreeInv s) (src dst : RPath) (e : Entry)
    (h : find s src = some e) (hdir : e.isDir = true)
    (hfresh : find s dst = none) (hnn : dst ≠ [])
    (hpar : dst.tail = [] ∨ ∃ d, find s dst.tail = some d ∧ d.isDir = true)
    (h1 : ¬ src <:+ dst) (h2 : ¬ dst <:+ src)
    (hdepth : ∀ x ∈ s.ents, src <:+ x.1 → x.1.length < src.length + renameFuel) :
    ∃ s', renameEntry s src dst = (s', .ok, []) ∧ TreeInv s' ∧
      ∀ x, x ∈ s'.ents ↔ x ∈ specRenameStrip s.ents src dst := by
  rcases find_stored inv h with ⟨e0, hm, hk⟩
  have he : find s src = some e0 := find_dir_of_mem inv hm (by rw [hk, hdir])
  rw [h] at he
  cases he
  have hpar' : dst.tail = [] ∨ ∃ d, (dst.tail, d) ∈ s.ents ∧ d.isDir = true := by
    rcases hpar with h0 | ⟨d, hd, hdd⟩
    · exact Or.inl h0
    · rcases find_stored inv hd with ⟨d0, hd0, hk0⟩
      exact Or.inr ⟨d0, hd0, by rw [hk0, hdd]⟩
  rw [renameEntry_found h]
  exact rename_fuel_sufficient renameFuel s inv src dst e hm (not_mem_of_find_none hfresh) hnn hpar' h1 h2 hdepth

/-- … and when no entry of the subtree carries a link id or a link counter this is literally the spec's `specRename` -/
theorem rename_dir_is_specRename_partial (s : St) (inv : TreeInv s) (src dst : RPath) (e : Entry)
    (h : find s src = some e) (hdir : e.isDir = true)
    (hfresh : find s dst = none) (hnn : dst ≠ [])
    (hpar : dst.tail = [] ∨ ∃ d, find s dst.tail = some d ∧ d.isDir = true)
    (h1 : ¬ src <:+ dst) (h2 : ¬ dst <:+ src)
    (hdepth : ∀ x ∈ s.ents, src <:+ x.1 → x.1.length < src.length + renameFuel)
    (hplain : ∀ x ∈ s.ents, src <:+ x.1 → x.2.hl = 0 ∧ x.2.cnt = 0) :
    ∃ s', renameEntry s src dst = (s', .ok, []) ∧ TreeInv s' ∧
      ∀ x, x ∈ s'.ents ↔ x ∈ specRename s.ents src dst := by
  rcases rename_dir_moves_subtree_partial s inv src dst e h hdir hfresh hnn hpar h1 h2 hdepth with ⟨s', hr, inv', hx⟩
  exact ⟨s', hr, inv', fun x => by rw [hx x, specRenameStrip_eq_specRename hplain]⟩

/-- the spec's move is a `map` of the old store: it holds as many entries as the store did (that the store reached, `s'`
    above, holds no path twice is its `TreeInv`) -/
theorem specRenameStrip_length (l : List (RPath × Entry)) (src dst : RPath) : (specRenameStrip l src dst).length = l.length :=
  List.length_map _

def subtreeWitness : St := run {} [
  .create ["b", "a"] { isDir := false, tag := 1, chunks := [1], hl := 0, cnt := 0 } false,
  .create ["e", "d", "c", "a"] { isDir := false, tag := 2, chunks := [2, 3], hl := 0, cnt := 0 } false,
  .create ["x"] { isDir := false, tag := 3, chunks := [4], hl := 0, cnt := 0 } false]

/-- non-vacuity: /a with /a/b, /a/c, /a/c/d, /a/c/d/e (and an unrelated /x) renamed to /z: every hypothesis holds -/
example : TreeInv subtreeWitness ∧ find subtreeWitness ["a"] = some { isDir := true, tag := 1, chunks := [], hl := 0, cnt := 0 }
    ∧ find subtreeWitness ["z"] = none ∧ ¬ ["a"] <:+ ["z"] ∧ ¬ ["z"] <:+ ["a"]
    ∧ (∀ x ∈ subtreeWitness.ents, ["a"] <:+ x.1 → x.1.length < 1 + renameFuel)
    ∧ (∀ x ∈ subtreeWitness.ents, ["a"] <:+ x.1 → x.2.hl = 0 ∧ x.2.cnt = 0)
    ∧ (renameEntry subtreeWitness ["a"] ["z"]).2.1 = Res.ok
    ∧ ((renameEntry subtreeWitness ["a"] ["z"]).1.ents.map (·.1)).length = 6 :=
  ⟨tree_inv _ (by decide +kernel), by decide +kernel⟩

/-! ### what create, delete and rename leave alone -/

/-- CreateEntry (with its implicit parent creation) changes nothing except the path itself and its ancestors -/
theorem create_touches_only_path_and_ancestors (s : St) (p : RPath) (e : Entry) (b : Bool) (x : RPath × Entry)
    (hx : ¬ x.1 <:+ p) : x ∈ (createEntry s p e b).1.ents ↔ x ∈ s.ents :=
  createEntry_frame x hx

/-- DeleteEntryMetaAndData (recursive or not, with or without data, succeeding or not) changes nothing outside the subtree -/
theorem delete_touches_only_subtree (s : St) (p : RPath) (r dc : Bool) (x : RPath × Entry)
    (hx : ¬ p <:+ x.1) : x ∈ (deleteEntry s p r dc).1.ents ↔ x ∈ s.ents :=
  deleteEntry_frame x hx

/-- AtomicRenameEntry — finished, failed half-way, or recursing without bound — changes nothing outside the source
    subtree, the target subtree and the target's ancestors: no unrelated entry is lost, added or rewritten -/
theorem rename_touches_only_source_and_target (s : St) (src dst : RPath) (x : RPath × Entry)
    (h1 : ¬ src <:+ x.1) (h2 : ¬ dst <:+ x.1) (h3 : ¬ x.1 <:+ dst) :
    x ∈ (renameEntry s src dst).1.ents ↔ x ∈ s.ents := by
  unfold renameEntry
  split
  · rfl
  · exact moveEntry_frame x ⟨h1, h2, h3⟩

/-! ### the final "delete old entry" of a move destroys nothing else

moveSelfEntry ends with `DeleteEntryMetaAndData(oldPath, isRecursive = false, …)`. The model mirrors it
(`deleteEntry s2 old false false`), and that is what keeps a rename from losing entries that were moved back under the
source (rename /a/b /a with a non-empty /a/b/b: the children of /a/b/b land in /a/b): the delete refuses, the rename
reports an error, every entry is still stored once. Stated for every move of the model from a path other than the root: -/

/-- when a move of a non-root `old ≠ new` reports success, its last step removed exactly ONE stored path, `old`, from the
    state reached after the target was created and the listed children were moved (`beforeFinalDelete`); if that entry
    was a directory it had no children left. -/
theorem rename_final_delete_removes_only_source (f : Nat) (s : St) (n : String) (par new : RPath) (e : Entry) (s3 : St)
    (q : List Nat) (hne : n :: par ≠ new) (h : moveEntry (f + 1) s (n :: par) e new = (s3, Res.ok, q)) :
    (∃ e', find (beforeFinalDelete f s (n :: par) e new) (n :: par) = some e' ∧
      (e'.isDir = true → children (beforeFinalDelete f s (n :: par) e new) (n :: par) = [])) ∧
    ∀ x, x ∈ s3.ents ↔ x ∈ (beforeFinalDelete f s (n :: par) e new).ents ∧ x.1 ≠ n :: par :=
  moveEntry_ok_final_delete f s n par new e s3 q hne h

/-- non-vacuity: a successful move of a directory with a child -/
example : ∃ (s s3 : St) (e : Entry) (q : List Nat), ["a"] ≠ ["d"] ∧ moveEntry 3 s ["a"] e ["d"] = (s3, Res.ok, q) :=
  ⟨run {} [.create ["c", "a"] { isDir := false, tag := 1, chunks := [1], hl := 0, cnt := 0 } false], _, witnessDir, _,
    by decide +kernel, rfl⟩

/-! ### the judge's two classes for a rename onto an ancestor

`rename/onto-ancestor-loses-entries` (recorded finding) is about images that fall back ONTO the source subtree
(`collidesWithSource`): the child named like the source, deleted as "the old entry", and names colliding below it. A moved
entry whose image is a fresh path and that is gone all the same is judged `rename/more-entries-lost-than-known`
(`lostBeyondKnown`). The model never produces the second class on the scenario that separates them, and does produce the
first on the recorded witnesses: -/

def fileE (t : Nat) (c : List Nat) : Entry := { isDir := false, tag := t, chunks := c, hl := 0, cnt := 0 }

/-- /a/b → /a where /a/b holds a non-empty folder also named b: the children of /a/b/b land back under the source, the
    final non-recursive delete refuses, the rename reports an error, both files are still stored (each once), and the
    judge has no objection -/
theorem rename_onto_parent_refused_keeps_all_witness :
    let s := run {} [.create ["c", "b", "b", "a"] (fileE 2 [7]) false, .create ["x", "b", "a"] (fileE 3 [8]) false]
    let r := renameEntry s ["b", "a"] ["a"]
    r.2.1 = Res.err ∧ r.1.ents.map (·.1) = [["x", "a"], ["c", "b", "a"], ["b", "a"], ["a"]] ∧
    judgeRename s.ents r.1.ents ["b", "a"] ["a"] r.2.1 = [] := by decide +kernel

/-- the same rename reporting success with /a/b removed recursively (what a recursive final delete does): /a/b/b/c, whose
    image /a/b/c is a path the source never held, is lost beyond the recorded finding — its own class -/
theorem more_lost_than_known_judged_witness :
    let s := run {} [.create ["c", "b", "b", "a"] (fileE 2 [7]) false, .create ["x", "b", "a"] (fileE 3 [8]) false]
    let post : List (RPath × Entry) := [(["a"], { witnessDir with tag := 2 }), (["x", "a"], fileE 3 [8])]
    (lostBeyondKnown s.ents post ["b", "a"] ["a"]).map (·.1) = [["c", "b", "b", "a"]] ∧
    judgeRename s.ents post ["b", "a"] ["a"] Res.ok =
      ["rename/onto-ancestor-loses-entries", "rename/more-entries-lost-than-known"] := by decide +kernel

/-- the recorded witnesses (corpus/C18/witnesses.ops, cases 4 and 6) lose only colliding images: the known class alone -/
theorem known_loss_is_not_beyond_known_witness :
    (let s := run {} [.create ["c", "c", "b"] witnessDir false]
     let r := renameEntry s ["c", "b"] ["b"]
     judgeRename s.ents r.1.ents ["c", "b"] ["b"] r.2.1 = ["rename/onto-ancestor-loses-entries"]) ∧
    (let s := run {} [.create ["c", "b", "b", "a"] (fileE 2 [1]) false, .create ["c", "b", "a"] (fileE 3 [2]) false]
     let r := renameEntry s ["b", "a"] ["a"]
     judgeRename s.ents r.1.ents ["b", "a"] ["a"] r.2.1 = ["rename/onto-ancestor-loses-entries"]) := by decide +kernel

/-- this class is raised for renames onto an ancestor only: under the hypotheses of `rename_dir_is_specRename_partial`
    (`¬ dst <:+ src`) no outcome — in particular none of the model — is judged `rename/more-entries-lost-than-known` -/
theorem more_lost_class_only_onto_ancestor (pre post : List (RPath × Entry)) (src dst : RPath) (res : Res)
    (h2 : ¬ dst <:+ src) : "rename/more-entries-lost-than-known" ∉ judgeRename pre post src dst res := by
  have hu : under dst src = false := Bool.eq_false_iff.mpr fun hb => h2 (List.isSuffixOf_iff_suffix.mp hb)
  -- branch by branch: each branch of the judge other than "onto an ancestor" emits classes of its own only
  unfold judgeRename
  by_cases c1 : (src == dst) = true
  · rw [if_pos c1]; split <;> simp
  · rw [if_neg c1]
    by_cases c2 : (under src dst && ((lookup src pre).map (·.isDir)).getD false) = true
    · rw [if_pos c2]; split <;> simp
    · rw [if_neg c2]
      by_cases c3 : (res == .ok) = true
      · rw [if_pos c3]
        simp only [hu, Bool.false_eq_true, if_false, List.mem_append, not_or]
        refine ⟨⟨?_, ?_⟩, ?_⟩ <;> split <;> simp
      · rw [if_neg c3]; simp

example : ¬ (["d"] : RPath) <:+ ["a"] := by decide

/-! ### a create arriving while the rename runs (trace op `renamelate`, model `renameLateEntry` = `moveEntry` plus one hook)

`moveEntryL_id`: with the identity as hook the model of this op is `moveEntry`. The entry arrives in the source folder after
the folder was listed; the final non-recursive delete of the source then refuses: -/

/-- /a/b → /e while /a/b/late is created right after /a/b/c was moved: the rename reports an error, the late file is
    stored under the still existing source, both moved files are stored (under /e), and the judge has no objection -/
theorem rename_with_concurrent_create_keeps_late_witness :
    let s := run {} [.create ["c", "b", "a"] (fileE 3 [1]) false, .create ["x", "b", "a"] (fileE 4 [2]) false]
    let r := renameLateEntry s ["b", "a"] ["e"] ["c", "b", "a"] ["late", "b", "a"] (fileE 9 [5])
    r.2 = true ∧ r.1.2.1 = Res.err ∧ lookup ["late", "b", "a"] r.1.1.ents = some (fileE 9 [5]) ∧
    r.1.1.ents.map (·.1) = [["x", "e"], ["late", "b", "a"], ["c", "e"], ["e"], ["b", "a"], ["a"]] ∧ r.1.1.kv = [] ∧
    judgeRenameLate s ["b", "a"] ["e"] ["late", "b", "a"] r.2
      { res := r.1.2.1, q := [], d := [], post := r.1.1, fview := [], lview := [], complete := true } = [] := by decide +kernel

/-- the judge is not vacuous: the same rename reporting success with /a/b gone (a recursive final delete) has lost the
    late file -/
theorem concurrent_create_lost_judged_witness :
    let s := run {} [.create ["c", "b", "a"] (fileE 3 [1]) false, .create ["x", "b", "a"] (fileE 4 [2]) false]
    (judgeRenameLate s ["b", "a"] ["e"] ["late", "b", "a"] true
      { res := Res.ok, q := [], d := [], fview := [], lview := [], complete := true,
        post := { ents := [(["a"], witnessDir), (["e"], witnessDir), (["c", "e"], fileE 3 [1]), (["x", "e"], fileE 4 [2])] } }).map (·.1)
      = ["rename/entry-created-meanwhile-lost"] := by decide +kernel

/-- a rename whose source does not exist carries out no create and is not judged for one -/
theorem rename_late_without_source_witness :
    (renameLateEntry {} ["b", "a"] ["e"] ["c", "b", "a"] ["late", "b", "a"] (fileE 9 [5])).2 = false ∧
    judgeRenameLate {} ["b", "a"] ["e"] ["late", "b", "a"] false
      { res := Res.err, q := [], d := [], post := {}, fview := [], lview := [], complete := true } = [] := by decide +kernel

theorem rename_late_model_is_rename (trig : RPath) (f : Nat) : moveEntryL trig id f = moveEntry f := moveEntryL_id trig f

/-- a source edit of any of these mirrored functions changes its hash and breaks this obligation (the model must then be
    re-read against the code; the correspondence check says whether behaviour changed). `CanRename` has no counterpart
    in the model, which rests on what it does: it only compares buckets, so it refuses no rename of the model's paths -/
theorem bridge_source_pins :
    SwV.Gen.C18.src_CreateEntry = "91bbddabea3f97c2" ∧
    SwV.Gen.C18.src_ensureParentDirecotryEntry = "e77638f897e9ea72" ∧
    SwV.Gen.C18.src_UpdateEntry = "42f0d53b6e3a8052" ∧
    SwV.Gen.C18.src_DeleteEntryMetaAndData = "d2c3c47d2d5354d7" ∧
    SwV.Gen.C18.src_doBatchDeleteFolderMetaAndData = "b5846477150726cb" ∧
    SwV.Gen.C18.src_doDeleteEntryMetaAndData = "a5d822e33f4086ba" ∧
    SwV.Gen.C18.src_CanRename = "ea321e1e0413b6d7" ∧
    SwV.Gen.C18.src_AtomicRenameEntry = "97247fb01ea393c4" ∧
    SwV.Gen.C18.src_moveEntry = "095ebf593537cd26" ∧
    SwV.Gen.C18.src_moveFolderSubEntries = "7a1303adc67bd7ce" ∧
    SwV.Gen.C18.src_moveSelfEntry = "6fb6d3093248b367" :=
  ⟨rfl, rfl, rfl, rfl, rfl, rfl, rfl, rfl, rfl, rfl, rfl⟩

/-- the model lists a directory in ONE page (universes of the check are far smaller) -/
theorem bridge_pagination : SwV.Gen.C18.PaginationSize = 1024 := by decide

end SwV.Props.C18
