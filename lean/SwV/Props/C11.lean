/-
C11: the writables and the lookups of the master reflect what the volume servers have registered.

The layouts are in `Lemmas/C11Layout` (`WInv`, `WInvOff`, `LOk`, one membership lemma per layout call that edits a list), the frames of
the DataNode operations in `Lemmas/C11Core`.  Here: what UpdateVolumes / DeltaUpdateVolumes do to the registered
volumes (`HbFacts`: the lists they hand to the layouts say exactly which registrations came and went; both are
sequences of two moves on the table of one server, a message written into its slot and a slot cleared, and `HbFacts`
holds of each move and of one sequence after another, `HbFacts.trans`); the invariant `Inv` of the model's
step function (`WInv`, and the location list of a volume id in its own layout is exactly the set of connected
servers that have it registered); and ONE bridge from a change of the DataNode side of one server to `Inv`:
`Change` says which volume ids the server gained and lost, `Change.inv` asks the layouts to have caught up (the
location lists by the membership lemmas; the writables of a heartbeat by `WInvOff.evs` started from "offered and no
longer justified", which only a replica turned read-only can cause: `Change.Q`).  Connect, disconnect and both volume
heartbeats are its instances; `ecinv_change` is the same bridge for the EC shard map (`EcInv`).
Well-formedness (`OpWf`) is the recorded assumptions of props/C11/prop.json.  The size-limit conjunct of
`writable_ok` is false of the code between refresh rounds; it is proved in the forms the code guarantees, each
next to the witness of the open finding it excludes.  Then: after a full heartbeat a server is located for exactly
the volumes it reported (`full_heartbeat_lookup_exact`), and the T1 bridges to the Go text.
-/
import SwV.Model.C11
import SwV.Spec.C11
import SwV.Lemmas.C11Ec
import SwV.Lemmas.C11Core
import SwV.Lemmas.C11Layout
import SwV.Gen.C11
namespace SwV.Props.C11
open SwV.Model.C11 SwV.Spec.C11
open SwV.Lemmas.C11Ec (mem_setLoc exists_mem_append_iff)
open SwV.Lemmas.C11

theorem writable_ok_events (limit : Nat) (asMin : Bool) (nVid : Nat) (evs : List Ev) :
    WritableOk (evs.foldl applyEv (init limit asMin nVid)) :=
  winv_writableOk (writable_inv_events _ (winv_init limit asMin nVid) evs)

/-- registered volumes carry the layout key of their volume id and sit on that key's disk type
    (volume attributes are a function of the volume id) -/
def RegKey (keyOf : Nat → Key) (c : Core) : Prop :=
  ∀ s t vid v, c.vols s t vid = some v → t = (keyOf vid).disk ∧ v.id = vid ∧ v.key = keyOf vid ∧ vid < c.nVid + 1

/-- well-formed volume message entry -/
def VOk (keyOf : Nat → Key) (c : Core) (v : VInfo) : Prop := v.key = keyOf v.id ∧ v.id < c.nVid + 1

theorem volOf_eq {keyOf : Nat → Key} (hk : ∀ vid, (keyOf vid).disk < 2) {c : Core} (h : RegKey keyOf c) (s vid : Nat) :
    c.volOf s vid = c.vols s (keyOf vid).disk vid := by
  unfold Core.volOf
  rcases Nat.le_one_iff_eq_zero_or_eq_one.mp (Nat.le_of_lt_succ (hk vid)) with hd | hd
  · rw [hd]
    cases h0 : c.vols s 0 vid with
    | some v => rfl
    | none =>
      cases h1 : c.vols s 1 vid with
      | none => rfl
      | some v => have := (h s 1 vid v h1).1; omega
  · rw [hd]
    cases h0 : c.vols s 0 vid with
    | some v => have := (h s 0 vid v h0).1; omega
    | none => rfl

theorem regKey_of_sub {keyOf : Nat → Key} {c c' : Core} (h : RegKey keyOf c) (hn : c'.nVid = c.nVid)
    (hs : ∀ s t x v, c'.vols s t x = some v → c.vols s t x = some v) : RegKey keyOf c' := by
  intro s t x v hv
  rw [hn]; exact h s t x v (hs s t x v hv)

@[simp] theorem upAdj_vols_eq (c : Core) (s t d) : (c.upAdj s t d).vols = c.vols := rfl
@[simp] theorem upAdj_conn_eq (c : Core) (s t d) : (c.upAdj s t d).conn = c.conn := rfl
@[simp] theorem upAdj_nVid_eq (c : Core) (s t d) : (c.upAdj s t d).nVid = c.nVid := rfl

-- trap: the statement of `bridge_all_writable` is elaborated with the matcher this declaration creates
-- (`addOrUpdate_fields.match_1`); it has to stay the first `match` on an `Option VInfo` in this file
theorem addOrUpdate_fields (c : Core) (s : Nat) (v : VInfo) :
    (c.addOrUpdate s v).1.vols = upd3 c.vols s v.key.disk v.id (some v) ∧
    (c.addOrUpdate s v).1.conn = c.conn ∧ (c.addOrUpdate s v).1.nVid = c.nVid ∧
    (c.addOrUpdate s v).2.1 = (c.vols s v.key.disk v.id).isNone ∧
    (c.addOrUpdate s v).2.2 = (match c.vols s v.key.disk v.id with | some old => old.ro != v.ro | none => false) := by
  cases h : c.vols s v.key.disk v.id with
  | none => refine ⟨?_, ?_, ?_, ?_, ?_⟩ <;> simp [Core.addOrUpdate, h]
  | some old =>
    by_cases hr : (old.remote != v.remote) = true
    · refine ⟨?_, ?_, ?_, ?_, ?_⟩ <;> simp [Core.addOrUpdate, h, hr]
    · refine ⟨?_, ?_, ?_, ?_, ?_⟩ <;> simp [Core.addOrUpdate, h, hr]

theorem regKey_addOrUpdate {keyOf : Nat → Key} {c : Core} (h : RegKey keyOf c) (s : Nat) (v : VInfo) (hv : VOk keyOf c v) :
    RegKey keyOf (c.addOrUpdate s v).1 := by
  obtain ⟨f1, _, f3, _, _⟩ := addOrUpdate_fields c s v
  intro s' t x u hu
  rw [f1] at hu
  rw [f3]
  unfold upd3 at hu
  split at hu
  · next e =>
    obtain ⟨rfl, rfl, rfl⟩ := e
    cases hu
    exact ⟨by rw [hv.1], rfl, hv.1, hv.2⟩
  · exact h s' t x u hu

theorem regKey_delVol {keyOf : Nat → Key} {c : Core} (h : RegKey keyOf c) (s t x : Nat) (r : Bool) :
    RegKey keyOf (c.delVol s t x r) := by
  intro s' t' x' u hu
  have : (c.delVol s t x r).vols = upd3 c.vols s t x none := rfl
  rw [this] at hu
  unfold upd3 at hu
  split at hu
  · cases hu
  · exact h s' t' x' u hu

theorem mem_consIf {α : Type} {b : Bool} {a u : α} {l : List α} :
    u ∈ (if b = true then a :: l else l) ↔ (b = true ∧ u = a) ∨ u ∈ l := by
  cases b <;> simp

/-- what the layout phase of a volume heartbeat of server `s` needs to know about its DataNode phase
    (`c` before, `c'` after; `news` / `dels` / `chg` = the lists handed to RegisterVolumeLayout,
    UnRegisterVolumeLayout and EnsureCorrectWritables): the first two lists say exactly which registrations on `s`
    came and went (`exact`), and a read-only flag that flipped is in the first or the third (`covQ`) -/
structure HbFacts (keyOf : Nat → Key) (s : Nat) (c c' : Core) (news dels chg : List VInfo) : Prop where
  conn : c'.conn = c.conn
  nVid : c'.nVid = c.nVid
  other : ∀ s' t x, s' ≠ s → c'.vols s' t x = c.vols s' t x
  regKey : RegKey keyOf c'
  exact : ∀ x, (c'.vols s (keyOf x).disk x).isSome = true ↔
    (((c.vols s (keyOf x).disk x).isSome = true ∨ ∃ v ∈ news, v.id = x) ∧ ¬ ∃ v ∈ dels, v.id = x)
  covQ : ∀ x v v', c.vols s (keyOf x).disk x = some v → c'.vols s (keyOf x).disk x = some v' → v.ro ≠ v'.ro →
    (∃ u ∈ news, u.id = x) ∨ (∃ u ∈ chg, u.id = x)
  keyOk : ∀ v, v ∈ news ∨ v ∈ dels ∨ v ∈ chg → v.key = keyOf v.id

section HbFacts
variable {keyOf : Nat → Key} {s : Nat}

theorem HbFacts.refl {c : Core} (hr : RegKey keyOf c) : HbFacts keyOf s c c [] [] [] :=
  ⟨rfl, rfl, fun _ _ _ _ => rfl, hr, fun _ => by simp,
   fun _ _ _ h1 h2 h3 => absurd (Option.some.inj (h1.symm.trans h2) ▸ rfl) h3, fun _ h => by simp at h⟩

/-- one phase after another.  The second must not register what the first reported as gone (`hd`): the layouts
    are told of all registrations before all removals. -/
theorem HbFacts.trans {c c1 c2 : Core} {N1 D1 C1 N2 D2 C2 : List VInfo}
    (h1 : HbFacts keyOf s c c1 N1 D1 C1) (h2 : HbFacts keyOf s c1 c2 N2 D2 C2)
    (hd : ∀ n ∈ N2, ∀ d ∈ D1, n.id ≠ d.id) :
    HbFacts keyOf s c c2 (N1 ++ N2) (D1 ++ D2) (C1 ++ C2) := by
  refine ⟨h2.conn.trans h1.conn, h2.nVid.trans h1.nVid, fun s' t x e => (h2.other s' t x e).trans (h1.other s' t x e),
    h2.regKey, fun x => ?_, fun x v v'' g1 g2 g3 => ?_, fun v g => ?_⟩
  · have hx : (∃ v ∈ N2, v.id = x) → ¬ ∃ v ∈ D1, v.id = x :=
      fun ⟨n, hn, e1⟩ ⟨d, hd', e2⟩ => hd n hn d hd' (e1.trans e2.symm)
    rw [h2.exact, h1.exact, exists_mem_append_iff, exists_mem_append_iff]
    constructor
    · rintro ⟨⟨g, nd1⟩ | g, nd2⟩
      · exact ⟨g.imp_right Or.inl, fun f => f.elim nd1 nd2⟩
      · exact ⟨Or.inr (Or.inr g), fun f => f.elim (hx g) nd2⟩
    · rintro ⟨g | g | g, nd⟩
      · exact ⟨Or.inl ⟨Or.inl g, fun f => nd (Or.inl f)⟩, fun f => nd (Or.inr f)⟩
      · exact ⟨Or.inl ⟨Or.inr g, fun f => nd (Or.inl f)⟩, fun f => nd (Or.inr f)⟩
      · exact ⟨Or.inr g, fun f => nd (Or.inr f)⟩
  · rw [exists_mem_append_iff, exists_mem_append_iff]
    cases m : c1.vols s (keyOf x).disk x with
    | none =>
      -- emptied by the first phase, so filled again by the second
      have := ((h2.exact x).mp (by rw [g2]; rfl)).1
      rw [m] at this
      exact Or.inl (Or.inr (this.resolve_left nofun))
    | some v' =>
      -- the flag differs at the ends, so it differs across one of the phases
      by_cases e : v.ro = v'.ro
      · exact (h2.covQ x v' v'' m g2 (e ▸ g3)).imp Or.inr Or.inr
      · exact (h1.covQ x v v' g1 m e).imp Or.inl Or.inl
  · simp only [List.mem_append] at g
    rcases g with (g | g) | (g | g) | (g | g)
    · exact h1.keyOk v (Or.inl g)
    · exact h2.keyOk v (Or.inl g)
    · exact h1.keyOk v (Or.inr (Or.inl g))
    · exact h2.keyOk v (Or.inr (Or.inl g))
    · exact h1.keyOk v (Or.inr (Or.inr g))
    · exact h2.keyOk v (Or.inr (Or.inr g))

/-- doAddOrUpdateVolume for one message `v`.  What is handed to the layouts differs between the heartbeats: the full
    one names a message as new (`bn`) or changed (`bc`) only when its slot was empty or its read-only flag flipped,
    the incremental one names every message as new; either way a slot that was empty and a flag that flipped are covered (`hn`, `hc`). -/
theorem hb_addOrUpdate {c : Core} (hr : RegKey keyOf c) (v : VInfo) (hv : VOk keyOf c v) (bn bc : Bool)
    (hn : (c.addOrUpdate s v).2.1 = true → bn = true)
    (hc : (c.addOrUpdate s v).2.2 = true → bn = true ∨ bc = true) :
    HbFacts keyOf s c (c.addOrUpdate s v).1 (if bn = true then [v] else []) [] (if bc = true then [v] else []) := by
  obtain ⟨f1, f2, f3, f4, f5⟩ := addOrUpdate_fields c s v
  have hd : v.key.disk = (keyOf v.id).disk := by rw [hv.1]
  have hit : (c.addOrUpdate s v).1.vols s (keyOf v.id).disk v.id = some v := by
    rw [f1, ← hd]; exact if_pos ⟨rfl, rfl, rfl⟩
  have miss : ∀ x, x ≠ v.id → (c.addOrUpdate s v).1.vols s (keyOf x).disk x = c.vols s (keyOf x).disk x :=
    fun x e => by rw [f1]; exact if_neg (fun g => e g.2.2)
  have only : ∀ {b : Bool} {u : VInfo}, u ∈ (if b = true then [v] else []) → u = v :=
    fun h => (mem_consIf.mp h).elim (·.2) nofun
  have named : ∀ {b : Bool}, b = true → ∃ u ∈ (if b = true then [v] else []), u.id = v.id :=
    fun h => ⟨v, mem_consIf.mpr (Or.inl ⟨h, rfl⟩), rfl⟩
  refine ⟨f2, f3, fun s' t x e => by rw [f1]; exact if_neg (fun g => e g.1), regKey_addOrUpdate hr s v hv,
    fun x => ⟨fun g => ⟨?_, nofun⟩, fun g => ?_⟩, fun x w w' g1 g2 g3 => ?_,
    fun u g => by rw [g.elim only (·.elim nofun only)]; exact hv.1⟩
  · by_cases e : x = v.id
    · subst e
      cases m : c.vols s (keyOf v.id).disk v.id with
      | some w => exact Or.inl rfl
      | none => exact Or.inr (named (hn (by rw [f4, hd, m]; rfl)))
    · rw [miss x e] at g; exact Or.inl g
  · by_cases e : x = v.id
    · subst e; rw [hit]; rfl
    · rw [miss x e]
      exact g.1.resolve_right fun ⟨u, hu, e'⟩ => e (by rw [← e', only hu])
  · by_cases e : x = v.id
    · subst e
      rw [hit] at g2
      cases g2
      refine (hc ?_).imp named named
      rw [f5, hd, g1]
      exact bne_iff_ne.mpr g3
    · rw [miss x e, g1] at g2
      cases g2
      exact absurd rfl g3

/-- the slot of `d` on `s` is cleared, whether or not it was filled -/
theorem hb_clear {c c' : Core} (hr : RegKey keyOf c) (d : VInfo) (hk : d.key = keyOf d.id)
    (hconn : c'.conn = c.conn) (hnv : c'.nVid = c.nVid)
    (hvols : ∀ s' t x, c'.vols s' t x = upd3 c.vols s d.key.disk d.id none s' t x) :
    HbFacts keyOf s c c' [] [d] [] := by
  have hit : c'.vols s (keyOf d.id).disk d.id = none := by rw [hvols, ← hk]; exact if_pos ⟨rfl, rfl, rfl⟩
  have miss : ∀ x, x ≠ d.id → c'.vols s (keyOf x).disk x = c.vols s (keyOf x).disk x :=
    fun x e => by rw [hvols]; exact if_neg (fun g => e g.2.2)
  refine ⟨hconn, hnv, fun s' t x e => by rw [hvols]; exact if_neg (fun g => e g.1),
    regKey_of_sub hr hnv (fun s' t x v h => ?_), fun x => ?_, fun x w w' g1 g2 g3 => ?_,
    fun u g => by rw [List.mem_singleton.mp ((g.resolve_left nofun).resolve_right nofun)]; exact hk⟩
  · rw [hvols] at h
    unfold upd3 at h
    split at h
    · cases h
    · exact h
  · by_cases e : x = d.id
    · subst e; rw [hit]
      exact ⟨nofun, fun g => absurd ⟨d, List.mem_singleton_self d, rfl⟩ g.2⟩
    · rw [miss x e]
      exact ⟨fun g => ⟨Or.inl g, fun ⟨u, hu, e'⟩ => e (by rw [← e', List.mem_singleton.mp hu])⟩,
        fun g => g.1.resolve_right fun ⟨_, h, _⟩ => nomatch h⟩
  · by_cases e : x = d.id
    · subst e; rw [hit] at g2; cases g2
    · rw [miss x e, g1] at g2
      cases g2
      exact absurd rfl g3

theorem vOk_of_nVid {c c' : Core} (h : c'.nVid = c.nVid) {v : VInfo} (hv : VOk keyOf c v) : VOk keyOf c' v :=
  ⟨hv.1, by rw [h]; exact hv.2⟩

/-- the second loop of UpdateVolumes: what it reports as new is a message, and every message is registered afterwards -/
theorem hb_addAll (vs : List VInfo) : ∀ {c : Core}, RegKey keyOf c → (∀ v ∈ vs, VOk keyOf c v) →
    HbFacts keyOf s c (c.addAll s vs).1 (c.addAll s vs).2.1 [] (c.addAll s vs).2.2 ∧
    (∀ v ∈ (c.addAll s vs).2.1, v ∈ vs) ∧
    ∀ v ∈ vs, ((c.addAll s vs).1.vols s (keyOf v.id).disk v.id).isSome = true := by
  induction vs with
  | nil => exact fun hr _ => ⟨HbFacts.refl hr, nofun, nofun⟩
  | cons a vs ih =>
    intro c hr hv
    have e : ∀ (b : Bool) (q : List VInfo), (if b = true then a :: q else q) = (if b = true then [a] else []) ++ q := by
      intro b q; cases b <;> rfl
    have A := hb_addOrUpdate (s := s) hr a (hv a List.mem_cons_self) _ _ id Or.inr
    obtain ⟨I1, I2, I3⟩ := ih A.regKey (fun v h => vOk_of_nVid A.nVid (hv v (List.mem_cons_of_mem _ h)))
    have T := A.trans I1 (fun _ _ _ h => nomatch h)
    rw [← e, ← e] at T
    refine ⟨T, fun v h => ?_, fun v h => ?_⟩
    · exact (mem_consIf.mp h).elim (fun g => g.2 ▸ List.mem_cons_self) (fun g => List.mem_cons_of_mem _ (I2 v g))
    · rcases List.mem_cons.mp h with rfl | h
      · -- written by the first step, and the rest of the loop empties no slot
        refine (I1.exact v.id).mpr ⟨Or.inl ?_, fun ⟨_, h, _⟩ => nomatch h⟩
        rw [(addOrUpdate_fields c s v).1, ← (hv v List.mem_cons_self).1]
        unfold upd3
        rw [if_pos ⟨rfl, rfl, rfl⟩]
        rfl
      · exact I3 v h

/-- the first loop of UpdateVolumes on disk `t`: what it reports as gone is not listed, and no slot below `n` of the
    disk that is not listed stays filled -/
theorem hb_sweepGone {c : Core} (hr : RegKey keyOf c) (actual : List VInfo) (t n : Nat) :
    HbFacts keyOf s c (c.sweepGone s actual t n).1 [] (c.sweepGone s actual t n).2 [] ∧
    (∀ d ∈ (c.sweepGone s actual t n).2, actual.any (fun a => a.id == d.id) = false) ∧
    ∀ x, x < n → actual.any (fun a => a.id == x) = false → (c.sweepGone s actual t n).1.vols s t x = none := by
  induction n with
  | zero => exact ⟨HbFacts.refl hr, nofun, fun _ h => absurd h (Nat.not_lt_zero _)⟩
  | succ n ih =>
    obtain ⟨I1, I2, I3⟩ := ih
    simp only [Core.sweepGone]
    cases hc : (c.sweepGone s actual t n).1.vols s t n with
    | none =>
      refine ⟨I1, I2, fun x hx hl => ?_⟩
      rcases Nat.lt_succ_iff_lt_or_eq.mp hx with h | rfl
      · exact I3 x h hl
      · exact hc
    | some v =>
      dsimp only
      obtain ⟨e1, e2, e3, _⟩ := I1.regKey s t n v hc
      cases ha : actual.any (fun a => a.id == n) with
      | true =>
        refine ⟨I1, I2, fun x hx hl => ?_⟩
        rcases Nat.lt_succ_iff_lt_or_eq.mp hx with h | rfl
        · exact I3 x h hl
        · rw [ha] at hl; cases hl
      | false =>
        rw [if_neg Bool.false_ne_true]
        have hslot : ∀ s' t' x, ((c.sweepGone s actual t n).1.delVol s t n v.remote).vols s' t' x =
            upd3 (c.sweepGone s actual t n).1.vols s v.key.disk v.id none s' t' x := by
          intro s' t' x; rw [e3, e2, ← e1]; rfl
        refine ⟨I1.trans (hb_clear I1.regKey v (by rw [e3, e2]) rfl rfl hslot) (fun _ h => nomatch h), fun d hd => ?_,
          fun x hx hl => ?_⟩
        · rcases List.mem_append.mp hd with h | h
          · exact I2 d h
          · rw [List.mem_singleton.mp h, e2]; exact ha
        · show upd3 (c.sweepGone s actual t n).1.vols s t n none s t x = none
          unfold upd3
          split
          · rfl
          · next e =>
            exact I3 x ((Nat.lt_succ_iff_lt_or_eq.mp hx).resolve_right (fun g => e ⟨rfl, rfl, g⟩)) hl

end HbFacts

/-- DataNode.UpdateVolumes (full heartbeat) hands the layouts exactly the changes it made, and afterwards the
    server has registered what the heartbeat lists -/
theorem hb_updateVolumes {keyOf : Nat → Key} (hk : ∀ vid, (keyOf vid).disk < 2) (s : Nat) (c : Core) (actual : List VInfo)
    (hr : RegKey keyOf c) (hv : ∀ v ∈ actual, VOk keyOf c v) :
    HbFacts keyOf s c (c.updateVolumes s actual).1 (c.updateVolumes s actual).2.1 (c.updateVolumes s actual).2.2.1
      (c.updateVolumes s actual).2.2.2 ∧
    ∀ x, x < c.nVid + 1 →
      (((c.updateVolumes s actual).1.vols s (keyOf x).disk x).isSome = true ↔ ∃ a ∈ actual, a.id = x) := by
  obtain ⟨G0, g0, z0⟩ := hb_sweepGone (s := s) hr actual 0 (c.nVid + 1)
  obtain ⟨G1, g1, z1⟩ := hb_sweepGone (s := s) G0.regKey actual 1 (c.nVid + 1)
  obtain ⟨A, a1, a2⟩ := hb_addAll (s := s) actual G1.regKey (fun v h => vOk_of_nVid (G1.nVid.trans G0.nVid) (hv v h))
  -- what the second loop reports as new is listed, what the first reports as gone is not
  have T := (G0.trans G1 (fun _ h => nomatch h)).trans A (fun n hn d hd e =>
    List.any_eq_false.mp ((List.mem_append.mp hd).elim (g0 d) (g1 d)) n (a1 n hn) (beq_iff_eq.mpr e))
  simp only [List.nil_append, List.append_nil] at T
  refine ⟨T, fun x hx => ⟨fun h => ?_, fun ⟨a, ha, e⟩ => e ▸ a2 a ha⟩⟩
  -- a slot that is filled at the end and not listed would have survived the sweep of its disk
  refine Decidable.by_contra fun hno => ?_
  have hl : actual.any (fun a => a.id == x) = false :=
    List.any_eq_false.mpr fun a ha e => hno ⟨a, ha, beq_iff_eq.mp e⟩
  have swept : ¬ (((c.sweepGone s actual 0 (c.nVid + 1)).1.sweepGone s actual 1 (c.nVid + 1)).1.vols s
      (keyOf x).disk x).isSome = true := by
    rcases Nat.le_one_iff_eq_zero_or_eq_one.mp (Nat.le_of_lt_succ (hk x)) with e | e
    · intro g
      refine ((G1.exact x).mp g).1.elim (fun q => ?_) (fun ⟨_, h, _⟩ => nomatch h)
      rw [e, z0 x hx hl] at q; cases q
    · rw [e, z1 x hx hl]; nofun
  obtain ⟨n, hn, e⟩ := ((A.exact x).mp h).1.resolve_left swept
  exact hno ⟨n, a1 n hn, e⟩

/-- one deletion of DeltaUpdateVolumes (`delReg`): whether or not the volume was registered, afterwards it is not -/
theorem delReg_vols (c : Core) (s : Nat) (v : VInfo) (s' t x : Nat) :
    (c.delReg s v).vols s' t x = upd3 c.vols s v.key.disk v.id none s' t x := by
  unfold Core.delReg
  split
  · rfl
  · next h =>
    unfold upd3
    split
    · next e => obtain ⟨rfl, rfl, rfl⟩ := e; exact h
    · rfl

/-- DataNode.DeltaUpdateVolumes (incremental heartbeat): the new and deleted messages are the changes -/
theorem hb_deltaUpdateVolumes {keyOf : Nat → Key} (s : Nat) (c : Core) (news dels : List VInfo)
    (hr : RegKey keyOf c) (hv : ∀ v ∈ news ++ dels, VOk keyOf c v)
    (hdis : ∀ d ∈ dels, ∀ n ∈ news, d.id ≠ n.id) :
    HbFacts keyOf s c (c.deltaUpdateVolumes s news dels) news dels [] := by
  have D : ∀ (ds : List VInfo) {c : Core}, RegKey keyOf c → (∀ v ∈ ds, VOk keyOf c v) →
      HbFacts keyOf s c (ds.foldl (fun c v => c.delReg s v) c) [] ds [] := by
    intro ds
    induction ds with
    | nil => exact fun hr _ => HbFacts.refl hr
    | cons d ds ih =>
      intro c hr hv
      have S := same_delReg c s d
      have H := hb_clear (s := s) hr d (hv d List.mem_cons_self).1 S.2.1 S.2.2 (delReg_vols c s d)
      exact H.trans (ih H.regKey fun v h => vOk_of_nVid H.nVid (hv v (List.mem_cons_of_mem _ h))) (fun _ h => nomatch h)
  have N : ∀ (ns : List VInfo) {c : Core}, RegKey keyOf c → (∀ v ∈ ns, VOk keyOf c v) →
      HbFacts keyOf s c (ns.foldl (fun c v => (c.addOrUpdate s v).1) c) ns [] [] := by
    intro ns
    induction ns with
    | nil => exact fun hr _ => HbFacts.refl hr
    | cons a ns ih =>
      intro c hr hv
      have H := hb_addOrUpdate (s := s) hr a (hv a List.mem_cons_self) true false (fun _ => rfl) (fun _ => Or.inl rfl)
      exact H.trans (ih H.regKey fun v h => vOk_of_nVid H.nVid (hv v (List.mem_cons_of_mem _ h))) (fun _ _ _ h => nomatch h)
  have H1 := D dels hr (fun v h => hv v (List.mem_append_right _ h))
  have T := H1.trans (N news H1.regKey (fun v h => vOk_of_nVid H1.nVid (hv v (List.mem_append_left _ h))))
    (fun n hn d hd => (hdis d hd n hn).symm)
  simp only [List.nil_append, List.append_nil] at T
  exact T

/-- C11 invariant: the writables are justified (`WInv`), and the location list of every volume id in
    its own layout is exactly the set of connected servers that have it registered -/
structure Inv (keyOf : Nat → Key) (st : St) : Prop where
  winv : WInv st
  wrKey : ∀ k vid, vid ∈ st.wr k → k = keyOf vid
  regKey : RegKey keyOf st.toCore
  locs_iff : ∀ vid s, s ∈ locList st (keyOf vid) vid ↔ (st.conn s = true ∧ (st.vols s (keyOf vid).disk vid).isSome = true)
  other : ∀ k vid, k ≠ keyOf vid → st.locs k vid = none
  nodup : ∀ vid, (locList st (keyOf vid) vid).Nodup
  keys : ∀ k vid, st.locs k vid ≠ none → k ∈ st.keys

/-- the layout part of the invariant holds over any DataNode side: `LOk` reads none of it -/
theorem Inv.lOk {keyOf : Nat → Key} {st : St} (h : Inv keyOf st) (c : Core) : LOk keyOf { st with toCore := c } :=
  ⟨h.wrKey, h.other, h.nodup, h.keys⟩

/-- the DataNode side of server `s` goes from `c` to `c'`, the other servers are untouched: `s` gains the volume
    ids `N` and loses the ids `D` (a server counts as holding a volume while it is connected and has it registered) -/
structure Change (keyOf : Nat → Key) (s : Nat) (c c' : Core) (N D : Nat → Prop) : Prop where
  regKey : RegKey keyOf c'
  conn : ∀ s', s' ≠ s → c'.conn s' = c.conn s'
  other : ∀ s' t x, s' ≠ s → c'.vols s' t x = c.vols s' t x
  exact : ∀ x, (c'.conn s = true ∧ (c'.vols s (keyOf x).disk x).isSome = true) ↔
    (((c.conn s = true ∧ (c.vols s (keyOf x).disk x).isSome = true) ∨ N x) ∧ ¬ D x)

section Change
variable {keyOf : Nat → Key} {s : Nat} {st : St} {c' : Core} {N D : Nat → Prop}

/-- an offered volume id stays justified when the DataNode side of `s` changes, unless the read-only flag of its
    replica on `s` changed (`hro`): the located replicas on other servers are as they were, and `s` is located
    only if it had the volume registered -/
theorem Change.Q (hk : ∀ vid, (keyOf vid).disk < 2) (h : Inv keyOf st) (C : Change keyOf s st.toCore c' N D) (x : Nat)
    (hx : x ∈ st.wr (keyOf x))
    (hro : ∀ v v', st.vols s (keyOf x).disk x = some v → c'.vols s (keyOf x).disk x = some v' → v.ro = v'.ro) :
    Q ({ st with toCore := c' } : St) (keyOf x) x := by
  have hq := (h.winv (keyOf x)).2 x hx
  refine ⟨hq.1, List.all_eq_true.mpr fun dn hdn => ?_⟩
  have old : (match st.vols dn (keyOf x).disk x with | some v => !v.ro | none => true) = true := by
    rw [← volOf_eq hk h.regKey]; exact List.all_eq_true.mp hq.2 dn hdn
  show (match Core.volOf c' dn x with | some v => !v.ro | none => true) = true
  rw [volOf_eq hk C.regKey]
  by_cases e : dn = s
  · subst e
    cases h2 : c'.vols dn (keyOf x).disk x with
    | none => rfl
    | some v' =>
      cases h1 : st.vols dn (keyOf x).disk x with
      | none => have := ((h.locs_iff x dn).mp hdn).2; rw [h1] at this; cases this
      | some v =>
        rw [h1] at old
        show (!v'.ro) = true
        rw [← hro v v' h1 h2]; exact old
  · rw [C.other dn _ _ e]; exact old

/-- the layouts have caught up with a change of the DataNode side of `s`: `s` joined the lists of the ids it
    gained and left those of the ids it lost, and the writables are justified -/
theorem Change.inv (h : Inv keyOf st) (C : Change keyOf s st.toCore c' N D) {st' : St} (hc : st'.toCore = c')
    (hL : LOk keyOf st')
    (hm : ∀ x y, y ∈ locList st' (keyOf x) x ↔ ((y ∈ locList st (keyOf x) x ∨ (y = s ∧ N x)) ∧ ¬ (y = s ∧ D x)))
    (hW : WInv st') : Inv keyOf st' := by
  refine ⟨hW, hL.wrKey, by rw [hc]; exact C.regKey, fun x y => ?_, hL.other, hL.nodup, hL.keys⟩
  show _ ↔ (st'.toCore.conn y = true ∧ (st'.toCore.vols y (keyOf x).disk x).isSome = true)
  rw [hm, hc, h.locs_iff]
  by_cases e : y = s
  · subst e; rw [C.exact x]; simp
  · rw [C.conn y e, C.other y _ _ e]; simp [e]

end Change

theorem HbFacts.change {keyOf : Nat → Key} {s : Nat} {c c' : Core} {news dels chg : List VInfo}
    (F : HbFacts keyOf s c c' news dels chg) (hc : c.conn s = true) :
    Change keyOf s c c' (fun x => ∃ v ∈ news, v.id = x) (fun x => ∃ v ∈ dels, v.id = x) :=
  ⟨F.regKey, fun s' _ => by rw [F.conn], F.other, fun x => by rw [F.conn, F.exact x]; simp [hc]⟩

/-- a volume heartbeat (DataNode phase described by `HbFacts`, then the layout calls) keeps the invariant: the
    location lists by `hbEvs_locs`; an offered volume id that the DataNode phase left unjustified has a replica
    on `s` that turned read-only, and the call for that message settles it -/
theorem inv_heartbeat {keyOf : Nat → Key} (hk : ∀ vid, (keyOf vid).disk < 2) {st : St} (h : Inv keyOf st) (s : Nat)
    (hc : st.conn s = true) (c' : Core) (news dels chg : List VInfo)
    (F : HbFacts keyOf s st.toCore c' news dels chg) :
    Inv keyOf ((hbEvs s news dels chg).foldl applyEv { st with toCore := c' }) := by
  have L := hbEvs_locs (h.lOk c') s news dels chg F.keyOk
  have W := WInvOff.evs (hbEvs s news dels chg)
    (E := fun k x => x ∈ st.wr k ∧ ¬ Q ({ st with toCore := c' } : St) k x) (st := { st with toCore := c' })
    (fun k => ⟨(h.winv k).1, fun x hx hne => @Decidable.of_not_not _ (by unfold Q; exact inferInstance) fun q => hne ⟨hx, q⟩⟩)
  refine (F.change hc).inv h (keeps_foldl applyEv keeps_applyEv).toCore L.1 L.2
    (W.winv fun k x ⟨⟨hx, hq⟩, hno⟩ => ?_)
  obtain rfl := h.wrKey k x hx
  refine hq ((F.change hc).Q hk h x hx fun v v' h1 h2 => Decidable.of_not_not fun q => ?_)
  rcases F.covQ x v v' h1 h2 q with ⟨u, hu, e⟩ | ⟨u, hu, e⟩
  · exact hno _ (mem_hbEvs.mpr (Or.inl ⟨u, hu, rfl⟩)) ⟨by rw [F.keyOk u (Or.inl hu), e], e.symm⟩
  · exact hno _ (mem_hbEvs.mpr (Or.inr (Or.inr ⟨u, hu, rfl⟩))) ⟨by rw [F.keyOk u (Or.inr (Or.inr hu)), e], e.symm⟩

theorem syncFull_eq (st : St) (s : Nat) (actual : List VInfo) :
    syncFull st s actual = if st.conn s then
      (hbEvs s (st.toCore.updateVolumes s actual).2.1 (st.toCore.updateVolumes s actual).2.2.1
        (st.toCore.updateVolumes s actual).2.2.2).foldl applyEv { st with toCore := (st.toCore.updateVolumes s actual).1 }
      else st := by
  rw [foldl_hbEvs]
  unfold syncFull
  cases st.conn s <;> rfl

theorem syncInc_eq (st : St) (s : Nat) (news dels : List VInfo) :
    syncInc st s news dels = if st.conn s then
      (hbEvs s news dels []).foldl applyEv { st with toCore := st.toCore.deltaUpdateVolumes s news dels } else st := by
  rw [foldl_hbEvs]
  unfold syncInc
  cases st.conn s <;> rfl

/-- Topology.SyncDataNodeRegistration (full volume heartbeat) -/
theorem inv_full {keyOf : Nat → Key} (hk : ∀ vid, (keyOf vid).disk < 2) {st : St} (h : Inv keyOf st) (s : Nat)
    (actual : List VInfo) (hv : ∀ v ∈ actual, VOk keyOf st.toCore v) : Inv keyOf (syncFull st s actual) := by
  rw [syncFull_eq]
  exact iteInduction (fun hc => inv_heartbeat hk h s hc _ _ _ _ (hb_updateVolumes hk s st.toCore actual h.regKey hv).1)
    fun _ => h

/-- Topology.IncrementalSyncDataNodeRegistration -/
theorem inv_inc {keyOf : Nat → Key} (hk : ∀ vid, (keyOf vid).disk < 2) {st : St} (h : Inv keyOf st) (s : Nat)
    (news dels : List VInfo) (hv : ∀ v ∈ news ++ dels, VOk keyOf st.toCore v)
    (hdis : ∀ d ∈ dels, ∀ n ∈ news, d.id ≠ n.id) : Inv keyOf (syncInc st s news dels) := by
  rw [syncInc_eq]
  exact iteInduction (fun hc => inv_heartbeat hk h s hc _ _ _ _ (hb_deltaUpdateVolumes s st.toCore news dels h.regKey hv hdis))
    fun _ => h

/-- the invariant reads only the registered volumes, the connection flags, the id range, the location lists with
    their keys, the as-minimum flag and the writables; it survives dropping writables and gaining keys -/
theorem inv_frame {keyOf : Nat → Key} {st st' : St} (h : Inv keyOf st) (h1 : st'.vols = st.vols) (h2 : st'.conn = st.conn)
    (h3 : st'.nVid = st.nVid) (h4 : st'.locs = st.locs)
    (h5 : ∀ k, (st'.wr k).Nodup ∧ ∀ x, x ∈ st'.wr k → x ∈ st.wr k) (h6 : st'.asMin = st.asMin)
    (h7 : ∀ k, k ∈ st.keys → k ∈ st'.keys) : Inv keyOf st' := by
  have hll : ∀ k vid, locList st' k vid = locList st k vid := fun k vid => locList_congr (by rw [h4])
  refine ⟨((WInvOff.of_winv h.winv).step h1 h6 h5 (fun _ _ hne => ⟨hne, hll _ _⟩)).winv (fun _ _ f => f),
    fun k x hx => h.wrKey k x ((h5 k).2 x hx),
    regKey_of_sub h.regKey h3 (fun s t x v hv => by rw [← h1]; exact hv), ?_, ?_, ?_, ?_⟩
  · intro vid s; rw [hll, h2, h1]; exact h.locs_iff vid s
  · rw [h4]; exact h.other
  · intro vid; rw [hll]; exact h.nodup vid
  · intro k vid hne; rw [h4] at hne; exact h7 k (h.keys k vid hne)

open SwV.Lemmas.C11Ec (EKeep) in
theorem inv_of_same {keyOf : Nat → Key} {st : St} (h : Inv keyOf st) (c' : Core) (hc : Same Core.vols c' st.toCore) (st' : St)
    (hl : EKeep st' { st with toCore := c' }) : Inv keyOf st' := by
  refine inv_frame h ?_ ?_ ?_ hl.locs (fun k => by rw [hl.wr]; exact ⟨(h.winv k).1, fun _ hx => hx⟩) hl.asMin
    (fun k hk => by rw [hl.keys]; exact hk)
  · show st'.toCore.vols = _; rw [hl.toCore]; exact hc.1
  · show st'.toCore.conn = _; rw [hl.toCore]; exact hc.2.1
  · show st'.toCore.nVid = _; rw [hl.toCore]; exact hc.2.2

theorem inv_max {keyOf : Nat → Key} {st : St} (h : Inv keyOf st) (s mh ms : Nat) : Inv keyOf (adjustMax st s mh ms) :=
  inv_of_same h _ (same_adjustMax Core.vols (fun _ _ _ _ => rfl) st.toCore s mh ms) _ ⟨rfl, rfl, rfl, rfl, rfl⟩

section
open SwV.Lemmas.C11Ec (ecLayout ekeep_ecLayout)
open SwV.Lemmas.C12Ec (adjEc ecDeltas ecAfter ecNews ecDels adjEc_spec updateEcShards_eq)

/-- the full EC heartbeat, with `UpdateEcShards` in closed form -/
theorem syncEcFull_eq (st : St) (s : Nat) (es : List EcInfo) :
    syncEcFull st s es = if st.conn s then
      ecLayout st { adjEc st.toCore s (ecDeltas st.toCore s es) with ecs := ecAfter st.toCore s es } s
        (ecNews st.toCore s es) (ecDels st.toCore s es) else st := by
  unfold syncEcFull
  rw [updateEcShards_eq]
  cases st.conn s <;> rfl

theorem syncEcInc_eq (st : St) (s : Nat) (ns ds : List EcInfo) :
    syncEcInc st s ns ds = if st.conn s then
      ecLayout st (st.toCore.deltaUpdateEcShards s ns ds) s (ns.map fun e => (e.id, e.bits)) (ds.map fun e => (e.id, e.bits))
      else st := by
  unfold syncEcInc ecLayout
  rw [List.foldl_map, List.foldl_map]
  cases st.conn s <;> rfl

theorem inv_ecfull {keyOf : Nat → Key} {st : St} (h : Inv keyOf st) (s : Nat) (es : List EcInfo) :
    Inv keyOf (syncEcFull st s es) := by
  obtain ⟨a1, a2, a3, _⟩ := adjEc_spec st.toCore s (ecDeltas st.toCore s es)
  rw [syncEcFull_eq]
  generalize adjEc st.toCore s (ecDeltas st.toCore s es) = c1 at a1 a2 a3 ⊢
  refine iteInduction (fun _ => inv_of_same h _ ?_ _ (ekeep_ecLayout _ _ _ _ _)) fun _ => h
  exact ⟨a3, a1, a2⟩

theorem inv_ecinc {keyOf : Nat → Key} {st : St} (h : Inv keyOf st) (s : Nat) (ns ds : List EcInfo) :
    Inv keyOf (syncEcInc st s ns ds) := by
  rw [syncEcInc_eq]
  exact iteInduction (fun _ => inv_of_same h _ (same_deltaUpdateEcShards st.toCore s ns ds) _ (ekeep_ecLayout _ _ _ _ _))
    fun _ => h

end

/-- a server that is already connected: GetOrCreateDataNode finds the node -/
theorem conn_of_connected (st : St) (s dc rack mh ms : Nat) (hc : st.conn s = true) : conn st s dc rack mh ms = st := by
  unfold SwV.Model.C11.conn Core.connect
  rw [if_pos hc]

/-- a (re)connecting server starts from an empty DataNode: it gains and loses nothing -/
theorem change_connect {keyOf : Nat → Key} {c : Core} (hr : RegKey keyOf c) (s dc rack mh ms : Nat) (hc : c.conn s = false) :
    Change keyOf s c (c.connect s dc rack mh ms) (fun _ => False) (fun _ => False) := by
  obtain ⟨f1, f2, f3, _⟩ := connect_fields c s dc rack mh ms hc
  refine ⟨regKey_of_sub hr f3 (fun s' t x v hv => ?_), fun s' e => by rw [f1]; exact if_neg e,
    fun s' t x e => by rw [f2]; simp [e], fun x => by rw [f2]; simp [hc]⟩
  rw [f2] at hv
  by_cases e : s' = s
  · simp [e] at hv
  · simpa only [e, if_false] using hv

/-- GetOrCreateDataNode: no replica on the new node can have turned read-only -/
theorem inv_conn {keyOf : Nat → Key} (hk : ∀ vid, (keyOf vid).disk < 2) {st : St} (h : Inv keyOf st) (s dc rack mh ms : Nat) :
    Inv keyOf (conn st s dc rack mh ms) := by
  by_cases hc : st.conn s = true
  · rw [conn_of_connected st s dc rack mh ms hc]; exact h
  · have C := change_connect h.regKey s dc rack mh ms (eq_false_of_ne_true hc)
    refine C.inv h (st' := conn st s dc rack mh ms) rfl (h.lOk _)
      (fun x y => ⟨fun g => ⟨Or.inl g, fun f => f.2⟩, fun g => g.1.resolve_right (fun f => f.2)⟩)
      (fun k => ⟨(h.winv k).1, fun x hx => ?_⟩)
    obtain rfl := h.wrKey k x hx
    refine C.Q hk h x hx (fun v v' _ h2 => ?_)
    rw [(connect_fields st.toCore s dc rack mh ms (eq_false_of_ne_true hc)).2.1] at h2
    simp at h2

theorem key_of_mem_volumesOf {keyOf : Nat → Key} {c : Core} (hr : RegKey keyOf c) (s : Nat) :
    ∀ v ∈ c.volumesOf s, v.key = keyOf v.id := by
  intro v hv
  unfold Core.volumesOf at hv
  simp only [List.mem_flatMap, List.mem_filterMap, List.mem_range] at hv
  obtain ⟨t, _, x, _, hx⟩ := hv
  obtain ⟨_, e2, e3, _⟩ := hr s t x v hx
  rw [e3, e2]

theorem mem_volumesOf {keyOf : Nat → Key} (hk : ∀ vid, (keyOf vid).disk < 2) {c : Core} (hr : RegKey keyOf c) (s : Nat) :
    ∀ x v, c.vols s (keyOf x).disk x = some v → v ∈ c.volumesOf s := by
  intro x v hv
  unfold Core.volumesOf
  simp only [List.mem_flatMap, List.mem_filterMap, List.mem_range]
  exact ⟨(keyOf x).disk, hk x, x, (hr s _ x v hv).2.2.2, hv⟩

/-- UnRegisterDataNode with the unlinking of the node done first: SetVolumeUnavailable does not look at it -/
theorem disc_eq (st : St) (s : Nat) :
    disc st s = if st.conn s then
      (volumesOf st s).foldl (fun st v => setUnavailable st v s) { st with toCore := st.toCore.disconnect s } else st := by
  rw [foldl_unavail_withCore]
  unfold disc
  cases st.conn s
  · rfl
  · exact (keeps_unavails s).toCore ▸ rfl

/-- unlinking the node: the server loses every volume it has registered -/
theorem change_disconnect {keyOf : Nat → Key} (hk : ∀ vid, (keyOf vid).disk < 2) {c : Core} (hr : RegKey keyOf c) (s : Nat) :
    Change keyOf s c (c.disconnect s) (fun _ => False) (fun x => ∃ v ∈ c.volumesOf s, v.id = x) := by
  refine ⟨hr, fun s' e => if_neg e, fun _ _ _ _ => rfl, fun x => ⟨fun g => ?_, fun ⟨g, nd⟩ => ?_⟩⟩
  · have : upd1 c.conn s false s = true := g.1
    rw [show upd1 c.conn s false s = false from if_pos rfl] at this
    cases this
  · obtain ⟨v, hv⟩ := Option.isSome_iff_exists.mp (g.resolve_right id).2
    exact absurd ⟨v, mem_volumesOf hk hr s x v hv, (hr s _ x v hv).2.1⟩ nd

/-- the DataNode side of `s` changes to `c'` without a change of a registered volume, then SetVolumeUnavailable
    takes `s` out of the lists of the volumes `l` it lost -/
theorem Change.inv_unavails {keyOf : Nat → Key} {s : Nat} {st : St} {c' : Core} (h : Inv keyOf st) (l : List VInfo)
    (C : Change keyOf s st.toCore c' (fun _ => False) (fun x => ∃ v ∈ l, v.id = x)) (hl : ∀ v ∈ l, v.key = keyOf v.id)
    (hv : c'.vols = st.vols) : Inv keyOf (l.foldl (fun st v => setUnavailable st v s) { st with toCore := c' }) := by
  have L := unavails_locs (h.lOk c') s l hl
  refine C.inv h (keeps_unavails s).toCore L.1
    (fun x y => (L.2 x y).trans ⟨fun g => ⟨Or.inl g.1, g.2⟩, fun g => ⟨g.1.resolve_right (fun f => f.2), g.2⟩⟩) ?_
  exact (SwV.Lemmas.C12.foldl_inv (WInvOff fun _ _ => False) _ (fun st v hw => hw.unavailable v s) l
    _ ((WInvOff.of_winv h.winv).step (st1 := { st with toCore := c' }) hv rfl (fun k => ⟨(h.winv k).1, fun _ hx => hx⟩)
      fun _ _ hne => ⟨hne, rfl⟩)).winv (fun _ _ f => f)

/-- Topology.UnRegisterDataNode -/
theorem inv_disc {keyOf : Nat → Key} (hk : ∀ vid, (keyOf vid).disk < 2) {st : St} (h : Inv keyOf st) (s : Nat) :
    Inv keyOf (disc st s) := by
  rw [disc_eq]
  exact iteInduction (fun _ => (change_disconnect hk h.regKey s).inv_unavails h _ (key_of_mem_volumesOf h.regKey s) rfl)
    fun _ => h

theorem inv_capacityFull {keyOf : Nat → Key} {st : St} (h : Inv keyOf st) (k : Key) (vid : Nat) :
    Inv keyOf (removeWritable (touchKey st k) k vid) := by
  have hk := keeps_touchKey st k
  have hn : ∀ k', ((touchKey st k).wr k').Nodup := by rw [touchKey_wr]; exact fun k' => (h.winv k').1
  refine inv_frame h hk.vols hk.conn (congrArg Core.nVid hk.toCore) (touchKey_locs st k)
    (fun k' => ⟨nodup_updK_erase hn k vid k', fun x hx => ?_⟩) hk.asMin (mem_touchKey st k).2
  have := ((mem_updK_erase hn k vid k' x).mp hx).1
  rw [touchKey_wr] at this; exact this

theorem inv_refresh {keyOf : Nat → Key} {st : St} (h : Inv keyOf st) (n : Nat) : Inv keyOf (refresh st n) := by
  unfold refresh
  refine SwV.Lemmas.C12.foldl_inv (Inv keyOf) _ ?_ _ _ h
  intro st' s h'
  split
  · refine SwV.Lemmas.C12.foldl_inv (Inv keyOf) _ ?_ _ _ h'
    intro st'' v h''
    split
    · exact inv_capacityFull h'' v.key v.id
    · exact h''
  · exact h'

/-- well-formed operation: the volume messages carry ids in the modelled range and the attributes
    (collection, replication, ttl, disk type = the layout key) that belong to the volume id; one incremental
    message does not announce and delete the same volume.  (Nothing is asked of stale, repeated, reordered
    or contradicting messages, of EC messages, connects, disconnects or refresh rounds.) -/
def OpWf (keyOf : Nat → Key) (c : Core) : Op → Prop
  | .full _ vs => ∀ v ∈ vs, VOk keyOf c v
  | .inc _ ns ds => (∀ v ∈ ns ++ ds, VOk keyOf c v) ∧ ∀ d ∈ ds, ∀ n ∈ ns, d.id ≠ n.id
  | _ => True

def OpsWf (keyOf : Nat → Key) (st : St) : List Op → Prop
  | [] => True
  | op :: ops => OpWf keyOf st.toCore op ∧ OpsWf keyOf (step st op) ops

theorem inv_step {keyOf : Nat → Key} (hk : ∀ vid, (keyOf vid).disk < 2) {st : St} (h : Inv keyOf st) (op : Op)
    (hop : OpWf keyOf st.toCore op) : Inv keyOf (step st op) := by
  cases op with
  | conn s dc rack mh ms => exact inv_conn hk h s dc rack mh ms
  | max s mh ms => exact inv_max h s mh ms
  | full s vs => exact inv_full hk h s vs hop
  | inc s ns ds => exact inv_inc hk h s ns ds hop.1 hop.2
  | ecfull s es => exact inv_ecfull h s es
  | ecinc s ns ds => exact inv_ecinc h s ns ds
  | disc s => exact inv_disc hk h s
  | refresh => exact inv_refresh h maxSrv

theorem inv_init (keyOf : Nat → Key) (limit : Nat) (asMin : Bool) (nVid : Nat) : Inv keyOf (init limit asMin nVid) := by
  refine ⟨winv_init limit asMin nVid, ?_, ?_, ?_, ?_, ?_, ?_⟩
  · intro k vid hv; simp [init] at hv
  · intro s t x v hv; simp [init] at hv
  · intro vid s; simp [init, locList]
  · intro k vid _; rfl
  · intro vid; exact List.nodup_nil
  · intro k vid hne; exact absurd rfl hne

theorem inv_run {keyOf : Nat → Key} (hk : ∀ vid, (keyOf vid).disk < 2) {st : St} (h : Inv keyOf st) (ops : List Op)
    (hops : OpsWf keyOf st ops) : Inv keyOf (run st ops) := by
  induction ops generalizing st with
  | nil => exact h
  | cons op ops ih =>
    simp only [run, List.foldl_cons]
    exact ih (inv_step hk h op hops.1) hops.2

theorem opsWf_take {keyOf : Nat → Key} {st : St} (ops : List Op) (n : Nat) (h : OpsWf keyOf st ops) :
    OpsWf keyOf st (ops.take n) := by
  induction ops generalizing st n with
  | nil => simp [OpsWf]
  | cons op ops ih =>
    cases n with
    | zero => simp [OpsWf]
    | succ n => exact ⟨h.1, ih n h.2⟩

theorem Inv.lookupExact {keyOf : Nat → Key} (hk : ∀ vid, (keyOf vid).disk < 2) {st : St} (h : Inv keyOf st) :
    LookupExact st keyOf := by
  intro vid s
  rw [h.locs_iff vid s, show volOf st s vid = st.vols s (keyOf vid).disk vid from volOf_eq hk h.regKey s vid,
    Option.isSome_iff_exists]

/-- C11, main theorem, part 1 (`writable_ok_events` lifted to the real step function): after EVERY operation of
    ANY well-formed sequence of the model's top-level operations — connects / reconnects, max-count
    changes, full and incremental volume heartbeats (read-only flips, size reports, stale, repeated and
    contradicting messages included), full and incremental EC heartbeats, disconnects, refresh rounds —
    every volume id in a writables slice has the number of locations its replication asks for (or more
    under replication-as-minimum) and no located replica is registered read-only.  No hypothesis beyond
    well-formedness and the model's two disk types (`hk`) is needed: none of the open findings concerns these two conjuncts.
    (The third conjunct, "below the size limit", is false of the code — `full_volume_offered_again` —
    and holds in the form `refresh_removes_full` below.) -/
theorem writable_inv_run (keyOf : Nat → Key) (hk : ∀ vid, (keyOf vid).disk < 2) (limit : Nat) (asMin : Bool) (nVid : Nat)
    (ops : List Op) (hops : OpsWf keyOf (init limit asMin nVid) ops) (n : Nat) :
    WritableOk (run (init limit asMin nVid) (ops.take n)) :=
  winv_writableOk (inv_run hk (inv_init keyOf limit asMin nVid) _ (opsWf_take ops n hops)).winv

/-- C11, main theorem, part 2 (`lookup_exact`, layout level): after every operation of a well-formed sequence the location list
    of a volume id in its layout is exactly the set of connected servers that have the volume registered -/
theorem lookup_exact_run (keyOf : Nat → Key) (hk : ∀ vid, (keyOf vid).disk < 2) (limit : Nat) (asMin : Bool) (nVid : Nat)
    (ops : List Op) (hops : OpsWf keyOf (init limit asMin nVid) ops) (n : Nat) :
    LookupExact (run (init limit asMin nVid) (ops.take n)) keyOf :=
  (inv_run hk (inv_init keyOf limit asMin nVid) _ (opsWf_take ops n hops)).lookupExact hk

theorem findSome_unique {α β : Type} (f : α → Option β) (l : List α) (k0 : α) (b : β)
    (h1 : ∀ k ∈ l, k ≠ k0 → f k = none) (h2 : k0 ∈ l) (h3 : f k0 = some b) : l.findSome? f = some b := by
  induction l with
  | nil => cases h2
  | cons a l ih =>
    simp only [List.findSome?_cons]
    by_cases e : a = k0
    · subst e; rw [h3]
    · rw [h1 a List.mem_cons_self e]
      rcases List.mem_cons.mp h2 with h | h
      · exact absurd h.symm e
      · exact ih (fun k hk => h1 k (List.mem_cons_of_mem _ hk)) h

/-- no layout has an entry for the volume id: Topology.Lookup answers from the EC shard map -/
theorem lookup_of_none {keyOf : Nat → Key} {st : St} (h : Inv keyOf st) (vid : Nat) (hnone : st.locs (keyOf vid) vid = none) :
    lookup st vid = (List.range 14).flatMap (fun sh => st.ecLoc vid sh) := by
  unfold lookup
  rw [List.findSome?_eq_none_iff.mpr]
  intro k _
  by_cases e : k = keyOf vid
  · subst e; exact hnone
  · exact h.other k vid e

/-- `Topology.Lookup` under the invariant: a volume id that has an entry in its layout is answered with
    exactly the connected servers it is registered on (an EMPTY entry — left behind by
    SetVolumeUnavailable — included: it answers "nowhere", which is exact for the normal volume and hides
    EC shards, the open finding SetVolumeUnavailable/empty-location-list-hides-ec-shards); a volume id
    without an entry is registered on no connected server as a normal volume and is answered from the EC shard map
    (whose exactness fails by the open finding UnRegisterDataNode/ec-shards-of-disconnected-server-stay-in-lookup;
    with that finding excluded it is proved in `lookup_exact_all_partial`) -/
theorem lookup_exact_of_inv {keyOf : Nat → Key} (hk : ∀ vid, (keyOf vid).disk < 2) {st : St} (h : Inv keyOf st) (vid : Nat) :
    (st.locs (keyOf vid) vid ≠ none →
      ∀ s, s ∈ lookup st vid ↔ (st.conn s = true ∧ ∃ v, volOf st s vid = some v)) ∧
    (st.locs (keyOf vid) vid = none →
      lookup st vid = (List.range 14).flatMap (fun sh => st.ecLoc vid sh) ∧
      ∀ s, ¬ (st.conn s = true ∧ ∃ v, volOf st s vid = some v)) := by
  constructor
  · intro hne s
    cases hl : st.locs (keyOf vid) vid with
    | none => exact absurd hl hne
    | some l =>
      have : lookup st vid = l := by
        unfold lookup
        rw [findSome_unique (fun k => st.locs k vid) st.keys (keyOf vid) l
          (fun k _ hk' => h.other k vid hk') (h.keys _ vid hne) hl]
      have hx := h.lookupExact hk vid s
      unfold locList at hx
      rw [hl] at hx
      rw [this]; exact hx
  · intro hnone
    refine ⟨lookup_of_none h vid hnone, fun s hs => ?_⟩
    have hx := (h.lookupExact hk vid s).mpr hs
    unfold locList at hx
    rw [hnone] at hx
    cases hx

/-- C11, main theorem, part 2 for `Topology.Lookup` itself, after every operation of every well-formed sequence -/
theorem lookup_exact_partial (keyOf : Nat → Key) (hk : ∀ vid, (keyOf vid).disk < 2) (limit : Nat) (asMin : Bool) (nVid : Nat)
    (ops : List Op) (hops : OpsWf keyOf (init limit asMin nVid) ops) (n : Nat) (vid : Nat) :
    let st := run (init limit asMin nVid) (ops.take n)
    (st.locs (keyOf vid) vid ≠ none →
      ∀ s, s ∈ lookup st vid ↔ (st.conn s = true ∧ ∃ v, volOf st s vid = some v)) ∧
    (st.locs (keyOf vid) vid = none →
      lookup st vid = (List.range 14).flatMap (fun sh => st.ecLoc vid sh) ∧
      ∀ s, ¬ (st.conn s = true ∧ ∃ v, volOf st s vid = some v)) :=
  lookup_exact_of_inv hk (inv_run hk (inv_init keyOf limit asMin nVid) _ (opsWf_take ops n hops)) vid

theorem capFull_wr {st : St} (hn : ∀ k, (st.wr k).Nodup) (v : VInfo) (k : Key) :
    ((capFull st v).wr k).Nodup ∧
    ∀ x, x ∈ (capFull st v).wr k → x ∈ st.wr k ∧ (v.size ≥ st.limit → ¬ (k = v.key ∧ x = v.id)) := by
  unfold capFull
  split
  · have hn' : ∀ k, ((touchKey st v.key).wr k).Nodup := by rw [touchKey_wr]; exact hn
    refine ⟨nodup_updK_erase hn' _ _ k, fun x hx => ?_⟩
    have := (mem_updK_erase hn' v.key v.id k x).mp hx
    rw [touchKey_wr] at this
    exact ⟨this.1, fun _ => this.2⟩
  · next hf => exact ⟨hn k, fun x hx => ⟨hx, fun g => absurd g hf⟩⟩

/-- C11, size-limit conjunct, in the form the code guarantees it: right after a refresh round (over the servers
    below `n`; the model's round has `n = maxSrv`) of a state with duplicate-free writables (`hn`) no volume that
    some connected server among them has registered at or over the size limit is offered for writes.  (Between refresh
    rounds the conjunct is false of the code: heartbeats do not look at sizes of known volumes, and
    ensureCorrectWritables re-offers a processed full volume —
    `full_volume_offered_again`, the open finding ensureCorrectWritables/full-volume-offered-again.) -/
theorem refresh_removes_full (st : St) (hn : ∀ k, (st.wr k).Nodup) {n : Nat} (s : Nat) (hs : s < n) (hc : st.conn s = true)
    (v : VInfo) (hv : v ∈ volumesOf st s) (hfull : v.size ≥ st.limit) : v.id ∉ (refresh st n).wr v.key := by
  let A : St → Prop := fun st' => Keeps st' st ∧ ∀ k, (st'.wr k).Nodup
  let G : St → Prop := fun st' => v.id ∉ st'.wr v.key
  -- `foldl_hit` at both levels of the round: the pass over `v` on server `s` takes `v.id` out (`gHit`, `oHit`), every
  -- other pass only drops writables (`gG`, `oG`); `A` is what a pass may assume: the registrations and the limit of
  -- `st` (so `v` is still met, still full) and duplicate-free writables (so erasing it once removes it)
  have gA : ∀ (st' : St) (a : VInfo), A st' → A (capFull st' a) :=
    fun st' a h => ⟨(keeps_capFull st' a).trans h.1, fun k => (capFull_wr h.2 a k).1⟩
  have gG : ∀ (st' : St) (a : VInfo), A st' → G st' → G (capFull st' a) :=
    fun st' a h hg hm => hg ((capFull_wr h.2 a _).2 _ hm).1
  have gHit : ∀ (st' : St), A st' → G (capFull st' v) :=
    fun st' h hm => ((capFull_wr h.2 v _).2 _ hm).2 (h.1.limit ▸ hfull) ⟨rfl, rfl⟩
  have oA : ∀ (st' : St) (s' : Nat), A st' → A (if st'.conn s' = true then (volumesOf st' s').foldl capFull st' else st') := by
    intro st' s' ha
    split
    · exact SwV.Lemmas.C12.foldl_inv A _ gA _ _ ha
    · exact ha
  have oG : ∀ (st' : St) (s' : Nat), A st' → G st' →
      G (if st'.conn s' = true then (volumesOf st' s').foldl capFull st' else st') := by
    intro st' s' ha hg
    split
    · exact (SwV.Lemmas.C12.foldl_inv (fun x => A x ∧ G x) _ (fun x a h => ⟨gA x a h.1, gG x a h.1 h.2⟩) _ _ ⟨ha, hg⟩).2
    · exact hg
  have oHit : ∀ (st' : St), A st' → G (if st'.conn s = true then (volumesOf st' s).foldl capFull st' else st') := by
    intro st' ha
    have hv' : v ∈ volumesOf st' s := by
      show v ∈ st'.toCore.volumesOf s; rw [ha.1.toCore]; exact hv
    rw [if_pos (ha.1.conn ▸ hc)]
    exact SwV.Lemmas.C12.foldl_hit _ A G gA gG v gHit _ _ hv' ha
  rw [refresh_eq]
  exact SwV.Lemmas.C12.foldl_hit _ A G oA oG s oHit (List.range n) st (List.mem_range.mpr hs) ⟨⟨rfl, rfl, rfl, rfl⟩, hn⟩

/-- after a refresh round of ANY well-formed history: no volume registered at or over the limit on a
    connected server below `maxSrv` is in the writables -/
theorem refresh_removes_full_run (keyOf : Nat → Key) (hk : ∀ vid, (keyOf vid).disk < 2) (limit : Nat) (asMin : Bool) (nVid : Nat)
    (ops : List Op) (hops : OpsWf keyOf (init limit asMin nVid) ops) (s : Nat) (hs : s < maxSrv)
    (hc : (run (init limit asMin nVid) ops).conn s = true) (v : VInfo)
    (hv : v ∈ volumesOf (run (init limit asMin nVid) ops) s) (hfull : v.size ≥ (run (init limit asMin nVid) ops).limit) :
    v.id ∉ (step (run (init limit asMin nVid) ops) .refresh).wr v.key := by
  have h := inv_run hk (inv_init keyOf limit asMin nVid) ops hops
  exact refresh_removes_full _ (fun k => (h.winv k).1) s hs hc v hv hfull

/-- a key assignment: collection and disk type by parity of the volume id, replication 000 -/
def exKey (vid : Nat) : Key := ⟨vid % 2, 0, 0, vid % 2⟩

theorem exKey_disk : ∀ vid, (exKey vid).disk < 2 :=
  fun vid => Nat.mod_lt vid Nat.two_pos

/-- a history with every kind of operation — a repeated "new" message, a stale delete for a volume that
    was never registered, a read-only flip, a volume that disappears from the full heartbeat, growth past the
    limit, EC messages, a refresh round, a disconnect and a reconnect elsewhere; well-formed by `exOps_wf` -/
def exOps : List Op :=
  [.conn 0 0 0 5 4, .conn 1 0 1 5 0, .max 0 7 9,
   .full 0 [⟨3, 10, false, false, exKey 3⟩, ⟨4, 20, false, false, exKey 4⟩],
   .inc 1 [⟨3, 0, false, false, exKey 3⟩] [],
   .inc 1 [⟨3, 0, false, false, exKey 3⟩] [],
   .inc 1 [] [⟨5, 0, false, false, exKey 5⟩],
   .full 0 [⟨3, 2000, true, false, exKey 3⟩],
   .ecinc 1 [⟨6, 0, 0, 7⟩] [], .ecfull 1 [⟨6, 0, 0, 3⟩],
   .refresh, .disc 0, .conn 0 1 1 5 0,
   .full 0 [⟨4, 20, false, false, exKey 4⟩], .inc 1 [] [⟨3, 0, false, false, exKey 3⟩]]

theorem exOps_wf : OpsWf exKey (init 1000 false 12) exOps := by
  simp only [exOps, OpsWf, OpWf, VOk]
  decide +kernel

example : OpsWf exKey (init 1000 false 12) exOps := exOps_wf

example : WritableOk (run (init 1000 false 12) exOps) ∧ LookupExact (run (init 1000 false 12) exOps) exKey := by
  have h1 := writable_inv_run exKey exKey_disk 1000 false 12 exOps exOps_wf exOps.length
  have h2 := lookup_exact_run exKey exKey_disk 1000 false 12 exOps exOps_wf exOps.length
  rw [List.take_length] at h1 h2
  exact ⟨h1, h2⟩

/-- `refresh_removes_full` is not vacuous: a volume that grew past the limit while writable is still offered
    before the refresh round and no longer after it -/
example :
    let st := run (init 1000 false 12)
      [.conn 0 0 0 5 4, .full 0 [⟨4, 10, false, false, exKey 4⟩], .full 0 [⟨4, 2000, false, false, exKey 4⟩]]
    st.conn 0 = true ∧ (⟨4, 2000, false, false, exKey 4⟩ : VInfo) ∈ volumesOf st 0 ∧ 4 ∈ st.wr (exKey 4) ∧
      4 ∉ (step st .refresh).wr (exKey 4) := by decide +kernel

/-- some connected server below `maxSrv` has the volume registered at or over the size limit -/
def Full (st : St) (vid : Nat) : Prop :=
  ∃ s v, s < maxSrv ∧ st.conn s = true ∧ v ∈ volumesOf st s ∧ v.id = vid ∧ v.size ≥ st.limit

/-- the master state together with the set of volume ids the master "knows to be full": those the last
    refresh round saw full and that have been full ever since -/
def stepK (p : St × (Nat → Prop)) (op : Op) : St × (Nat → Prop) :=
  (step p.1 op,
   match op with
   | .refresh => Full (step p.1 op)
   | _ => fun vid => p.2 vid ∧ Full (step p.1 op) vid)

def runK (p : St × (Nat → Prop)) (ops : List Op) : St × (Nat → Prop) := ops.foldl stepK p

theorem runK_fst (p : St × (Nat → Prop)) (ops : List Op) : (runK p ops).1 = run p.1 ops := by
  induction ops generalizing p with
  | nil => rfl
  | cons op ops ih => simp only [runK, run, List.foldl_cons]; exact ih (stepK p op)

/-- the open finding ensureCorrectWritables/full-volume-offered-again, as a condition on one operation:
    the operation ADDS to some writables slice a volume that is registered at or over the size limit -/
def Reoffers (st : St) (op : Op) : Prop :=
  ∃ k vid, vid ∈ (step st op).wr k ∧ vid ∉ st.wr k ∧ Full (step st op) vid

/-- no volume known to be full is offered for writes -/
def KnownFullOk (keyOf : Nat → Key) (p : St × (Nat → Prop)) : Prop := ∀ vid, p.2 vid → vid ∉ p.1.wr (keyOf vid)

/-- one operation keeps `KnownFullOk`: the refresh round by `refresh_removes_full`, every other operation
    unless it re-offers a full volume (the open finding) -/
theorem knownFull_step {keyOf : Nat → Key} (p : St × (Nat → Prop)) (op : Op)
    (hi : Inv keyOf p.1) (h : KnownFullOk keyOf p) (hno : ¬ Reoffers p.1 op) : KnownFullOk keyOf (stepK p op) := by
  have other : ∀ vid, p.2 vid ∧ Full (step p.1 op) vid → vid ∉ (step p.1 op).wr (keyOf vid) :=
    fun vid hv hm => hno ⟨keyOf vid, vid, hm, h vid hv.1, hv.2⟩
  cases op with
  | refresh =>
    intro vid hv
    obtain ⟨s, v, hs, hc, hm, hid, hsz⟩ := (hv : Full (step p.1 .refresh) vid)
    have f := keeps_refresh p.1 maxSrv
    have hc' : p.1.conn s = true := f.conn ▸ hc
    have hm' : v ∈ volumesOf p.1 s := by
      have : v ∈ (refresh p.1 maxSrv).toCore.volumesOf s := hm
      rw [f.toCore] at this; exact this
    have hsz' : v.size ≥ p.1.limit := f.limit ▸ hsz
    have hkey : v.key = keyOf v.id := key_of_mem_volumesOf hi.regKey s v hm'
    have := refresh_removes_full p.1 (fun k => (hi.winv k).1) s hs hc' v hm' hsz'
    rw [hkey, hid] at this
    exact this
  | conn s dc rack mh ms => exact other
  | max s mh ms => exact other
  | full s vs => exact other
  | inc s ns ds => exact other
  | ecfull s es => exact other
  | ecinc s ns ds => exact other
  | disc s => exact other

def NoReoffer (st : St) : List Op → Prop
  | [] => True
  | op :: ops => ¬ Reoffers st op ∧ NoReoffer (step st op) ops

/-- C11, the size-limit conjunct as an invariant (partial: excluding the open finding
    ensureCorrectWritables/full-volume-offered-again = `Reoffers`): after every operation of a well-formed
    history in which no operation adds a full volume to a writables slice, no volume that a refresh round
    has seen full and that has been full ever since is offered for writes.  `full_volume_offered_again`
    shows that the hypothesis cannot be dropped. -/
theorem size_limit_run_partial (keyOf : Nat → Key) (hk : ∀ vid, (keyOf vid).disk < 2) (limit : Nat) (asMin : Bool) (nVid : Nat)
    (ops : List Op) (hops : OpsWf keyOf (init limit asMin nVid) ops) (hno : NoReoffer (init limit asMin nVid) ops) :
    KnownFullOk keyOf (runK (init limit asMin nVid, fun _ => False) ops) := by
  have key : ∀ (ops : List Op) (p : St × (Nat → Prop)), Inv keyOf p.1 → KnownFullOk keyOf p → OpsWf keyOf p.1 ops →
      NoReoffer p.1 ops → KnownFullOk keyOf (runK p ops) := by
    intro ops
    induction ops with
    | nil => intro p _ h _ _; exact h
    | cons op ops ih =>
      intro p hi h hw hn
      simp only [runK, List.foldl_cons]
      exact ih (stepK p op) (inv_step hk hi op hw.1) (knownFull_step p op hi h hn.1) hw.2 hn.2
  exact key ops _ (inv_init keyOf limit asMin nVid) (fun _ f => f.elim) hops hno

/-- `writable_ok` with its size-limit conjunct is false of the code (open finding
    ensureCorrectWritables/full-volume-offered-again): a volume whose registered size is over the limit, and
    which a refresh round has seen so, is writable again after a replica came and went (the last operation is
    one that `NoReoffer` excludes) -/
theorem full_volume_offered_again :
    let k : Key := ⟨1, 0, 0, 1⟩
    let st := run (init 1000 false 12)
      [.conn 1 1 1 6 4, .conn 0 1 1 5 0, .inc 1 [⟨4, 0, false, false, k⟩] [], .full 1 [⟨4, 1046, false, false, k⟩],
       .refresh, .inc 0 [⟨4, 0, false, false, k⟩] [], .inc 0 [] [⟨4, 0, false, false, k⟩]]
    (st.wr k = [4]) ∧ (volOf st 1 4).map (·.size) = some 1046 := by decide +kernel

/-- `¬ Reoffers` in a form `decide` can evaluate on a concrete state (all quantifiers bounded): no volume
    registered at or over the limit on a connected server is in its layout's writables after the operation
    without having been there before -/
def notReoffersB (keyOf : Nat → Key) (st : St) (op : Op) : Bool :=
  (List.range maxSrv).all fun s => !((step st op).conn s) || (volumesOf (step st op) s).all fun v =>
    !(decide (v.size ≥ (step st op).limit)) || !((step st op).wr (keyOf v.id)).contains v.id || (st.wr (keyOf v.id)).contains v.id

theorem not_reoffers_of_B {keyOf : Nat → Key} {st : St} {op : Op} (hi : Inv keyOf (step st op))
    (hB : notReoffersB keyOf st op = true) : ¬ Reoffers st op := by
  intro ⟨k, vid, h1, h2, s, v, hs, hc, hm, hid, hsz⟩
  have hk := hi.wrKey k vid h1
  subst hk; subst hid
  unfold notReoffersB at hB
  rw [List.all_eq_true] at hB
  have h3 := hB s (List.mem_range.mpr hs)
  rw [hc] at h3
  simp only [Bool.not_true, Bool.false_or, List.all_eq_true] at h3
  have h4 := h3 v hm
  have e1 : decide (v.size ≥ (step st op).limit) = true := decide_eq_true hsz
  have e2 : ((step st op).wr (keyOf v.id)).contains v.id = true := List.contains_iff_mem.mpr h1
  rw [e1, e2] at h4
  simp only [Bool.not_true, Bool.false_or] at h4
  exact h2 (List.contains_iff_mem.mp h4)

def NoReofferB (keyOf : Nat → Key) (st : St) : List Op → Prop
  | [] => True
  | op :: ops => notReoffersB keyOf st op = true ∧ NoReofferB keyOf (step st op) ops

theorem noReoffer_of_B {keyOf : Nat → Key} (hk : ∀ vid, (keyOf vid).disk < 2) (ops : List Op) : ∀ (st : St), Inv keyOf st →
    OpsWf keyOf st ops → NoReofferB keyOf st ops → NoReoffer st ops := by
  induction ops with
  | nil => intro _ _ _ _; trivial
  | cons op ops ih =>
    intro st hi hw hb
    have hi' := inv_step hk hi op hw.1
    exact ⟨not_reoffers_of_B hi' hb.1, ih _ hi' hw.2 hb.2⟩

/-- the hypotheses of `size_limit_run_partial` are satisfiable by a history in which a volume grows past the
    limit, is seen by a refresh round and stays full while heartbeats of two servers and a disconnect follow -/
def exOpsFull : List Op :=
  [.conn 0 0 0 5 4, .conn 1 0 1 5 0,
   .full 0 [⟨4, 10, false, false, exKey 4⟩, ⟨3, 10, false, false, exKey 3⟩],
   .full 0 [⟨4, 2000, false, false, exKey 4⟩, ⟨3, 10, false, false, exKey 3⟩],
   .refresh,
   .full 0 [⟨4, 2000, false, false, exKey 4⟩, ⟨3, 20, true, false, exKey 3⟩],
   .inc 1 [⟨5, 0, false, false, exKey 5⟩] [],
   .full 0 [⟨4, 2000, false, false, exKey 4⟩, ⟨3, 20, false, false, exKey 3⟩],
   .disc 1]

example : OpsWf exKey (init 1000 false 12) exOpsFull ∧ NoReoffer (init 1000 false 12) exOpsFull := by
  have hw : OpsWf exKey (init 1000 false 12) exOpsFull := by
    simp only [exOpsFull, OpsWf, OpWf, VOk]
    decide +kernel
  refine ⟨hw, noReoffer_of_B exKey_disk _ _ (inv_init exKey 1000 false 12) hw ?_⟩
  simp only [exOpsFull, NoReofferB]
  decide +kernel

/-- in `exOpsFull` volume 4 is known to be full at the end: the conclusion of `size_limit_run_partial` is about something -/
example : (runK (init 1000 false 12, fun _ => False) exOpsFull).2 4 := by
  simp only [exOpsFull, runK, List.foldl_cons, List.foldl_nil, stepK]
  refine ⟨⟨⟨⟨?_, ?_⟩, ?_⟩, ?_⟩, ?_⟩ <;>
    exact ⟨0, ⟨4, 2000, false, false, exKey 4⟩, by decide, by decide, by decide, rfl, by decide⟩

section EcShardMap
open SwV.Lemmas.C11Ec
open SwV.Lemmas.C12Ec (adjEc ecDeltas ecAfter adjEc_spec ecAfter_row store_ecs_other)

/-- EC side of the invariant (`D vid` = the disk type the shards of volume `vid` live on): the shard map
    lists, for every shard, exactly the connected servers that have the shard registered -/
structure EcInv (D : Nat → Nat) (st : St) : Prop where
  disk : ∀ s t vid, st.ecs s t vid ≠ 0 → t = D vid ∧ vid < st.nVid + 1
  iff : ∀ vid sh s, sh < 14 → (s ∈ st.ecLoc vid sh ↔ (st.conn s = true ∧ (st.ecs s (D vid) vid).testBit sh = true))
  nodup : ∀ vid sh, (st.ecLoc vid sh).Nodup

/-- conditions on the EC messages and on disconnects: the disk type of an EC volume is a function of its
    id, ids are in the modelled range, a full EC heartbeat lists a volume once — and NO SERVER THAT STILL HAS
    EC SHARDS REGISTERED DISCONNECTS (the open finding UnRegisterDataNode/ec-shards-of-disconnected-server-stay-in-lookup) -/
def EcWf (D : Nat → Nat) (c : Core) : Op → Prop
  | .ecfull _ es => (es.map (·.id)).Nodup ∧ ∀ e ∈ es, e.disk = D e.id ∧ e.id < c.nVid + 1
  | .ecinc _ ns ds => ∀ e ∈ ns ++ ds, e.disk = D e.id ∧ e.id < c.nVid + 1
  | .disc s => c.conn s = true → ∀ vid, vid < c.nVid + 1 → c.ecs s (D vid) vid = 0
  | _ => True

theorem ecinv_frame {D : Nat → Nat} {st st' : St} (h : EcInv D st) (h1 : st'.ecs = st.ecs) (h2 : st'.conn = st.conn)
    (h3 : st'.nVid = st.nVid) (h4 : st'.ecLoc = st.ecLoc) : EcInv D st' :=
  ⟨fun s t vid hz => by rw [h3]; exact h.disk s t vid (by rw [← h1]; exact hz),
   fun vid sh s hsh => by rw [h4, h2, h1]; exact h.iff vid sh s hsh,
   fun vid sh => by rw [h4]; exact h.nodup vid sh⟩

/-- a layout-side step on top of a DataNode-side step, neither of which touches shards or the shard map -/
theorem ecinv_of_same {D : Nat → Nat} {st : St} (h : EcInv D st) (c' : Core) (hc : Same Core.ecs c' st.toCore) (st' : St)
    (hk : Keeps st' { st with toCore := c' }) : EcInv D st' := by
  refine ecinv_frame h ?_ ?_ ?_ hk.ecLoc
  · show st'.toCore.ecs = _; rw [hk.toCore]; exact hc.1
  · exact hk.conn.trans hc.2.1
  · show st'.toCore.nVid = _; rw [hk.toCore]; exact hc.2.2

/-- the DataNode side of server `s` changes to `c'` (a server counts as holding a shard while it is connected and
    has it registered), then RegisterEcShards for `news` and UnRegisterEcShards for `dels`: the EC invariant is kept
    when the two lists are exactly the shards `s` gained and lost -/
theorem ecinv_change {D : Nat → Nat} {st : St} (h : EcInv D st) (s : Nat) (c' : Core)
    (news dels : List (Nat × Nat)) (hn : c'.nVid = st.nVid) (hconn : ∀ s', s' ≠ s → c'.conn s' = st.conn s')
    (hother : ∀ s' t vid, s' ≠ s → c'.ecs s' t vid = st.ecs s' t vid)
    (hdisk : ∀ t vid, c'.ecs s t vid ≠ 0 → t = D vid ∧ vid < st.nVid + 1)
    (hbit : ∀ vid sh, sh < 14 → ((c'.conn s = true ∧ (c'.ecs s (D vid) vid).testBit sh = true) ↔
      (((st.conn s = true ∧ (st.ecs s (D vid) vid).testBit sh = true) ∨ HasBit news vid sh) ∧ ¬ HasBit dels vid sh))) :
    EcInv D (ecLayout st c' s news dels) := by
  obtain ⟨e1, e2, e3⟩ := ecLayout_spec st c' s news dels h.nodup
  refine ⟨fun s' t vid hz => ?_, fun vid sh x hsh => ?_, e2⟩
  · have hz' : c'.ecs s' t vid ≠ 0 := by rw [← e1]; exact hz
    show t = D vid ∧ vid < (ecLayout st c' s news dels).toCore.nVid + 1
    rw [e1, hn]
    by_cases e : s' = s
    · subst e; exact hdisk t vid hz'
    · rw [hother s' t vid e] at hz'; exact h.disk s' t vid hz'
  · show _ ↔ ((ecLayout st c' s news dels).toCore.conn x = true ∧
      ((ecLayout st c' s news dels).toCore.ecs x (D vid) vid).testBit sh = true)
    rw [e3 vid sh x hsh, h.iff vid sh x hsh, e1]
    by_cases e : x = s
    · subst e; rw [hbit vid sh hsh]; simp
    · rw [hother x _ _ e, hconn x e]; simp [e]

/-- a (re)connecting server starts without shards -/
theorem ecinv_conn {D : Nat → Nat} {st : St} (h : EcInv D st) (s dc rack mh ms : Nat) : EcInv D (conn st s dc rack mh ms) := by
  by_cases hc : st.conn s = true
  · rw [conn_of_connected st s dc rack mh ms hc]; exact h
  · have hc : st.conn s = false := eq_false_of_ne_true hc
    obtain ⟨f1, _, f3, f4⟩ := connect_fields st.toCore s dc rack mh ms hc
    exact ecinv_change h s (st.toCore.connect s dc rack mh ms) [] [] f3 (fun s' e => by rw [f1]; exact if_neg e)
      (fun s' t vid e => by rw [f4]; simp [e]) (fun t vid hz => by rw [f4] at hz; simp at hz)
      (fun vid sh _ => by rw [f4]; simp [hc, hasBit_nil])

/-- a server that disconnects must have no shards registered (`hno`): UnRegisterDataNode leaves the shard map alone -/
theorem ecinv_disc {D : Nat → Nat} {st : St} (h : EcInv D st) (s : Nat)
    (hno : st.conn s = true → ∀ vid, vid < st.nVid + 1 → st.ecs s (D vid) vid = 0) : EcInv D (disc st s) := by
  rw [disc_eq]
  refine iteInduction (fun hc => ?_) fun _ => h
  have hk := keeps_unavails s (l := volumesOf st s) (st := { st with toCore := st.toCore.disconnect s })
  have hz : ∀ vid, st.ecs s (D vid) vid = 0 := fun vid =>
    Decidable.byContradiction fun z => z (hno hc vid (h.disk s _ vid z).2)
  exact ecinv_frame (ecinv_change h s (st.toCore.disconnect s) [] [] rfl (fun s' e => if_neg e)
    (fun _ _ _ _ => rfl) (fun t vid z => h.disk s t vid z)
    (fun vid sh _ => by show (upd1 st.conn s false s = true ∧ (st.ecs s _ _).testBit _ = true) ↔ _; simp [upd1, hasBit_nil, hz vid]))
    (congrArg Core.ecs hk.toCore) (congrArg Core.conn hk.toCore) (congrArg Core.nVid hk.toCore) hk.ecLoc

theorem ecinv_ecinc {D : Nat → Nat} {st : St} (h : EcInv D st) (s : Nat) (ns ds : List EcInfo)
    (hw : ∀ e ∈ ns ++ ds, e.disk = D e.id ∧ e.id < st.nVid + 1) : EcInv D (syncEcInc st s ns ds) := by
  rw [syncEcInc_eq]
  refine iteInduction (fun hc => ?_) fun _ => h
  have a4 := addEc_fold_spec s ns st.toCore
  have d4 := delEc_fold_spec s ds (ns.foldl (fun c e => c.addEc s e) st.toCore)
  have bit : ∀ s' t vid sh, ((st.toCore.deltaUpdateEcShards s ns ds).ecs s' t vid).testBit sh = true ↔
      (((st.ecs s' t vid).testBit sh = true ∨ (s' = s ∧ ∃ e ∈ ns, e.disk = t ∧ e.id = vid ∧ e.bits.testBit sh = true)) ∧
        ¬ (s' = s ∧ ∃ e ∈ ds, e.disk = t ∧ e.id = vid ∧ e.bits.testBit sh = true)) := by
    intro s' t vid sh
    show ((ds.foldl (fun c e => c.delEc s e) (ns.foldl (fun c e => c.addEc s e) st.toCore)).ecs s' t vid).testBit sh = true ↔ _
    rw [d4, a4]
  have hwn : ∀ e ∈ ns, e.disk = D e.id ∧ e.id < st.nVid + 1 := fun e he => hw e (List.mem_append_left _ he)
  have hwd : ∀ e ∈ ds, e.disk = D e.id := fun e he => (hw e (List.mem_append_right _ he)).1
  have S := same_deltaUpdateEcShards st.toCore s ns ds
  refine ecinv_change h s _ _ _ S.2.2 (fun s' _ => by rw [S.2.1]) ?_ ?_ ?_
  · intro s' t vid hne
    refine Nat.eq_of_testBit_eq (fun sh => ?_)
    rw [Bool.eq_iff_iff, bit]
    simp [hne]
  · intro t vid hz
    obtain ⟨sh, hsh⟩ := Nat.exists_testBit_of_ne_zero hz
    rcases ((bit s t vid sh).mp hsh).1 with g | ⟨_, e, he, g1, g2, _⟩
    · exact h.disk s t vid (fun z => by rw [z] at g; simp at g)
    · rw [← g1, ← g2]; exact hwn e he
  · intro vid sh _
    rw [S.2.1, bit, hasBit_map, hasBit_map]
    simp only [true_and, hc]
    -- an entry for `vid` sits on the disk `D vid`
    have onDisk : ∀ l : List EcInfo, (∀ e ∈ l, e.disk = D e.id) →
        ((∃ e ∈ l, e.disk = D vid ∧ e.id = vid ∧ e.bits.testBit sh = true) ↔ ∃ e ∈ l, e.id = vid ∧ e.bits.testBit sh = true) :=
      fun l hl => exists_congr fun e => and_congr_right fun he => ⟨fun g => g.2, fun g => ⟨by rw [hl e he, g.1], g⟩⟩
    rw [onDisk ns fun e he => (hwn e he).1, onDisk ds hwd]

theorem ecinv_ecfull {D : Nat → Nat} (hD : ∀ vid, D vid < 2) {st : St} (h : EcInv D st) (s : Nat) (es : List EcInfo)
    (hn : (es.map (·.id)).Nodup) (hw : ∀ e ∈ es, e.disk = D e.id ∧ e.id < st.nVid + 1) : EcInv D (syncEcFull st s es) := by
  rw [syncEcFull_eq]
  refine iteInduction (fun hc => ?_) fun _ => h
  obtain ⟨a1, a2, _⟩ := adjEc_spec st.toCore s (ecDeltas st.toCore s es)
  generalize adjEc st.toCore s (ecDeltas st.toCore s es) = c1 at a1 a2 ⊢
  refine ecinv_change h s _ _ _ a2 (fun s' _ => by rw [← a1])
    (fun s' t vid hne => by dsimp only; rw [ecAfter_row _ s es hne]) ?_ (fun vid sh hsh => by
      dsimp only
      rw [a1, ecAfter_shard st.toCore s es D hD (fun t vid hz => h.disk s t vid hz) hn (fun e he => (hw e he).1) vid sh (Nat.lt_trans hsh (by decide))]
      simp only [true_and, hc])
  -- the server's shards come from the old registration or from the message
  intro t vid hz
  dsimp only at hz
  unfold ecAfter at hz
  split at hz
  · exact h.disk s t vid hz
  · by_cases hex : ∃ e ∈ es, e.disk = t ∧ e.id = vid
    · obtain ⟨e, he, g1, g2⟩ := hex
      rw [← g1, ← g2]; exact hw e he
    · exact absurd ((store_ecs_other s es _ s t vid (fun e he hh => hex ⟨e, he, hh.2⟩)).trans (by simp)) hz

def EcOpsWf (D : Nat → Nat) (st : St) : List Op → Prop
  | [] => True
  | op :: ops => EcWf D st.toCore op ∧ EcOpsWf D (step st op) ops

theorem ecinv_step {D : Nat → Nat} (hD : ∀ vid, D vid < 2) {st : St} (h : EcInv D st) (op : Op)
    (hop : EcWf D st.toCore op) : EcInv D (step st op) := by
  cases op with
  | conn s dc rack mh ms => exact ecinv_conn h s dc rack mh ms
  | max s mh ms => exact ecinv_of_same h _ (same_adjustMax Core.ecs (fun _ _ _ _ => rfl) st.toCore s mh ms) _ ⟨rfl, rfl, rfl, rfl⟩
  | full s vs =>
    refine ecinv_of_same h _ ?_ _ (keeps_syncFull st s vs)
    split
    · exact same_updateVolumes st.toCore s vs
    · exact ⟨rfl, rfl, rfl⟩
  | inc s ns ds =>
    refine ecinv_of_same h _ ?_ _ (keeps_syncInc st s ns ds)
    split
    · exact same_deltaUpdateVolumes st.toCore s ns ds
    · exact ⟨rfl, rfl, rfl⟩
  | ecfull s es => exact ecinv_ecfull hD h s es hop.1 hop.2
  | ecinc s ns ds => exact ecinv_ecinc h s ns ds hop
  | disc s => exact ecinv_disc h s hop
  | refresh => exact ecinv_of_same h st.toCore ⟨rfl, rfl, rfl⟩ _ (keeps_refresh st maxSrv)

theorem ecinv_init (D : Nat → Nat) (limit : Nat) (asMin : Bool) (nVid : Nat) : EcInv D (init limit asMin nVid) := by
  refine ⟨?_, ?_, ?_⟩
  · intro s t vid hz; exact absurd rfl hz
  · intro vid sh s _; simp [init]
  · intro vid sh; exact List.nodup_nil

theorem ecinv_run {D : Nat → Nat} (hD : ∀ vid, D vid < 2) {st : St} (h : EcInv D st) (ops : List Op)
    (hops : EcOpsWf D st ops) : EcInv D (run st ops) := by
  induction ops generalizing st with
  | nil => exact h
  | cons op ops ih =>
    simp only [run, List.foldl_cons]
    exact ih (ecinv_step hD h op hops.1) hops.2

theorem ecOpsWf_take {D : Nat → Nat} {st : St} (ops : List Op) (n : Nat) (h : EcOpsWf D st ops) :
    EcOpsWf D st (ops.take n) := by
  induction ops generalizing st n with
  | nil => simp [EcOpsWf]
  | cons op ops ih =>
    cases n with
    | zero => simp [EcOpsWf]
    | succ n => exact ⟨h.1, ih n h.2⟩

/-- `Topology.Lookup` of a volume id that no layout has an entry for: exactly the connected servers that
    have at least one of its 14 shards registered -/
theorem ec_lookup_exact_of_inv {keyOf : Nat → Key} {D : Nat → Nat} {st : St} (hi : Inv keyOf st) (he : EcInv D st) (vid : Nat)
    (hnone : st.locs (keyOf vid) vid = none) :
    ∀ s, s ∈ lookup st vid ↔ (st.conn s = true ∧ ∃ sh, sh < 14 ∧ (st.ecs s (D vid) vid).testBit sh = true) := by
  intro s
  rw [lookup_of_none hi vid hnone]
  simp only [List.mem_flatMap, List.mem_range]
  constructor
  · rintro ⟨sh, hsh, hm⟩
    have := (he.iff vid sh s hsh).mp hm
    exact ⟨this.1, sh, hsh, this.2⟩
  · rintro ⟨hc, sh, hsh, hb⟩
    exact ⟨sh, hsh, (he.iff vid sh s hsh).mpr ⟨hc, hb⟩⟩

/-- C11, `lookup_exact` in full (partial: excluding exactly the two open EC-lookup findings).  After every
    operation of a well-formed history (`OpsWf`, and what `EcWf` asks of the EC messages) in which no server
    disconnects while it still has EC shards registered (`EcWf … (.disc s)`, the finding
    UnRegisterDataNode/ec-shards-of-disconnected-server-stay-in-lookup):
    * a volume id with an entry in its layout is answered with exactly the connected servers that have the
      volume registered — when that entry is empty the answer is "nowhere" although EC shards of the same id
      may be registered (the finding SetVolumeUnavailable/empty-location-list-hides-ec-shards lives in this case);
    * a volume id without an entry is answered with exactly the connected servers that have one of its
      EC shards registered. -/
theorem lookup_exact_all_partial (keyOf : Nat → Key) (D : Nat → Nat) (hk : ∀ vid, (keyOf vid).disk < 2) (hD : ∀ vid, D vid < 2)
    (limit : Nat) (asMin : Bool) (nVid : Nat) (ops : List Op) (hops : OpsWf keyOf (init limit asMin nVid) ops)
    (hec : EcOpsWf D (init limit asMin nVid) ops) (n : Nat) (vid : Nat) :
    let st := run (init limit asMin nVid) (ops.take n)
    (st.locs (keyOf vid) vid ≠ none →
      ∀ s, s ∈ lookup st vid ↔ (st.conn s = true ∧ ∃ v, volOf st s vid = some v)) ∧
    (st.locs (keyOf vid) vid = none →
      ∀ s, s ∈ lookup st vid ↔ (st.conn s = true ∧ ∃ sh, sh < 14 ∧ (st.ecs s (D vid) vid).testBit sh = true)) := by
  have hi := inv_run hk (inv_init keyOf limit asMin nVid) _ (opsWf_take ops n hops)
  have he := ecinv_run hD (ecinv_init D limit asMin nVid) _ (ecOpsWf_take ops n hec)
  exact ⟨(lookup_exact_of_inv hk hi vid).1, ec_lookup_exact_of_inv hi he vid⟩

/-- the EC hypotheses are satisfiable by the history `exOps` (EC shards on server 1, server 0 disconnects) -/
example : EcOpsWf (fun _ => 0) (init 1000 false 12) exOps := by
  simp only [exOps, EcOpsWf, EcWf]
  decide +kernel

/-- the witness of the finding that `EcWf … (.disc s)` excludes: a server that disconnects with EC shards registered
    stays in the lookup -/
theorem ec_stays_after_disconnect :
    let st := run (init 1000 false 12) [.conn 1 0 0 5 0, .ecinc 1 [⟨6, 0, 0, 5⟩] [], .disc 1]
    lookup st 6 = [1, 1] ∧ st.conn 1 = false := by decide +kernel

end EcShardMap

/-! ## the size-limit conjunct for replicas that REGISTER at or over the limit

The judge clause `RegisterVolume/oversized-not-remembered`: a volume id is never PUT INTO the writables
while a replica that registered at/over the size limit (and has stayed registered so) is known.  On the
model this is the pair "RegisterVolume always remembers" (the deferred rememberOversizedVolume runs on
every path, also when the replica loop returns early at a read-only or unknown replica) and
"ensureCorrectWritables never adds a remembered volume", for ALL sequences of layout events. -/

theorem ensureWritables_no_new_offer (st : St) (k0 : Key) (vid0 : Nat) (k : Key) (vid : Nat)
    (hw : vid ∉ st.wr k) (ho : st.ov k vid ≠ []) : vid ∉ (ensureWritables st k0 vid0).wr k := by
  intro hm
  rcases ensureWritables_mem st k0 vid0 k vid hm with h | ⟨rfl, rfl, h⟩
  · exact hw h
  · exact ho h

/-- C11, size-limit conjunct, registration form (layout mechanism, every event): no layout call puts a
    volume id into the writables while the layout remembers an oversized replica of it -/
theorem no_new_offer_while_oversized (st : St) (ev : Ev) (k : Key) (vid : Nat)
    (hw : vid ∉ st.wr k) (ho : (applyEv st ev).ov k vid ≠ []) : vid ∉ (applyEv st ev).wr k := by
  cases ev with
  | register v s =>
    have ho' : (registerVolume st v s).ov k vid ≠ [] := by rw [← ensureWritables_ov _ v.key v.id]; exact ho
    exact ensureWritables_no_new_offer _ _ _ _ _ (fun hm => hw (registerVolume_wr_sub st v s k vid hm)) ho'
  | unregister v s =>
    -- with or without dropping an emptied list, UnRegisterVolume ends with ensureCorrectWritables on `eraseLoc`
    have key : (ensureWritables (eraseLoc st v.key v.id s) v.key v.id).ov k vid ≠ [] →
        vid ∉ (ensureWritables (eraseLoc st v.key v.id s) v.key v.id).wr k := fun ho =>
      ensureWritables_no_new_offer _ _ _ _ _ (by rw [eraseLoc_wr]; exact hw) (by rw [← ensureWritables_ov _ v.key v.id]; exact ho)
    revert ho
    show (unregisterLayout st v s).ov k vid ≠ [] → vid ∉ (unregisterLayout st v s).wr k
    exact unregisterLayout_cases st v s (fun _ _ => key) (fun _ _ => key) (fun _ _ => by rw [touchKey_wr]; exact hw)
  | ensure k0 vid0 =>
    have ho' : (touchKey st k0).ov k vid ≠ [] := by rw [← ensureWritables_ov _ k0 vid0]; exact ho
    exact ensureWritables_no_new_offer _ _ _ _ _ (by rw [touchKey_wr]; exact hw) ho'
  | capacityFull k0 vid0 =>
    intro hm
    have := mem_updK_of_erase hm
    rw [touchKey_wr] at this
    exact hw this

/-- VolumeLayout.RegisterVolume remembers a replica that registers at or over the limit WHATEVER the
    read-only state of the replicas (`rememberOversizedVolume` is deferred: it also runs when the replica
    loop returns early) -/
theorem register_remembers_oversized (st : St) (v : VInfo) (s : Nat) (h : v.size ≥ st.limit) :
    s ∈ (applyEv st (.register v s)).ov v.key v.id := by
  show s ∈ (ensureWritables (registerVolume st v s) v.key v.id).ov v.key v.id
  rw [ensureWritables_ov, registerVolume_ov, if_pos h]
  simp only [updK2, and_self, if_true]
  exact (mem_setLoc _ s s).mpr (Or.inr rfl)

/-- the events that make the layout forget the replica of `vid` on server `s`: the server unregisters the
    volume, or registers it again below the limit -/
def Forgets (limit : Nat) (k : Key) (vid s : Nat) : Ev → Prop
  | .unregister v s' => v.key = k ∧ v.id = vid ∧ s' = s
  | .register v s' => v.key = k ∧ v.id = vid ∧ s' = s ∧ v.size < limit
  | _ => False

theorem oversized_stays_remembered (st : St) (ev : Ev) (k : Key) (vid s : Nat) (h : s ∈ st.ov k vid)
    (hf : ¬ Forgets st.limit k vid s ev) : s ∈ (applyEv st ev).ov k vid := by
  cases ev with
  | register v s' =>
    show s ∈ (ensureWritables (registerVolume st v s') v.key v.id).ov k vid
    rw [ensureWritables_ov, registerVolume_ov]
    refine mem_updK2 h fun hk hv => ?_
    subst hk hv
    split
    · exact (mem_setLoc _ s' s).mpr (Or.inl h)
    · by_cases e : s' = s
      · exact absurd ⟨rfl, rfl, e, by omega⟩ hf
      · exact (List.mem_erase_of_ne (fun x => e x.symm)).mpr h
  | unregister v s' =>
    have key : s ∈ (eraseLoc st v.key v.id s').ov k vid := by
      refine mem_updK2 h fun hk hv => ?_
      subst hk hv
      by_cases e : s' = s
      · exact absurd ⟨rfl, rfl, e⟩ hf
      · exact (List.mem_erase_of_ne (fun x => e x.symm)).mpr h
    rw [← ensureWritables_ov _ v.key v.id] at key
    show s ∈ (unregisterLayout st v s').ov k vid
    exact unregisterLayout_cases st v s' (fun _ _ => key) (fun _ _ => key) (fun _ => by rw [touchKey_ov]; exact h)
  | ensure k0 vid0 => simp only [applyEv, ensureWritables_ov, touchKey_ov]; exact h
  | capacityFull k0 vid0 => simp only [applyEv, removeWritable, touchKey_ov]; exact h

/-- C11, size-limit conjunct, registration form, for ALL event sequences: a volume id that is not offered
    when a replica of it is remembered as oversized (in particular: right after that replica registered at
    or over the limit, `register_remembers_oversized`) is not offered after any sequence of layout events —
    registrations and removals of other replicas, read-only flips in either direction, refresh rounds —
    as long as that server neither unregisters the volume nor registers it again below the limit.
    (`oversized_registered_while_readonly_not_offered` is the model on the history of the judge class
    RegisterVolume/oversized-not-remembered.) -/
theorem oversized_never_offered_events (evs : List Ev) : ∀ (st : St) (k : Key) (vid s : Nat), s ∈ st.ov k vid → vid ∉ st.wr k →
    (∀ ev ∈ evs, ¬ Forgets st.limit k vid s ev) →
    vid ∉ (evs.foldl applyEv st).wr k ∧ s ∈ (evs.foldl applyEv st).ov k vid := by
  induction evs with
  | nil => intro st k vid s h hw _; exact ⟨hw, h⟩
  | cons ev evs ih =>
    intro st k vid s h hw hf
    simp only [List.foldl_cons]
    have h1 := oversized_stays_remembered st ev k vid s h (hf ev (List.mem_cons_self ..))
    have h2 := no_new_offer_while_oversized st ev k vid hw (List.ne_nil_of_mem h1)
    exact ih (applyEv st ev) k vid s h1 h2 (fun e he => by rw [(keeps_applyEv st ev).limit]; exact hf e (List.mem_cons_of_mem _ he))

/-- non-vacuity: a replica registers over the limit (single copy; on the empty DataNode side of `init` it is unknown,
    which RegisterVolume treats like read-only), then an `ensure` (the call made when a read-only flag is cleared),
    a peer comes and goes: the hypotheses of `oversized_never_offered_events` hold -/
example :
    let k : Key := ⟨0, 0, 0, 0⟩
    let st := applyEv (init 1000 false 12) (.register ⟨7, 1100, true, false, k⟩ 0)
    (0 ∈ st.ov k 7 ∧ 7 ∉ st.wr k) ∧
    (∀ ev ∈ [Ev.ensure k 7, .register ⟨7, 10, false, false, k⟩ 1, .unregister ⟨7, 10, false, false, k⟩ 1],
      ¬ Forgets st.limit k 7 0 ev) := by
  refine ⟨by decide +kernel, ?_⟩
  intro ev hev
  simp only [List.mem_cons, List.mem_nil_iff, or_false] at hev
  rcases hev with rfl | rfl | rfl <;> simp [Forgets]

/-- the model on the histories of the judge class RegisterVolume/oversized-not-remembered (real `step`):
    (1) a single-copy volume registers over the limit while read-only, the next full heartbeat clears the
    flag; (2) replication 001: the peer is read-only when the oversized replica registers, then the peer's
    flag is cleared.  In both the volume is remembered as oversized and is NOT offered. -/
theorem oversized_registered_while_readonly_not_offered :
    let k0 : Key := ⟨0, 0, 0, 0⟩
    let k1 : Key := ⟨0, 1, 0, 0⟩
    let a := run (init 1000 false 12)
      [.conn 0 0 0 5 0, .full 0 [⟨7, 1100, true, false, k0⟩], .full 0 [⟨7, 1100, false, false, k0⟩]]
    let b := run (init 1000 false 12)
      [.conn 0 0 0 5 0, .conn 1 0 1 5 0, .full 0 [⟨7, 10, true, false, k1⟩], .full 1 [⟨7, 1000, false, false, k1⟩],
       .full 0 [⟨7, 10, false, false, k1⟩]]
    (a.wr k0 = [] ∧ a.ov k0 7 = [0] ∧ enoughCopies a k0 7 = true ∧ isAllWritable a k0 7 = true) ∧
    (b.wr k1 = [] ∧ b.ov k1 7 = [1] ∧ enoughCopies b k1 7 = true ∧ isAllWritable b k1 7 = true) := by decide +kernel

/-- the registration form of the size-limit conjunct only speaks of volume ids PUT INTO the writables: an id
    that is already offered stays offered when a further replica registers at/over the limit under
    replication-as-minimum (enough copies, all writable, oversized: ensureCorrectWritables merely does not add).
    Open finding ensureCorrectWritables/oversized-replica-joins-offered-volume
    (corpus/C11/oversized_replica_joins_offered_volume.ops). -/
theorem oversized_replica_joins_offered_volume :
    let k : Key := ⟨0, 0, 0, 0⟩
    let st := run (init 1000 true 12)
      [.conn 2 1 1 6 0, .full 2 [⟨1, 10, false, false, k⟩], .conn 1 0 1 7 0, .full 1 [⟨1, 1024, false, false, k⟩]]
    st.wr k = [1] ∧ st.ov k 1 = [1] ∧ (volOf st 1 1).map (·.size) = some 1024 := by decide +kernel

/-! ## a full heartbeat is authoritative: registered = reported

The judge clauses `lookup-returns-server-that-reported-volume-gone` / `writable-without-enough-reported-copies`
compare the master with what the SERVERS said.  On the model: after a full heartbeat of a connected server
the volumes registered on it are exactly the volumes the heartbeat lists — in particular none after a
heartbeat WITHOUT volumes — and by `Inv.locs_iff` so are the location lists (= lookups). -/

/-- C11, lookups against what the server reported: after a well-formed (`hv`) full heartbeat of a connected server `s`, `s` is
    in the location list of a volume id exactly when the heartbeat lists that id.  After a heartbeat
    without volumes (`vs = []`) the server is in no location list. -/
theorem full_heartbeat_lookup_exact {keyOf : Nat → Key} (hk : ∀ vid, (keyOf vid).disk < 2) {st : St} (h : Inv keyOf st)
    (s : Nat) (vs : List VInfo) (hv : ∀ v ∈ vs, VOk keyOf st.toCore v) (hc : st.conn s = true) (x : Nat) (hx : x < st.nVid + 1) :
    s ∈ locList (syncFull st s vs) (keyOf x) x ↔ ∃ a ∈ vs, a.id = x := by
  have hi := inv_full hk h s vs hv
  rw [hi.locs_iff x s]
  have e := (keeps_syncFull st s vs).toCore
  rw [if_pos hc] at e
  have e1 : (syncFull st s vs).conn s = true := by
    show (syncFull st s vs).toCore.conn s = true
    rw [e, (same_updateVolumes st.toCore s vs).2.1]; exact hc
  have e2 : (syncFull st s vs).vols = (st.toCore.updateVolumes s vs).1.vols := congrArg Core.vols e
  rw [e2, (hb_updateVolumes hk s st.toCore vs h.regKey hv).2 x hx]
  exact ⟨fun h => h.2, fun h => ⟨e1, h⟩⟩

/-- the empty full heartbeat: the server leaves every location list, and (by `WInv`) a volume that is still
    offered has enough copies among the OTHER servers -/
theorem empty_full_heartbeat_unregisters {keyOf : Nat → Key} (hk : ∀ vid, (keyOf vid).disk < 2) {st : St} (h : Inv keyOf st)
    (s : Nat) (hc : st.conn s = true) (x : Nat) (hx : x < st.nVid + 1) :
    s ∉ locList (syncFull st s []) (keyOf x) x ∧
    (x ∈ (syncFull st s []).wr (keyOf x) → enoughCopies (syncFull st s []) (keyOf x) x = true) := by
  constructor
  · intro hm
    obtain ⟨a, ha, _⟩ := (full_heartbeat_lookup_exact hk h s [] (fun v hv => by cases hv) hc x hx).mp hm
    cases ha
  · intro hw
    exact (((inv_full hk h s [] (fun v hv => by cases hv)).winv (keyOf x)).2 x hw).1

/-- non-vacuity + the model on the history of the judge classes: two servers hold vid 3 (replication 001),
    it is offered; server 1 sends a full heartbeat without volumes: lookup = [0], not offered -/
theorem empty_full_heartbeat_example :
    let k : Key := ⟨0, 1, 0, 0⟩
    let st := run (init 1000 false 12)
      [.conn 0 0 0 5 0, .conn 1 0 1 5 0, .full 0 [⟨3, 10, false, false, k⟩], .full 1 [⟨3, 10, false, false, k⟩]]
    (st.wr k = [3] ∧ lookup st 3 = [0, 1] ∧ st.conn 1 = true) ∧
    (lookup (step st (.full 1 [])) 3 = [0] ∧ (step st (.full 1 [])).wr k = []) := by decide +kernel

/-! ## T1 bridges: facts regenerated from the source by `extract` (props/C11/extract.json → `SwV.Gen.C11`)

`bridge_copy_count` is about a function translated from the source.  The next six state the text of decisive Go
conditions as they stand in the working tree: four of them put the model expression that mirrors the conditions
beside the text, `bridge_unregister` and `bridge_lists` only name the conditions.  An edit to a Go condition changes
the generated string (or the translated function) and breaks the theorem of that name.  `bridge_pins` holds hashes
of whole functions. -/

/-- `ReplicaPlacement.GetCopyCount` (translated from the source) is `copyCount` on the digits of the
    replica placement byte. -/
theorem bridge_copy_count (rp : Nat) (h : rp < 1000) :
    SwV.Gen.C11.ReplicaPlacement_GetCopyCount ((rp % 10 : Nat) : Int) ((rp % 100 / 10 : Nat) : Int) ((rp / 100 : Nat) : Int)
      = ((copyCount rp : Nat) : Int) := by
  simp only [SwV.Gen.C11.ReplicaPlacement_GetCopyCount, SwV.Go.wrapS, copyCount]
  omega

example : SwV.Gen.C11.ReplicaPlacement_GetCopyCount 1 2 0 = ((copyCount 21 : Nat) : Int) := bridge_copy_count 21 (by decide)

/-- `VolumeLayout.enoughCopies` -/
theorem bridge_enough_copies :
    SwV.Gen.C11.enough_locations = "locations := vl.vid2location[vid].Length()" ∧
    SwV.Gen.C11.enough_desired = "desired := vl.rp.GetCopyCount()" ∧
    SwV.Gen.C11.enough_result = "locations == desired || (vl.replicationAsMin && locations > desired)" ∧
    ∀ (st : St) (k : Key) (vid : Nat), enoughCopies st k vid =
      (let locations := (locList st k vid).length
       let desired := copyCount k.rp
       locations == desired || (st.asMin && decide (locations > desired))) :=
  ⟨rfl, rfl, rfl, fun _ _ _ => rfl⟩

/-- `VolumeLayout.ensureCorrectWritables` -/
theorem bridge_ensure_writables :
    SwV.Gen.C11.ensure_cond = "vl.enoughCopies(vid) && vl.isAllWritable(vid)" ∧
    SwV.Gen.C11.ensure_not_oversized = "!vl.oversizedVolumes.IsTrue(vid)" ∧
    ∀ (st : St) (k : Key) (vid : Nat), ensureWritables st k vid =
      (if enoughCopies st k vid && isAllWritable st k vid then
         (if !(!(st.ov k vid).isEmpty) then setWritable st k vid else st)
       else removeWritable st k vid) := by
  refine ⟨rfl, rfl, fun st k vid => ?_⟩
  simp only [ensureWritables, Bool.not_not]

/-- `VolumeLayout.isAllWritable`: only a replica that is known (`getError == nil`) and read-only counts -/
theorem bridge_all_writable :
    SwV.Gen.C11.allw_known = "getError == nil" ∧ SwV.Gen.C11.allw_readonly = "v.ReadOnly" ∧
    ∀ (st : St) (k : Key) (vid : Nat), isAllWritable st k vid =
      !((locList st k vid).any fun dn => match volOf st dn vid with | some v => v.ro | none => false) := by
  refine ⟨rfl, rfl, fun st k vid => ?_⟩
  simp only [isAllWritable, List.all_eq_not_any_not]
  congr 2; funext dn; cases volOf st dn vid <;> simp

/-- `VolumeLayout.RegisterVolume`: the conditions of the loop over the location list (by text only), and
    `rememberOversizedVolume` / `isOversized` with the oversized list of the model -/
theorem bridge_register_volume :
    SwV.Gen.C11.reg_new_list = "!ok" ∧ SwV.Gen.C11.reg_known = "err == nil" ∧
    SwV.Gen.C11.reg_readonly = "vInfo.ReadOnly" ∧
    SwV.Gen.C11.oversized_cond = "vl.isOversized(v)" ∧
    SwV.Gen.C11.oversized_def = "uint64(v.Size) >= vl.volumeSizeLimit" ∧
    ∀ (st : St) (v : VInfo) (s : Nat),
      (registerVolume st v s).ov v.key v.id =
        (if v.size ≥ (touchKey st v.key).limit then setLoc ((touchKey st v.key).ov v.key v.id) s
         else ((touchKey st v.key).ov v.key v.id).erase s) := by
  refine ⟨rfl, rfl, rfl, rfl, rfl, fun st v s => ?_⟩
  simp only [registerVolume, updK2, and_self, if_true]

/-- `VolumeLayout.UnRegisterVolume` and `SetVolumeUnavailable` -/
theorem bridge_unregister :
    SwV.Gen.C11.unreg_unknown = "!ok" ∧ SwV.Gen.C11.unreg_removed = "location.Remove(dn)" ∧
    SwV.Gen.C11.unreg_empty = "location.Length() == 0" ∧
    SwV.Gen.C11.unavail_removed = "location.Remove(dn)" ∧
    SwV.Gen.C11.unavail_too_few = "location.Length() < vl.rp.GetCopyCount()" :=
  ⟨rfl, rfl, rfl, rfl, rfl⟩

/-- the writable list, the location list, lookup, the refresh round and the EC shard map -/
theorem bridge_lists :
    SwV.Gen.C11.remove_match = "id == vid" ∧ SwV.Gen.C11.remove_found = "toDeleteIndex >= 0" ∧
    SwV.Gen.C11.setw_present = "v == vid" ∧
    SwV.Gen.C11.loclist_set_same = "loc.Ip == dnll.list[i].Ip && loc.Port == dnll.list[i].Port" ∧
    SwV.Gen.C11.loclist_remove_same = "loc.Ip == dnl.Ip && loc.Port == dnl.Port" ∧
    SwV.Gen.C11.lookup_all_collections = "collection == \"\"" ∧
    SwV.Gen.C11.lookup_first_hit = "list != nil" ∧ SwV.Gen.C11.lookup_ec = "found" ∧
    SwV.Gen.C11.full_was_writable = "!vl.SetVolumeCapacityFull(volumeInfo.Id)" ∧
    SwV.Gen.C11.collect_full = "v.Size >= volumeSizeLimit" ∧
    SwV.Gen.C11.ec_add_present = "n.Id() == dn.Id()" ∧ SwV.Gen.C11.ec_del_match = "n.Id() == dn.Id()" ∧
    SwV.Gen.C11.ec_del_absent = "foundIndex < 0" ∧
    SwV.Gen.C11.ec_reg_new = "!found" ∧ SwV.Gen.C11.ec_unreg_unknown = "!found" :=
  ⟨rfl, rfl, rfl, rfl, rfl, rfl, rfl, rfl, rfl, rfl, rfl, rfl, rfl, rfl, rfl⟩

/-- weakest supplement: hashes of the whole mirrored functions -/
theorem bridge_pins :
    SwV.Gen.C11.src_RegisterVolume = "9fdd7237216919b4" ∧
    SwV.Gen.C11.src_UnRegisterVolume = "6a27b017d8a8eaaf" ∧
    SwV.Gen.C11.src_SetVolumeUnavailable = "6c405a10c6006900" ∧
    SwV.Gen.C11.src_ensureCorrectWritables = "c9cc1ac32e193f8c" ∧
    SwV.Gen.C11.src_isAllWritable = "63519f7ee4b9ad67" ∧
    SwV.Gen.C11.src_VolumeLayout_Lookup = "7e24f3c76b87f7fe" ∧
    SwV.Gen.C11.src_Topology_Lookup = "1cdb6325d172c88a" ∧
    SwV.Gen.C11.src_RegisterVolumeLayout = "439697d78fa5ee70" ∧
    SwV.Gen.C11.src_UnRegisterVolumeLayout = "3496bcad33705d52" ∧
    SwV.Gen.C11.src_SyncDataNodeRegistration = "a7f75c220bd2baf8" ∧
    SwV.Gen.C11.src_IncrementalSyncDataNodeRegistration = "6047ff96b0c3c5c7" ∧
    SwV.Gen.C11.src_UnRegisterDataNode = "e112359b6ff7e7cb" ∧
    SwV.Gen.C11.src_SyncDataNodeEcShards = "3170ee30d6bd5e35" ∧
    SwV.Gen.C11.src_IncrementalSyncDataNodeEcShards = "63a4b7e55327dfb9" ∧
    SwV.Gen.C11.src_RegisterEcShards = "7f2bc10ef4e02a33" ∧
    SwV.Gen.C11.src_UnRegisterEcShards = "4d8b5e959b714d10" :=
  ⟨rfl, rfl, rfl, rfl, rfl, rfl, rfl, rfl, rfl, rfl, rfl, rfl, rfl, rfl, rfl, rfl⟩

end SwV.Props.C11
