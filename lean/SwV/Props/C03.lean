/-
C03 — property theorems: a volume survives a crash without serving wrong data.
Statements are about the byte-level model of the loader (SwV/Model/C03.lean: CheckAndFixVolumeDataIntegrity,
index loading, readNeedle, doWriteRequest), which the correspondence run ties to the real code at every crash
point of generated histories. `crc` is a parameter.

FULL-STRENGTH statement (property text): for EVERY crash state (any prefix of .dat, any prefix of .idx that
respects the write order) the volume reopens, every committed blob reads back exactly, deleted ones stay
deleted, and the volume accepts and serves new writes.  It is FALSE of the code for three families of crash
states (known findings, witnesses below); `crash_safe_partial` proves it for the entry-aligned index prefixes
whose last entry is a put, with ARBITRARY data-file tails.
-/
import SwV.Model.C03
import SwV.Spec.C03
import SwV.Gen.C03
import SwV.Lemmas.C03

namespace SwV.Props.C03
open SwV.Model.C02 SwV.Model.C03 SwV.Lemmas.C02 SwV.Lemmas.C03

/-- The index walker (`WalkIndexFile`, batches of `rows` = `idx.RowsToRead` entries) hands every complete entry
    of the index to the loader and returns no error, for EVERY index length and every positive batch size — in
    particular when the index holds an exact multiple of the batch (the final read then returns 0 bytes with
    io.EOF and the loop must be entered once more to `return nil`). -/
theorem walk_visits_every_entry (rows : Nat) (hrows : 0 < rows) (idx : Bytes) :
    walkIndex rows idx = (idxEntries idx, false) := by
  unfold walkIndex readAt
  simp only [List.drop_zero]
  by_cases h0 : (idx.take (16 * rows)).length = 0 ∧ decide ((idx.take (16 * rows)).length < 16 * rows) = true
  · have hf : idx = [] := List.eq_nil_of_length_eq_zero (by have := h0.1; rw [List.length_take] at this; omega)
    rw [if_pos h0, hf]
    rfl
  · rw [if_neg h0]
    have := walkFrom_all rows hrows idx (idx.length + 2) 0 [] (by omega)
    simp only [List.drop_zero, Nat.zero_add, List.nil_append] at this
    exact this

/-- … so a volume never fails to mount because of the number of index entries: whenever the integrity check
    passes, the load does not fail and the map is built from all entries -/
theorem load_never_fails_on_entry_count (rows : Nat) (hrows : 0 < rows) (r : Dat × Bytes × Bool) (hr : r.2.2 = false) :
    (loadChecked rows r).failed = false ∧ (loadChecked rows r).map = loadCompact (idxEntries r.2.1) := by
  unfold loadChecked
  simp only [hr, Bool.false_eq_true, if_false, walk_visits_every_entry rows hrows]
  exact ⟨trivial, trivial⟩

/-- the walker model's exit path the boundary case depends on: with the loop condition grouped as
    `count > 0 && (e == nil || e == io.EOF)` a full last batch would end in `return e` = io.EOF; the model
    (and the code, see `bridge_walk_loop`) re-enters the loop on `e == io.EOF` alone. Concrete boundaries: two entries
    read as 2 batches of 1 row and as 1 batch of 2 rows. -/
theorem walk_exact_batch_boundary_witness :
    walkIndex 1 (entryBytes ⟨1, 1, 6⟩ ++ entryBytes ⟨2, 6, 7⟩) = ([⟨1, 1, 6⟩, ⟨2, 6, 7⟩], false) ∧
    walkIndex 2 (entryBytes ⟨1, 1, 6⟩ ++ entryBytes ⟨2, 6, 7⟩) = ([⟨1, 1, 6⟩, ⟨2, 6, 7⟩], false) := by
  decide +kernel

/-- the last index entry of the crash state: a put of `n` whose record starts at the end of `pre` -/
def lastPut (n : Needle) (pre : Bytes) : Entry := ⟨n.id, pre.length / 8, recSize n⟩

/-- Recovery. The index is entry-aligned and ends with a put whose record is completely in the data file;
    the data file continues with ANY bytes (a torn record, records that were not indexed yet, garbage).
    Reopening succeeds, the volume is writable, the whole index is kept and the data file is cut back to the
    end of the last indexed record. -/
theorem recover_last_put (rows : Nat) (hrows : 0 < rows) (crc : Bytes → UInt32) (n : Needle) (h : WF crc n) (pre tail idxPre : Bytes)
    (hoff : pre.length % 8 = 0) (hpre : 8 ≤ pre.length) (hoffr : pre.length / 8 < 2 ^ 32)
    (hidx : idxPre.length % 16 = 0) :
    load rows crc (pre ++ (encode 3 n ++ tail)) (idxPre ++ entryBytes (lastPut n pre)) =
      { panicked := false, failed := false, readOnly := false,
        dat := ⟨pre ++ encode 3 n, pre.length + actualSize (recSize n) 3⟩,
        idx := idxPre ++ entryBytes (lastPut n pre),
        map := loadCompact (idxEntries (idxPre ++ entryBytes (lastPut n pre))) } := by
  have e1 : ¬ ((idxPre ++ entryBytes (lastPut n pre)).length % 16 ≠ 0) := by
    rw [List.length_append, entryBytes_length]; omega
  have hc := checkAndFix_last_put crc n h pre tail idxPre hoff hpre hoffr hidx
  unfold load
  rw [if_neg e1]
  unfold lastPut
  rw [hc]
  unfold loadChecked
  simp only [Bool.false_eq_true, if_false, walk_visits_every_entry rows hrows]

/-- Reads after recovery. In a loaded, non-panicked volume whose map comes from index entries `es`, a key whose
    LAST entry is a put pointing at the record of a well-formed needle `m` with data reads back exactly `m.data`. -/
theorem recovered_blob_reads_back (crc : Bytes → UInt32) (m : Needle) (hm : WF crc m) (hd : 0 < m.data.length)
    (p post : Bytes) (hoff : p.length % 8 = 0) (hp : 8 ≤ p.length)
    (es1 es2 : List Entry) (hlast : ∀ x ∈ es2, x.key ≠ m.id)
    (v : Vol) (hv : v.panicked = false) (hvf : v.failed = false) (hdat : v.dat.bytes = p ++ (encode 3 m ++ post))
    (hmap : v.map = loadCompact (es1 ++ (⟨m.id, p.length / 8, recSize m⟩ : Entry) :: es2)) :
    readNeedle crc v m.id = .data m.data := by
  have hpos := recSize_pos m hd
  refine readNeedle_record crc v m hm hd p post hv hvf hoff hp hdat ?_
  rw [hmap]
  exact mget_loadCompact_put es1 es2 ⟨m.id, p.length / 8, recSize m⟩ (by simp only []; omega) (by simp only []; omega) hlast

/-- Deleted ones stay deleted: a key whose last index entry is a tombstone (or any entry the loader treats as a
    deletion) never reads as data. -/
theorem recovered_deleted_stays_deleted (crc : Bytes → UInt32) (e : Entry) (hs : ¬ (e.off ≠ 0 ∧ e.size > 0))
    (es1 es2 : List Entry) (hlast : ∀ x ∈ es2, x.key ≠ e.key)
    (v : Vol) (hmap : v.map = loadCompact (es1 ++ e :: es2)) (bs : Bytes) :
    readNeedle crc v e.key ≠ .data bs := by
  unfold readNeedle
  split
  · simp
  · rw [hmap]
    cases hg : mget (loadCompact (es1 ++ e :: es2)) e.key with
    | none => simp
    | some os =>
      obtain ⟨o, s⟩ := os
      have hnp := mget_loadCompact_del es1 es2 e hs hlast o s hg
      have hnz := loadCompact_nonzero hg
      have hneg : s < 0 := by omega
      simp only []
      split <;> simp

/-- New writes are accepted and served: on a writable volume whose cached data-file size is a multiple of 8, at
    least 8 and not below the real size, writing a well-formed needle with data and a fresh id succeeds and reads
    back exactly. -/
theorem recovered_accepts_and_serves_write (crc : Bytes → UInt32) (x : Needle) (hx : WF crc x) (hd : 0 < x.data.length)
    (v : Vol) (hp : v.panicked = false) (hf : v.failed = false) (hro : v.readOnly = false) (hfresh : mget v.map x.id = none)
    (hsz : v.dat.bytes.length ≤ v.dat.size) (hal : v.dat.size % 8 = 0) (h8 : 8 ≤ v.dat.size) :
    (writeNeedle crc v x).2 = .ok ∧ readNeedle crc (writeNeedle crc v x).1 x.id = .data x.data := by
  rw [writeNeedle_fresh crc v x hp hf hro hfresh]
  refine ⟨rfl, ?_⟩
  -- the record lands behind the cached size: the real bytes, a zero-filled gap up to that size, the record
  have hpre : (v.dat.bytes ++ List.replicate (v.dat.size - v.dat.bytes.length) (0 : UInt8)).length = v.dat.size := by
    rw [List.length_append, List.length_replicate]; omega
  exact readNeedle_record crc _ x hx hd (v.dat.bytes ++ List.replicate (v.dat.size - v.dat.bytes.length) 0) [] hp hf
    (by rw [hpre]; exact hal) (by rw [hpre]; exact h8) (by simp [appendRec])
    (by rw [hpre, mget_mset, if_pos rfl])

/-- `crash_safe_partial`: the property for every crash state whose index prefix is entry-aligned and ends with a
    put (data-file tail arbitrary, byte-granular): reopen succeeds and is writable; every blob (with data) whose
    index entry is the last one of its key reads back exactly; keys whose last entry is a tombstone stay
    deleted; a fresh write is accepted and served.
    Not covered, because the property fails there (the three known findings): index not a multiple of 16 bytes
    (`torn_index_panics`), last index entry a tombstone with bytes behind its record
    (`tombstone_tail_read_only_witness`), committed EMPTY blobs (`empty_blob_lost_witness`).
    Not covered either, and without a theorem: an empty index, and a last index entry that is a tombstone with
    nothing behind its record (one instance: the second half of `tombstone_tail_read_only_witness`). -/
theorem crash_safe_partial (rows : Nat) (hrows : 0 < rows) (crc : Bytes → UInt32) (n : Needle) (h : WF crc n) (pre tail idxPre : Bytes)
    (hoff : pre.length % 8 = 0) (hpre : 8 ≤ pre.length) (hoffr : pre.length / 8 < 2 ^ 32)
    (hidx : idxPre.length % 16 = 0) :
    let v := load rows crc (pre ++ (encode 3 n ++ tail)) (idxPre ++ entryBytes (lastPut n pre))
    v.panicked = false ∧ v.failed = false ∧ v.readOnly = false ∧ v.idx = idxPre ++ entryBytes (lastPut n pre) ∧
    v.dat.bytes = pre ++ encode 3 n ∧
    -- committed blobs read back exactly
    (∀ (m : Needle) (p post : Bytes) (es1 es2 : List Entry), WF crc m → 0 < m.data.length →
        pre ++ encode 3 n = p ++ (encode 3 m ++ post) → p.length % 8 = 0 → 8 ≤ p.length →
        idxEntries (idxPre ++ entryBytes (lastPut n pre)) = es1 ++ (⟨m.id, p.length / 8, recSize m⟩ : Entry) :: es2 →
        (∀ x ∈ es2, x.key ≠ m.id) → readNeedle crc v m.id = .data m.data) ∧
    -- deleted ones stay deleted
    (∀ (e : Entry) (es1 es2 : List Entry), ¬ (e.off ≠ 0 ∧ e.size > 0) →
        idxEntries (idxPre ++ entryBytes (lastPut n pre)) = es1 ++ e :: es2 → (∀ x ∈ es2, x.key ≠ e.key) →
        ∀ bs, readNeedle crc v e.key ≠ .data bs) ∧
    -- new writes are accepted and served
    (∀ (x : Needle), WF crc x → 0 < x.data.length → mget v.map x.id = none →
        (writeNeedle crc v x).2 = .ok ∧ readNeedle crc (writeNeedle crc v x).1 x.id = .data x.data) := by
  rw [recover_last_put rows hrows crc n h pre tail idxPre hoff hpre hoffr hidx]
  intro v
  have ha := actualSize_mod8 (recSize n) 3
  have hlen : (pre ++ encode 3 n).length = pre.length + actualSize (recSize n) 3 := by
    rw [List.length_append, encode_length crc 3 n h]
  refine ⟨rfl, rfl, rfl, rfl, rfl, ?_, ?_, ?_⟩
  · intro m p post es1 es2 hm hd hsplit hpo hp8 hes hlast
    exact recovered_blob_reads_back crc m hm hd p post hpo hp8 es1 es2 hlast v rfl rfl hsplit (congrArg loadCompact hes)
  · intro e es1 es2 hs hes hlast bs
    exact recovered_deleted_stays_deleted crc e hs es1 es2 hlast v (congrArg loadCompact hes) bs
  · intro x hx hd hfresh
    exact recovered_accepts_and_serves_write crc x hx hd v rfl rfl rfl hfresh
      (Nat.le_of_eq hlen) (show (pre.length + actualSize (recSize n) 3) % 8 = 0 by omega)
      (show 8 ≤ pre.length + actualSize (recSize n) 3 by omega)

/-! ### the excluded crash states (known findings): the full-strength statement is false there -/

/-- finding reopen/panic-on-torn-index-entry: ANY index whose size is not a multiple of 16 makes the loader panic -/
theorem torn_index_panics (rows : Nat) (crc : Bytes → UInt32) (dat idx : Bytes) (h : idx.length % 16 ≠ 0) :
    (load rows crc dat idx).panicked = true := by
  unfold load; simp [h]

def crc0 : Bytes → UInt32 := fun _ => 0
def w1 : Needle := { cookie := 1, id := 1, flags := 0, data := [7] }
def w0 : Needle := { cookie := 1, id := 1, flags := 0, data := [] }
def w2 : Needle := { cookie := 2, id := 2, flags := 0, data := [9] }

/-- finding read/committed-empty-blob-lost-after-reload: put of an empty blob, both files complete, no crash at all -/
theorem empty_blob_lost_witness :
    readNeedle crc0 (load 1024 crc0 (superBlock ++ encode 3 w0) (entryBytes ⟨1, 1, 0⟩)) 1 = .notFound := by
  decide +kernel

/-- finding write/read-only-after-tail-behind-tombstone: put 1, delete 1 (both indexed), then ONE byte of the
    next record reached the data file ⇒ the volume is opened read-only; without that byte it is writable -/
theorem tombstone_tail_read_only_witness :
    (load 1024 crc0 (superBlock ++ (encode 3 w1 ++ (encode 3 w0 ++ [0x11]))) (entryBytes ⟨1, 1, 6⟩ ++ entryBytes ⟨1, 6, -1⟩)).readOnly = true ∧
    (load 1024 crc0 (superBlock ++ (encode 3 w1 ++ (encode 3 w0 ++ []))) (entryBytes ⟨1, 1, 6⟩ ++ entryBytes ⟨1, 6, -1⟩)).readOnly = false := by
  decide +kernel

theorem bridge_consts :
    SwV.Gen.C03.NeedleMapEntrySize = 16 ∧ SwV.Gen.C03.NeedlePaddingSize = 8 ∧ SwV.Gen.C03.NeedleHeaderSize = 16 ∧
    SwV.Gen.C03.OffsetSize = 4 ∧ SwV.Gen.C03.TimestampSize = 8 ∧ SwV.Gen.C03.TombstoneFileSize = -1 ∧
    SwV.Gen.C03.NeedleChecksumSize = 4 ∧ SwV.Gen.C03.CurrentVersion = 3 ∧ SwV.Gen.C03.SuperBlockSize = 8 := by decide +kernel

/-- the size of a tombstone record that `verifyDeletedNeedleIntegrity` subtracts from the file size -/
theorem bridge_tombstone_size : SwV.Gen.C03.GetActualSize 0 3 = (actualSize 0 3 : Nat) := by decide +kernel

/-- the loader's classification of index entries (`size.IsValid()` else-branch = deletion) -/
theorem bridge_size_predicates (s : Int) :
    SwV.Gen.C03.Size_IsValid s = decide (s > 0) ∧ SwV.Gen.C03.Size_IsDeleted s = decide (s < 0) := by
  simp only [SwV.Gen.C03.Size_IsValid, SwV.Gen.C03.Size_IsDeleted]
  constructor
  · by_cases h : s > 0 <;> simp [h] <;> omega
  · by_cases h : s < 0 <;> simp [h] <;> omega

/-- the batch size the model's walker is instantiated with (driver: `Gen.C03.RowsToRead`) is positive -/
theorem bridge_rows_to_read : 0 < SwV.Gen.C03.RowsToRead ∧ SwV.Gen.C03.RowsToRead = 1024 := by decide +kernel

/-- `WalkIndexFile`'s loop and early-exit conditions are the ones `walkFrom`/`walkIndex` transcribe
    (Go precedence: `(count > 0 && e == nil) || e == io.EOF`) -/
theorem bridge_walk_loop :
    SwV.Gen.C03.walkLoopCond = "count > 0 && e == nil || e == io.EOF" ∧
    SwV.Gen.C03.walkEmptyCond = "count == 0 && e == io.EOF" ∧ SwV.Gen.C03.src_WalkIndexFile = "49505c0b1e8672d9" := by decide +kernel

theorem bridge_check_loop : SwV.Gen.C03.checkLoopCond = "i <= 10 && indexSize >= int64(i)*NeedleMapEntrySize" := by decide +kernel

theorem bridge_source_pins :
    SwV.Gen.C03.src_CheckAndFixVolumeDataIntegrity = "87c670d5bb65451b" ∧ SwV.Gen.C03.src_doCheckAndFixVolumeData = "fd075d386a587aa4" ∧
    SwV.Gen.C03.src_verifyNeedleIntegrity = "1d2593cc976353eb" ∧ SwV.Gen.C03.src_verifyDeletedNeedleIntegrity = "8864012c351f9361" ∧
    SwV.Gen.C03.src_verifyIndexFileIntegrity = "1be1c34c98e69240" ∧ SwV.Gen.C03.src_doLoading = "005ccece1c6fa4f7" ∧
    SwV.Gen.C03.src_load = "56b358c422f18403" ∧ SwV.Gen.C03.src_NewDiskFile = "ff8f8a960654f499" := by decide +kernel

/-! ### non-vacuity: the hypotheses of `crash_safe_partial` hold for a two-record volume with a torn third record -/
example : WF crc0 w2 ∧ (superBlock ++ encode 3 w1).length % 8 = 0 ∧ 8 ≤ (superBlock ++ encode 3 w1).length ∧
    (entryBytes ⟨1, 1, 6⟩).length % 16 = 0 := by decide +kernel
example : readNeedle crc0 (load 1024 crc0 ((superBlock ++ encode 3 w1) ++ (encode 3 w2 ++ [1, 2, 3]))
    (entryBytes ⟨1, 1, 6⟩ ++ entryBytes (lastPut w2 (superBlock ++ encode 3 w1)))) 1 = .data [7] := by decide +kernel

end SwV.Props.C03
