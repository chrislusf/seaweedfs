/-
C20 — property theorems: chunk garbage collection never deletes referenced data (gc_safe), and deletes what an
operation that asked for data deletion left unreferenced (gc_complete).

`Referenced s c`: some stored name shows chunk c through FindEntry. Three families: the plain world (no link
identities, every chunk listed by one name: `Plain`, `Excl`, client contract `FreshFor`), for all states and all
histories of creates / overwrites / file deletes / recursive deletes (deletes with data deletion); the world with hard links under the client
protocol, for all histories that avoid the operations on which the code violates the property (witnesses below,
known findings in props/C20/findings.json); failed saves of the HTTP write handlers. Renames and UpdateEntry are
left to the judge and the correspondence check.
-/
import SwV.Model.C18
import SwV.Gen.C20
import SwV.Spec.C20
import SwV.Lemmas.C18
import SwV.Lemmas.C20
import SwV.Lemmas.C21
import SwV.Lemmas.C20Batch
import SwV.Lemmas.C20Links
import SwV.Lemmas.C20LinksStep
import SwV.Lemmas.C20Plain
import SwV.Model.C20Http
import SwV.Lemmas.C20Http
import SwV.Props.C21
import SwV.Gen.C20Http

namespace SwV.Props.C20
open SwV.Model.C18 SwV.Lemmas.C18 SwV.Lemmas.C20 SwV.Lemmas.C20Batch SwV.Lemmas.C20Links SwV.Lemmas.C21

/-- file ids handed to the two deletion sinks by one operation -/
def emitted (o : Out) : List Nat := o.q ++ o.d

theorem emitted_viaQ (t : St × Res × List Nat) : emitted (viaQ t).2 = t.2.2 := List.append_nil _

theorem emitted_viaD (t : St × Res × List Nat) : emitted (viaD t).2 = t.2.2 := rfl

/-- client contract: directories list no chunks -/
def DirNoChunks (s : St) : Prop := ∀ x ∈ s.ents, x.2.isDir = true → x.2.chunks = []

/-- in the plain world FindEntry returns the stored entry itself (converse of `find_plain`) -/
theorem mem_of_find_plain {s : St} (inv : TreeInv s) (pl : Plain s) {p : RPath} {e : Entry} (h : find s p = some e) :
    (p, e) ∈ s.ents := by
  rcases find_stored inv h with ⟨e0, hm, _⟩
  exact Option.some.inj (h.symm.trans (find_plain inv pl hm)) ▸ hm

/-- recursive delete (of a file or of a whole directory tree) with data deletion, in the plain world: gc_safe and
    gc_complete hold. `DirNoChunks` is what gc_complete needs: doBatchDeleteFolderMetaAndData collects the chunks of
    the files below, not the chunk list of a subdirectory -/
theorem gc_recursive_delete (s : St) (inv : TreeInv s) (pl : Plain s) (ex : Excl s) (dn : DirNoChunks s)
    (n : String) (par : RPath) (e : Entry) (h : find s (n :: par) = some e) :
    GcOk s (deleteEntry s (n :: par) true true).1 (deleteEntry s (n :: par) true true).2.2 := by
  have inv' : TreeInv (deleteEntry s (n :: par) true true).1 := inv_deleteEntry inv
  rcases deleteEntry_recursive_shape inv n par e h with ⟨s', dcs, heq, hx, hsound, hcomp⟩
  rw [heq] at inv' ⊢
  simp only at inv' ⊢
  have hm := mem_of_find_plain inv pl h
  have pl' : Plain s' := fun y hy => pl y ((hx y).mp hy).1
  refine ⟨pl', ?_, ?_, ?_⟩
  · intro p1 p2 a b ha hb hne c hc
    exact ex p1 p2 a b ((hx _).mp ha).1 ((hx _).mp hb).1 hne c hc
  · intro c hc hr
    rcases (referenced_plain inv' pl' c).mp hr with ⟨q, b, hq, hcb⟩
    rcases (hx (q, b)).mp hq with ⟨hq', hnot⟩
    rcases List.mem_append.mp hc with hc | hc
    · exact ex (n :: par) q e b hm hq' (ne_of_not_suffix hnot) c hc hcb
    · rcases hsound c hc with ⟨q0, b0, hq0, hpd, hcb0⟩
      exact ex q0 q b0 b hq0 hq' (fun hh => hnot (hh ▸ hpd.1)) c hcb0 hcb
  · intro c hc hnc
    rcases (referenced_plain inv pl c).mp hc with ⟨q, b, hq, hcb⟩
    by_cases hsuf : (n :: par) <:+ q
    · by_cases hqp : q = n :: par
      · subst hqp
        rw [mem_unique inv.nodup hq hm] at hcb
        exact List.mem_append_left _ hcb
      · refine List.mem_append_right _ ?_
        cases hbd : b.isDir with
        | true => rw [dn _ hq hbd] at hcb; simp at hcb
        | false => exact hcomp q b hq ⟨hsuf, hqp⟩ hbd (pl _ hq) c hcb
    · exact absurd ((referenced_plain inv' pl' c).mpr ⟨q, b, (hx (q, b)).mpr ⟨hq, hsuf⟩, hcb⟩) hnc

theorem dirNoChunks_createEntry {s : St} {p : RPath} {e : Entry} {x : Bool} (dn : DirNoChunks s)
    (he : e.isDir = true → e.chunks = []) : DirNoChunks (createEntry s p e x).1 := by
  intro y hy hd
  rcases mem_createEntry y hy with h | h | rfl
  · exact dn y h hd
  · exact h.1
  · exact he hd

/-- operations of the plain world: create / overwrite a name with an entry whose chunks no OTHER name lists (a
    directory entry lists none); delete a file, or delete anything recursively, with data deletion -/
def PlainOk (s : St) : Op → Prop
  | .create p e _ => e.hl = 0 ∧ FreshFor s p e ∧ (e.isDir = true → e.chunks = [])
  | .delete p r _ dc => dc = true ∧ ∃ n par a, p = n :: par ∧ find s p = some a ∧ (a.isDir = false ∨ r = true)
  | _ => False

/-- one step: the world stays plain and exclusive, gc_safe and gc_complete hold for the step -/
theorem gc_step (s : St) (op : Op) (inv : TreeInv s) (pl : Plain s) (ex : Excl s) (dn : DirNoChunks s) (ok : PlainOk s op) :
    GcOk s (step s op).1 (emitted (step s op).2) ∧ DirNoChunks (step s op).1 := by
  cases op with
  | create p e x =>
    rw [step_create, emitted_viaQ]
    exact ⟨gcOk_createEntry inv pl ex p e x ok.1 ok.2.1, dirNoChunks_createEntry dn ok.2.2⟩
  | delete p r i dc =>
    rcases ok with ⟨rfl, n, par, a, rfl, hf, hk⟩
    rw [step_delete, emitted_viaD]
    refine ⟨?_, fun y hy hd => dn y (deleteEntry_subset y hy) hd⟩
    rcases hk with hfile | rfl
    · exact gcOk_deleteFile inv pl ex (mem_of_find_plain inv pl hf) hfile r
    · exact gc_recursive_delete s inv pl ex dn n par a hf
  | update p e => exact False.elim ok
  | write p t c => exact False.elim ok
  | link a b h => exact False.elim ok
  | unlink p => exact False.elim ok
  | rename a b => exact False.elim ok

/-- gc_safe (one step): nothing handed to a deletion sink is referenced by a live name afterwards -/
theorem gc_safe (s : St) (op : Op) (inv : TreeInv s) (pl : Plain s) (ex : Excl s) (dn : DirNoChunks s) (ok : PlainOk s op) :
    ∀ c ∈ emitted (step s op).2, ¬ Referenced (step s op).1 c :=
  (gc_step s op inv pl ex dn ok).1.2.2.1

/-- gc_complete (one step): every chunk that stopped being referenced was handed to a deletion sink -/
theorem gc_complete (s : St) (op : Op) (inv : TreeInv s) (pl : Plain s) (ex : Excl s) (dn : DirNoChunks s) (ok : PlainOk s op) :
    ∀ c, Referenced s c → ¬ Referenced (step s op).1 c → c ∈ emitted (step s op).2 :=
  (gc_step s op inv pl ex dn ok).1.2.2.2

/-- overwrite with shared chunks (append, partial rewrite): exactly the chunks the new version no longer lists are queued -/
theorem overwrite_emits_exactly (s : St) (n : String) (par : RPath) (e old : Entry)
    (h : find s (n :: par) = some old) (hk : old.isDir = e.isDir) :
    ∀ c, c ∈ (createEntry s (n :: par) e false).2.2 ↔ c ∈ old.chunks ∧ c ∉ e.chunks := by
  intro c
  rw [createEntry_over (List.cons_ne_nil n par) h hk]
  exact mem_notNew

def AllowedRun : St → List Op → Prop
  | _, [] => True
  | s, op :: t => PlainOk s op ∧ AllowedRun (step s op).1 t

/-- gc_safe and gc_complete hold at every step of the history -/
def SafeRun : St → List Op → Prop
  | _, [] => True
  | s, op :: t =>
    (∀ c ∈ emitted (step s op).2, ¬ Referenced (step s op).1 c) ∧
    (∀ c, Referenced s c → ¬ Referenced (step s op).1 c → c ∈ emitted (step s op).2) ∧
    SafeRun (step s op).1 t

theorem plainOk_opOk (s : St) (op : Op) (h : PlainOk s op) : OpOk op := by
  cases op with
  | create p e x => intro _; exact h.1
  | update p e => exact False.elim h
  | _ => exact trivial

/-- MAIN: along ANY history of creates / overwrites (with chunks shared between versions) / file deletes / recursive
    deletes of whole trees (deletes with data deletion) that respects the client contract, no chunk handed to a deletion sink is still referenced,
    and every chunk that stops being referenced is handed over — at every step (induction over the history;
    `Plain`/`Excl`/`DirNoChunks` are the invariant) -/
theorem gc_history (ops : List Op) : ∀ s, TreeInv s → Plain s → Excl s → DirNoChunks s → AllowedRun s ops →
    SafeRun s ops ∧ Plain (run s ops) ∧ Excl (run s ops) := by
  induction ops with
  | nil => intro s _ pl ex _ _; exact ⟨trivial, pl, ex⟩
  | cons op t ih =>
    intro s inv pl ex dn ok
    have G := gc_step s op inv pl ex dn ok.1
    have IH := ih _ (inv_step inv (plainOk_opOk s op ok.1)) G.1.1 G.1.2.1 G.2 ok.2
    exact ⟨⟨G.1.2.2.1, G.1.2.2.2, IH.1⟩, IH.2⟩

theorem gc_history_from_empty (ops : List Op) (ok : AllowedRun {} ops) : SafeRun {} ops :=
  (gc_history ops {} inv_empty (fun _ hx => absurd hx List.not_mem_nil) (fun _ _ _ _ ha => absurd ha List.not_mem_nil)
    (fun _ hx => absurd hx List.not_mem_nil) ok).1

example : AllowedRun {} [.create ["a"] { isDir := false, tag := 1, chunks := [1, 2], hl := 0, cnt := 0 } false] := by
  refine ⟨⟨rfl, ?_, by simp⟩, trivial⟩
  intro q b hb
  simp at hb

/-! ### histories WITH hard links

`gc_history` above lives in the plain world. Here every stored name may carry a link identity. The invariant is
`TreeInv` ∧ `ConsAll` (every identity's record counts its names, Lemmas/C21) ∧ `ExclL` (a chunk is shown by one plain
name or by the names of ONE identity). The operations are the ones that are not recorded findings: -/

/-- operations of the link world. Excluded = the recorded findings (and what the theorem does not model):
    a plain create over a linked name (create/deletes-chunk-of-live-hardlink), DeleteEntryMetaAndData with data deletion
    on a linked name that is not the last one (delete/deletes-chunk-of-live-hardlink), recursive deletes over links
    (delete/chunk-of-removed-hardlink-not-deleted) and renames (rename/…); directory deletes are proved in the plain
    world only (`gc_history`), renames and UpdateEntry are left to the judge and the correspondence check. A create
    whose entry carries a link identity is issued by the client only inside Dir.Link (`link`).
    Client contract: new content is not shown by a name of another owner (`FreshL`; sharing with the old version is
    fine), a plain file gets an unused non-zero identity when first linked (`LinkFresh`). -/
def LinkOk (s : St) : Op → Prop
  | .create p e _ => e.hl = 0 ∧ (∀ a, (p, a) ∈ s.ents → a.hl = 0) ∧ FreshL s p e.chunks
  | .write p _ chunks => FreshL s p chunks
  | .link src _ h => LinkFresh s src h
  | .unlink p => ∀ o, find s p = some o → o.isDir = false
  | .delete p _ _ dc => (∀ o, find s p = some o → o.isDir = false) ∧
      (dc = true → ∀ a, (p, a) ∈ s.ents → a.hl ≠ 0 → nameCount s.ents a.hl = 1)
  | .update _ _ => False
  | .rename _ _ => False

/-- the operations of the link world are among those under which every identity's counter is kept (C21) -/
theorem allowed_of_linkOk (s : St) (op : Op) (h : LinkOk s op) : SwV.Props.C21.Allowed s op := by
  cases op with
  | create p e x => exact ⟨h.1, h.2.1⟩
  | write p t ch => trivial
  | link a b k => exact h
  | unlink p => exact h
  | delete p r i dc => exact h.1
  | update p e => exact h
  | rename a b => exact h

/-- one step on the `Shows` level: ownership is kept, nothing handed over is still shown, and — when the operation asked
    for data deletion (`requestsDeletion` of the judge) — everything that is no longer shown was handed over -/
theorem gcS_step (s : St) (op : Op) (inv : TreeInv s) (c : ConsAll s) (ex : ExclL s) (ok : LinkOk s op) :
    GcS s (step s op).1 (emitted (step s op).2) (SwV.Spec.C20.requestsDeletion s op) := by
  cases op with
  | create p e x =>
    rw [step_create, emitted_viaQ]
    exact gcS_createEntry_plain inv ex p e x ok.1 ok.2.1 ok.2.2 true
  | write p tag chunks =>
    rw [step_write, emitted_viaQ]
    -- whatever FindEntry returns, the entry written is a file, carries the identity shown and lists `chunks`
    refine gcS_write inv c ex p ?_ ?_ ?_ true
    · cases find s p <;> rfl
    · cases find s p <;> rfl
    · cases find s p <;> exact ok
  | link a b h =>
    rw [step_link, emitted_viaQ]
    exact gcS_linkOp inv c ex a b h ok false
  | unlink p =>
    rw [step_unlink]
    cases hf : find s p with
    | none => exact gcS_refl ex _
    | some o =>
      have hreq : SwV.Spec.C20.requestsDeletion s (.unlink p) = decide (o.cnt ≤ 1) := by
        simp only [SwV.Spec.C20.requestsDeletion, hf, Option.map_some, Option.getD_some]
      rw [emitted_viaD, hreq]
      refine gcS_deleteEntry inv c ex p false _ ok fun hdc a hm hk => ?_
      -- the client asks for data deletion when the counter, which counts the names, says "last name"
      rcases find_cases inv hm (c _) hf with ⟨h0, _⟩ | ⟨_, _, _, _, hrc⟩
      · exact absurd h0 hk
      · have := of_decide_eq_true hdc
        omega
  | delete p r i dc =>
    rw [step_delete, emitted_viaD]
    exact gcS_deleteEntry inv c ex p r dc ok.1 fun hdc a hm hk => Nat.le_of_eq (ok.2 hdc a hm hk)
  | update p e => exact False.elim ok
  | rename a b => exact False.elim ok

/-- one step of the link world: the invariant is kept, gc_safe holds, and gc_complete holds whenever the operation asked
    for data deletion -/
theorem gc_step_links (s : St) (op : Op) (inv : TreeInv s) (c : ConsAll s) (ex : ExclL s) (ok : LinkOk s op) :
    TreeInv (step s op).1 ∧ ConsAll (step s op).1 ∧ ExclL (step s op).1 ∧
    (∀ ch ∈ emitted (step s op).2, ¬ Referenced (step s op).1 ch) ∧
    (SwV.Spec.C20.requestsDeletion s op = true →
      ∀ ch, Referenced s ch → ¬ Referenced (step s op).1 ch → ch ∈ emitted (step s op).2) := by
  have al := allowed_of_linkOk s op ok
  have inv' := inv_step inv (SwV.Props.C21.allowed_opOk s op al)
  have c' := SwV.Props.C21.counter_eq_names_step s op inv c al
  have G := gcS_step s op inv c ex ok
  exact ⟨inv', c', G.1, gcS_referenced (referenced_shows inv fun _ _ => c _) (referenced_shows inv' fun _ _ => c' _) G⟩

def AllowedRunL : St → List Op → Prop
  | _, [] => True
  | s, op :: t => LinkOk s op ∧ AllowedRunL (step s op).1 t

/-- gc_safe at every step; gc_complete at every step that asked for data deletion (the judge's `requestsDeletion`:
    overwrites always, deletes when told to, the client's unlink when the counter says "last name") -/
def SafeRunL : St → List Op → Prop
  | _, [] => True
  | s, op :: t =>
    (∀ c ∈ emitted (step s op).2, ¬ Referenced (step s op).1 c) ∧
    (SwV.Spec.C20.requestsDeletion s op = true →
      ∀ c, Referenced s c → ¬ Referenced (step s op).1 c → c ∈ emitted (step s op).2) ∧
    SafeRunL (step s op).1 t

/-- FULL-STRENGTH statement: gc_safe ∧ gc_complete at every step of EVERY history. False (witnesses below: delete of one
    linked name with data deletion, plain create / rename over a linked name, recursive delete over links).
    PARTIAL (hypothesis `AllowedRunL` = the history avoids those recorded classes and respects the client contract):
    along any history of creates / overwrites, writes through plain AND linked names, links, unlinks (last name or not)
    and file deletes, no chunk handed to a deletion sink is still referenced by a live name — directly or through a hard
    link — and every chunk that stops being referenced by an operation that asked for data deletion is handed over;
    at every step. Induction over the history; invariant `TreeInv` ∧ `ConsAll` ∧ `ExclL`. -/
theorem gc_history_links_partial (ops : List Op) : ∀ s, TreeInv s → ConsAll s → ExclL s → AllowedRunL s ops →
    SafeRunL s ops ∧ TreeInv (run s ops) ∧ ConsAll (run s ops) ∧ ExclL (run s ops) := by
  induction ops with
  | nil => intro s inv c ex _; exact ⟨trivial, inv, c, ex⟩
  | cons op t ih =>
    intro s inv c ex ok
    have G := gc_step_links s op inv c ex ok.1
    have IH := ih _ G.1 G.2.1 G.2.2.1 ok.2
    exact ⟨⟨G.2.2.2.1, G.2.2.2.2, IH.1⟩, IH.2⟩

theorem gc_history_links_from_empty (ops : List Op) (ok : AllowedRunL {} ops) : SafeRunL {} ops :=
  (gc_history_links_partial ops {} inv_empty
    consAll_empty
    (fun _ _ _ _ _ _ ⟨_, hm, _⟩ => absurd hm List.not_mem_nil) ok).1

/-- the client's unlink (weed/filesys removeOneFile: data deletion only when the counter says "last name"):
    in a consistent state the shared chunks are handed to the deletion sink exactly when the LAST name of the
    identity goes; unlinking one of several names hands over nothing -/
theorem unlink_emits_exactly_at_last_name (s : St) (inv : TreeInv s) (c : ConsAll s) (n : String) (par : RPath) (ex : Entry)
    (hm : (n :: par, ex) ∈ s.ents) (hk : ex.hl ≠ 0) :
    ∃ r, kvGet s ex.hl = some r ∧
      (nameCount s.ents ex.hl = 1 → (step s (.unlink (n :: par))).2.d = r.chunks) ∧
      (1 < nameCount s.ents ex.hl → (step s (.unlink (n :: par))).2.d = []) := by
  rcases find_of_linked inv hm hk (c _ hk) with ⟨r, hg, hf, hrl, hrf, hrc⟩
  have hd : (step s (.unlink (n :: par))).2.d = if decide (r.cnt ≤ 1) then r.chunks else [] := by
    simp only [step_unlink, hf]
    rw [deleteEntry_file hf hrf]
    rfl
  rw [hd, hrc]
  exact ⟨r, hg, fun h1 => if_pos (decide_eq_true (by omega)),
    fun h1 => if_neg fun h => by have := of_decide_eq_true h; omega⟩

/-- non-vacuity: create /a (chunk 1), link it to /b with the fresh identity 7, unlink /a (nothing handed over: /b still
    shows chunk 1), unlink /b (the last name: chunk 1 handed to the deletion sink) -/
def linkHistory : List Op := [
  .create ["a"] { isDir := false, tag := 1, chunks := [1], hl := 0, cnt := 0 } false,
  .link ["a"] ["b"] 7,
  .unlink ["a"],
  .unlink ["b"]]

theorem file_of_find_all (s : St) (p : RPath) (h : ((find s p).all fun o => !o.isDir) = true) :
    ∀ o, find s p = some o → o.isDir = false := by
  intro o ho
  rw [ho] at h
  simpa using h

open SwV.Lemmas.C20Links SwV.Lemmas.C21 in
example : AllowedRunL {} linkHistory ∧
    emitted (step (run {} (linkHistory.take 2)) (.unlink ["a"])).2 = [] ∧
    emitted (step (run {} (linkHistory.take 3)) (.unlink ["b"])).2 = [1] := by
  refine ⟨⟨⟨rfl, (fun a h => by cases h), ?_⟩, ?_, ?_, ?_, trivial⟩, by decide +kernel, by decide +kernel⟩
  · rintro q k' cs' ⟨e, hm, _⟩
    cases hm
  · intro ex _ _
    exact ⟨by decide, by decide⟩
  · exact file_of_find_all _ _ (by decide +kernel)
  · exact file_of_find_all _ _ (by decide +kernel)

/-! ### what is NOT true of the code (known findings): witnesses

FULL-STRENGTH statements: gc_safe and gc_complete for EVERY operation in EVERY reachable state. False once link
identities are involved: -/

def linkedPair : St := run {} [.create ["a"] { isDir := false, tag := 1, chunks := [1], hl := 0, cnt := 0 } false, .link ["a"] ["b"] 1]

/-- delete/deletes-chunk-of-live-hardlink: deleting ONE name with data deletion direct-deletes the shared chunk 1,
    which the other name still shows -/
theorem delete_linked_name_witness :
    (step linkedPair (.delete ["b"] false false true)).2.d = [1] ∧
    (find (step linkedPair (.delete ["b"] false false true)).1 ["a"]).map (·.chunks) = some [1] := by decide +kernel

/-- create/deletes-chunk-of-live-hardlink: a plain entry written over a linked name queues the shared chunk -/
theorem overwrite_linked_name_witness :
    let r := step linkedPair (.create ["a"] { isDir := false, tag := 4, chunks := [2], hl := 0, cnt := 0 } false)
    r.2.q = [1] ∧ (find r.1 ["b"]).map (·.chunks) = some [1] := by decide +kernel

/-- delete/chunk-of-removed-hardlink-not-deleted: recursive delete of the directory holding every name of an
    identity removes names and record, and hands nothing to a sink -/
theorem recursive_delete_leaks_witness :
    let s := run {} [.create ["c", "a"] { isDir := false, tag := 1, chunks := [1], hl := 0, cnt := 0 } false, .link ["c", "a"] ["b", "a"] 1]
    let r := step s (.delete ["a"] true false true)
    r.2.d = [] ∧ r.1.ents = [] ∧ kvGet r.1 1 = none ∧ (find s ["c", "a"]).map (·.chunks) = some [1] := by decide +kernel

/-- rename/deletes-chunk-of-copy-that-lost-its-link: /a/b and /b/c are names of identity 1 (chunk 1); renaming /a into /b
    moves /a/b to /b/b as a plain copy and /a/c over /b/c, queues chunk 1 — and /b/b still lists it -/
theorem rename_merge_deletes_copied_chunk_witness :
    let s := run {} [.create ["b", "a"] { isDir := false, tag := 1, chunks := [1], hl := 0, cnt := 0 } false,
                     .create ["b"] { isDir := true, tag := 5, chunks := [], hl := 0, cnt := 0 } false,
                     .link ["b", "a"] ["c", "b"] 1,
                     .create ["c", "a"] { isDir := false, tag := 2, chunks := [2], hl := 0, cnt := 0 } false]
    let r := step s (.rename ["a"] ["b"])
    r.2.res = Res.ok ∧ r.2.q = [1] ∧ (find r.1 ["b", "b"]).map (fun e => (e.chunks, e.hl)) = some ([1], 0) := by decide +kernel

/-- a source edit of any mirrored function changes its hash and breaks this obligation (the model must then be
    re-read against the code; the correspondence check says whether behaviour changed) -/
theorem bridge_source_pins :
    SwV.Gen.C20.src_deleteChunksIfNotNew = "6b3cb0842e738714" ∧
    SwV.Gen.C20.src_DeleteChunks = "88bfe861e0a50798" ∧
    SwV.Gen.C20.src_DirectDeleteChunks = "5df7fcdecfc7c2e8" ∧
    SwV.Gen.C20.src_maybeDeleteHardLinks = "bf08d6d6b3dd8d8d" ∧
    SwV.Gen.C20.src_DeleteEntryMetaAndData = "d2c3c47d2d5354d7" ∧
    SwV.Gen.C20.src_doBatchDeleteFolderMetaAndData = "b5846477150726cb" :=
  ⟨rfl, rfl, rfl, rfl, rfl, rfl⟩

/-! ## the save path of the HTTP write handlers (PUT, PUT ?op=append): failed saves

`SwV.Model.C20Http.save` mirrors `saveMetaData` of weed/server/filer_server_handlers_write_autochunk.go on top of the
namespace model: the request uploads its chunks (`newIds`, ids the master hands out: unused), an append merges them
behind the chunks of the existing entry, the entry goes to Filer.CreateEntry, and when that fails the handler hands
`fileChunks` to Filer.DeleteChunks. The correspondence check runs it against the real handlers (harness variant
"http": in-process master/volume stand-ins, a store shim that can be down for one request). -/

section HttpSave
open SwV.Model.C20Http SwV.Lemmas.C20Http

/-- the chunks some live name shows (directly or through its link record), as a list -/
def refChunks (s : St) : List Nat := s.ents.flatMap fun x => ((find s x.1).map (·.chunks)).getD []

theorem mem_refChunks_of_referenced {s : St} {c : Nat} (h : Referenced s c) : c ∈ refChunks s := by
  rcases h with ⟨p, e, v, hm, hf, hc⟩
  exact List.mem_flatMap.2 ⟨(p, e), hm, by simp [hf, hc]⟩

/-- gc_safe for EVERY failed save — every store, every path, body length, chunk size, inline limit, plain upload or
    append, the store down for the request or Filer.CreateEntry refusing for its own reasons (a parent that is a
    file, a directory in the way): the store is exactly what it was, and nothing handed to the deletion queue is
    shown by a live name (directly or through a hard link). `fresh` = the master hands out ids nobody references. -/
theorem failed_save_gc_safe (s : St) (next : Nat) (r : Req)
    (fresh : ∀ c ∈ newIds next r, ¬ Referenced s c)
    (h : (save s next r).2.stage = .saveFailed) :
    (save s next r).1 = s ∧ ∀ c ∈ (save s next r).2.q, ¬ Referenced (save s next r).1 c := by
  have hf := save_failed h
  refine ⟨hf.1, fun c hc => ?_⟩
  rw [hf.1]
  rw [hf.2.1] at hc
  exact fresh c hc

/-- gc_complete for every failed save: the request answers an error and EXACTLY the chunks it uploaded — all of
    them, nothing else — are handed to the deletion queue -/
theorem failed_save_gc_complete (s : St) (next : Nat) (r : Req) (h : (save s next r).2.stage = .saveFailed) :
    (save s next r).2.q = newIds next r ∧ (save s next r).2.uploaded = (newIds next r).length ∧
    (save s next r).2.res = .err :=
  (save_failed h).2

/-- while the metadata store refuses writes no request below the root is saved and the store keeps its content
    (a request that got as far as Filer.CreateEntry is a failed save, so by the two theorems above whatever it uploaded
    is queued, and nothing else is; a refused append stays what it is with the store up, see the witness below) -/
theorem store_down_never_saves (s : St) (next : Nat) (r : Req) (hd : r.down = true) (hp : r.path ≠ []) :
    (save s next r).2.stage ≠ .saved ∧ (save s next r).1 = s := by
  have htp : targetPath s r.path ≠ [] := by
    unfold targetPath
    cases hq : r.path with
    | nil => exact absurd hq hp
    | cons n par =>
      simp only []
      split
      · split <;> simp
      · simp
  rw [save_eq]
  cases he : entryToSave s next r with
  | none => simp
  | some e =>
    have hc : saveCall s r e = (s, .err, []) := by
      unfold saveCall createEntryDown
      simp only [hd, if_true]
      split
      · rename_i heq; exact absurd heq htp
      · rfl
    simp [hc]

/-- a request that reaches the store (store up, no inline content) IS the namespace operation
    `create (targetPath …) (entryToSave …)`: same store afterwards, and when it is saved the same chunks are queued —
    so gc_step / gc_history above speak about saved HTTP writes too -/
theorem saved_is_createEntry (s : St) (next : Nat) (r : Req) (e : Entry) (he : entryToSave s next r = some e)
    (hu : r.down = false) (hi : savesInline s r = false) :
    (save s next r).1 = (step s (.create (targetPath s r.path) e false)).1 ∧
    ((save s next r).2.stage = .saved → (save s next r).2.q = (step s (.create (targetPath s r.path) e false)).2.q) := by
  rw [save_eq, he]
  have hc : saveCall s r e = createEntry s (targetPath s r.path) e false := by simp [saveCall, hu]
  simp only [hc, hi, step]
  rcases createEntry s (targetPath s r.path) e false with ⟨s', res, q⟩
  cases res <;> simp

/-- /a/c written through PUT in three chunks -/
def httpFile : St :=
  (save {} 1000 { append := false, path := ["c", "a"], uid := 3, limit := 0, chunkSize := 8, len := 20, down := false }).1

/-- non-vacuity: an append of 9 bytes onto the three-chunk file while the store is down is a failed save; its two
    chunks 1003, 1004 are fresh, both are queued, the file keeps its three chunks; and a save that fails with the
    store up (PUT below a file) -/
example :
    let r : Req := { append := true, path := ["c", "a"], uid := 3, limit := 0, chunkSize := 8, len := 9, down := true }
    (save httpFile 1003 r).2.stage = .saveFailed ∧ (∀ c ∈ newIds 1003 r, ¬ Referenced httpFile c) ∧
    (save httpFile 1003 r).2.q = [1003, 1004] ∧ (find httpFile ["c", "a"]).map (·.chunks) = some [1000, 1001, 1002] ∧
    (save httpFile 1003 { r with append := false, down := false, path := ["x", "c", "a"] }).2.stage = .saveFailed := by
  refine ⟨by decide +kernel, fun c hc hr => ?_, by decide +kernel, by decide +kernel, by decide +kernel⟩
  have disjoint : ∀ c ∈ newIds 1003 { append := true, path := ["c", "a"], uid := 3, limit := 0, chunkSize := 8, len := 9, down := true },
      c ∉ refChunks httpFile := by decide +kernel
  exact disjoint c hc (mem_refChunks_of_referenced hr)

example : (save httpFile 1003 { append := false, path := ["c", "a"], uid := 3, limit := 0, chunkSize := 8, len := 9, down := true }).2.stage ≠ .saved :=
  (store_down_never_saves _ _ _ rfl (by decide +kernel)).1

example : (save httpFile 1003 { append := true, path := ["c", "a"], uid := 3, limit := 0, chunkSize := 8, len := 9, down := false }).2.q = [] ∧
    (find (save httpFile 1003 { append := true, path := ["c", "a"], uid := 3, limit := 0, chunkSize := 8, len := 9, down := false }).1 ["c", "a"]).map (·.chunks)
      = some [1000, 1001, 1002, 1003, 1004] := by decide +kernel

/-- NOT claimed (and outside the property text, which speaks about chunks that STOPPED being referenced): an append
    onto a file with inline content is refused ("append to small file is not supported yet") AFTER its chunks were
    uploaded; they are neither referenced nor handed to a deletion sink. Witness: -/
theorem refused_append_uploads_unreferenced_witness :
    let s := (save {} 1000 { append := false, path := ["a"], uid := 6, limit := 16, chunkSize := 8, len := 5, down := false }).1
    let o := save s 1000 { append := true, path := ["a"], uid := 6, limit := 16, chunkSize := 8, len := 20, down := false }
    o.2.stage = Stage.refused ∧ o.2.uploaded = 3 ∧ o.2.q = [] ∧ o.1.ents = s.ents := by decide +kernel

/-- T1 tie of the save path (facts regenerated by tools/c20http from weed/server on every run): the cleanup call of
    saveMetaData after a failed save is the ONE call `fs.filer.DeleteChunks(fileChunks)` — the chunks of this request,
    not `entry.Chunks` (which in an append also lists the chunks of the live entry) —, the entry saved is `entry`, an
    append merges `append(entry.Chunks, fileChunks...)`; the model's failed save emits exactly `newIds` -/
theorem bridge_http_save :
    SwV.Gen.C20Http.save_cleanup_arg = "fileChunks" ∧
    SwV.Gen.C20Http.save_cleanup_calls = 1 ∧
    SwV.Gen.C20Http.save_create_arg = "entry" ∧
    SwV.Gen.C20Http.save_failed_cond = "dbErr != nil" ∧
    SwV.Gen.C20Http.save_merge_old = "entry.Chunks" ∧
    SwV.Gen.C20Http.save_merge_new = "fileChunks" ∧
    SwV.Gen.C20Http.save_inline_refuse_cond = "len(entry.Content) > 0" ∧
    SwV.Gen.C20Http.upload_inline_cond = "dataSize < fs.option.SaveToFilerLimit || strings.HasPrefix(r.URL.Path, filer.DirectoryEtcRoot)" ∧
    SwV.Gen.C20Http.upload_first_piece_cond = "chunkOffset == 0 && !isAppend(r)" ∧
    SwV.Gen.C20Http.src_saveMetaData = "6dd0252be60d4eb8" ∧
    SwV.Gen.C20Http.src_doPutAutoChunk = "ad44a5197caf5b0e" ∧
    SwV.Gen.C20Http.src_uploadReaderToChunks = "ed1fc11962c16667" ∧
    (∀ (s : St) (next : Nat) (r : Req), (save s next r).2.stage = .saveFailed → (save s next r).2.q = newIds next r) :=
  ⟨rfl, rfl, rfl, rfl, rfl, rfl, rfl, rfl, rfl, rfl, rfl, rfl, fun _ _ _ h => (save_failed h).2.1⟩

end HttpSave

end SwV.Props.C20
