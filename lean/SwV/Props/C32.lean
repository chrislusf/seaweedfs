/-
C32 — theorems.

For every Range header in the grammar and every representation R below 2^62 bytes the answer is the expected one
(`Spec.expected`): 206 with exactly the bytes of the single satisfiable range, multipart with one exact part per
satisfiable range, 416 when there are elements and none is satisfiable, 200 with everything otherwise (no element, or
the satisfiable ranges sum to more than R) (`range_response_conforms`); the judge the
driver runs passes on the model's answer for every header, grammatical or not (`range_judge_passes_all`).  This holds of
parseRange after its `fix:` commits (an element that selects no byte served as an empty 206; one unsatisfiable element
⇒ 416 for the whole header; a signed suffix length ⇒ negative length); the inputs of those findings are the `_repaired`
theorems.  Content-Encoding: gzip goes only to a client whose Accept-Encoding accepts gzip (`gzip_only_if_accepted`).
-/
import SwV.Model.C32
import SwV.Spec.C32
import SwV.Gen.C32
import SwV.Lemmas.C32
namespace SwV.Props.C32
open SwV.Model.C32 SwV.Spec.C32

theorem wrap64_id (x : Int) (h0 : -(2 ^ 63) ≤ x) (h1 : x < 2 ^ 63) : wrap64 x = x :=
  SwV.Lemmas.C32.wrap64_id x h0 h1

theorem isDigit_not_sign (c : Char) (h : isDigit c = true) : c ≠ '+' ∧ c ≠ '-' :=
  SwV.Lemmas.C32.isDigit_not_sign c h

theorem parseInt64_number (s : List Char) (v : Nat) (h : number s = some v) : parseInt64 s = some (v : Int) ∧ v < 2 ^ 63 :=
  ⟨(SwV.Lemmas.C32.number_spec h).1, (SwV.Lemmas.C32.number_spec h).2.1⟩

/-- a grammatical element is parsed to exactly the start and length it denotes when it is satisfiable for a
    representation of N bytes (int64 wrap-around included), and skipped (not an error) when it is not -/
theorem parseOne_denote (ra : List Char) (N : Nat) (sp : RSpec) (hN : N < 2 ^ 62) (hd : denoteOne ra = some sp) :
    parseOne ra (N : Int) = SwV.Lemmas.C32.elemOf (satisfy N sp) :=
  SwV.Lemmas.C32.parseOne_denote ra N sp hN hd

theorem parseOne_exact (ra : List Char) (N : Nat) (sp : RSpec) (r : Nat × Nat) (hN : N < 2 ^ 62)
    (hd : denoteOne ra = some sp) (hs : satisfy N sp = some r) :
    parseOne ra (N : Int) = .range ⟨(r.1 : Int), (r.2 : Int)⟩ := by
  rw [parseOne_denote ra N sp hN hd, hs]; rfl

theorem parseOne_skips (ra : List Char) (N : Nat) (sp : RSpec) (hN : N < 2 ^ 62)
    (hd : denoteOne ra = some sp) (hs : satisfy N sp = none) : parseOne ra (N : Int) = .noOverlap := by
  rw [parseOne_denote ra N sp hN hd, hs]; rfl

example : denoteOne "2-5".toList = some (.fromTo 2 5) ∧ satisfy 4 (.fromTo 2 5) = some (2, 2) ∧
    parseOne "2-5".toList 4 = .range ⟨2, 2⟩ := by decide +kernel
example : denoteOne "4-5".toList = some (.fromTo 4 5) ∧ satisfy 4 (.fromTo 4 5) = none ∧
    parseOne "4-5".toList 4 = .noOverlap := by decide +kernel

/-- the list level: the satisfiable elements, in order; the flag records a skipped element -/
theorem parsePieces_denote (N : Nat) (hN : N < 2 ^ 62) (ps : List (List Char)) (specs : List RSpec)
    (hd : denotePieces ps = some specs) :
    parsePieces ps (N : Int) = some ((specs.filterMap (satisfy N)).map toRg, SwV.Lemmas.C32.anyUnsat N specs) :=
  SwV.Lemmas.C32.parsePieces_denote N hN ps specs hd

/-- header level: the ranges the answer is built from are exactly the denoted satisfiable ones,
    in order — when there is one (or the header has no element at all); with `answer_bytes_exact` below every part then
    carries exactly the requested bytes -/
theorem range_response_exact (h : List Char) (N : Nat) (hN : N < 2 ^ 62) (specs : List RSpec)
    (hd : denote h = some specs) (hne : specs.filterMap (satisfy N) = [] → specs = []) :
    parseRange h (N : Int) = some ((specs.filterMap (satisfy N)).map toRg) :=
  (SwV.Lemmas.C32.parseRange_denote h N hN specs hd).trans (if_neg fun ⟨a, b⟩ => a (hne b))

/-- … and an error (416) when there are elements and none is satisfiable -/
theorem range_unsatisfiable_exact (h : List Char) (N : Nat) (hN : N < 2 ^ 62) (specs : List RSpec)
    (hd : denote h = some specs) (hs0 : specs ≠ []) (hnone : specs.filterMap (satisfy N) = []) :
    parseRange h (N : Int) = none :=
  (SwV.Lemmas.C32.parseRange_denote h N hN specs hd).trans (if_pos ⟨hs0, hnone⟩)

theorem range_response_exact_partial (h : List Char) (N : Nat) (hN : N < 2 ^ 62) (specs : List RSpec)
    (hd : denote h = some specs) (hsat : ∀ sp ∈ specs, (satisfy N sp).isSome) :
    parseRange h (N : Int) = some ((specs.filterMap (satisfy N)).map toRg) :=
  range_response_exact h N hN specs hd (SwV.Lemmas.C32.eq_nil_of_filterMap_eq_nil (satisfy N) specs hsat)

/-- for every grammatical header, every content below 2^62 bytes, the answer of the model — `processRange`'s choice
    between ignoring the header (no element / oversized sum ⇒ everything), a single 206, multipart, 416, and `respond`'s
    bytes — conforms to what the specification expects -/
theorem range_response_conforms (h : List Char) (R : List Nat) (specs : List RSpec) (hN : R.length < 2 ^ 62)
    (hd : denote h = some specs) :
    conforms (expected specs R.length) R (respond h R) = true := by
  have hp := SwV.Lemmas.C32.parseRange_denote h R.length hN specs hd
  by_cases hs0 : specs = []
  · -- no header, or one without an element: everything is served
    subst hs0
    rw [SwV.Lemmas.C32.respond_of_inside h R _ hp (List.forall_mem_nil _)]
    simp [expected, conforms]
  by_cases hrs0 : specs.filterMap (satisfy R.length) = []
  · -- elements, none of them satisfiable: 416
    rw [if_pos ⟨hs0, hrs0⟩] at hp
    rw [SwV.Lemmas.C32.respond_unsat h R hp]
    simp [expected, hs0, hrs0, conforms]
  · -- at least one satisfiable range
    rw [if_neg fun a => hrs0 a.2] at hp
    rw [SwV.Lemmas.C32.expected_of_satisfiable_ne_nil specs R.length hs0 hrs0]
    refine SwV.Lemmas.C32.respond_conforms_ranges h R _ (by omega) hrs0 (fun r hr => ?_) hp
    obtain ⟨sp, _, hs⟩ := List.mem_filterMap.1 hr
    exact SwV.Lemmas.C32.satisfy_bounds R.length sp r hs

example : rangeJudge "bytes=0-0, -1".toList [7, 8, 9] (respond "bytes=0-0, -1".toList [7, 8, 9]) = none := by decide +kernel

-- non-vacuity: a single range, a multipart answer, an oversized sum, a 416, a header with skipped elements, the absent
-- header
example : denote "bytes=1-2".toList = some [.fromTo 1 2] ∧
    respond "bytes=1-2".toList [7, 8, 9] = .single ⟨1, 2⟩ [8, 9] := by decide +kernel
example : denote "bytes=0-0, -1".toList = some [.fromTo 0 0, .suffix 1] ∧
    respond "bytes=0-0, -1".toList [7, 8, 9] = .multi [(⟨0, 1⟩, [7]), (⟨2, 1⟩, [9])] := by decide +kernel
example : respond "bytes=0-,1-".toList [7, 8, 9] = .full [7, 8, 9] := by decide +kernel
example : denote "bytes=5-6,4-".toList = some [.fromTo 5 6, .from 4] ∧
    respond "bytes=5-6,4-".toList [7, 8, 9] = .unsat := by decide +kernel
example : denote "bytes=3-, 0-0,-0, 1-".toList = some [.from 3, .fromTo 0 0, .suffix 0, .from 1] ∧
    respond "bytes=3-, 0-0,-0, 1-".toList [7, 8, 9] = .multi [(⟨0, 1⟩, [7]), (⟨1, 2⟩, [8, 9])] := by decide +kernel
example : denote [] = some [] ∧ respond [] [7, 8, 9] = .full [7, 8, 9] := by decide +kernel

/-- whatever the header (grammatical or not): every range `parseRange` returns is non-empty and inside the content … -/
theorem parsed_ranges_inside (h : List Char) (N : Nat) (hN : N < 2 ^ 63) (rs : List Rg)
    (hp : parseRange h (N : Int) = some rs) : ∀ r ∈ rs, 0 ≤ r.start ∧ 0 < r.length ∧ r.start + r.length ≤ (N : Int) := by
  unfold parseRange at hp
  split at hp
  · cases hp
  · next rs' no hd =>
    split at hp
    · cases hp
    · cases hp
      unfold parseRangeD at hd
      split at hd
      · cases hd
        exact List.forall_mem_nil _
      · split at hd
        · cases hd
        · exact SwV.Lemmas.C32.parsePieces_inside N hN _ _ _ hd

/-- … so every answer is self-consistent: no empty or negative range, every 206 part carries exactly the bytes its
    Content-Range names, a 200 carries everything -/
theorem answer_self_consistent (h : List Char) (R : List Nat) (hN : R.length < 2 ^ 63) :
    rgNonPositive (respond h R) = none ∧ consistent R (respond h R) = true := by
  cases hp : parseRange h (R.length : Int) with
  | none => rw [SwV.Lemmas.C32.respond_unsat h R hp]; simp [rgNonPositive, consistent]
  | some rs =>
    have hin := parsed_ranges_inside h R.length hN rs hp
    rw [SwV.Lemmas.C32.respond_of_inside h R rs hp hin]
    split
    · simp [rgNonPositive, consistent]
    · split
      · rename_i g _
        have hr := hin g List.mem_cons_self
        have hpos : ¬ (g.length ≤ 0) := Int.not_le.mpr hr.2.1
        exact ⟨by simp only [rgNonPositive, hpos, if_false], SwV.Lemmas.C32.okPart_of_inside R g hr⟩
      · have := SwV.Lemmas.C32.multi_ok_inside R rs hin
        exact ⟨by simp only [rgNonPositive, this.1]; rfl, this.2⟩

/-- the COMPLETE judge the driver runs over the implementation's answers (`rangeJudge`: a 200 carries everything, no
    empty/negative range, bytes = what Content-Range names, answer = expectation) passes on the model's answer for EVERY
    header — the expectation for a header of the grammar, self-consistency for any other: with zero DIFF in the
    correspondence check, judge verdicts are verdicts on real differences -/
theorem range_judge_passes_all (h : List Char) (R : List Nat) (hN : R.length < 2 ^ 62) :
    rangeJudge h R (respond h R) = none :=
  have hc := answer_self_consistent h R (by omega)
  SwV.Lemmas.C32.rangeJudge_none h R _ hc.1 hc.2 fun specs hd => range_response_conforms h R specs hN hd

example : denote "bytes=0-1-2, +1-,x".toList = none ∧ denote "bytes=-+2".toList = none ∧
    respond "bytes=-+2".toList [7, 8, 9] = .single ⟨1, 2⟩ [8, 9] ∧ respond "bytes=0-1-2".toList [7, 8, 9] = .unsat := by decide +kernel

/-- whatever the header, without a size bound: a 200 carries everything, and a 206 part whose Content-Range has a
    non-negative start and a positive length carries exactly the bytes it names -/
theorem answer_bytes_exact (h : List Char) (R : List Nat) :
    (∀ b, respond h R = .full b → b = R) ∧
    (∀ g b, respond h R = .single g b → 0 ≤ g.start → 0 < g.length →
        b = (R.drop g.start.toNat).take g.length.toNat) ∧
    (∀ ps, respond h R = .multi ps → ∀ p ∈ ps, 0 ≤ p.1.start → 0 < p.1.length →
        p.2 = (R.drop p.1.start.toNat).take p.1.length.toNat) := by
  unfold respond
  cases processRange h (R.length : Int) with
  | full =>
    refine ⟨fun b hb => ?_, fun _ _ hb => ?_, fun _ hb => ?_⟩ <;> cases hb
    rfl
  | unsat => refine ⟨fun _ hb => ?_, fun _ _ hb => ?_, fun _ hb => ?_⟩ <;> cases hb
  | single r =>
    refine ⟨fun _ hb => ?_, fun g b hb h0 h1 => ?_, fun _ hb => ?_⟩ <;> cases hb
    exact SwV.Lemmas.C32.slice_of_pos R h0 h1
  | multi rs =>
    refine ⟨fun _ hb => ?_, fun _ _ hb => ?_, fun ps hb p hp h0 h1 => ?_⟩ <;> cases hb
    obtain ⟨r, _, rfl⟩ := List.mem_map.1 hp
    exact SwV.Lemmas.C32.slice_of_pos R h0 h1

/-- repaired (fix: parseRange, range that selects no byte): first-byte-pos = size and suffix 0 are unsatisfiable — 416 when
    alone, skipped next to a satisfiable range; nothing for an empty content -/
theorem start_eq_size_repaired :
    respond "bytes=3-".toList [1, 2, 3] = .unsat ∧ expected [.from 3] 3 = .unsat ∧
    respond "bytes=3-3".toList [1, 2, 3] = .unsat ∧ respond "bytes=-0".toList [1, 2, 3] = .unsat ∧
    respond "bytes=0-0,3-".toList [1, 2, 3] = .single ⟨0, 1⟩ [1] ∧
    respond "bytes=-5".toList [] = .unsat ∧ respond "bytes=0-".toList [] = .unsat := by decide +kernel

/-- repaired (fix: parseRange, signed suffix length): `bytes=--5` is an invalid range -/
theorem negative_suffix_repaired :
    respond "bytes=--5".toList [1, 2, 3] = .unsat ∧ parseRange "bytes=0-1,--2".toList 3 = none ∧
    denote "bytes=--5".toList = none := by decide +kernel

/-- repaired (fix: parseRange, noOverlap): one unsatisfiable element does not fail the whole header -/
theorem one_unsatisfiable_repaired :
    respond "bytes=0-1,5-6".toList [1, 2, 3] = .single ⟨0, 2⟩ [1, 2] ∧
    expected [.fromTo 0 1, .fromTo 5 6] 3 = .single (0, 2) ∧
    respond "bytes=5-6,7-".toList [1, 2, 3] = .unsat := by decide +kernel

/-- repaired (fix: 843c0161): an ignored range request (oversized sum, empty list) serves the whole content -/
theorem ignored_range_serves_everything :
    respond "bytes=0-,0-".toList [1, 2, 3] = .full [1, 2, 3] ∧ respond "bytes=".toList [1, 2, 3] = .full [1, 2, 3] := by decide +kernel

/-- gzip is announced only to a client that accepts it (spec predicate: coding gzip / x-gzip / * with q ≠ 0), only for a
    needle flagged compressed, and then the stored bytes are served -/
theorem gzip_only_if_accepted (b : Blob) (ae : List Char) (h : (represent b ae).2 = true) :
    clientAcceptsGzip ae = true ∧ b.compressed = true ∧ (represent b ae).1 = b.stored := by
  unfold represent at h ⊢
  by_cases hc : b.compressed = true
  · by_cases hg : (acceptsGzip ae && isGzMagic b.stored) = true
    · simp only [hc, hg, if_true]
      simp only [Bool.and_eq_true] at hg
      exact ⟨SwV.Lemmas.C32.clientAccepts_of_acceptsGzip ae hg.1, trivial, trivial⟩
    · simp [hc, hg] at h
  · simp [hc] at h

/-- … and a client that sends no Accept-Encoding gets the decompressed bytes -/
theorem no_accept_encoding_gets_plain (b : Blob) : represent b [] = (if b.compressed then b.plain else b.stored, false) := by
  unfold represent
  cases b.compressed <;> simp [acceptsGzip, splitOn, elemListsGzip, trimSpace, gzipWord]

theorem encoding_judge_passes (b : Blob) (ae : List Char) : encodingJudge ae (represent b ae).2 = none := by
  unfold encodingJudge
  by_cases h : (represent b ae).2 = true
  · simp [h, (gzip_only_if_accepted b ae h).1]
  · simp [h]

/-- repaired (fix: GetOrHeadHandler, Accept-Encoding read element by element): no gzip for `gzip;q=0` or `notgzipped`;
    still gzip for the clients that accept it -/
theorem gzip_q0_repaired :
    (represent ⟨true, [1], [31, 139, 8]⟩ "gzip;q=0".toList).2 = false ∧ clientAcceptsGzip "gzip;q=0".toList = false ∧
    (represent ⟨true, [1], [31, 139, 8]⟩ "notgzipped".toList).2 = false ∧
    (represent ⟨true, [1], [31, 139, 8]⟩ "br, GZip;q=0.5".toList) = ([31, 139, 8], true) ∧
    (represent ⟨true, [1], [31, 139, 8]⟩ "deflate;q=0, x-gzip".toList).2 = true := by decide +kernel

/-- an edit of the range code or of the handler's choice of representation breaks this obligation (the model has
    to be re-read against the new text) -/
theorem bridge_source_pins :
    SwV.Gen.C32.src_parseRange = "684a0421bcfe612c" ∧ SwV.Gen.C32.src_sumRangesSize = "e3fc3a256a1357bb" ∧
    SwV.Gen.C32.src_processRangeRequest = "f6f3c151ec6730bf" ∧ SwV.Gen.C32.src_writeResponseContent = "803357dac01be84b" ∧
    SwV.Gen.C32.src_acceptsGzip = "a9f1497fbecd8a17" ∧ SwV.Gen.C32.src_GetOrHeadHandler = "6663ce426a867015" :=
  ⟨rfl, rfl, rfl, rfl, rfl, rfl⟩

end SwV.Props.C32
