/-
C10 — property theorems: soundness of the placement search (`findEmptySlots` = findEmptySlotsForOneVolume) for all
options and all oracles (= every map iteration order and every random draw).

`findEmptySlots_ok` unfolds a successful search once into its three picks and two reservation loops; count, free
slots and honoured preferences are read off it for ANY topology.  For a well-formed topology (`WF`: ids unique
among siblings, as in the Go maps keyed by id) the picked ids are pairwise different, which gives the rack /
data-center pattern (`Shape`), `servers.Nodup`, and with the free slots the whole judge (`placement_sound`).
-/
import SwV.Model.C10
import SwV.Spec.C10
import SwV.Lemmas.C10
import SwV.Gen.C10
import SwV.Lemmas.GoInt
namespace SwV.Props.C10
open SwV.Model.C10 SwV.Spec.C10 SwV.Lemmas.C10

/-- the path names a data node of the tree that has a free slot for disk type `t` -/
def InTreeWithSlot (tr : Tree) (t : Nat) (p : Path) : Prop :=
  ∃ d ∈ tr, ∃ rk ∈ d.racks, ∃ n ∈ rk.nodes, p = (d.id, rk.id, n.id) ∧ n.avail t ≥ 1

/-- how every successful answer comes about: the main data center `d` is picked with x others, the main rack
    `rk` of `d` with y others, the main server `n` of `rk` with z others; the answer lists `n` and the z
    others, then one server (`s1`) beneath each of the other racks, then one (`s2`) beneath each of the
    other data centers -/
theorem findEmptySlots_ok (tr : Tree) (op : Opt) (o : Oracle) (servers : List Path)
    (h : findEmptySlots tr op o = .ok servers) :
    ∃ (d : DC) (ds : List DC) (rk : Rack) (rks : List Rack) (n : DN) (ns : List DN) (s1 s2 : List Path),
      servers = ((d.id, rk.id, n.id) :: ns.map fun m => (d.id, rk.id, m.id)) ++ s1 ++ s2 ∧
      Picked tr (fun e => e.avail op.disk) (dcFilter op) op.x d ds ∧
      Picked d.racks (fun r => r.avail op.disk) (rackFilter op) op.y rk rks ∧
      Picked rk.nodes (fun m => m.avail op.disk) (nodeFilter op) op.z n ns ∧
      (s1.map (fun p => p.2.1) = rks.map (·.id) ∧
        ∀ p ∈ s1, ∃ r ∈ rks, ∃ m ∈ r.nodes, p = (d.id, r.id, m.id) ∧ m.avail op.disk > 0) ∧
      (s2.map (fun p => p.1) = ds.map (·.id) ∧
        ∀ p ∈ s2, ∃ e ∈ ds, ∃ r ∈ e.racks, ∃ m ∈ r.nodes, p = (e.id, r.id, m.id) ∧ m.avail op.disk > 0) := by
  unfold findEmptySlots at h
  split at h
  · simp at h
  · next d ds o1 h1 =>
    split at h
    · simp at h
    · next rk rks o2 h2 =>
      split at h
      · simp at h
      · next n ns o3 h3 =>
        simp only at h
        split at h
        · simp at h
        · next acc part o4 h4 =>
          split at h
          · simp at h
          · next acc2 part2 o5 h5 =>
            simp at h; subst h
            obtain ⟨s1, rfl, r1⟩ := reserveRacks_ok h4
            obtain ⟨s2, rfl, r2⟩ := reserveDCs_ok h5
            exact ⟨d, ds, rk, rks, n, ns, s1, s2, rfl, pick_ok h1, pick_ok h2,
              pick_ok h3, r1, r2⟩

/-- the answer has exactly 1+x+y+z servers, whatever the topology -/
theorem placement_count (tr : Tree) (op : Opt) (o : Oracle) (servers : List Path)
    (h : findEmptySlots tr op o = .ok servers) : servers.length = 1 + op.x + op.y + op.z := by
  obtain ⟨d, ds, rk, rks, n, ns, s1, s2, rfl, pd, pr, pn, ⟨m1, _⟩, ⟨m2, _⟩⟩ := findEmptySlots_ok tr op o servers h
  have l1 := congrArg List.length m1
  have l2 := congrArg List.length m2
  simp only [List.length_map] at l1 l2
  simp only [List.length_append, List.length_cons, List.length_map, l1, l2, pd.count, pr.count, pn.count]
  omega

/-- C10 (free slots): for EVERY topology, well-formed or not, every option and oracle, every server of a successful
    answer is a data node of the topology with a free slot for the requested disk type -/
theorem placement_slots (tr : Tree) (op : Opt) (o : Oracle) (servers : List Path)
    (h : findEmptySlots tr op o = .ok servers) : ∀ p ∈ servers, InTreeWithSlot tr op.disk p := by
  obtain ⟨d, ds, rk, rks, n, ns, s1, s2, rfl, pd, pr, pn, ⟨_, r1⟩, ⟨_, r2⟩⟩ := findEmptySlots_ok tr op o servers h
  have hd : d ∈ tr := pd.part.mem List.mem_cons_self
  have hrk : rk ∈ d.racks := pr.part.mem List.mem_cons_self
  intro p hp
  rcases List.mem_append.mp hp with hp | hp
  rcases List.mem_append.mp hp with hp | hp
  · obtain ⟨m, hm, rfl⟩ := List.mem_map.mp (show p ∈ (n :: ns).map fun m => (d.id, rk.id, m.id) from hp)
    exact ⟨d, hd, rk, hrk, m, pn.part.mem hm, rfl, Int.add_one_le_of_lt (pn.free m hm)⟩
  · obtain ⟨r, hr, m, hm, rfl, hav⟩ := r1 p hp
    exact ⟨d, hd, r, pr.part.mem (List.mem_cons_of_mem _ hr), m, hm, rfl, by omega⟩
  · obtain ⟨e, he, r, hr, m, hm, rfl, hav⟩ := r2 p hp
    exact ⟨e, pd.part.mem (List.mem_cons_of_mem _ he), r, hr, m, hm, rfl, by omega⟩

/-- C10 (preferences): the first server of a successful answer is a node, in a rack, in a data center
    that pass the three filter closures — so a requested data center, rack or server is honoured -/
theorem placement_preferences (tr : Tree) (op : Opt) (o : Oracle) (servers : List Path)
    (h : findEmptySlots tr op o = .ok servers) :
    ∃ d ∈ tr, ∃ rk ∈ d.racks, ∃ n ∈ rk.nodes, servers.head? = some (d.id, rk.id, n.id) ∧
      dcFilter op d = true ∧ rackFilter op rk = true ∧ nodeFilter op n = true := by
  obtain ⟨d, ds, rk, rks, n, ns, s1, s2, rfl, pd, pr, pn, _⟩ := findEmptySlots_ok tr op o servers h
  exact ⟨d, pd.part.mem List.mem_cons_self, rk, pr.part.mem List.mem_cons_self, n, pn.part.mem List.mem_cons_self,
    rfl, pd.first, pr.first, pn.first⟩

/-- the first conjunct of each filter closure: a requested data center / rack / server is the one that passes -/
theorem dcFilter_pref {op : Opt} {d : DC} (h : dcFilter op d = true) (i : Nat) (hi : op.dc = some i) : d.id = i := by
  simp only [dcFilter, hi, Bool.and_eq_true, beq_iff_eq] at h
  exact h.1.1.1

theorem rackFilter_pref {op : Opt} {rk : Rack} (h : rackFilter op rk = true) (i : Nat) (hi : op.rack = some i) :
    rk.id = i := by
  simp only [rackFilter, hi, Bool.and_eq_true, beq_iff_eq] at h
  exact h.1.1.1

theorem nodeFilter_pref {op : Opt} {n : DN} (h : nodeFilter op n = true) (i : Nat) (hi : op.node = some i) :
    n.id = i := by
  simp only [nodeFilter, hi, Bool.and_eq_true, beq_iff_eq] at h
  exact h.1

/-- a requested data center is the first server's data center -/
theorem requested_dc_honoured (tr : Tree) (op : Opt) (o : Oracle) (servers : List Path) (want : Nat)
    (hw : op.dc = some want) (h : findEmptySlots tr op o = .ok servers) :
    ∃ p, servers.head? = some p ∧ p.1 = want := by
  obtain ⟨d, _, rk, _, n, _, hh, hf, _, _⟩ := placement_preferences tr op o servers h
  exact ⟨_, hh, dcFilter_pref hf want hw⟩

/-- well-formed topology: ids are unique among siblings (data centers of the topology, racks of a data
    center, data nodes of a rack).  Real topologies satisfy this: `children` is a Go map keyed by the id. -/
def WF (tr : Tree) : Prop :=
  (tr.map (·.id)).Nodup ∧
    ∀ d ∈ tr, (d.racks.map (·.id)).Nodup ∧ ∀ rk ∈ d.racks, (rk.nodes.map (·.id)).Nodup

instance (tr : Tree) : Decidable (WF tr) := by unfold WF; infer_instance

/-- in a well-formed topology the judge's lookup by ids finds the node -/
theorem hasSlot_of_inTree (tr : Tree) (hwf : WF tr) (t : Nat) (p : Path) (h : InTreeWithSlot tr t p) :
    hasSlot tr t p = true := by
  obtain ⟨d, hd, rk, hrk, n, hn, rfl, hav⟩ := h
  have f1 := find_unique (·.id) tr hwf.1 d hd
  have f2 := find_unique (·.id) d.racks (hwf.2 d hd).1 rk hrk
  have f3 := find_unique (·.id) rk.nodes ((hwf.2 d hd).2 rk hrk) n hn
  simp only [hasSlot, findNode, f1, f2, f3]
  exact decide_eq_true hav

/-- the shape of an answer by ids: the main server `(D, R, N)` and z more DIFFERENT nodes `ns` of the main
    rack, then one server in each of y DIFFERENT other racks of the main data center, then one server in each
    of x DIFFERENT other data centers; a requested data center / rack / server is the main one -/
structure Shape (op : Opt) (servers : List Path) (D R N : Nat) (ns : List Nat) (s1 s2 : List Path) : Prop where
  eq : servers = ((D, R, N) :: ns.map fun n => (D, R, n)) ++ s1 ++ s2
  nodes : ns.length = op.z ∧ (N :: ns).Nodup
  racks : s1.length = op.y ∧ (∀ p ∈ s1, p.1 = D) ∧ (R :: s1.map fun p => p.2.1).Nodup
  dcs : s2.length = op.x ∧ (D :: s2.map fun p => p.1).Nodup
  dc : ∀ i, op.dc = some i → D = i
  rack : ∀ i, op.rack = some i → R = i
  node : ∀ i, op.node = some i → N = i

theorem placement_shape (tr : Tree) (hwf : WF tr) (op : Opt) (o : Oracle) (servers : List Path)
    (h : findEmptySlots tr op o = .ok servers) : ∃ D R N ns s1 s2, Shape op servers D R N ns s1 s2 := by
  obtain ⟨d, ds, rk, rks, n, ns, s1, s2, hs, pd, pr, pn, ⟨m1, r1⟩, ⟨m2, _⟩⟩ := findEmptySlots_ok tr op o servers h
  have wd := hwf.2 d (pd.part.mem List.mem_cons_self)
  have n1 : (d.id :: ds.map (·.id)).Nodup := pd.part.nodup_map (fun e : DC => e.id) hwf.1
  have n2 : (rk.id :: rks.map (·.id)).Nodup := pr.part.nodup_map (fun r : Rack => r.id) wd.1
  have n3 : (n.id :: ns.map (·.id)).Nodup := pn.part.nodup_map (fun m : DN => m.id) (wd.2 rk (pr.part.mem List.mem_cons_self))
  have l1 := congrArg List.length m1
  have l2 := congrArg List.length m2
  simp only [List.length_map] at l1 l2
  refine ⟨d.id, rk.id, n.id, ns.map (·.id), s1, s2, ?_, ⟨?_, n3⟩, ⟨l1.trans pr.count, ?_, ?_⟩, ⟨l2.trans pd.count, ?_⟩,
    dcFilter_pref pd.first, rackFilter_pref pr.first, nodeFilter_pref pn.first⟩
  · rw [hs, List.map_map]; rfl
  · rw [List.length_map, pn.count]
  · intro p hp
    obtain ⟨_, _, _, _, rfl, _⟩ := r1 p hp
    rfl
  · rw [m1]; exact n2
  · rw [m2]; exact n1

namespace Shape
variable {op : Opt} {servers : List Path} {D R N : Nat} {ns : List Nat} {s1 s2 : List Path}
  (sh : Shape op servers D R N ns s1 s2)
include sh

/-- the servers of the main rack differ in the node, those of the other racks in the rack, those of the other
    data centers in the data center, and the three groups in rack resp. data center -/
theorem nodup : servers.Nodup := by
  have hR := List.nodup_cons.mp sh.racks.2.2
  have hD := List.nodup_cons.mp sh.dcs.2
  rw [sh.eq, List.append_assoc, List.nodup_append]
  refine ⟨?_, ?_, ?_⟩
  · exact nodup_map_inj (fun n => (D, R, n)) (N :: ns) (fun a b e => by simpa using e) sh.nodes.2
  · rw [List.nodup_append]
    refine ⟨nodup_of_map _ _ hR.2, nodup_of_map _ _ hD.2, ?_⟩
    intro a ha b hb e
    subst e
    exact hD.1 (by rw [← sh.racks.2.1 a ha]; exact List.mem_map_of_mem hb)
  · intro a ha b hb e
    subst e
    obtain ⟨n, _, rfl⟩ := List.mem_map.mp (show a ∈ (N :: ns).map fun n => (D, R, n) from ha)
    rcases List.mem_append.mp hb with hb | hb
    · exact hR.1 (List.mem_map.mpr ⟨_, hb, rfl⟩)
    · exact hD.1 (List.mem_map.mpr ⟨_, hb, rfl⟩)

theorem judge (tr : Tree) (hslot : ∀ p ∈ servers, hasSlot tr op.disk p = true) :
    placementOK tr op servers = true := by
  have hR := List.nodup_cons.mp sh.racks.2.2
  have hD := List.nodup_cons.mp sh.dcs.2
  have hs : servers = (D, R, N) :: (ns.map (fun n => (D, R, n)) ++ s1 ++ s2) := sh.eq
  have hnd := sh.nodup
  rw [hs] at hnd hslot ⊢
  refine placementOK_parts tr op ((List.length_map _).trans sh.nodes.1) sh.racks.1 sh.dcs.1 hnd hslot ?_ ?_ hR.2 ?_
    hD.2 sh.dc sh.rack sh.node
  · intro p hp
    obtain ⟨n, _, rfl⟩ := List.mem_map.mp hp
    exact ⟨rfl, rfl⟩
  · exact fun p hp => ⟨sh.racks.2.1 p hp, fun e => hR.1 (List.mem_map.mpr ⟨p, hp, e⟩)⟩
  · exact fun p hp e => hD.1 (List.mem_map.mpr ⟨p, hp, e⟩)

end Shape

/-- C10 MAIN THEOREM: for EVERY well-formed topology, EVERY option and EVERY oracle (= every map iteration order
    and every random draw), a successful answer of findEmptySlotsForOneVolume passes the judge `placementOK`:
    exactly 1+x+y+z pairwise distinct servers, each in the topology with a free slot; the first z+1 in one rack,
    the next y in y pairwise different other racks of the same data center, the last x in x pairwise different
    other data centers; requested data center / rack / server honoured. -/
theorem placement_sound (tr : Tree) (hwf : WF tr) (op : Opt) (o : Oracle) (servers : List Path)
    (h : findEmptySlots tr op o = .ok servers) : placementOK tr op servers = true := by
  obtain ⟨D, R, N, ns, s1, s2, sh⟩ := placement_shape tr hwf op o servers h
  exact sh.judge tr fun p hp => hasSlot_of_inTree tr hwf op.disk p (placement_slots tr op o servers h p hp)

/-- the "pairwise distinct" conjunct of the judge as a plain proposition -/
theorem placement_distinct (tr : Tree) (hwf : WF tr) (op : Opt) (o : Oracle) (servers : List Path)
    (h : findEmptySlots tr op o = .ok servers) : servers.Nodup := by
  obtain ⟨D, R, N, ns, s1, s2, sh⟩ := placement_shape tr hwf op o servers h
  exact sh.nodup

/-- a topology with two racks of the same id is not well-formed (real topologies cannot have this: map keys).
    Evaluated, not proved: on it the search answers replication 010 with (1, 11, 111), (1, 11, 112) and the judge
    rejects that (its lookup by ids finds the first rack 11, which has no node 112), so `placement_sound` needs `WF`. -/
example : ¬ WF [⟨1, [⟨11, [⟨111, ⟨5, 0, 0, 0⟩, {}⟩]⟩, ⟨11, [⟨112, ⟨5, 0, 0, 0⟩, {}⟩]⟩]⟩] := by decide +kernel

/-- non-vacuity of `placement_sound`: a well-formed two-data-center topology where replication 111 succeeds
    (the answer has 1+1+1+1 = 4 servers) and the judge accepts it -/
def exTree : Tree :=
  [⟨1, [⟨11, [⟨111, ⟨5, 0, 0, 0⟩, {}⟩, ⟨112, ⟨5, 2, 0, 0⟩, {}⟩]⟩, ⟨12, [⟨121, ⟨5, 1, 0, 0⟩, {}⟩, ⟨122, ⟨2, 1, 0, 0⟩, {}⟩]⟩]⟩,
   ⟨2, [⟨21, [⟨211, ⟨3, 0, 0, 0⟩, {}⟩]⟩]⟩]
def exOpt : Opt := { x := 1, y := 1, z := 1, disk := 0, dc := some 1 }

theorem exTree_wf : WF exTree := by decide +kernel
theorem exTree_answer : findEmptySlots exTree exOpt (List.replicate 20 0)
    = .ok [(1, 11, 111), (1, 11, 112), (1, 12, 121), (2, 21, 211)] := by decide +kernel

example : WF exTree := exTree_wf
example : findEmptySlots exTree exOpt [0, 0, 0, 0, 0, 0, 0, 0, 0, 0, 0, 0, 0, 0, 0, 0, 0, 0, 0, 0]
    = .ok [(1, 11, 111), (1, 11, 112), (1, 12, 121), (2, 21, 211)] := exTree_answer
example : placementOK exTree exOpt [(1, 11, 111), (1, 11, 112), (1, 12, 121), (2, 21, 211)] = true :=
  placement_sound exTree exTree_wf exOpt _ _ exTree_answer

/-- the hypotheses are satisfiable: a two-data-center topology where replication 110 succeeds -/
example : findEmptySlots
    [⟨1, [⟨11, [⟨111, ⟨5, 0, 0, 0⟩, {}⟩]⟩, ⟨12, [⟨121, ⟨5, 1, 0, 0⟩, {}⟩]⟩]⟩, ⟨2, [⟨21, [⟨211, ⟨3, 0, 0, 0⟩, {}⟩]⟩]⟩]
    { x := 1, y := 1, z := 0, disk := 0, dc := some 1 } [0, 0, 0, 0, 0, 0, 0, 0, 0, 0, 0, 0, 0, 0, 0, 0]
    = .ok [(1, 11, 111), (1, 12, 121), (2, 21, 211)] := by decide +kernel

/-- EC shards can make a node's free estimate negative (max 2, 25 shards: 2 − 25/10 − 1 = −1).  Such a node is never
    part of an answer: `pickNodes` keeps only children with a positive estimate and `reserveLoopN` skips it. -/
example : (⟨111, ⟨2, 0, 0, 25⟩, {}⟩ : DN).avail 0 = -1 := by decide +kernel

/-! ## T1 bridges: facts regenerated from the source by `extract` (props/C10/extract.json → `SwV.Gen.C10`)

The theorems state the text of the decisive Go conditions as they stand in the working tree; the three filter
bridges and `bridge_reserve` state beside it the model expression that mirrors them (`bridge_avail_text`,
`bridge_other_reservations` and `bridge_pick_nodes` state text only, `bridge_pins` hashes of whole functions;
`bridge_avail_const` and `bridge_avail_translated` tie `availC` to an extracted constant and an extracted function
instead of a text, and `bridge_scan_interval` is about the model alone).  An edit to a Go condition
changes the generated string and breaks the theorem that quotes it. -/

/-- `erasure_coding.DataShardsCount`, the divisor in `AvailableSpaceFor`, is the `10` of `availC`. -/
theorem bridge_avail_const :
    SwV.Gen.C10.DataShardsCount = 10 ∧
    ∀ c : Cnt, availC c = (if c.ec > 0 then c.max + c.rem - c.vol - c.ec / SwV.Gen.C10.DataShardsCount - 1
                           else c.max + c.rem - c.vol) := by
  refine ⟨rfl, fun c => ?_⟩
  simp only [availC, SwV.Gen.C10.DataShardsCount]

/-- the three statements of `NodeImpl.AvailableSpaceFor` (`availC` mirrors them one by one) -/
theorem bridge_avail_text :
    SwV.Gen.C10.avail_base = "freeVolumeSlotCount := t.maxVolumeCount + t.remoteVolumeCount - t.volumeCount" ∧
    SwV.Gen.C10.avail_ec_cond = "t.ecShardCount > 0" ∧
    SwV.Gen.C10.avail_ec_assign = "freeVolumeSlotCount = freeVolumeSlotCount - t.ecShardCount/erasure_coding.DataShardsCount - 1" :=
  ⟨rfl, rfl, rfl⟩

/-- `DiskUsageCounts.FreeSpace` (the same three statements on receiver `a`; translated by the extractor with
    Go's int64 wrap-around) computes `availC` for every counter record whose fields lie within ±2^40 (ec: at most
    2^40), where no int64 operation wraps. -/
theorem bridge_avail_translated (c : Cnt) (act : Int)
    (hm : -1099511627776 ≤ c.max ∧ c.max ≤ 1099511627776) (hr : -1099511627776 ≤ c.rem ∧ c.rem ≤ 1099511627776)
    (hv : -1099511627776 ≤ c.vol ∧ c.vol ≤ 1099511627776) (he : c.ec ≤ 1099511627776) :
    SwV.Gen.C10.DiskUsageCounts_FreeSpace c.vol c.rem act c.ec c.max = availC c := by
  simp only [SwV.Gen.C10.DiskUsageCounts_FreeSpace, availC, SwV.Go.tdiv, decide_eq_true_eq]
  have w (x : Int) (h : -(2 ^ 63) ≤ x ∧ x < 2 ^ 63) : SwV.Go.wrapS 64 x = x := SwV.Go.wrapS_id h.1 h.2
  rw [w (c.max + c.rem) (by omega), w (c.max + c.rem - c.vol) (by omega)]
  split
  · next h =>
    rw [Int.tdiv_eq_ediv_of_nonneg (Int.le_of_lt h), w (c.ec / 10) (by omega),
      w (c.max + c.rem - c.vol - c.ec / 10) (by omega), w _ (by omega)]
  · rfl

example : SwV.Gen.C10.DiskUsageCounts_FreeSpace 3 1 0 25 8 = availC ⟨8, 3, 1, 25⟩ :=
  bridge_avail_translated ⟨8, 3, 1, 25⟩ 0 (by decide) (by decide) (by decide) (by decide)

/-- model form of a placement preference: `option.X != "" && node.IsX() && node.Id() != NodeId(option.X)` -/
def prefMismatch (want : Option Nat) (id : Nat) : Bool :=
  match want with | some i => !(id == i) | none => false

/-- first closure of `findEmptySlotsForOneVolume` (main data center): the four error conditions in the
    source, and `dcFilter` = none of them holds. -/
theorem bridge_dc_filter :
    SwV.Gen.C10.pick_dc_n = "rp.DiffDataCenterCount + 1" ∧
    SwV.Gen.C10.dc_pref = "option.DataCenter != \"\" && node.IsDataCenter() && node.Id() != NodeId(option.DataCenter)" ∧
    SwV.Gen.C10.dc_racks = "len(node.Children()) < rp.DiffRackCount+1" ∧
    SwV.Gen.C10.dc_free = "node.AvailableSpaceFor(option) < int64(rp.DiffRackCount+rp.SameRackCount+1)" ∧
    SwV.Gen.C10.dc_node_slot = "n.AvailableSpaceFor(option) >= 1" ∧
    SwV.Gen.C10.dc_rack_ok = "possibleDataNodesCount >= rp.SameRackCount+1" ∧
    SwV.Gen.C10.dc_racks_ok = "possibleRacksCount < rp.DiffRackCount+1" ∧
    ∀ (op : Opt) (d : DC), dcFilter op d =
      (!(prefMismatch op.dc d.id)
       && !(decide (d.racks.length < op.y + 1))
       && !(decide (d.avail op.disk < ((op.y + op.z + 1 : Nat) : Int)))
       && !(decide ((d.racks.filter fun rk =>
              decide ((rk.nodes.filter fun n => decide (n.avail op.disk ≥ 1)).length ≥ op.z + 1)).length < op.y + 1))) := by
  refine ⟨rfl, rfl, rfl, rfl, rfl, rfl, rfl, fun op d => ?_⟩
  simp only [dcFilter, prefMismatch, nodesWithSlot, ← decide_not, Nat.not_lt, Int.not_lt]
  cases op.dc <;> simp

/-- second closure (main rack) -/
theorem bridge_rack_filter :
    SwV.Gen.C10.pick_rack_n = "rp.DiffRackCount + 1" ∧
    SwV.Gen.C10.rack_pref = "option.Rack != \"\" && node.IsRack() && node.Id() != NodeId(option.Rack)" ∧
    SwV.Gen.C10.rack_free = "node.AvailableSpaceFor(option) < int64(rp.SameRackCount+1)" ∧
    SwV.Gen.C10.rack_nodes = "len(node.Children()) < rp.SameRackCount+1" ∧
    SwV.Gen.C10.rack_node_slot = "n.AvailableSpaceFor(option) >= 1" ∧
    SwV.Gen.C10.rack_nodes_ok = "possibleDataNodesCount < rp.SameRackCount+1" ∧
    ∀ (op : Opt) (rk : Rack), rackFilter op rk =
      (!(prefMismatch op.rack rk.id)
       && !(decide (rk.avail op.disk < ((op.z + 1 : Nat) : Int)))
       && !(decide (rk.nodes.length < op.z + 1))
       && !(decide ((rk.nodes.filter fun n => decide (n.avail op.disk ≥ 1)).length < op.z + 1))) := by
  refine ⟨rfl, rfl, rfl, rfl, rfl, rfl, fun op rk => ?_⟩
  simp only [rackFilter, prefMismatch, nodesWithSlot, ← decide_not, Nat.not_lt, Int.not_lt]
  cases op.rack <;> simp

/-- third closure (main server) -/
theorem bridge_node_filter :
    SwV.Gen.C10.pick_node_n = "rp.SameRackCount + 1" ∧
    SwV.Gen.C10.node_pref = "option.DataNode != \"\" && node.IsDataNode() && node.Id() != NodeId(option.DataNode)" ∧
    SwV.Gen.C10.node_free = "node.AvailableSpaceFor(option) < 1" ∧
    ∀ (op : Opt) (n : DN), nodeFilter op n =
      (!(prefMismatch op.node n.id) && !(decide (n.avail op.disk < 1))) := by
  refine ⟨rfl, rfl, rfl, fun op n => ?_⟩
  simp only [nodeFilter, prefMismatch, ← decide_not, Int.not_lt]
  cases op.node <;> simp

/-- the reservations in the other racks / data centers: the draw is below the node's own free count, the drawn
    value is what `ReserveOneVolume` gets, and a failed reservation returns at once (`reserveRacks`, `reserveDCs`). -/
theorem bridge_other_reservations :
    SwV.Gen.C10.other_rack_draw = "rack.AvailableSpaceFor(option)" ∧
    SwV.Gen.C10.other_dc_draw = "datacenter.AvailableSpaceFor(option)" ∧
    SwV.Gen.C10.other_rack_reserve_r = "r" ∧ SwV.Gen.C10.other_dc_reserve_r = "r" ∧
    SwV.Gen.C10.other_rack_ok = "e == nil" ∧ SwV.Gen.C10.other_dc_ok = "e == nil" :=
  ⟨rfl, rfl, rfl, rfl, rfl, rfl⟩

/-- `NodeImpl.PickNodesByWeight`: candidate filter, weights, the interval scan and the choice of the rest
    nodes (`pickNodes`, `scan`, `sortW`). -/
theorem bridge_pick_nodes :
    SwV.Gen.C10.pick_skip = "node.AvailableSpaceFor(option) <= 0" ∧
    SwV.Gen.C10.pick_total = "totalWeights += node.AvailableSpaceFor(option)" ∧
    SwV.Gen.C10.pick_weight = "node.AvailableSpaceFor(option)" ∧
    SwV.Gen.C10.pick_few = "len(candidates) < numberOfNodes" ∧
    SwV.Gen.C10.pick_rounds = "i < len(candidates)" ∧
    SwV.Gen.C10.pick_draw = "totalWeights" ∧
    SwV.Gen.C10.pick_interval = "(weightsInterval >= lastWeights) && (weightsInterval < lastWeights+weights)" ∧
    SwV.Gen.C10.pick_zero = "candidatesWeights[k] = 0" ∧
    SwV.Gen.C10.pick_total_dec = "totalWeights -= weights" ∧
    SwV.Gen.C10.pick_advance = "lastWeights += weights" ∧
    SwV.Gen.C10.pick_first_ok = "err == nil" ∧
    SwV.Gen.C10.pick_rest_cond = "k >= numberOfNodes-1" ∧
    SwV.Gen.C10.pick_rest_head = "restNodes = sortedCandidates[:numberOfNodes-1]" ∧
    SwV.Gen.C10.pick_rest_pre = "sortedCandidates[:k]" ∧
    SwV.Gen.C10.pick_rest_suf = "sortedCandidates[k+1 : numberOfNodes]" :=
  ⟨rfl, rfl, rfl, rfl, rfl, rfl, rfl, rfl, rfl, rfl, rfl, rfl, rfl, rfl, rfl⟩

/-- one step of the model's interval scan: for a draw `r ≥ 0` the head candidate is taken exactly when `[0, 0+w)` holds it — the
    source condition `pick_interval` with `lastWeights` subtracted on both sides (`scan` goes on with `r - w`
    where the source adds `w` to `lastWeights`). -/
theorem bridge_scan_interval {α : Type} (c : α) (w r : Int) (rest : List (α × Int)) (h0 : 0 ≤ r) :
    (scan ((c, w) :: rest) r = some ([], (c, w), rest)) ↔ (r ≥ 0 ∧ r < 0 + w) := by
  simp only [scan]
  constructor
  · intro h
    by_cases hw : r < w
    · omega
    · simp only [hw, if_false] at h
      cases hs : scan rest (r - w) with
      | none => simp [hs] at h
      | some t => obtain ⟨b, x, a⟩ := t; simp [hs] at h
  · intro h; have : r < w := by omega
    simp [this]

/-- `NodeImpl.ReserveOneVolume` (`reserveLoopN`, `reserveLoopR`) -/
theorem bridge_reserve :
    SwV.Gen.C10.reserve_skip = "freeSpace <= 0" ∧
    SwV.Gen.C10.reserve_pass = "r >= freeSpace" ∧
    SwV.Gen.C10.reserve_dec = "r -= freeSpace" ∧
    SwV.Gen.C10.reserve_leaf = "node.IsDataNode() && node.AvailableSpaceFor(option) > 0" ∧
    SwV.Gen.C10.reserve_recurse_r = "r" ∧
    SwV.Gen.C10.reserve_recurse_ok = "err == nil" ∧
    (∀ (t : Nat) (n : DN) (rest : List DN) (r : Int), reserveLoopN t (n :: rest) r =
      (if n.avail t ≤ 0 then reserveLoopN t rest r
       else if r ≥ n.avail t then reserveLoopN t rest (r - n.avail t) else some n)) := by
  exact ⟨rfl, rfl, rfl, rfl, rfl, rfl, fun t n rest r => rfl⟩

/-- weakest supplement: hashes of the whole mirrored functions (loop structure, order of the steps) -/
theorem bridge_pins :
    SwV.Gen.C10.src_AvailableSpaceFor = "64239316e6dcd5ac" ∧
    SwV.Gen.C10.src_PickNodesByWeight = "7e41c2bf6b33195d" ∧
    SwV.Gen.C10.src_ReserveOneVolume = "4a322c1638ed961f" ∧
    SwV.Gen.C10.src_findEmptySlotsForOneVolume = "9fe46b5b07987aba" :=
  ⟨rfl, rfl, rfl, rfl⟩

end SwV.Props.C10
