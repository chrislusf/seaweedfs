/-
C15 — theorems about the volume planners (volume.balance, volume.fix.replication, volumeServer.evacuate) as modelled
in Model/C15.lean, judged by Spec/C15.lean.

Proved for all inputs and all sequences of approved steps: a move approved by `isGoodMove` and a copy approved by
`satisfyReplicaPlacement` never put two replicas of a volume on one server (one server = same data center, rack AND
id); approved copies keep the replica set within the limits of the replication setting xyz; where server ids identify
servers, an approved move keeps a placement that satisfies xyz satisfying
it for every setting outside z = 0 ∧ x ≥ 1 ∧ y ≥ 2, and among the replication bytes that class is exact; a copy planned by
volume.fix.replication goes to a server with a free slot in the snapshot.
False of the code, negations proved on witnesses (the corpus holds the same inputs as open findings):
`move_preserves_placement` (z = 0, x ≥ 1, y ≥ 2: `isGoodMove` turns 3 racks + 1 dc into 2 + 2) and
`target_has_capacity` for volume.balance (the guard compares selected volumes, not VolumeCount) and
volumeServer.evacuate (free slots only order the candidates, no test).
-/
import SwV.Model.C15
import SwV.Spec.C15
import SwV.Lemmas.C15
import SwV.Gen.C15
namespace SwV.Props.C15
open SwV.Model.C15 SwV.Spec.C15 SwV.Lemmas.C15

/-! ### no two replicas on one server -/

/-- any sequence of moves, each approved by `isGoodMove` on the replica list the earlier ones produced -/
def runMoves (rp : RP) : List Loc → List (Loc × Loc) → Option (List Loc)
  | reps, [] => some reps
  | reps, (s, d) :: rest => if isGoodMove rp reps s d then runMoves rp (adjustReps reps s d) rest else none

theorem approved_moves_never_colocate (rp : RP) (steps : List (Loc × Loc)) :
    ∀ (reps out : List Loc), reps.Nodup → runMoves rp reps steps = some out → out.Nodup := by
  induction steps with
  | nil => intro reps out hn h; cases h; exact hn
  | cons st rest ih =>
    intro reps out hn h
    obtain ⟨s, d⟩ := st
    simp only [runMoves] at h
    split at h
    next hg => exact ih _ _ (adjust_nodup reps s d hn (goodMove_target_new rp reps s d hg)) h
    next => cases h

example : runMoves ⟨0, 1, 0⟩ [⟨1, 1, 1⟩, ⟨1, 2, 2⟩] [(⟨1, 1, 1⟩, ⟨1, 3, 3⟩)] = some [⟨1, 3, 3⟩, ⟨1, 2, 2⟩] := by decide +kernel

theorem repair_never_colocates (rp : RP) (reps : List Loc) (loc : Loc)
    (h : satisfyRP rp reps loc = true) : loc ∉ reps := by
  intro hmem
  have hany : reps.any (· == loc) = true := List.any_eq_true.mpr ⟨loc, hmem, beq_self_eq_true loc⟩
  simp [satisfyRP, hany] at h

/-! ### a repair copy stays within the limits of the replication setting -/

/-- the racks of the replicas in data center `d`, one entry per replica (what `satisfyRP` counts racks on) -/
def inDc (p : List Loc) (d : Nat) : List Nat := (p.filter (fun r => r.dc == d)).map (·.rack)

/-- at most x+1 data centers, at most y+1 racks in a data center, at most z+1 replicas in a rack -/
structure WithinLimits (rp : RP) (p : List Loc) : Prop where
  dcs : (distinct (p.map (·.dc))).length ≤ rp.x + 1
  racks : ∀ d, (distinct (inDc p d)).length ≤ rp.y + 1
  same : ∀ d r, cnt r (inDc p d) ≤ rp.z + 1

theorem inDc_cons (loc : Loc) (p : List Loc) (d : Nat) :
    inDc (loc :: p) d = if loc.dc = d then loc.rack :: inDc p d else inDc p d := by
  unfold inDc
  rw [List.filter_cons]
  by_cases h : loc.dc = d <;> simp [h]

theorem inDc_nil_of_not_mem (p : List Loc) (d : Nat) (h : d ∉ p.map (·.dc)) : inDc p d = [] := by
  simp only [inDc, List.map_eq_nil_iff, List.filter_eq_nil_iff, beq_iff_eq]
  exact fun r hr e => h (List.mem_map.mpr ⟨r, hr, e⟩)

theorem withinLimits_cons {rp : RP} {p : List Loc} {loc : Loc} (hl : WithinLimits rp p)
    (hx : loc.dc ∉ p.map (·.dc) → (distinct (p.map (·.dc))).length < rp.x + 1)
    (hy : loc.rack ∉ inDc p loc.dc → (distinct (inDc p loc.dc)).length < rp.y + 1)
    (hz : cnt loc.rack (inDc p loc.dc) < rp.z + 1) : WithinLimits rp (loc :: p) where
  dcs := by
    rw [List.map_cons, distinct_cons_length]
    split
    · exact hl.dcs
    · exact hx ‹_›
  racks := fun d => by
    rw [inDc_cons]
    split
    next hd =>
      subst hd
      rw [distinct_cons_length]
      split
      · exact hl.racks _
      · exact hy ‹_›
    next => exact hl.racks d
  same := fun d r => by
    rw [inDc_cons]
    split
    next hd =>
      subst hd
      rw [cnt_cons]
      split
      next hr => subst hr; exact hz
      next => exact hl.same _ r
    next => exact hl.same d r

theorem repair_copy_within_limits (rp : RP) (p : List Loc) (loc : Loc)
    (hl : WithinLimits rp p) (h : satisfyRP rp p loc = true) : WithinLimits rp (loc :: p) := by
  unfold satisfyRP at h
  simp only [] at h
  replace h := of_ite_false h
  -- the three tests of `satisfyReplicaPlacement`: new data center / new rack of a known one / known rack
  by_cases hdc : loc.dc ∈ p.map (·.dc)
  · have h1 := mt cnt_eq_zero.mp (not_not_intro hdc)
    simp only [beq_iff_eq, h1, if_false] at h
    replace h := of_ite_false h
    by_cases hrk : loc.rack ∈ (p.filter (fun r => r.dc == loc.dc)).map (·.rack)
    · have h2 := mt cnt_eq_zero.mp (not_not_intro hrk)
      simp only [h2, if_false] at h
      exact withinLimits_cons hl (absurd hdc) (absurd hrk) (of_decide_eq_true (of_ite_false h))
    · have h2 := cnt_eq_zero.mpr hrk
      simp only [h2, if_true] at h
      exact withinLimits_cons hl (absurd hdc) (fun _ => of_decide_eq_true h) (h2 ▸ Nat.succ_pos _)
  · simp only [cnt_eq_zero.mpr hdc, beq_self_eq_true, if_true] at h
    refine withinLimits_cons hl (fun _ => of_decide_eq_true h) ?_ ?_ <;>
      simp [inDc_nil_of_not_mem p loc.dc hdc, distinct, cnt]

/-- any sequence of copies, each approved by `satisfyReplicaPlacement` on the replicas so far -/
def runCopies (rp : RP) : List Loc → List Loc → Option (List Loc)
  | reps, [] => some reps
  | reps, l :: rest => if satisfyRP rp reps l then runCopies rp (l :: reps) rest else none

theorem approved_copies_within_limits (rp : RP) (locs : List Loc) :
    ∀ (reps out : List Loc), WithinLimits rp reps → reps.Nodup → runCopies rp reps locs = some out →
      WithinLimits rp out ∧ out.Nodup := by
  induction locs with
  | nil => intro reps out hl hn h; cases h; exact ⟨hl, hn⟩
  | cons l rest ih =>
    intro reps out hl hn h
    simp only [runCopies] at h
    split at h
    next hg =>
      exact ih _ _ (repair_copy_within_limits rp reps l hl hg)
        (List.nodup_cons.mpr ⟨repair_never_colocates rp reps l hg, hn⟩) h
    next => cases h

theorem limits_nil (rp : RP) : WithinLimits rp [] := ⟨Nat.zero_le _, fun _ => Nat.zero_le _, fun _ _ => Nat.zero_le _⟩

example : runCopies ⟨1, 1, 0⟩ [⟨1, 1, 1⟩] [⟨2, 1, 4⟩, ⟨1, 2, 2⟩] = some [⟨1, 2, 2⟩, ⟨2, 1, 4⟩, ⟨1, 1, 1⟩] := by decide +kernel

/-! ### a satisfied placement stays satisfied (`move_preserves_placement`)

FALSE in general (`move_breaks_120_witness`).  The exact class: `isGoodMove` checks three numbers on the
replica list after the move — x+1 data centers, x+y+1 racks, z+1 replicas in every rack.  An approved move keeps
the shape x/y/z iff NOT (z = 0 ∧ x ≥ 1 ∧ y ≥ 2):
* z = 0 and (x = 0 or y ≤ 1): the three numbers pin the shape down, the y extra racks cannot be split over two
  data centers;
* x = y = 0: likewise, one rack;
* z ≥ 1 and x+y ≥ 1: `isGoodMove` wants z+1 replicas in EVERY rack, (x+y+1)(z+1) in total, a satisfied
  placement has x+y+z+1 — no replica of a satisfied placement is ever approved (`mixed_shape_never_moved`),
  so the balancer leaves such volumes where they are;
* z = 0, x ≥ 1, y ≥ 2: broken for each of the 12 replication bytes with such a setting (`move_breaks_outside_class`). -/

/-- `move_preserves_placement` fails: replication 120 on dc1/{r1,r2,r3} + dc2/r1 is satisfied, `isGoodMove`
    approves dc1/r3 → dc2/r2, and the result is not a 120 placement (class …/placement-broken). -/
theorem move_breaks_120_witness :
    let reps : List Loc := [⟨1, 1, 1⟩, ⟨1, 2, 2⟩, ⟨1, 3, 3⟩, ⟨2, 1, 4⟩]
    satisfies ⟨1, 2, 0⟩ reps = true ∧ isGoodMove ⟨1, 2, 0⟩ reps ⟨1, 3, 3⟩ ⟨2, 2, 5⟩ = true ∧
    satisfies ⟨1, 2, 0⟩ (adjustReps reps ⟨1, 3, 3⟩ ⟨2, 2, 5⟩) = false := by decide +kernel

/-- the replication settings for which an approved move keeps a satisfied placement satisfied -/
def preservingClass (rp : RP) : Prop := rp.x = 0 ∨ rp.y ≤ 1 ∨ rp.z ≥ 1
instance (rp : RP) : Decidable (preservingClass rp) := by unfold preservingClass; exact inferInstance

theorem mixed_shape_never_moved (rp : RP) (reps : List Loc) (src dst : Loc) (hz : rp.z ≥ 1) (hxy : rp.x + rp.y ≥ 1)
    (hi : idsInj reps) (hs : satisfies rp reps = true) (hsrc : src ∈ reps) : isGoodMove rp reps src dst = false := by
  cases hg : isGoodMove rp reps src dst with
  | false => rfl
  | true =>
    exfalso
    obtain ⟨hn, d, r, sh⟩ := (satisfies_iff rp reps).mp hs
    have l1 := sh.length
    have l2 := good_length (isGoodMove_good rp reps src dst hg)
    rw [← (adjust_perm reps src dst hn hsrc hi).length_eq, adjust_length, l1] at l2
    -- both factors of (x+y+1)(z+1) are at least 2, so the product exceeds their sum − 1 = x+y+z+1
    have h1 := Nat.mul_le_mul_left (rp.y + rp.x + 1) (show 2 ≤ rp.z + 1 from Nat.succ_le_succ hz)
    have h2 := Nat.mul_le_mul_right (rp.z + 1) (show 2 ≤ rp.y + rp.x + 1 by omega)
    omega

example : satisfies ⟨0, 1, 1⟩ [⟨1, 1, 1⟩, ⟨1, 1, 2⟩, ⟨1, 2, 3⟩] = true ∧ idsInj [⟨1, 1, 1⟩, ⟨1, 1, 2⟩, ⟨1, 2, 3⟩] := by decide +kernel

/-- `move_preserves_placement_partial`: for every replication setting outside z = 0 ∧ x ≥ 1 ∧ y ≥ 2, a move
    approved by `isGoodMove` turns a placement satisfying xyz into one satisfying xyz
    (replicas = the list after `adjustAfterMove`; server ids identify servers). -/
theorem move_preserves_placement_partial (rp : RP) (reps : List Loc) (src dst : Loc)
    (hc : preservingClass rp) (hi : idsInj reps) (hs : satisfies rp reps = true)
    (hg : isGoodMove rp reps src dst = true) : satisfies rp (adjustReps reps src dst) = true := by
  by_cases hsrc : src ∈ reps
  · by_cases hmix : rp.z ≥ 1 ∧ rp.x + rp.y ≥ 1
    · rw [mixed_shape_never_moved rp reps src dst hmix.1 hmix.2 hi hs hsrc] at hg
      exact absurd hg Bool.false_ne_true
    · have hgc : goodClass rp := by
        unfold goodClass; unfold preservingClass at hc; omega
      exact (satisfies_adjust_iff ((satisfies_iff rp reps).mp hs).1 hi hsrc hg).mpr
        (good_imp_shape rp (afterOf reps src dst) (isGoodMove_good rp reps src dst hg) hgc)
  · rw [adjust_of_not_mem reps src dst hsrc]; exact hs

example : preservingClass ⟨1, 1, 0⟩ ∧ idsInj [⟨1, 1, 1⟩, ⟨1, 2, 2⟩, ⟨2, 1, 3⟩] ∧
    satisfies ⟨1, 1, 0⟩ [⟨1, 1, 1⟩, ⟨1, 2, 2⟩, ⟨2, 1, 3⟩] = true ∧
    isGoodMove ⟨1, 1, 0⟩ [⟨1, 1, 1⟩, ⟨1, 2, 2⟩, ⟨2, 1, 3⟩] ⟨1, 2, 2⟩ ⟨2, 2, 4⟩ = true := by decide +kernel

/-- … along any sequence of approved moves, when the servers of the cluster (`reps` and all targets) have
    unique ids -/
theorem approved_moves_preserve_placement (rp : RP) (hc : preservingClass rp) (steps : List (Loc × Loc)) :
    ∀ (reps out : List Loc), idsInj (reps ++ steps.map (·.2)) → satisfies rp reps = true →
      runMoves rp reps steps = some out → satisfies rp out = true ∧ out.Nodup := by
  induction steps with
  | nil =>
    intro reps out _ hs h
    cases h
    exact ⟨hs, ((satisfies_iff rp reps).mp hs).1⟩
  | cons st rest ih =>
    intro reps out hi hs h
    obtain ⟨s, d⟩ := st
    simp only [runMoves] at h
    split at h
    next hg =>
      have hi0 : idsInj reps := idsInj_subset (List.subset_append_left _ _) hi
      refine ih _ _ (idsInj_subset ?_ hi) (move_preserves_placement_partial rp reps s d hc hi0 hs hg) h
      intro a ha
      rcases List.mem_append.mp ha with ha | ha
      · rcases mem_adjust ha with h' | h'
        · exact List.mem_append_left _ h'
        · exact List.mem_append_right _ (h' ▸ List.mem_cons_self)
      · exact List.mem_append_right _ (List.mem_cons_of_mem _ ha)
    next => cases h

example : runMoves ⟨1, 1, 0⟩ [⟨1, 1, 1⟩, ⟨1, 2, 2⟩, ⟨2, 1, 3⟩] [(⟨1, 2, 2⟩, ⟨2, 2, 4⟩), (⟨1, 1, 1⟩, ⟨3, 1, 5⟩)]
    = some [⟨3, 1, 5⟩, ⟨2, 2, 4⟩, ⟨2, 1, 3⟩] := by decide +kernel

/-- the judges report a broken placement under the known-finding class exactly outside the proved class -/
theorem judge_class_matches_theorem (rp : RP) : knownBadRp rp = false ↔ preservingClass rp := by
  unfold knownBadRp preservingClass
  simp only [Bool.and_eq_false_iff, beq_eq_false_iff_ne, decide_eq_false_iff_not]
  omega

example : knownBadRp (rpOfByte 120) = true ∧ knownBadRp (rpOfByte 110) = false := by decide +kernel

/-- z = 0, ANY x and y (the settings of the open findings included): an approved move of a replica keeps a satisfied
    placement satisfied IF AND ONLY IF after the move some data center still has y+1 racks — the exact, decidable
    condition on (replication setting, replica set, move); `isGoodMove` does not test it -/
theorem move_preserves_placement_iff (rp : RP) (reps : List Loc) (src dst : Loc) (hz : rp.z = 0)
    (hi : idsInj reps) (hs : satisfies rp reps = true) (hsrc : src ∈ reps) (hg : isGoodMove rp reps src dst = true) :
    satisfies rp (adjustReps reps src dst) = true ↔ mainDcSurvives rp reps src dst = true := by
  rw [satisfies_adjust_iff ((satisfies_iff rp reps).mp hs).1 hi hsrc hg, mainDcSurvives, List.any_eq_true]
  constructor
  · rintro ⟨d, r, sh⟩
    exact ⟨d, sh.dmem, beq_iff_eq.mpr sh.nracks⟩
  · rintro ⟨d, hd, hnd⟩
    exact ⟨d, good_shape_of_main rp _ (isGoodMove_good rp reps src dst hg) (Or.inl hz) d hd (beq_iff_eq.mp hnd)⟩

example : mainDcSurvives ⟨1, 2, 0⟩ [⟨1, 1, 1⟩, ⟨1, 2, 2⟩, ⟨1, 3, 3⟩, ⟨2, 1, 4⟩] ⟨1, 3, 3⟩ ⟨2, 2, 5⟩ = false ∧
    mainDcSurvives ⟨1, 2, 0⟩ [⟨1, 1, 1⟩, ⟨1, 2, 2⟩, ⟨1, 3, 3⟩, ⟨2, 1, 4⟩] ⟨1, 3, 3⟩ ⟨1, 4, 5⟩ = true ∧
    isGoodMove ⟨1, 2, 0⟩ [⟨1, 1, 1⟩, ⟨1, 2, 2⟩, ⟨1, 3, 3⟩, ⟨2, 1, 4⟩] ⟨1, 3, 3⟩ ⟨1, 4, 5⟩ = true := by decide +kernel

/-- for z = 0, x ≥ 1, y ≥ 2: a placement of shape xyz and the move that `isGoodMove` approves although it splits the y extra racks:
    dc 1 racks 1..y+1, dcs 2..x+1 one replica each; dc1/rack y+1 → dc2/rack 2 -/
def breakWitness (rp : RP) : List Loc × Loc × Loc :=
  ((List.range (rp.y + 1)).map (fun i => (⟨1, i + 1, i + 1⟩ : Loc)) ++ (List.range rp.x).map (fun j => (⟨j + 2, 1, 100 + j⟩ : Loc)),
   ⟨1, rp.y + 1, rp.y + 1⟩, ⟨2, 2, 200⟩)

example : ¬ preservingClass (rpOfByte 120) ∧ ¬ preservingClass (rpOfByte 220) ∧ preservingClass (rpOfByte 110) := by decide +kernel

theorem breakWitness_src_mem (rp : RP) : (breakWitness rp).2.1 ∈ (breakWitness rp).1 :=
  List.mem_append_left _ (List.mem_map.mpr ⟨rp.y, List.mem_range.mpr (Nat.lt_succ_self _), rfl⟩)

/-- the witnesses evaluated, for the 12 bytes outside the class: the move is approved on a satisfied placement
    and leaves no data center with y+1 racks -/
theorem breakWitness_table : ∀ b : Fin 256, ¬ preservingClass (rpOfByte b.val) →
    let rp := rpOfByte b.val
    let w := breakWitness rp
    idsInj w.1 ∧ satisfies rp w.1 = true ∧ isGoodMove rp w.1 w.2.1 w.2.2 = true ∧
      mainDcSurvives rp w.1 w.2.1 w.2.2 = false := by decide +kernel

/-- the class is exact: for EVERY replication byte outside it the statement fails -/
theorem move_breaks_outside_class : ∀ b : Fin 256, ¬ preservingClass (rpOfByte b.val) →
    let rp := rpOfByte b.val
    let w := breakWitness rp
    idsInj w.1 ∧ satisfies rp w.1 = true ∧ isGoodMove rp w.1 w.2.1 w.2.2 = true ∧
      satisfies rp (adjustReps w.1 w.2.1 w.2.2) = false := by
  intro b hb
  obtain ⟨hi, hs, hg, hm⟩ := breakWitness_table b hb
  have hz : (rpOfByte b.val).z = 0 := by unfold preservingClass at hb; omega
  refine ⟨hi, hs, hg, Bool.eq_false_iff.mpr fun h => ?_⟩
  rw [move_preserves_placement_iff _ _ _ _ hz hi hs (breakWitness_src_mem _) hg, hm] at h
  cases h

/-! ### capacity (`target_has_capacity`)

FALSE for volume.balance and volumeServer.evacuate (`balance_full_target_witness`, `evac_full_target_witness`); after
the two witnesses, what the guards do guarantee. -/

def wFull : Topo :=
  [⟨⟨1, 1, 2⟩, [⟨1, 4, [⟨4, 986, 10, false, 1, 1040⟩, ⟨6, 860, 120, true, 0, 1061⟩, ⟨8, 1086, 0, true, 2, 1080⟩, ⟨9, 1060, 0, false, 1, 1090⟩]⟩]⟩,
   ⟨⟨2, 1, 4⟩, [⟨1, 4, [⟨10, 899, 0, false, 0, 1100⟩, ⟨11, 582, 0, false, 0, 1110⟩]⟩]⟩]

/-- `target_has_capacity` fails for volume.balance: the guard approves moving volume 11 onto server 2,
    whose ssd disk is full (corpus/C15/balance_target_full.ops). -/
theorem balance_full_target_witness :
    (mkPhase ⟨1, some 0, none, 1000⟩ false wFull (initReps wFull)).stepOk 11 4 2 = true ∧
    freeAt wFull 2 1 = 0 := by decide +kernel

def wEvac : Topo :=
  [⟨⟨1, 1, 1⟩, [⟨0, 1, [⟨1, 10, 0, false, 0, 1000⟩]⟩]⟩, ⟨⟨1, 1, 2⟩, [⟨0, 1, [⟨2, 10, 0, false, 0, 1010⟩]⟩]⟩]

/-- … and for volumeServer.evacuate (corpus/C15/evac_target_full.ops). -/
theorem evac_full_target_witness :
    (wEvac.head?.map fun this => evacOk wEvac this 0 ⟨1, 10, 0, false, 0, 1000⟩ (some 2)) = some true ∧
    freeAt wEvac 2 0 = 0 := by decide +kernel

/-- volume.fix.replication (the part of `target_has_capacity` that holds): a planned copy goes to a server whose
    MaxVolumeCount − VolumeCount for the disk type of the copied replica is positive in the snapshot, i.e. the
    judge class fix/target-without-free-slot cannot fire when server ids are unique and the source server holds the volume
    on one disk only (the judge takes the disk type of the first copy on the first server with the source id).  (Nothing is reserved between two copies of one run:
    fix/target-overfilled-by-plan is an open finding.) -/
theorem fix_target_has_capacity (t : Topo) (vid s d : Nat) (h : fixTokOk t (.copy vid s d) = true) :
    ∃ src, pickSource (replicasOf t vid) = some src ∧ freeAt t d src.dt > 0 := by
  unfold fixTokOk at h
  cases hs : pickSource (replicasOf t vid) with
  | none => simp [hs] at h
  | some src =>
    cases hd : t.find? (·.loc.id == d) with
    | none => simp [hs, hd] at h
    | some dn =>
      simp only [hs, hd, Bool.and_eq_true, fixCand] at h
      exact ⟨src, rfl, by simpa [freeAt, hd] using h.1.2.1⟩

/-- volume.balance: EXACTLY what the guard of `balanceSelectedVolume` says about the target: with one more
    SELECTED volume its ratio selected/MaxVolumeCount stays within the ideal ratio (all selected)/(all max).
    VolumeCount is not consulted: volumes outside the selection (other collection, the other of the
    writable/read-only phases) are invisible to it. -/
theorem balance_target_guard (p : Phase) (vid s d : Nat) (h : p.stepOk vid s d = true) :
    ∃ dst, p.nodes.find? (·.loc.id == d) = some dst ∧ (dst.sel.length + 1) * p.m ≤ p.s * dst.cap ∧ p.m > 0 := by
  unfold Phase.stepOk at h
  cases hs : p.nodes.find? (·.loc.id == s) with
  | none => simp [hs] at h
  | some src =>
    cases hd : p.nodes.find? (·.loc.id == d) with
    | none => simp [hs, hd] at h
    | some dst =>
      cases hv : src.sel.find? (·.vid == vid) with
      | none => simp [hs, hd, hv] at h
      | some v =>
        simp only [hs, hd, hv, Bool.and_eq_true] at h
        obtain ⟨⟨⟨⟨⟨⟨_, hfull⟩, _⟩, hnext⟩, _⟩, _⟩, _⟩ := h
        have hfull' : src.sel.length * p.m > p.s * src.cap := by simpa [Phase.fullOk] using hfull
        have hnext' : (dst.sel.length + 1) * p.m ≤ p.s * dst.cap := by simpa [Phase.nextOk] using hnext
        refine ⟨dst, rfl, hnext', Nat.pos_of_ne_zero fun hm => ?_⟩
        rw [hm, Nat.mul_zero] at hfull'
        exact Nat.not_lt_zero _ hfull'

/-- … hence, as long as the selected volumes of the phase do not outnumber the MaxVolumeCounts, the target's
    SELECTED volumes (planned arrivals included) plus the moved one fit into its MaxVolumeCount.  This is a
    free slot only on servers all of whose volumes of the disk type are selected. -/
theorem balance_target_has_capacity_partial (p : Phase) (vid s d : Nat) (h : p.stepOk vid s d = true) (hsm : p.s ≤ p.m) :
    ∃ dst, p.nodes.find? (·.loc.id == d) = some dst ∧ dst.sel.length + 1 ≤ dst.cap := by
  obtain ⟨dst, h1, h2, h3⟩ := balance_target_guard p vid s d h
  refine ⟨dst, h1, ?_⟩
  have h4 : p.s * dst.cap ≤ p.m * dst.cap := Nat.mul_le_mul_right _ hsm
  have h5 : (dst.sel.length + 1) * p.m ≤ dst.cap * p.m := by rw [Nat.mul_comm dst.cap]; exact Nat.le_trans h2 h4
  exact Nat.le_of_mul_le_mul_right h5 h3

example : (mkPhase ⟨1, some 0, none, 1000⟩ false wFull (initReps wFull)).stepOk 11 4 2 = true ∧
    (mkPhase ⟨1, some 0, none, 1000⟩ false wFull (initReps wFull)).s ≤ (mkPhase ⟨1, some 0, none, 1000⟩ false wFull (initReps wFull)).m := by decide +kernel

example : fixTokOk [⟨⟨1, 1, 1⟩, [⟨0, 2, [⟨1, 10, 1, false, 0, 1000⟩]⟩]⟩, ⟨⟨1, 1, 2⟩, [⟨0, 2, []⟩]⟩] (.copy 1 1 2) = true := by decide +kernel

/-! ### bridges: the guard texts and sources the model was written from (T1 tie)

`SwV.Gen.C15` is regenerated from the working tree on every run; an edit to one of these guards or functions
breaks the named obligation below. -/

/-! `isGoodMove` ↔ Model.isGoodMove: target already holds ⇒ false; replicas on the source server are skipped;
    `dcs.length == rp.x + 1`, `racks.length == rp.y + rp.x + 1`, every rack `== rp.z + 1`
    (the three counts of `GoodAfter`, which `move_preserves_placement_partial` gets from its hypothesis `isGoodMove … = true`) -/
theorem bridge_good_target_holds : SwV.Gen.C15.good_target_holds = "replica.location.dataNode.Id == targetNode.info.Id && replica.location.rack == targetNode.rack && replica.location.dc == targetNode.dc" := rfl
theorem bridge_good_skip_source : SwV.Gen.C15.good_skip_source = "replica.location.dataNode.Id != sourceNode.info.Id" := rfl
theorem bridge_good_dcs : SwV.Gen.C15.good_dcs = "len(dcs) != placement.DiffDataCenterCount+1" := rfl
theorem bridge_good_racks : SwV.Gen.C15.good_racks = "len(racks) != placement.DiffRackCount+placement.DiffDataCenterCount+1" := rfl
theorem bridge_good_same_rack : SwV.Gen.C15.good_same_rack = "sameRackCount != placement.SameRackCount+1" := rfl

/-! `maybeMoveOneVolume` ↔ Model.movable: `v.rp == 0 || isGoodMove …` -/
theorem bridge_maybe_replicated : SwV.Gen.C15.maybe_replicated = "candidateVolume.ReplicaPlacement > 0" := rfl
theorem bridge_maybe_good : SwV.Gen.C15.maybe_good = "!isGoodMove(replicaPlacement, volumeReplicas[candidateVolume.Id], fullNode, emptyNode)" := rfl

/-! `satisfyReplicaPlacement` ↔ Model.satisfyRP (`< rp.x + 1`, primary dc, `< rp.y + 1`, primary rack, `< rp.z + 1`) -/
theorem bridge_sat_dcs : SwV.Gen.C15.sat_dcs = "len(existingDataCenters) < replicaPlacement.DiffDataCenterCount+1" := rfl
theorem bridge_sat_primary_dc : SwV.Gen.C15.sat_primary_dc = "!isAmong(possibleLocation.DataCenter(), primaryDataCenters)" := rfl
theorem bridge_sat_racks : SwV.Gen.C15.sat_racks = "len(primaryDcRacks) < replicaPlacement.DiffRackCount+1" := rfl
theorem bridge_sat_primary_rack : SwV.Gen.C15.sat_primary_rack = "!isAmong(possibleLocation.Rack(), primaryRacks)" := rfl
theorem bridge_sat_same_rack : SwV.Gen.C15.sat_same_rack = "sameRackCount < replicaPlacement.SameRackCount+1" := rfl

/-! `balanceSelectedVolume` ↔ Phase.fullOk / Phase.nextOk / mkPhase (`cap > 0`), the guard of
    `balance_target_guard`: selected/max of the full node above, (selected+1)/max of the target within the ideal ratio -/
theorem bridge_bal_with_capacity : SwV.Gen.C15.bal_with_capacity = "capacity > 0" := rfl
theorem bridge_bal_ideal : SwV.Gen.C15.bal_ideal = "idealVolumeRatio := divide(selectedVolumeCount, volumeMaxCount)" := rfl
theorem bridge_bal_guard : SwV.Gen.C15.bal_guard = "!(fullNode.localVolumeRatio(capacityFunc) > idealVolumeRatio && emptyNode.localVolumeNextRatio(capacityFunc) <= idealVolumeRatio)" := rfl
theorem bridge_ratio_num : SwV.Gen.C15.ratio_num = "len(n.selectedVolumes)" := rfl
theorem bridge_next_ratio_num : SwV.Gen.C15.next_ratio_num = "len(n.selectedVolumes) + 1" := rfl

/-! `fixOneUnderReplicatedVolume` ↔ Model.fixCand: `capFree n dt > 0 && satisfyRP …` (hypothesis of `fix_target_has_capacity`) -/
theorem bridge_fix_capacity_fn : SwV.Gen.C15.fix_capacity_fn = "fn := capacityByFreeVolumeCount(types.ToDiskType(replica.info.DiskType))" := rfl
theorem bridge_fix_guard : SwV.Gen.C15.fix_guard = "fn(dst.dataNode) > 0 && satisfyReplicaPlacement(replicaPlacement, replicas, dst)" := rfl

/-! source pins of the functions the model mirrors -/
theorem bridge_src_isGoodMove : SwV.Gen.C15.src_isGoodMove = "b293e81fcbacab31" := rfl
theorem bridge_src_adjustAfterMove : SwV.Gen.C15.src_adjustAfterMove = "a4e9053acd0917ab" := rfl
theorem bridge_src_maybeMoveOneVolume : SwV.Gen.C15.src_maybeMoveOneVolume = "31e2284f2ebd2488" := rfl
theorem bridge_src_attemptToMoveOneVolume : SwV.Gen.C15.src_attemptToMoveOneVolume = "6f22e7b0284b8a03" := rfl
theorem bridge_src_balanceSelectedVolume : SwV.Gen.C15.src_balanceSelectedVolume = "d433e7f9deafd21d" := rfl
theorem bridge_src_satisfyReplicaPlacement : SwV.Gen.C15.src_satisfyReplicaPlacement = "61104f833c486dc4" := rfl
theorem bridge_src_keepDataNodesSorted : SwV.Gen.C15.src_keepDataNodesSorted = "7b47402d03439a95" := rfl
theorem bridge_src_capacityByFreeVolumeCount : SwV.Gen.C15.src_capacityByFreeVolumeCount = "2ac6f604aa520ffe" := rfl
theorem bridge_src_capacityByMaxVolumeCount : SwV.Gen.C15.src_capacityByMaxVolumeCount = "9cd71831627f4319" := rfl
theorem bridge_src_moveAwayOneNormalVolume : SwV.Gen.C15.src_moveAwayOneNormalVolume = "c6e9e234a455ebd9" := rfl
theorem bridge_src_fixOneUnderReplicatedVolume : SwV.Gen.C15.src_fixOneUnderReplicatedVolume = "28d84498e088be21" := rfl

end SwV.Props.C15
