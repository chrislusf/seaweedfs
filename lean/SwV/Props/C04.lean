/-
C04 — Compaction is invisible to readers: property theorems.

`beforeCommit` = the volume after `Compact`/`Compact2` at `s0` and the operations `ops` that ran
while the copy was in flight (they are applied to the OLD files, so its reads are the reads
"without compaction": `reads_ignore_compaction`); `afterCommit` = the volume `CommitCompact` loads.

Full-strength statement (FALSE of the code, see the `*_witness` theorems):
    ∀ s0 ops alg k, view (afterCommit s0 alg now ops order t) t' k = view (beforeCommit s0 alg now ops) t' k
Proved: `commit_cases` (a read after the commit equals the read before it, or the id became unreadable
for one of three named reasons = the recorded findings); from it `compaction_invisible_partial` (the
statement outside the named classes) and, without any exclusion, `no_resurrection`.  For the index-based
`Compact2` the third reason cannot occur (`compact2_never_truncates`); `emptyBlob_iff` and `ttlDropped_iff` tie the
other two to the judge's executable class predicates.  Behind the witnesses: the T1 bridges, and that the vacuum TTL
filter keeps a record whose LastModified lies ahead of the clock (`lm_ahead_of_clock_not_filtered`).
-/
import SwV.Lemmas.C04
import SwV.Lemmas.C04b
import SwV.Spec.C04
import SwV.Gen.C04
namespace SwV.Props.C04
open SwV.Model.C01 SwV.Model.C04 SwV.Spec.C04 SwV.Lemmas.C04

def beforeCommit (s0 : CVol) (alg nowSec : Nat) (ops : List (Nat × Op)) : CVol :=
  runOps (compact s0 alg nowSec) ops

def afterCommit (s0 : CVol) (alg nowSec : Nat) (ops : List (Nat × Op)) (order : List Nat) (t : Nat) : CVol :=
  commit (beforeCommit s0 alg nowSec ops) order t

/-- the .cpd/.cpx written at `s0` -/
def snapOf (s0 : CVol) (alg nowSec : Nat) : Snap :=
  let keep := keepOf s0 alg nowSec
  { log := keep.map (·.2.1), ats := keep.map (·.2.2), cpx := cpxOf keep, idxLen := s0.ilog.length, rev := s0.rev }

/-- classes `VisitNeedle/empty-blob-dropped`, `read/committed-empty-blob-lost-after-reload`,
    `makeupDiff/empty-blob-treated-as-delete`: the id holds an empty blob -/
def EmptyBlob (s : CVol) (k : Nat) : Prop := ∃ off, s.v.idx k = some ⟨off, 0⟩

/-- classes `compact/*` (C09's vacuum-filter findings): the id was not rewritten during the copy and
    the vacuum filter (LastModified + VOLUME ttl ≤ now) drops its live record -/
def TtlDropped (s0 s2 : CVol) (nowSec : Nat) (k : Nat) : Prop :=
  lastFor (s2.ilog.drop s0.ilog.length) k = none ∧
  ∃ e r, s0.v.idx k = some e ∧ 0 < e.size ∧ recAt s0.v.log e.off = some r ∧
    dropsTtl s0 nowSec r (atOf s0.ats e.off) = true

/-- the reload after the commit cuts the .dat: its integrity check (`CheckAndFixVolumeDataIntegrity`) does not find
    the record of the LAST idx entry at the end of the .dat -/
def truncates (s2 : CVol) (order : List Nat) (t : Nat) : Bool :=
  match s2.snap with
  | some sn => (match makeup s2 sn order t with
                | some f => (cutAt f.2.2 f.1).isSome
                | none => false)
  | none => false

/-- class `CommitCompact/dat-truncated-behind-last-index-entry` excluded -/
def NoTruncation (s2 : CVol) (order : List Nat) (t : Nat) : Prop := truncates s2 order t = false

/-- `order` (the iteration order of makeupDiff's Go map) mentions every key updated during the copy -/
def Covers (s0 s2 : CVol) (order : List Nat) : Prop :=
  ∀ k, (lastFor (s2.ilog.drop s0.ilog.length) k).isSome = true → k ∈ order

theorem wf_compact {s0 : CVol} (hw : WF s0) (alg nowSec : Nat) : WF (compact s0 alg nowSec) :=
  ⟨hw.bound, hw.own, hw.mem, hw.len⟩

theorem beforeCommit_suf {s0 : CVol} (hw : WF s0) (alg nowSec : Nat) (ops : List (Nat × Op)) :
    Suf (compact s0 alg nowSec) (beforeCommit s0 alg nowSec ops) :=
  suf_run (wf_compact hw alg nowSec) ops

theorem beforeCommit_snap {s0 : CVol} (hw : WF s0) (alg nowSec : Nat) (ops : List (Nat × Op)) :
    (beforeCommit s0 alg nowSec ops).snap = some (snapOf s0 alg nowSec) :=
  (beforeCommit_suf hw alg nowSec ops).snap

/-- The compaction with nothing in flight: reads of the copied records `keep` through their new index, whatever is
    appended to the files behind them, against reads of the volume they were copied from. -/
theorem copied_view {s0 : CVol} (hw : WF s0) {nowSec : Nat} {keep : List (Nat × Rec × Nat)} (hk : KeepOK s0 nowSec keep)
    (kind : Kind) (mrecs : List Rec) (mats : List Nat) (t' k : Nat) :
    viewOf (keep.map (·.2.1) ++ mrecs) (keep.map (·.2.2) ++ mats) t' (reloadIdx kind (cpxOf keep) k) = view s0 t' k ∨
    (viewOf (keep.map (·.2.1) ++ mrecs) (keep.map (·.2.2) ++ mats) t' (reloadIdx kind (cpxOf keep) k) = none ∧
      (EmptyBlob s0 k ∨ TtlDropped s0 s0 nowSec k)) := by
  rw [viewOf_reloadIdx, lastFor_cpxOf, view_eq]
  cases hc : lastFor (cpxEnts keep) k with
  | none =>
    simp only
    cases hi : s0.v.idx k with
    | none => exact Or.inl rfl
    | some e =>
      rcases Int.lt_trichotomy e.size 0 with hneg | hz | hpos
      · left; rw [viewOf_neg hneg]
      · exact Or.inr ⟨trivial, Or.inl ⟨e.off, by rw [hi, ← hz]⟩⟩
      · exact Or.inr ⟨trivial, Or.inr ⟨by rw [List.drop_length, lastFor_nil], e, (cpx_missing hw hk hc hi hpos).imp
          fun r h => ⟨hi, hpos, h⟩⟩⟩
  | some c =>
    obtain ⟨hc0, hnn, off, hi, hview⟩ := cpx_entry hk hc mrecs mats t'
    simp only [hi]
    by_cases hpos : 0 < c.size
    · left; rw [if_pos ((validEnt_iff c).2 ⟨hc0, hpos⟩), hview]
    · rw [if_neg fun h => hpos ((validEnt_iff c).1 h).2]
      exact Or.inr ⟨rfl, Or.inl ⟨off, by rw [hi, Int.le_antisymm (Int.not_lt.1 hpos) hnn]⟩⟩

/-- Reads of the files a commit writes — the copied records `keep` with their index, then what `makeupDiff`
    appended — against reads of the volume `s2` the operations in flight produced from `s0`. -/
theorem committed_view {s0 s2 : CVol} (hw : WF s0) (hs : Suf s0 s2) {nowSec : Nat} {keep : List (Nat × Rec × Nat)}
    (hk : KeepOK s0 nowSec keep) {order : List Nat} {mrecs : List Rec}
    {mats : List Nat} {ments : List IEnt}
    (hmk : MkOK s2 (s2.ilog.drop s0.ilog.length) order (keep.map (·.2.1) ++ mrecs) (keep.map (·.2.2) ++ mats) ments)
    (hcov : Covers s0 s2 order) (t' k : Nat) :
    viewOf (keep.map (·.2.1) ++ mrecs) (keep.map (·.2.2) ++ mats) t' (reloadIdx s2.kind (cpxOf keep ++ ments) k)
        = view s2 t' k ∨
    (viewOf (keep.map (·.2.1) ++ mrecs) (keep.map (·.2.2) ++ mats) t' (reloadIdx s2.kind (cpxOf keep ++ ments) k) = none ∧
      (EmptyBlob s2 k ∨ TtlDropped s0 s2 nowSec k)) := by
  cases hsk : lastFor (s2.ilog.drop s0.ilog.length) k with
  | some e => exact (replayed_view hs hmk (hcov k (Option.isSome_of_eq_some hsk)) hsk t').imp_right fun h => ⟨h.1, Or.inl h.2⟩
  | none =>
    -- the key was not touched while the copy ran: makeupDiff wrote no entry for it, and it reads in `s2` as in `s0`
    have hmn : lastFor ments k = none :=
      lastFor_eq_none.2 fun e he hek => by obtain ⟨_, h, _⟩ := hmk.2.1 e he; rw [hek, hsk] at h; cases h
    rw [viewOf_reloadIdx_append hmn, suf_view_untouched hw hs hsk]
    exact (copied_view hw hk s2.kind mrecs mats t' k).imp_right fun h =>
      ⟨h.1, h.2.imp (fun ⟨off, h⟩ => ⟨off, (hs.untouched hsk).trans h⟩) fun h => ⟨hsk, h.2⟩⟩

theorem truncates_eq {s2 : CVol} {sn : Snap} {order : List Nat} {t : Nat} {f : Files} (hsnap : s2.snap = some sn)
    (hmk : makeup s2 sn order t = some f) : truncates s2 order t = (cutAt f.2.2 f.1).isSome := by
  unfold truncates
  rw [hsnap]; simp only [hmk]

/-- reads after `CommitCompact`, given the files `f` that `makeupDiff` produced: the files are loaded as they are
    when the integrity check cuts nothing off; a cut can only make blobs unreadable -/
theorem view_commit {s2 : CVol} {sn : Snap} {order : List Nat} {t : Nat} {f : Files} (hsnap : s2.snap = some sn)
    (hmk : makeup s2 sn order t = some f) (t' k : Nat) :
    view (commit s2 order t) t' k = viewOf f.1 f.2.1 t' (reloadIdx s2.kind f.2.2 k) ∨
    (view (commit s2 order t) t' k = none ∧ ¬ NoTruncation s2 order t) := by
  rw [NoTruncation, truncates_eq hsnap hmk]
  unfold commit
  rw [hsnap]; simp only [hmk]
  exact (view_reload _ t' k).imp_right fun h => ⟨h.1, fun hn => Bool.noConfusion (h.2.symm.trans hn)⟩

/-- **What a commit can do to one id**: the read after `CommitCompact` is the read before it, or the id has become
    unreadable — and then it holds an empty blob, or its record was removed by the vacuum TTL filter, or the reload
    truncated the .dat. -/
theorem commit_cases (s0 : CVol) (hw : WF s0) (hnz : s0.ilog ≠ []) (alg nowSec : Nat) (ops : List (Nat × Op))
    (order : List Nat) (t t' k : Nat) (hcov : Covers s0 (beforeCommit s0 alg nowSec ops) order) :
    view (afterCommit s0 alg nowSec ops order t) t' k = view (beforeCommit s0 alg nowSec ops) t' k ∨
    (view (afterCommit s0 alg nowSec ops order t) t' k = none ∧
      (EmptyBlob (beforeCommit s0 alg nowSec ops) k ∨ TtlDropped s0 (beforeCommit s0 alg nowSec ops) nowSec k ∨
        ¬ NoTruncation (beforeCommit s0 alg nowSec ops) order t)) := by
  have hs := beforeCommit_suf hw alg nowSec ops
  obtain ⟨mrecs, mats, ments, hmk, hok⟩ :=
    makeup_char hs hnz (snapOf s0 alg nowSec) rfl rfl (by simp only [snapOf, List.length_map]) order t
  have hk := keepOf_ok hw alg nowSec
  have hv := (committed_view (wf_compact hw alg nowSec) hs ⟨hk.sound, hk.complete⟩ hok hcov t' k).imp_right fun h =>
      (⟨h.1, h.2.imp_right Or.inl⟩ : _ ∧ (_ ∨ _ ∨ ¬ NoTruncation (beforeCommit s0 alg nowSec ops) order t))
  unfold afterCommit
  rcases view_commit hs.snap hmk t' k with h | ⟨h, hcut⟩
  · rw [h]; exact hv
  · exact Or.inr ⟨h, Or.inr (Or.inr hcut)⟩

/-- **Compaction is invisible to readers** — partial: for EVERY well-formed volume `s0` (in particular every
    volume that operations alone reach from a fresh one, `wf_reachable`) whose .idx is not empty when the copy starts (on an
    .idx that was empty then and has grown since, makeupDiff's backward loop underflows and the whole compaction is
    discarded: `discarded_on_empty_idx_witness`),
    both copy algorithms, every list of operations issued while the copy runs, every iteration order of makeupDiff's
    map that mentions the updated keys (`Covers`) and all clocks, the read of id `k` after `CommitCompact` equals the
    read before it — unless `k` holds an empty blob, or its record is removed by the vacuum TTL filter, or the reload
    truncates the .dat (the three families of recorded findings). -/
theorem compaction_invisible_partial (s0 : CVol) (hw : WF s0) (hnz : s0.ilog ≠ []) (alg nowSec : Nat) (ops : List (Nat × Op))
    (order : List Nat) (t t' k : Nat)
    (hcov : Covers s0 (beforeCommit s0 alg nowSec ops) order)
    (hne : ¬ EmptyBlob (beforeCommit s0 alg nowSec ops) k)
    (httl : ¬ TtlDropped s0 (beforeCommit s0 alg nowSec ops) nowSec k)
    (hcut : NoTruncation (beforeCommit s0 alg nowSec ops) order t) :
    view (afterCommit s0 alg nowSec ops order t) t' k = view (beforeCommit s0 alg nowSec ops) t' k := by
  rcases commit_cases s0 hw hnz alg nowSec ops order t t' k hcov with h | ⟨_, h | h | h⟩
  · exact h
  · exact absurd h hne
  · exact absurd h httl
  · exact absurd hcut h

/-- **No resurrection** — no input class excluded: under the standing hypotheses of `commit_cases` (a well-formed
    volume whose .idx is not empty when the copy starts, an iteration order that mentions the updated keys), whatever
    was written, deleted, compacted (either algorithm) and replayed, an id that is not readable before the commit is
    not readable after it. -/
theorem no_resurrection (s0 : CVol) (hw : WF s0) (hnz : s0.ilog ≠ []) (alg nowSec : Nat) (ops : List (Nat × Op))
    (order : List Nat) (t t' k : Nat)
    (hcov : Covers s0 (beforeCommit s0 alg nowSec ops) order)
    (hgone : view (beforeCommit s0 alg nowSec ops) t' k = none) :
    view (afterCommit s0 alg nowSec ops order t) t' k = none := by
  rcases commit_cases s0 hw hnz alg nowSec ops order t t' k hcov with h | ⟨h, _⟩
  · rw [h]; exact hgone
  · exact h

/-- `no_resurrection` and `compaction_invisible_partial` for histories that start from a fresh volume -/
theorem compaction_invisible_from_fresh (kind : Kind) (ttl : Nat × Nat) (pre ops : List (Nat × Op)) (alg nowSec : Nat)
    (order : List Nat) (t t' k : Nat) :
    let s0 := runOps (CVol.init kind ttl) pre
    s0.ilog ≠ [] → Covers s0 (beforeCommit s0 alg nowSec ops) order →
    (view (beforeCommit s0 alg nowSec ops) t' k = none → view (afterCommit s0 alg nowSec ops order t) t' k = none) ∧
    (¬ EmptyBlob (beforeCommit s0 alg nowSec ops) k → ¬ TtlDropped s0 (beforeCommit s0 alg nowSec ops) nowSec k →
      NoTruncation (beforeCommit s0 alg nowSec ops) order t →
      view (afterCommit s0 alg nowSec ops order t) t' k = view (beforeCommit s0 alg nowSec ops) t' k) := by
  intro s0 hnz hcov
  have hw := wf_reachable kind ttl pre
  exact ⟨no_resurrection s0 hw hnz alg nowSec ops order t t' k hcov,
    fun h1 h2 h3 => compaction_invisible_partial s0 hw hnz alg nowSec ops order t t' k hcov h1 h2 h3⟩

theorem opStep_snap (s : CVol) (x : Option Snap) (t : Nat) (op : Op) :
    opStep { s with snap := x } t op = ({ (opStep s t op).1 with snap := x }, (opStep s t op).2) := by
  unfold opStep
  dsimp only
  split <;> rfl

theorem runOps_snap (s : CVol) (x : Option Snap) (ops : List (Nat × Op)) :
    runOps { s with snap := x } ops = { runOps s ops with snap := x } := by
  induction ops generalizing s with
  | nil => rfl
  | cons o ops ih =>
    obtain ⟨t, op⟩ := o
    simp only [runOps, opStep_snap]
    exact ih _

/-- the reads before the commit are the reads of the volume WITHOUT compaction: `Compact`/`Compact2`
    only write .cpd/.cpx, the operations in flight are applied to the old files -/
theorem reads_ignore_compaction (s0 : CVol) (alg nowSec : Nat) (ops : List (Nat × Op)) (t k : Nat) :
    view (beforeCommit s0 alg nowSec ops) t k = view (runOps s0 ops) t k := by
  unfold beforeCommit compact
  rw [runOps_snap]
  rfl

/-- the judge's class predicates are the theorem's exclusion predicates -/
theorem emptyBlob_iff (s : CVol) (k : Nat) : EmptyBlob s k ↔ isEmptyBlob s k = true := by
  unfold EmptyBlob isEmptyBlob
  cases h : s.v.idx k with
  | none => simp
  | some e =>
    obtain ⟨o, sz⟩ := e
    simp

theorem ttlDropped_iff_of_suf {s0 s2 : CVol} (hw : WF s0) (hs : Suf s0 s2)
    (hsuf : suffixOf s2 = s2.ilog.drop s0.ilog.length) (nowSec k : Nat) :
    TtlDropped s0 s2 nowSec k ↔ ttlDropped s2 nowSec k = true := by
  have hdrop : ∀ r a, dropsTtl s2 nowSec r a = dropsTtl s0 nowSec r a := fun r a => by
    unfold dropsTtl volTtlOf; rw [hs.vttl]
  unfold TtlDropped ttlDropped
  rw [hsuf]
  cases hsk : lastFor (s2.ilog.drop s0.ilog.length) k with
  | some e => exact ⟨(fun h => nomatch h.1), (fun h => nomatch h)⟩
  | none =>
    -- an untouched key has in `s2` the index entry, the record and the AppendAtNs it has in `s0`
    simp only [Option.isNone_none, Bool.true_and, true_and]
    unfold liveRec
    rw [hs.untouched hsk]
    cases hi : s0.v.idx k with
    | none => exact ⟨(fun ⟨_, _, h, _⟩ => nomatch h), (fun h => nomatch h)⟩
    | some e =>
      simp only
      by_cases hpos : 0 < e.size
      · have hb := hw.bound k e hi
        obtain ⟨r, hr⟩ := wf_recAt hw hi
        rw [if_pos hpos, suf_recAt hs hb.2, suf_atOf hw hs hb.1 hb.2, hr]
        simp only [Option.map_some, hdrop]
        constructor
        · rintro ⟨e', r', he', _, hr', hd⟩
          cases he'
          rw [hr] at hr'
          cases hr'
          exact hd
        · exact fun hd => ⟨e, r, rfl, hpos, hr, hd⟩
      · rw [if_neg hpos]
        constructor
        · rintro ⟨e', r', he', hp', _⟩
          cases he'
          exact absurd hp' hpos
        · intro h; cases h

/-- the theorem's `TtlDropped` (stated over the volume `s0` the copy started from) is the judge's executable
    `ttlDropped` (computed from the state right before the commit) -/
theorem ttlDropped_iff (s0 : CVol) (hw : WF s0) (alg nowSec : Nat) (ops : List (Nat × Op)) (k : Nat) :
    TtlDropped s0 (beforeCommit s0 alg nowSec ops) nowSec k ↔ ttlDropped (beforeCommit s0 alg nowSec ops) nowSec k = true :=
  ttlDropped_iff_of_suf (wf_compact hw alg nowSec) (beforeCommit_suf hw alg nowSec ops)
    (by unfold suffixOf; rw [beforeCommit_snap hw]; rfl) nowSec k

theorem noTruncation_of_tailOK {s2 : CVol} {sn : Snap} (hsnap : s2.snap = some sn) (ht : TailOK sn.log sn.cpx)
    (order : List Nat) (t : Nat) : NoTruncation s2 order t := by
  unfold NoTruncation truncates
  rw [hsnap]
  cases hm : makeup s2 sn order t with
  | none => simp only [hm]
  | some f => simp only [hm, cutAt_none_of_tailOK (makeup_tailOK hm ht)]; rfl

/-- **Compact2 never truncates**: for EVERY well-formed volume, the index-based copy (`Compact2` /
    copyDataBasedOnIndexFile: .cpd written in the ascending key order of the loaded .idx, .cpx saved in the same order),
    every operation list issued while the copy runs, every iteration order of makeupDiff's map: the committed files are
    such that the reload's integrity check cuts nothing off — the last .idx entry points at the last record of the .dat
    or is a tombstone with offset 0.  (For the scan-based `Compact` this is FALSE: `truncation_witness`, the recorded
    finding CommitCompact/dat-truncated-behind-last-index-entry.) -/
theorem compact2_never_truncates (s0 : CVol) (hw : WF s0) (alg : Nat) (halg : alg ≠ 1) (nowSec : Nat) (ops : List (Nat × Op))
    (order : List Nat) (t : Nat) : NoTruncation (beforeCommit s0 alg nowSec ops) order t := by
  refine noTruncation_of_tailOK (beforeCommit_snap hw alg nowSec ops) ?_ order t
  simp only [snapOf, keepOf, halg, if_false]
  exact tailOK_of_sorted (keepIdx_ids_lt hw nowSec)

/-- **Compaction by Compact2 is invisible to readers** — `compaction_invisible_partial` without the `NoTruncation`
    hypothesis: the only excluded inputs are empty blobs and records removed by the vacuum TTL filter -/
theorem compaction_invisible_compact2_partial (s0 : CVol) (hw : WF s0) (hnz : s0.ilog ≠ []) (alg : Nat) (halg : alg ≠ 1)
    (nowSec : Nat) (ops : List (Nat × Op)) (order : List Nat) (t t' k : Nat)
    (hcov : Covers s0 (beforeCommit s0 alg nowSec ops) order)
    (hne : ¬ EmptyBlob (beforeCommit s0 alg nowSec ops) k)
    (httl : ¬ TtlDropped s0 (beforeCommit s0 alg nowSec ops) nowSec k) :
    view (afterCommit s0 alg nowSec ops order t) t' k = view (beforeCommit s0 alg nowSec ops) t' k :=
  compaction_invisible_partial s0 hw hnz alg nowSec ops order t t' k hcov hne httl
    (compact2_never_truncates s0 hw alg halg nowSec ops order t)

/-- the same with the judge's executable class predicates as hypotheses -/
theorem compaction_invisible_compact2_judged (s0 : CVol) (hw : WF s0) (hnz : s0.ilog ≠ []) (alg : Nat) (halg : alg ≠ 1)
    (nowSec : Nat) (ops : List (Nat × Op)) (order : List Nat) (t t' k : Nat)
    (hcov : Covers s0 (beforeCommit s0 alg nowSec ops) order)
    (hne : isEmptyBlob (beforeCommit s0 alg nowSec ops) k = false)
    (httl : ttlDropped (beforeCommit s0 alg nowSec ops) nowSec k = false) :
    view (afterCommit s0 alg nowSec ops order t) t' k = view (beforeCommit s0 alg nowSec ops) t' k :=
  compaction_invisible_compact2_partial s0 hw hnz alg halg nowSec ops order t t' k hcov
    (fun h => ne_true_of_eq_false hne ((emptyBlob_iff _ _).mp h))
    (fun h => ne_true_of_eq_false httl ((ttlDropped_iff s0 hw alg nowSec ops k).mp h))

/-- `compaction_invisible_partial` (same exclusions) in the property's own terms, against the volume WITHOUT
    compaction: reads(commit(compact s) during) = reads(apply during s) -/
theorem compaction_invisible_vs_uncompacted (s0 : CVol) (hw : WF s0) (hnz : s0.ilog ≠ []) (alg nowSec : Nat) (ops : List (Nat × Op))
    (order : List Nat) (t t' k : Nat)
    (hcov : Covers s0 (beforeCommit s0 alg nowSec ops) order)
    (hne : ¬ EmptyBlob (beforeCommit s0 alg nowSec ops) k)
    (httl : ¬ TtlDropped s0 (beforeCommit s0 alg nowSec ops) nowSec k)
    (hcut : NoTruncation (beforeCommit s0 alg nowSec ops) order t) :
    view (afterCommit s0 alg nowSec ops order t) t' k = view (runOps s0 ops) t' k := by
  rw [compaction_invisible_partial s0 hw hnz alg nowSec ops order t t' k hcov hne httl hcut, reads_ignore_compaction]

/-! The full-strength statement is false of the code: witnesses (replayed on the real code in corpus/C04/witnesses.ops). -/

def blob (d : String) : Content := { data := d }
def fresh : CVol := CVol.init .mem (0, 0)

/-- write 2, write 1, Compact (scan), commit: id 1 is cut off -/
theorem truncation_witness :
    let s0 := runOps fresh [(1, .write 2 7 (blob "aa")), (2, .write 1 7 (blob "bb"))]
    view (beforeCommit s0 1 100 []) 9 1 = some (7, blob "bb") ∧ view (afterCommit s0 1 100 [] [] 5) 9 1 = none ∧
    view (afterCommit s0 2 100 [] [] 5) 9 1 = some (7, blob "bb") := by decide +kernel

/-- an empty blob is lost: skipped by the scan (`Size > 0`); copied by `Compact2` but read as a deletion by the
    reload; written while a copy of a fresh volume runs, the commit is discarded (`discarded_on_empty_idx_witness`)
    and the reload of the old files reads it as a deletion too.  makeupDiff's own `size != 0` test is not reached
    here: that needs a copy started on a non-empty .idx. -/
theorem empty_blob_witness :
    let s0 := runOps fresh [(1, .write 1 7 (blob ""))]
    view (beforeCommit s0 1 100 []) 9 1 = some (0, Content.empty) ∧ view (afterCommit s0 1 100 [] [] 5) 9 1 = none ∧
    view (afterCommit s0 2 100 [] [] 5) 9 1 = none ∧
    view (beforeCommit fresh 2 100 [(3, .write 1 7 (blob ""))]) 9 1 = some (0, Content.empty) ∧
    view (afterCommit fresh 2 100 [(3, .write 1 7 (blob ""))] [1] 5) 9 1 = none := by decide +kernel

/-- a needle with TTL 2 months on a volume without TTL, written at ns 1, read at ns 9: dropped by the filter -/
theorem ttl_filter_witness :
    let c : Content := { data := "aa", fl := { hasTtl := true, hasLm := true }, lm := 50, ttl := (2, 5) }
    let s0 := runOps fresh [(1, .write 1 7 c)]
    view (beforeCommit s0 2 100 []) 9 1 = some (7, c) ∧ view (afterCommit s0 2 100 [] [] 5) 9 1 = none := by decide +kernel

/-- `Compact2` on a volume whose .idx is still empty + a write while the copy runs: makeupDiff fails
    (loop underflow), the commit discards .cpd/.cpx and reloads the old files: nothing is compacted
    (reads unaffected) -/
theorem discarded_on_empty_idx_witness :
    (afterCommit fresh 2 100 [(3, .write 1 7 (blob "aa"))] [1] 5).rev = 0 ∧
    view (afterCommit fresh 2 100 [(3, .write 1 7 (blob "aa"))] [1] 5) 9 1 = some (7, blob "aa") := by decide +kernel

/-- a history on which the hypotheses `hnz`, `hcov`, `hne` (id 2) and `hcut` of `compaction_invisible_partial` hold,
    with the reads after the commit (`WF` is `wf_reachable`; `httl` is not exhibited: the blobs carry no TTL) -/
example :
    let s0 := runOps fresh [(1, .write 1 7 (blob "aa")), (2, .write 2 7 (blob "bb")), (3, .delete 1 7)]
    s0.ilog ≠ [] ∧ Covers s0 (beforeCommit s0 2 100 []) [] ∧ ¬ EmptyBlob (beforeCommit s0 2 100 []) 2 ∧
    NoTruncation (beforeCommit s0 2 100 []) [] 5 ∧
    view (afterCommit s0 2 100 [] [] 5) 9 2 = some (7, blob "bb") ∧ view (afterCommit s0 2 100 [] [] 5) 9 1 = none := by
  refine ⟨by decide +kernel, ?_, ?_, by unfold NoTruncation; decide +kernel, by decide +kernel, by decide +kernel⟩
  · intro k hk
    simp [beforeCommit, runOps, compact, lastFor] at hk
  · intro ⟨off, h⟩
    have h2 : (beforeCommit (runOps fresh [(1, .write 1 7 (blob "aa")), (2, .write 2 7 (blob "bb")), (3, .delete 1 7)]) 2 100 []).v.idx 2
        = some ⟨2, 6⟩ := by decide +kernel
    rw [h2] at h
    simp at h

/-- non-vacuity: the history of `truncation_witness` (write 2, write 1) with the index-based algorithm and a write in flight -/
example :
    let s0 := runOps fresh [(1, .write 2 7 (blob "aa")), (2, .write 1 7 (blob "bb"))]
    WF s0 ∧ s0.ilog ≠ [] ∧ (2 : Nat) ≠ 1 ∧ Covers s0 (beforeCommit s0 2 100 [(3, .write 3 7 (blob "cc"))]) [3] ∧
    isEmptyBlob (beforeCommit s0 2 100 [(3, .write 3 7 (blob "cc"))]) 1 = false ∧
    ttlDropped (beforeCommit s0 2 100 [(3, .write 3 7 (blob "cc"))]) 100 1 = false ∧
    view (afterCommit s0 2 100 [(3, .write 3 7 (blob "cc"))] [3] 5) 9 1 = some (7, blob "bb") ∧
    truncates (beforeCommit s0 1 100 []) [] 5 = true := by
  refine ⟨wf_reachable _ _ _, by decide +kernel, by decide +kernel, ?_, by decide +kernel, by decide +kernel, by decide +kernel, by decide +kernel⟩
  intro k hk
  have hsuf : (beforeCommit (runOps fresh [(1, .write 2 7 (blob "aa")), (2, .write 1 7 (blob "bb"))]) 2 100
      [(3, .write 3 7 (blob "cc"))]).ilog.drop (runOps fresh [(1, .write 2 7 (blob "aa")), (2, .write 1 7 (blob "bb"))]).ilog.length
      = [⟨3, 3, 6⟩] := by decide +kernel
  rw [hsuf] at hk
  by_cases h3 : k = 3
  · exact List.mem_singleton.2 h3
  · exfalso
    have : ¬ (3 = k) := fun h => h3 h.symm
    simp [lastFor, this] at hk

/-- makeupDiff's `!offset.IsZero() && size != 0 && size.IsValid()` with the regenerated `Size.IsValid` -/
theorem bridge_validEnt (e : IEnt) :
    validEnt e = (e.off != 0 && (e.size != 0 && SwV.Gen.C04.Size_IsValid e.size)) := by
  simp only [validEnt, SwV.Gen.C04.Size_IsValid]
  congr 1
  by_cases h1 : 0 < e.size
  · simp [h1, Int.ne_of_gt h1, show e.size ≠ -1 from fun h => absurd (h ▸ h1) (by decide)]
  · simp [h1]

/-- MemDb.LoadFromReaderAt (the body of LoadFromIdx) / SaveToIdx: `offset.IsZero() || size.IsDeleted()` with the
    regenerated `Size.IsDeleted` -/
theorem bridge_isDeleted (e : IEnt) :
    (e.off = 0 ∨ e.size < 0) ↔ (e.off = 0 ∨ SwV.Gen.C04.Size_IsDeleted e.size = true) := by
  simp only [SwV.Gen.C04.Size_IsDeleted, Bool.or_eq_true, decide_eq_true_eq]
  constructor
  · rintro (h | h)
    · exact Or.inl h
    · exact Or.inr (Or.inl h)
  · rintro (h | h | h)
    · exact Or.inl h
    · exact Or.inr h
    · exact Or.inr (by omega)

/-- the Go functions the model mirrors, pinned by the first 8 bytes of the sha256 of their whitespace-normalised source -/
theorem bridge_sources :
    SwV.Gen.C04.src_Compact = "90495a2118886275" ∧ SwV.Gen.C04.src_Compact2 = "e70b46c9bcaa8dc1" ∧
    SwV.Gen.C04.src_CommitCompact = "7f99dd45edb5a3be" ∧ SwV.Gen.C04.src_makeupDiff = "a55a493df66118bc" ∧
    SwV.Gen.C04.src_Vacuum_VisitNeedle = "93d511a40ba8dc87" ∧ SwV.Gen.C04.src_copyDataBasedOnIndexFile = "fb8c6ae27b972798" ∧
    SwV.Gen.C04.src_copyDataAndGenerateIndexFile = "4929fef742c2c200" ∧ SwV.Gen.C04.src_LoadFromReaderAt = "26c7678c20a773f8" ∧
    SwV.Gen.C04.src_SaveToIdx = "4c8eb9f62c2ea7b0" ∧ SwV.Gen.C04.src_CheckAndFixVolumeDataIntegrity = "87c670d5bb65451b" ∧
    SwV.Gen.C04.src_verifyNeedleIntegrity = "1d2593cc976353eb" ∧ SwV.Gen.C04.src_doLoading = "005ccece1c6fa4f7" := by decide +kernel

/-- The vacuum TTL filter never removes a record whose (client-supplied) LastModified lies AHEAD of
    the clock the compaction samples — whatever the volume TTL, the needle TTL and the append time:
    `LastModified + ttl ≤ now` cannot hold.  (An age computed as the unsigned difference
    `now - LastModified` would wrap and declare such a blob expired.) -/
theorem lm_ahead_of_clock_not_filtered (s : CVol) (nowSec : Nat) (r : Rec) (a : Nat) (h : nowSec < r.c.lm) :
    dropsTtl s nowSec r a = false := by
  simp only [dropsTtl, SwV.Model.C09.vacuumDrops, needleOf, Bool.and_eq_false_iff]
  exact Or.inr (decide_eq_false (by omega))

/-- hence the judge's "removed by the TTL filter" class predicate is false for such a blob: if the
    commit makes it unreadable and it is not an empty blob (those classes come first), `dropClass` reports the
    truncation class (read error) or an unrecorded class -/
theorem lm_ahead_of_clock_not_ttlDropped (pre : CVol) (nowSec id : Nat) (r : Rec) (a : Nat)
    (hl : liveRec pre id = some (r, a)) (h : nowSec < r.c.lm) : ttlDropped pre nowSec id = false := by
  simp only [ttlDropped, hl, lm_ahead_of_clock_not_filtered pre nowSec r a h, Bool.and_false]

/-- non-vacuity: a 1-hour TTL volume, a blob stamped 5 s ahead of the clock: kept by both algorithms, readable after the commit -/
example :
    let c : Content := { Content.empty with data := "78", fl := { Content.empty.fl with hasLm := true }, lm := 1005 }
    let s0 := (opStep (CVol.init .mem (1, 2)) 1000000000000 (.write 1 7 c)).1
    (∀ alg ∈ [1, 2], (keepOf s0 alg 1000).length = 1 ∧
      (view (afterCommit s0 alg 1000 [] [] 1001000000000) 1002000000000 1).isSome = true) ∧
    (liveRec s0 1).isSome = true := by decide +kernel

end SwV.Props.C04
