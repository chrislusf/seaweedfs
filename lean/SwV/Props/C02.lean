/-
C02 — property theorems: the needle on-disk encoding round-trips and is self-checking.
All statements are about the executable byte-level model in SwV/Model/C02.lean (tied to the Go code by the
correspondence run and by the `bridge_*` theorems over definitions regenerated from the source).
`crc` is a parameter of the encoding/scanning theorems (nothing there depends on which checksum function is
used); the section "the concrete checksum" is about the model's executable CRC-32C (`crc32c`, compared with
`needle.NewCRC` by the driver) and `CRC.Value()` (`crcValue`, bridged to the translated source).
-/
import SwV.Model.C02
import SwV.Spec.C02
import SwV.Gen.C02
import SwV.Lemmas.C02
import SwV.Lemmas.C02Crc

namespace SwV.Props.C02
open SwV.Model.C02 SwV.Spec.C02 SwV.Lemmas.C02

/-- ∀ size, both versions (indeed any version number): a record occupies a multiple of 8 bytes and the padding
    is between 1 and 8 bytes -/
theorem actualSize_aligned (size v : Nat) :
    actualSize size v % 8 = 0 ∧ 1 ≤ paddingLength size v ∧ paddingLength size v ≤ 8 :=
  ⟨actualSize_mod8 size v, padding_range size v⟩

/-- every well-formed needle is written as exactly `GetActualSize(n.Size)` bytes, a multiple of 8 -/
theorem encode_aligned (crc : Bytes → UInt32) (v : Nat) (n : Needle) (h : WF crc n) :
    (encode v n).length = actualSize (recSize n) v ∧ (encode v n).length % 8 = 0 := by
  rw [encode_length crc v n h]; exact ⟨rfl, actualSize_mod8 _ _⟩

/-- FULL-STRENGTH "any flag combination is stored as an aligned record" needs the well-formedness hypothesis:
    the TTL flag without a TTL value makes `Size` count two bytes that are never written (witness, v3). -/
theorem encode_unaligned_without_wf_witness :
    (encode 3 { cookie := 1, id := 2, flags := 0x10, data := [7], ttl := none }).length % 8 ≠ 0 := by
  decide +kernel

/-- decode (encode n) returns every stored field — needles with data -/
theorem decode_encode (crc : Bytes → UInt32) (v : Nat) (n : Needle) (h : WF crc n) (hd : 0 < n.data.length) :
    readBytes crc v (encode v n) (recSize n) =
      .ok { cookie := n.cookie, id := n.id, size := recSize n, body := storedBody n,
            appendAtNs := if v = 3 then n.appendAtNs else 0 } := by
  rw [readBytes_encode crc v n h]; simp [expectedDecode, hd]

/-- the empty-data case, stated separately: the record is header + checksum + timestamp (v3) + padding only
    (`Size = 0`), so NO metadata (name, mime, pairs, TTL, last-modified, flags) is stored or returned -/
theorem decode_encode_empty (crc : Bytes → UInt32) (v : Nat) (n : Needle) (h : WF crc n) (hd : n.data = []) :
    recSize n = 0 ∧
    readBytes crc v (encode v n) 0 =
      .ok { cookie := n.cookie, id := n.id, size := 0, body := {}, appendAtNs := if v = 3 then n.appendAtNs else 0 } := by
  have h0 : recSize n = 0 := by simp [recSize, hd]
  refine ⟨h0, ?_⟩
  have := readBytes_encode crc v n h
  rw [h0] at this
  rw [Int.natCast_zero] at this
  rw [this]; simp [expectedDecode, hd, h0]

/-- a needle whose unflagged fields are empty is returned exactly: `storedBody` is the needle itself -/
theorem stored_is_needle (n : Needle)
    (h1 : hasName n.flags = false → n.name = []) (h2 : hasMime n.flags = false → n.mime = [])
    (h3 : hasLastModified n.flags = false → n.lastModified = 0) (h4 : hasTtl n.flags = false → n.ttl = none)
    (h5 : hasPairs n.flags = false → n.pairs = []) :
    (storedBody n).data = n.data ∧ (storedBody n).name = n.name ∧ (storedBody n).mime = n.mime ∧
    (storedBody n).lastModified = n.lastModified ∧ (storedBody n).ttl = n.ttl ∧ (storedBody n).pairs = n.pairs ∧
    (storedBody n).flags = n.flags :=
  ⟨rfl, ite_eq_left_of_imp h1, ite_eq_left_of_imp h2, ite_eq_left_of_imp h3, ite_eq_left_of_imp h4,
    ite_eq_left_of_imp h5, rfl⟩

/-- the same through the file API: `ReadData` at the record's offset inside any file -/
theorem read_at_offset (crc : Bytes → UInt32) (v : Nat) (n : Needle) (h : WF crc n) (pre post : Bytes) :
    readData crc v (pre ++ (encode v n ++ post)) pre.length (recSize n) = .ok (expectedDecode v n) :=
  readData_at crc v n h pre post

/-- scanning the concatenation of encodings (after any prefix, e.g. the super block) visits exactly those
    records, in order, at the right offsets, and stops cleanly at the end of the file -/
theorem scan_append (crc : Bytes → UInt32) (v : Nat) (ns : List Needle) (hwf : ∀ n ∈ ns, WF crc n)
    (pre : Bytes) (fuel : Nat) (hf : ns.length < fuel) :
    scanFrom v (pre ++ concatEnc v ns) true fuel pre.length = (visitsOf v pre.length ns, .eof) := by
  induction ns generalizing pre fuel with
  | nil =>
    cases fuel with
    | zero => omega
    | succ fuel => simp [scanFrom, scanStep, concatEnc, visitsOf]
  | cons n rest ih =>
    cases fuel with
    | zero => omega
    | succ fuel =>
      have hn : WF crc n := hwf n List.mem_cons_self
      have hlen : (pre ++ encode v n).length = pre.length + actualSize (recSize n) v := by
        rw [List.length_append, encode_length crc v n hn]
      have hcat : concatEnc v (n :: rest) = encode v n ++ concatEnc v rest := List.flatMap_cons
      have hnext : ((pre.length : Int) + 16 + ((bodyLength (recSize n) v : Nat) : Int)).toNat = (pre ++ encode v n).length := by
        rw [hlen]; unfold actualSize; omega
      have hnn : ¬ ((pre.length : Int) + 16 + ((bodyLength (recSize n) v : Nat) : Int) < 0) := by omega
      have ih' := ih (fun m hm => hwf m (List.mem_cons_of_mem _ hm)) (pre ++ encode v n) fuel (Nat.lt_of_succ_lt_succ hf)
      rw [List.append_assoc, hlen] at ih'
      unfold scanFrom
      rw [hcat, scanStep_record crc v n hn pre (concatEnc v rest)]
      simp only [hnn, if_false, hnext, ih', visitsOf, hlen]

/-- … in the terms of the spec: the i-th visit carries the i-th needle's identity, size and stored fields -/
theorem scan_visits_are_the_records (v : Nat) (offset : Nat) (ns : List Needle) :
    (visitsOf v offset ns).map (fun x => (x.cookie, x.id, x.size, x.body, x.appendAtNs)) =
      ns.map (fun n => let e := expectedDecode v n; (e.cookie, e.id, (e.size : Int), e.body, e.appendAtNs)) ∧
    (visitsOf v offset ns).length = ns.length := by
  induction ns generalizing offset with
  | nil => simp [visitsOf]
  | cons n rest ih =>
    have := ih (offset + actualSize (recSize n) v)
    simp [visitsOf, visitOf, expectedDecode, this.1, this.2]

/-- offsets: each record starts where the previous one ended (by `actualSize_aligned`, at a multiple of 8 when the
    prefix is one) -/
theorem scan_offsets (v : Nat) (offset : Nat) (n : Needle) (rest : List Needle) :
    visitsOf v offset (n :: rest) = visitOf v offset n :: visitsOf v (offset + actualSize (recSize n) v) rest := rfl

/-- decode returns data only if the stored checksum equals `crc` of the returned data (in `CRC.Value` form):
    ANY blob, any claimed size above 0 (at size 0 no checksum is looked at) — the decision logic of "altered data is
    reported, not returned" -/
theorem decode_checks_crc (crc : Bytes → UInt32) (v : Nat) (blob : Bytes) (size : Int) (d : Decoded)
    (h : readBytes crc v blob size = .ok d) (hpos : 0 < d.size) :
    beNat (((blob.drop 16).drop d.size).take 4) = crcValue (crc d.body.data).toNat := by
  unfold readBytes parseHeader at h
  obtain ⟨_, h⟩ := ok_of_guard (ok_of_guard (ok_of_guard (ok_of_guard h).2).2).2
  cases hb : parseBody (blob.drop 16) size.toNat with
  | error e => rw [hb] at h; cases h
  | ok body =>
    rw [hb] at h
    obtain ⟨hcrc, h⟩ := ok_of_guard (ok_of_guard h).2
    -- both exits that return a value return this size and this body
    have hd : d.size = size.toNat ∧ d.body = body := by
      split at h
      · cases (ok_of_guard h).2; exact ⟨rfl, rfl⟩
      · cases h; exact ⟨rfl, rfl⟩
    rw [hd.1] at hpos ⊢
    rw [hd.2]
    exact Decidable.not_not.mp fun hne => hcrc ⟨hpos, hne⟩

/-! ### the concrete checksum: CRC-32C separates alterations confined to a window of 32 bits -/

/-- burst errors: two messages whose bit strings (`bitsOf`: bytes in order, least significant bit first — the
    order in which the reflected CRC consumes them) differ only inside a window of at most 32 consecutive bits,
    anywhere and across byte boundaries, have different CRC-32C.  (Uses that the register update is GF(2)-linear
    and injective: feeding n ≤ 32 bits = xoring them in as one word and stepping n times.) -/
theorem crc32c_detects_burst32 (d e : Bytes) (pre u u' post : List Bool)
    (hd : bitsOf d = pre ++ (u ++ post)) (he : bitsOf e = pre ++ (u' ++ post))
    (hl : u.length = u'.length) (hn : u.length ≤ 32) (hne : u ≠ u') : crc32c d ≠ crc32c e := by
  intro h
  unfold crc32c at h
  have h1 := (UInt32.xor_left_inj _).mp h
  rw [foldl_crcByte_eq_feed, foldl_crcByte_eq_feed, hd, he] at h1
  simp only [List.foldl_append] at h1
  have h2 := foldl_inj feedBit_inj post _ _ h1
  generalize List.foldl feedBit _ pre = s at h2
  rw [foldl_feedBit_eq u s hn, foldl_feedBit_eq u' s (by omega), ← hl] at h2
  have h3 := (UInt32.xor_right_inj _).mp (crcBitN_inj _ _ _ h2)
  exact hne (wordOf_inj u u' hl hn h3)

/-- ANY change confined to one byte (all 255 alternatives: every burst of up to 8 bits inside a byte): the eight bits
    of the byte are such a window -/
theorem crc32c_detects_one_byte_change (pre post : Bytes) (x y : UInt8) (hxy : x ≠ y) :
    crc32c (pre ++ x :: post) ≠ crc32c (pre ++ y :: post) :=
  crc32c_detects_burst32 _ _ (bitsOf pre) (bits8 x) (bits8 y) (bitsOf post) (by simp [bitsOf]) (by simp [bitsOf])
    (by rw [bits8_length, bits8_length]) (by rw [bits8_length]; decide) fun h => hxy (bits8_inj x y h)

/-- for EVERY byte string and every bit position: flipping that bit changes the CRC-32C (`NewCRC`), i.e. the
    executable bitwise Castagnoli CRC of the model, the one the driver runs against the real code -/
theorem crc32c_detects_single_bit (d : Bytes) (i : Nat) (hi : i < 8 * d.length) :
    crc32c (flipBit d i) ≠ crc32c d := by
  obtain ⟨pre, x, y, post, hxy, rfl, hf⟩ := flipBit_split d i hi
  rw [hf]
  exact crc32c_detects_one_byte_change pre post y x hxy

/-- the reason: the per-bit register update is injective and fixes 0 (polynomial with constant term 1), so a
    nonzero difference never dies out while the remaining bytes are fed -/
theorem crc_step_injective : (∀ a b : UInt32, crcBit a = crcBit b → a = b) ∧ crcBit 0 = 0 :=
  ⟨crcBit_inj, crcBit_zero⟩

/-- `CRC.Value()` (rotate right by 15, add 0xa282ead8) is injective on 32-bit values, and `crcUnvalue` undoes it -/
theorem crc_value_bijective :
    (∀ a b : Nat, a < 2 ^ 32 → b < 2 ^ 32 → crcValue a = crcValue b → a = b) ∧
    (∀ c : Nat, c < 2 ^ 32 → crcUnvalue (crcValue c) = c) :=
  ⟨crcValue_inj, crcUnvalue_crcValue⟩

/-- the decision for an arbitrary checksum function (the contrapositive of `decode_checks_crc` on a written record, with the
    error named):
    replaced data with a different checksum ⇒ CRC error -/
theorem decode_altered_of_crc_ne (crc : Bytes → UInt32) (v : Nat) (n : Needle) (h : WF crc n) (d' : Bytes)
    (hl : d'.length = n.data.length) (hpos : 0 < n.data.length) (hc : crc d' ≠ crc n.data) :
    readBytes crc v (encode v (withData n d')) (recSize n) = .error .crc := by
  have hw := withData_wf crc n d' hl h
  rw [← withData_recSize n d' hl, readBytes_encode_any _ crc v _ hw]
  have hp : recSize (withData n d') > 0 := by
    rw [withData_recSize n d' hl]; exact recSize_pos n hpos
  have hck : (withData n d').checksum = (crc n.data).toNat := wf_checksum h
  have hne : crcValue (withData n d').checksum ≠ crcValue (crc (withData n d').data).toNat := by
    intro he
    rw [hck] at he
    have := crcValue_inj _ _ (UInt32.toNat_lt _) (UInt32.toNat_lt _) he
    exact hc (UInt32.toNat_inj.mp this).symm
  simp only [hp, hne, ne_eq, not_false_eq_true, and_self, if_true]

/-- … through the decoder: data replaced by data differing in a burst of at most 32 bits ⇒ CRC error -/
theorem decode_detects_burst32 (v : Nat) (n : Needle) (h : WF crc32c n) (d' : Bytes) (pre u u' post : List Bool)
    (hd : bitsOf n.data = pre ++ (u ++ post)) (he : bitsOf d' = pre ++ (u' ++ post))
    (hl : u.length = u'.length) (hn : u.length ≤ 32) (hne : u ≠ u') :
    readBytes crc32c v (encode v (withData n d')) (recSize n) = .error .crc := by
  have l1 := bitsOf_length n.data
  have l2 := bitsOf_length d'
  rw [hd] at l1; rw [he] at l2
  simp only [List.length_append] at l1 l2
  have hu : 0 < u.length := by
    cases u with
    | nil => cases u' with
      | nil => exact absurd rfl hne
      | cons _ _ => simp at hl
    | cons _ _ => simp
  exact decode_altered_of_crc_ne crc32c v n h d' (by omega) (by omega)
    (crc32c_detects_burst32 d' n.data pre u' u post he hd hl.symm (by omega) (Ne.symm hne))

/-- non-vacuity: a 32-bit burst starting at bit 7 of byte 0 and ending at bit 6 of byte 4 -/
example : bitsOf [0x00, 0x00, 0x00, 0x00, 0x00] = List.replicate 7 false ++ (List.replicate 32 false ++ [false]) ∧
    bitsOf [0x80, 0x00, 0x00, 0x00, 0x40] =
      List.replicate 7 false ++ ((true :: List.replicate 30 false ++ [true]) ++ [false]) ∧
    (List.replicate 32 false).length = (true :: List.replicate 30 false ++ [true]).length ∧
    List.replicate 32 false ≠ (true :: List.replicate 30 false ++ [true]) := by decide +kernel

/-- through the decoder: a stored record whose data differs from the written data in exactly one bit (every other
    byte of the record untouched, see `corrupt_record_shape`) is answered with the CRC error — never with data —
    for every well-formed needle, both versions, every bit position -/
theorem decode_detects_single_bit (v : Nat) (n : Needle) (h : WF crc32c n) (i : Nat) (hi : i < 8 * n.data.length) :
    readBytes crc32c v (encode v (corruptData n i)) (recSize n) = .error .crc :=
  decode_altered_of_crc_ne crc32c v n h _ flipBit_length (by omega) (crc32c_detects_single_bit n.data i hi)

/-- … any alteration inside one data byte -/
theorem decode_detects_one_byte_change (v : Nat) (n : Needle) (h : WF crc32c n) (pre post : Bytes) (x y : UInt8)
    (hd : n.data = pre ++ x :: post) (hxy : x ≠ y) :
    readBytes crc32c v (encode v (withData n (pre ++ y :: post))) (recSize n) = .error .crc :=
  decode_altered_of_crc_ne crc32c v n h _ (by simp [hd]) (by rw [hd, List.length_append, List.length_cons]; omega)
    (by rw [hd]; exact crc32c_detects_one_byte_change pre post y x (Ne.symm hxy))

/-- … and through the file API (`ReadData` at the record's offset inside any file) -/
theorem read_at_offset_detects_single_bit (v : Nat) (n : Needle) (h : WF crc32c n) (i : Nat)
    (hi : i < 8 * n.data.length) (pre post : Bytes) :
    readData crc32c v (pre ++ (encode v (corruptData n i) ++ post)) pre.length (recSize n) = .error .crc := by
  have hw := withData_wf crc32c n (flipBit n.data i) flipBit_length h
  have := readData_at_any _ crc32c v (corruptData n i) hw pre post
  rw [show recSize (corruptData n i) = recSize n from withData_recSize n _ flipBit_length] at this
  rw [this]; exact decode_detects_single_bit v n h i hi

/-- what "the data bytes are altered" means on disk: the corrupted record is the written record with only the
    data bytes replaced (header, data size, flags, metadata, stored checksum, timestamp, padding identical) -/
theorem corrupt_record_shape (v : Nat) (n : Needle) (i : Nat) (hi : i < 8 * n.data.length) :
    encode v n = headerBytes n ++ ((be 4 n.data.length ++ (n.data ++ (n.flags :: metaBytes n))) ++ tailBytes v n) ∧
    encode v (corruptData n i) =
      headerBytes n ++ ((be 4 n.data.length ++ (flipBit n.data i ++ (n.flags :: metaBytes n))) ++ tailBytes v n) ∧
    flipBit n.data i ≠ n.data :=
  have hs := withData_shape v n (flipBit n.data i) flipBit_length (by omega)
  ⟨hs.1, hs.2, flipBit_ne n.data i hi⟩

/-- non-vacuity: a well-formed needle w.r.t. the concrete CRC, one of its flips, and the verdict computed -/
example : WF crc32c { cookie := 1, id := 2, flags := 0, data := [1, 2, 3], checksum := (crc32c [1, 2, 3]).toNat } ∧
    flipBit [1, 2, 3] 9 = [1, 0, 3] ∧
    (match readBytes crc32c 3 (encode 3 (corruptData
      { cookie := 1, id := 2, flags := 0, data := [1, 2, 3], checksum := (crc32c [1, 2, 3]).toNat } 9)) 8 with
     | .error .crc => true | _ => false) = true := by
  decide +kernel

/-- the standard check value of CRC-32C: crc32c("123456789") = 0xE3069283 -/
example : crc32c [0x31, 0x32, 0x33, 0x34, 0x35, 0x36, 0x37, 0x38, 0x39] = 0xE3069283 := by decide +kernel

theorem bridge_consts :
    SwV.Gen.C02.NeedleHeaderSize = 16 ∧ SwV.Gen.C02.NeedlePaddingSize = 8 ∧ SwV.Gen.C02.NeedleChecksumSize = 4 ∧
    SwV.Gen.C02.TimestampSize = 8 ∧ SwV.Gen.C02.CookieSize = 4 ∧ SwV.Gen.C02.NeedleIdSize = 8 ∧ SwV.Gen.C02.SizeSize = 4 ∧
    SwV.Gen.C02.LastModifiedBytesLength = 5 ∧ SwV.Gen.C02.TtlBytesLength = 2 ∧
    SwV.Gen.C02.Version2 = 2 ∧ SwV.Gen.C02.Version3 = 3 ∧ SwV.Gen.C02.CurrentVersion = 3 := by decide +kernel

theorem bridge_flags :
    SwV.Gen.C02.FlagIsCompressed = 0x01 ∧ SwV.Gen.C02.FlagHasName = 0x02 ∧ SwV.Gen.C02.FlagHasMime = 0x04 ∧
    SwV.Gen.C02.FlagHasLastModifiedDate = 0x08 ∧ SwV.Gen.C02.FlagHasTtl = 0x10 ∧ SwV.Gen.C02.FlagHasPairs = 0x20 ∧
    SwV.Gen.C02.FlagIsChunkManifest = 0x80 := by decide +kernel

/-- the translated `PaddingLength` is the model's int32 version (the one the scanner and `ReadData` apply to sizes
    read from disk) for EVERY size and version, wrap-arounds included: the remainder of a division by 8 fits an
    int32, so the translator's wrap around it does nothing -/
theorem gen_paddingLength (size : Int) (v : Nat) :
    SwV.Gen.C02.PaddingLength size v = paddingLengthI size v := by
  have b1 := Int.tmod_lt_of_pos (wrap32 (16 + size + 4 + tsLen v)) (b := 8) (by decide)
  have b2 := Int.lt_tmod_of_pos (wrap32 (16 + size + 4 + tsLen v)) (b := 8) (by decide)
  unfold paddingLengthI
  rw [← SwV.Go.wrapS_id (n := 31) (x := Int.tmod _ 8) (by omega) (by omega)]
  unfold SwV.Gen.C02.PaddingLength tsLen
  by_cases hv : v = 3
  · subst hv; simp only [SwV.Go.wrapS_add_left, Int.cast_ofNat_Int, decide_true, if_true]; rfl
  · have : ¬ ((v : Int) = 3) := by omega
    simp only [SwV.Go.wrapS_add_left, this, hv, decide_false, Bool.false_eq_true, if_false, Int.cast_ofNat_Int, Int.add_zero]; rfl

/-- `NeedleBodyLength` computes in int64 -/
theorem gen_bodyLength (size : Int) (v : Nat) :
    SwV.Gen.C02.NeedleBodyLength size v = SwV.Go.wrapS 64 (bodyLengthI size v) := by
  unfold bodyLengthI SwV.Gen.C02.NeedleBodyLength tsLen
  rw [gen_paddingLength]
  by_cases hv : v = 3
  · subst hv; simp only [SwV.Go.wrapS_add_left, SwV.Go.wrapS_add_right, Int.cast_ofNat_Int, decide_true, if_true]
  · have : ¬ ((v : Int) = 3) := by omega
    simp only [SwV.Go.wrapS_add_left, SwV.Go.wrapS_add_right, this, hv, decide_false, Bool.false_eq_true, if_false, Int.cast_ofNat_Int,
      Int.add_zero]

/-- the translated `PaddingLength` / `NeedleBodyLength` / `GetActualSize` agree with the model on every size a
    needle can have (int32, no overflow), versions 2 and 3 -/
theorem bridge_sizes (size : Nat) (v : Nat) (hv : v = 2 ∨ v = 3) (h : size + 28 < 2 ^ 31) :
    SwV.Gen.C02.PaddingLength size v = (paddingLength size v : Nat) ∧
    SwV.Gen.C02.NeedleBodyLength size v = (bodyLength size v : Nat) ∧
    SwV.Gen.C02.GetActualSize size v = (actualSize size v : Nat) := by
  -- `hv` is not needed: `gen_paddingLength` and `gen_bodyLength` hold for every version number
  have _ := hv
  have ht := tsLen_le v
  have hpr := padding_range size v
  have hb : SwV.Gen.C02.NeedleBodyLength size v = (bodyLength size v : Nat) := by
    rw [gen_bodyLength, bodyLengthI_eq size v h, SwV.Go.wrapS_id] <;> unfold bodyLength <;> omega
  refine ⟨(gen_paddingLength _ v).trans (paddingLengthI_eq size v h), hb, ?_⟩
  unfold SwV.Gen.C02.GetActualSize
  rw [hb, SwV.Go.wrapS_id]
  · unfold actualSize; omega
  all_goals unfold bodyLength; omega

/-- the translated `CRC.Value` (rotate by 15 and add 0xa282ead8) is the model's `crcValue` on every 32-bit value -/
theorem bridge_crc_value (c : Nat) (h : c < 2 ^ 32) : SwV.Gen.C02.CRC_Value c = (crcValue c : Nat) := by
  have hl : (c >>> 15 ||| (c <<< 17) % 2 ^ 32) < 2 ^ 32 :=
    Nat.or_lt_two_pow (by rw [Nat.shiftRight_eq_div_pow]; omega) (Nat.mod_lt _ (Nat.two_pow_pos 32))
  have a1 : (((c : Int) / 2 ^ 15) % 2 ^ 32).toNat = c >>> 15 := by
    rw [Nat.shiftRight_eq_div_pow]; omega
  have a2 : ((((c : Int) * 2 ^ 17) % 2 ^ 32) % 2 ^ 32).toNat = (c <<< 17) % 2 ^ 32 := by
    rw [Nat.shiftLeft_eq]; omega
  simp only [SwV.Gen.C02.CRC_Value, crcValue, SwV.Go.bor, SwV.Go.bitop, SwV.Go.wrapU, SwV.Go.shr, SwV.Go.shl,
    show (15 : Int).toNat = 15 from rfl, show (17 : Int).toNat = 17 from rfl, a1, a2, Int.ofNat_eq_natCast]
  rw [show Nat.lor (c >>> 15) ((c <<< 17) % 2 ^ 32) = (c >>> 15 ||| (c <<< 17) % 2 ^ 32) from rfl]
  generalize (c >>> 15 ||| (c <<< 17) % 2 ^ 32) = L at hl ⊢
  omega

/-- pins: the functions the model transcribes by hand have not changed since the model was written -/
theorem bridge_source_pins :
    SwV.Gen.C02.src_prepareWriteBuffer = "1482cf2b3f3182c9" ∧ SwV.Gen.C02.src_ReadBytes = "746f309f11ec61a4" ∧
    SwV.Gen.C02.src_readNeedleDataVersion2 = "1731c4fa7fd5bc48" ∧ SwV.Gen.C02.src_ScanVolumeFileFrom = "e0e92ede8f6b97e9" := by
  decide +kernel

example : WF (fun _ => 0) { cookie := 1, id := 2, flags := 0x3f, data := [1, 2, 3], name := [65], ttl := some (3, 2) } := by
  decide +kernel
example : WF (fun _ => 0) { cookie := 1, id := 2, flags := 0, data := [] } := by decide +kernel
example : (encode 3 { cookie := 1, id := 2, flags := 0, data := [7] }).length = 40 := by decide +kernel
example : (visitsOf 3 8 [{ cookie := 1, id := 2, flags := 0, data := [7] }, { cookie := 1, id := 3, flags := 0, data := [] }]).map (·.offset)
    = [8, 48] := by decide +kernel

end SwV.Props.C02
