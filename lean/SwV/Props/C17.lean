/-
C17  File content is the last-writer-wins overlay of its chunks.

The theorems are about the MODEL of weed/filer (SwV.Model.C17, tied to the Go code by the
correspondence check) and quantify over ALL chunk trees, windows, buffers and — for the
order produced by the unstable sort.Slice — over EVERY permutation of the resolved chunks
that is sorted by the comparator (`IsOrderOf`).  `Newest cs p c` (Spec): c is a chunk of cs
covering p and no chunk of cs covering p is newer in (mtime, file key) order.

Hypotheses that appear and why:
* `wellFormed ns`  — a manifest's declared [offset, offset+size) contains its chunks
  (mergeIntoManifest writes exactly that; ResolveChunkManifest skips a manifest by its extent);
* `fileSize` is at least every chunk's end (FileSize(entry) = max(TotalSize, attr size)) and < 2^63;
* the window of ViewFromChunks / StreamContent is bounded (`size ≠ maxInt64`; `hstop` in `views_eq_overlay`) or the whole
  file (offset 0, size MaxInt64): MaxInt64 is the code's "to the end" size, and with an offset > 0 it is not treated;
* zero-size chunks need no hypothesis: ResolveChunkManifest drops them (`resolve_drops_empty`);
  MergeIntoVisibles itself is NOT correct for them (`zero_size_breaks_merge`).
* ties in (mtime, key): every statement that takes an `order` holds for every admissible one (those about
  `viewFromChunks`, `streamContent`, `shownAt` and `compact` speak of the model's stable order); with `KeysDistinct`
  the shown chunk is unique (`newest_unique`, `order_unique`).

The read and stream theorems are three facts put together: what the view list of a window shows
(`views_eq_overlay`; `Denotes` is its conclusion as a structure), what each loop delivers over ANY sorted
view list (ending below the file size for the read loop, lying inside the window for the stream loop) in terms
of the byte the list denotes (`viewByte`: `readAcc_spec`, `streamLoop_spec`, `streamLoop_open`, with a fetch
oracle `readLoopF_spec`), and `Denotes.byteOk`: a denoted byte is a legal content byte.
-/
import SwV.Lemmas.C17b
import SwV.Lemmas.C17c
import SwV.Lemmas.C17d
import SwV.Lemmas.C17e
import SwV.Lemmas.C17f
import SwV.Gen.C17
namespace SwV.Props.C17
open SwV.Model.C17 SwV.Spec.C17 SwV.Lemmas.C17

/-- `order` is a possible result of the sort.Slice call for the window [lo, hi): a permutation of the
    resolved chunks that is sorted by (mtime, key) -/
def IsOrderOf (order : List Chunk) (lo hi : Nat) (ns : List Node) : Prop :=
  order.Perm (resolveList lo hi ns) ∧ SortedBy order

/-- the views ViewFromChunks returns when the sort leaves the chunks in `order` -/
def viewsOfOrder (order : List Chunk) (offset size : Nat) : List View :=
  viewsOfVisibles (visibles order) offset size

/-- the model's stable sort is one admissible order (ViewFromChunks is `viewsOfOrder` of it: `viewFromChunks_eq`) -/
theorem model_order (lo hi : Nat) (ns : List Node) : IsOrderOf (sortChunks (resolveList lo hi ns)) lo hi ns :=
  ⟨sortChunks_perm _, sortChunks_sorted _⟩

/-- the whole-file window (offset 0, size MaxInt64) in the form the window theorems take -/
theorem IsOrderOf.whole {order : List Chunk} {ns : List Node} (ho : IsOrderOf order 0 maxInt64 ns) :
    IsOrderOf order 0 (0 + maxInt64) ns := (Nat.zero_add maxInt64).symm ▸ ho

theorem viewStop_whole : viewStop 0 maxInt64 = 0 + maxInt64 := by decide

theorem viewStop_bounded {size : Nat} (h : size ≠ maxInt64) (offset : Nat) : viewStop offset size = offset + size :=
  if_neg h

theorem streamStop_bounded {size : Nat} (h : size ≠ maxInt64) (offset : Nat) : streamStop offset size = offset + size :=
  if_neg h

theorem viewFromChunks_eq (ns : List Node) (offset size : Nat) :
    viewFromChunks ns offset size = viewsOfOrder (sortChunks (resolveList offset (offset + size) ns)) offset size := rfl

/-- for every list of positive-size chunks, MergeIntoVisibles folded over it yields sorted, disjoint,
    non-empty intervals that show at every position exactly the LAST chunk of the list covering it, at the
    right inner offset -/
theorem visibles_eq_overlay (cs : List Chunk) (hcs : ∀ c ∈ cs, 0 < c.size) :
    VInv (visibles cs) (specOf cs) :=
  SwV.Lemmas.C17.visibles_eq_overlay cs hcs

example : ∀ c ∈ [({ off := 0, size := 3, mtime := 1, fid := 1, key := 1 } : Chunk)], 0 < c.size := by decide

/-- ResolveChunkManifest never hands a zero-size chunk (or a chunk outside the tree) to the merge -/
theorem resolve_drops_empty (lo hi : Nat) (ns : List Node) (c : Chunk) (h : c ∈ resolveList lo hi ns) :
    c ∈ flatten ns ∧ 0 < c.size := resolveList_sub lo hi ns c h

/-- …and it must: with a zero-size chunk in the list MergeIntoVisibles produces overlapping intervals
    (A=[0,3) then the empty Z=[0,0) then B=[1,2): Z lands behind A, so B takes the `last.stop <= offset` fast path) -/
theorem zero_size_breaks_merge :
    ¬ (visibles [⟨0, 3, 1, 1, 1⟩, ⟨0, 0, 2, 2, 2⟩, ⟨1, 1, 3, 3, 3⟩]).Pairwise (fun a b => a.stop ≤ b.start) := by
  decide +kernel

theorem order_pos {order : List Chunk} {lo hi : Nat} {ns : List Node} (ho : IsOrderOf order lo hi ns) :
    ∀ c ∈ order, 0 < c.size := fun c hc => (resolveList_sub lo hi ns c (ho.1.mem_iff.1 hc)).2

/-- inside the window an admissible order holds exactly the chunks of a well-formed tree that cover p -/
theorem order_covering {order : List Chunk} {lo hi : Nat} {ns : List Node} (hw : wellFormed ns = true)
    (ho : IsOrderOf order lo hi ns) {p : Nat} (hlo : lo ≤ p) (hhi : p < hi) (c : Chunk) (hc : covers c p) :
    c ∈ order ↔ c ∈ flatten ns :=
  ho.1.mem_iff.trans ⟨fun h => (resolveList_sub lo hi ns c h).1, resolveList_complete lo hi p hlo hhi ns c hc hw⟩

theorem newest_of_order {order : List Chunk} {lo hi : Nat} {ns : List Node} (hw : wellFormed ns = true)
    (ho : IsOrderOf order lo hi ns) {p : Nat} (hlo : lo ≤ p) (hhi : p < hi) {c : Chunk}
    (h : lastCov order p = some c) : Newest (flatten ns) p c :=
  newest_congr (order_covering hw ho hlo hhi) (lastCov_newest ho.2 h)

theorem hole_of_order {order : List Chunk} {lo hi : Nat} {ns : List Node} (hw : wellFormed ns = true)
    (ho : IsOrderOf order lo hi ns) {p : Nat} (hlo : lo ≤ p) (hhi : p < hi)
    (h : lastCov order p = none) : ∀ c ∈ flatten ns, ¬ covers c p :=
  fun c hc hv => lastCov_none h c ((order_covering hw ho hlo hhi c hv).2 hc) hv

/-- ViewFromChunks / ViewFromVisibleIntervals (window clipping): for every well-formed chunk tree, every window
    [offset, offset+size) whose end the clipping does not replace by MaxInt64 (`hstop`: size ≠ MaxInt64, or
    offset = 0) and every admissible sort order, the views are sorted, disjoint, non-empty,
    inside the window; a view covering p shows a NEWEST chunk of the whole tree covering p at the right
    offset inside that chunk; a position of the window in no view is covered by no chunk. -/
theorem views_eq_overlay (ns : List Node) (hw : wellFormed ns = true) (offset size : Nat)
    (hstop : viewStop offset size = offset + size)
    (order : List Chunk) (ho : IsOrderOf order offset (offset + size) ns) :
    let ws := viewsOfOrder order offset size
    VSorted ws ∧ (∀ w ∈ ws, 0 < w.size ∧ offset ≤ w.logic ∧ w.logic + w.size ≤ offset + size) ∧
    ∀ p, offset ≤ p → p < offset + size →
      (∀ w ∈ ws, vcov w p → ∃ c, Newest (flatten ns) p c ∧ w.fid = c.fid ∧ w.csize = c.size ∧ w.off + (p - w.logic) = p - c.off) ∧
      ((∀ w ∈ ws, ¬ vcov w p) → ∀ c ∈ flatten ns, ¬ covers c p) := by
  intro ws
  have inv := SwV.Lemmas.C17.visibles_eq_overlay order (order_pos ho)
  refine ⟨views_sorted inv.sorted offset size, ?_, ?_⟩
  · intro w hw'
    exact hstop ▸ views_window offset size hw'
  · intro p hlo hhi
    constructor
    · intro w hw' hc
      obtain ⟨mt, hf⟩ := views_sem_some inv offset size p hw' hc
      rw [specOf_eq] at hf
      cases hl : lastCov order p with
      | none => rw [hl] at hf; cases hf
      | some c =>
        rw [hl] at hf
        simp only [Option.map_some, Option.some.injEq, shows, Prod.mk.injEq] at hf
        exact ⟨c, newest_of_order hw ho hlo hhi hl, hf.1.symm, hf.2.2.1.symm, hf.2.2.2.symm⟩
    · intro hn
      have hf := views_sem_none inv offset size p hlo (by rw [hstop]; exact hhi) hn
      rw [specOf_eq] at hf
      cases hl : lastCov order p with
      | none => exact hole_of_order hw ho hlo hhi hl
      | some c => rw [hl] at hf; cases hf

example : viewStop 3 5 = 3 + 5 := by decide
example : viewStop 0 maxInt64 = 0 + maxInt64 := by decide

/-- `ws` shows the content of `cs` on [lo, hi): sorted non-empty views inside the window, each showing a newest chunk
    at the right inner offset, and no covered position of the window left out -/
structure Denotes (cs : List Chunk) (lo hi : Nat) (ws : List View) : Prop where
  sorted : VSorted ws
  inside : ∀ w ∈ ws, 0 < w.size ∧ lo ≤ w.logic ∧ w.logic + w.size ≤ hi
  newest : ∀ p, lo ≤ p → p < hi → ∀ w ∈ ws, vcov w p →
    ∃ c, Newest cs p c ∧ w.fid = c.fid ∧ w.csize = c.size ∧ w.off + (p - w.logic) = p - c.off
  hole : ∀ p, lo ≤ p → p < hi → (∀ w ∈ ws, ¬ vcov w p) → ∀ c ∈ cs, ¬ covers c p

theorem denotes (ns : List Node) (hw : wellFormed ns = true) (offset size : Nat)
    (hstop : viewStop offset size = offset + size) (order : List Chunk) (ho : IsOrderOf order offset (offset + size) ns) :
    Denotes (flatten ns) offset (offset + size) (viewsOfOrder order offset size) :=
  have h := views_eq_overlay ns hw offset size hstop order ho
  ⟨h.1, h.2.1, fun p hlo hhi => (h.2.2 p hlo hhi).1, fun p hlo hhi => (h.2.2 p hlo hhi).2⟩

theorem denotes_whole {ns : List Node} (hw : wellFormed ns = true) {order : List Chunk} (ho : IsOrderOf order 0 maxInt64 ns) :
    Denotes (flatten ns) 0 (0 + maxInt64) (viewsOfOrder order 0 maxInt64) :=
  denotes ns hw 0 maxInt64 viewStop_whole order ho.whole

namespace Denotes
variable {cs : List Chunk} {lo hi : Nat} {ws : List View}

/-- the byte a view list denotes is a legal content byte (window form of the main theorem) -/
theorem byteOk (D : Denotes cs lo hi ws) (data : Nat → Nat → Nat) {p : Nat} (hlo : lo ≤ p) (hhi : p < hi) :
    ByteOk data cs p (viewByte data ws p) := by
  unfold viewByte
  cases hf : ws.find? (fun w => decide (vcov w p)) with
  | none =>
    right
    refine ⟨D.hole p hlo hhi ?_, rfl⟩
    intro w hw' hc
    exact List.find?_eq_none.1 hf w hw' (decide_eq_true hc)
  | some w =>
    left
    have hc : vcov w p := by simpa using List.find?_some hf
    obtain ⟨c, hn, e1, _, e3⟩ := D.newest p hlo hhi w (List.mem_of_find?_eq_some hf) hc
    exact ⟨c, hn, by simp only [e1, e3]⟩

/-- a view ends at most where a non-empty chunk ends: it shows such a chunk at its last position -/
theorem end_le (D : Denotes cs lo hi ws) {w : View} (hw' : w ∈ ws) :
    ∃ c ∈ cs, 0 < c.size ∧ w.logic + w.size ≤ c.off + c.size := by
  obtain ⟨h0, h1, h2⟩ := D.inside w hw'
  -- q, the last position of w, lies in the window
  generalize hq : w.logic + w.size - 1 = q
  have hq' : lo ≤ q ∧ q < hi ∧ w.logic ≤ q ∧ q < w.logic + w.size := by omega
  obtain ⟨c, hn, -⟩ := D.newest q hq'.1 hq'.2.1 w hw' hq'.2.2
  have hcov : c.off ≤ q ∧ q < c.off + c.size := hn.2.1
  have : 0 < c.size ∧ w.logic + w.size ≤ c.off + c.size := by omega
  exact ⟨c, hn.1, this⟩

/-- hence every view ends below a bound of the chunks' ends (the file size) -/
theorem below (D : Denotes cs lo hi ws) {F : Nat} (hF : ∀ c ∈ cs, c.off + c.size ≤ F) :
    ∀ w ∈ ws, w.logic + w.size ≤ F := fun _ hw' =>
  have ⟨c, hc, _, hle⟩ := D.end_le hw'
  Nat.le_trans hle (hF c hc)

theorem covered (D : Denotes cs lo hi ws) {p : Nat} (hlo : lo ≤ p) (hhi : p < hi) {c : Chunk} (hc : c ∈ cs)
    (hcov : covers c p) : ∃ w ∈ ws, vcov w p :=
  Classical.byContradiction fun hne => D.hole p hlo hhi (fun w hw' hv => hne ⟨w, hw', hv⟩) c hc hcov

/-- a rendered stretch of the window: as long as asked, every byte a legal content byte -/
theorem rendered (D : Denotes cs lo hi ws) (data : Nat → Nat → Nat) {a n : Nat} (ha : lo ≤ a) (hn : a + n ≤ hi)
    {out : List Nat} (hout : out = (List.range' a n).map (viewByte data ws)) :
    out.length = n ∧ ∀ i, i < n → ByteOk data cs (a + i) (out.getD i 0) := by
  subst hout
  refine ⟨by simp, fun i hi => ?_⟩
  rw [getD_map_range' hi]
  exact D.byteOk data (Nat.le_add_right_of_le ha) (by omega)

end Denotes

/-- the read loop + tail: over a sorted view list that ends below the file size, a window of `len` bytes at `offset`
    gets min len (fileSize - offset) bytes, byte i being the byte the views denote at offset+i (0 in gaps and in
    the tail) -/
theorem readAcc_spec (data : Nat → Nat → Nat) (ws : List View) (hs : VSorted ws) (fileSize : Nat)
    (hF : ∀ w ∈ ws, w.logic + w.size ≤ fileSize) (len offset : Nat) :
    readAcc data ws fileSize len offset = (List.range' offset (min len (fileSize - offset))).map (viewByte data ws) := by
  unfold readAcc
  obtain ⟨h, -, d⟩ := readLoop_reading data (F := fileSize) (a := offset) (e := offset + len) (viewByte data ws) ws
    ⟨offset, len, []⟩ hs hF (fun _ _ => rfl)
    ⟨Nat.le_refl _, (Nat.add_sub_cancel_left ..).symm, by simp, Or.inl (Nat.min_eq_left (Nat.le_add_right ..))⟩
  generalize readLoop data ws ⟨offset, len, []⟩ = s' at h d
  have hlo := h.lo
  have hrem := h.rem
  simp only
  rw [h.acc]
  split
  · -- the window goes on behind the last view: zeros up to the file size or the window end
    rename_i ht
    have hpe : s'.pos ≤ offset + len := Nat.le_of_lt (Nat.lt_of_sub_pos (hrem ▸ ht.1))
    rw [zeros_eq_viewByte data ws s'.pos _ (fun q h1 _ w hw hc =>
      Nat.lt_irrefl _ (Nat.lt_of_lt_of_le hc.2 (Nat.le_trans (d ht.1 w hw) h1))), ← List.map_append,
      Nat.min_eq_left hpe, hrem, Nat.sub_min_sub_right,
      range'_append_range' hlo (Nat.le_min.2 ⟨hpe, Nat.le_of_lt ht.2⟩), ← Nat.sub_min_sub_right, Nat.add_sub_cancel_left]
  · -- the window was filled, or the reader stands at or behind the file size (at it, or it never moved)
    have hb := h.bound
    rcases Nat.le_total s'.pos (offset + len) with hpe | hpe
    · rw [Nat.min_eq_left hpe] at hb ⊢
      congr 2
      omega
    · rw [Nat.min_eq_right hpe] at hb ⊢
      congr 2
      omega

/-- doReadAt: the bytes of `readAcc_spec`, EOF iff the window reaches the file size, the rest of the buffer left alone -/
theorem readAt_spec (data : Nat → Nat → Nat) (ws : List View) (hs : VSorted ws) (fileSize : Nat)
    (hF : ∀ w ∈ ws, w.logic + w.size ≤ fileSize) (p : List Nat) (offset : Nat) :
    readAt data ws fileSize p offset =
      (min p.length (fileSize - offset), decide (fileSize ≤ offset + p.length),
        (List.range' offset (min p.length (fileSize - offset))).map (viewByte data ws) ++ p.drop (min p.length (fileSize - offset))) := by
  unfold readAt
  simp only [readAcc_spec data ws hs fileSize hF, List.length_map, List.length_range']

/-- MAIN THEOREM.  For every well-formed chunk tree (nested manifests included), every admissible sort order, every
    file size ≥ the chunks' extent and ≤ MaxInt64, every window (offset, buffer p — whatever it contained): ReadAt returns
    n = min |p| (fileSize - offset) bytes; each returned byte is the byte of a NEWEST chunk (in (mtime,key)
    order) covering its position, or 0 where no chunk covers it (holes and the tail below the file size);
    err = EOF iff offset+|p| ≥ fileSize; the buffer beyond n is untouched. -/
theorem readAt_eq_overlay (data : Nat → Nat → Nat) (ns : List Node) (hw : wellFormed ns = true)
    (order : List Chunk) (ho : IsOrderOf order 0 maxInt64 ns)
    (fileSize : Nat) (hfs : ∀ c ∈ flatten ns, c.off + c.size ≤ fileSize) (hmax : fileSize ≤ maxInt64)
    (p : List Nat) (offset : Nat) :
    let r := readAt data (viewsOfOrder order 0 maxInt64) fileSize p offset
    r.1 = min p.length (fileSize - offset) ∧
    r.2.1 = decide (fileSize ≤ offset + p.length) ∧
    r.2.2.length = p.length ∧
    (∀ i, i < r.1 → ByteOk data (flatten ns) (offset + i) (r.2.2.getD i 0)) ∧
    r.2.2.drop r.1 = p.drop r.1 := by
  have D := denotes_whole hw ho
  intro r
  have hr : r = _ := readAt_spec data _ D.sorted fileSize (D.below hfs) p offset
  rw [hr]
  refine ⟨rfl, rfl, ?_, ?_, ?_⟩
  · simp only [List.length_append, List.length_map, List.length_range', List.length_drop]
    exact Nat.add_sub_cancel' (Nat.min_le_left _ _)
  · intro i hi
    simp only at hi
    have hlt : i < ((List.range' offset (min p.length (fileSize - offset))).map (viewByte data (viewsOfOrder order 0 maxInt64))).length := by
      simpa using hi
    rw [List.getD_eq_getElem?_getD, List.getElem?_append_left hlt, ← List.getD_eq_getElem?_getD, getD_map_range' hi]
    exact D.byteOk data (Nat.zero_le _) (by omega)
  · exact List.drop_left' (by simp)

example : IsOrderOf (sortChunks (resolveList 0 maxInt64 [.data ⟨0, 3, 1, 1, 1⟩])) 0 maxInt64 [.data ⟨0, 3, 1, 1, 1⟩] :=
  model_order _ _ _

/-- the same for the model's own (stable) order, i.e. for what `viewFromChunks` computes -/
theorem readAt_eq_overlay_model (data : Nat → Nat → Nat) (ns : List Node) (hw : wellFormed ns = true)
    (fileSize : Nat) (hfs : ∀ c ∈ flatten ns, c.off + c.size ≤ fileSize) (hmax : fileSize ≤ maxInt64)
    (p : List Nat) (offset : Nat) :
    let r := readAt data (viewFromChunks ns 0 maxInt64) fileSize p offset
    r.1 = min p.length (fileSize - offset) ∧ r.2.1 = decide (fileSize ≤ offset + p.length) ∧ r.2.2.length = p.length ∧
    (∀ i, i < r.1 → ByteOk data (flatten ns) (offset + i) (r.2.2.getD i 0)) ∧ r.2.2.drop r.1 = p.drop r.1 :=
  readAt_eq_overlay data ns hw _ (model_order 0 maxInt64 ns) fileSize hfs hmax p offset

/-- ReadAt over a whole entry of `size` bytes whose chunks all end below `size` (what the upload path and the page
    writer read back): `size` bytes, each the content byte of its position -/
theorem readAcc_whole (data : Nat → Nat → Nat) (cs : List Chunk) {size : Nat}
    (hin : ∀ c ∈ cs, c.off + c.size ≤ size) (hmax : size ≤ maxInt64) :
    let r := readAcc data (viewFromChunks (cs.map Node.data) 0 maxInt64) size size 0
    r.length = size ∧ ∀ i, i < size → ByteOk data cs i (r.getD i 0) := by
  have D := denotes_whole (wellFormed_map_data cs) (model_order 0 maxInt64 (cs.map Node.data))
  rw [flatten_map_data] at D
  have key := readAcc_spec data _ D.sorted size (D.below hin) size 0
  rw [Nat.sub_zero, Nat.min_self] at key
  have hr := D.rendered data (Nat.le_refl 0) (by omega) key
  exact ⟨hr.1, fun i hi => by have := hr.2 i hi; rwa [Nat.zero_add] at this⟩

def KeysDistinct (cs : List Chunk) : Prop := ∀ a ∈ cs, ∀ b ∈ cs, a.mtime = b.mtime → a.key = b.key → a = b

theorem keyLe_antisymm {cs : List Chunk} (hd : KeysDistinct cs) {a b : Chunk} (ha : a ∈ cs) (hb : b ∈ cs)
    (h1 : keyLe a b) (h2 : keyLe b a) : a = b := by
  apply hd a ha b hb <;> (unfold keyLe at h1 h2; omega)

theorem newest_unique {cs : List Chunk} (hd : KeysDistinct cs) {p : Nat} {c c' : Chunk}
    (h : Newest cs p c) (h' : Newest cs p c') : c = c' :=
  keyLe_antisymm hd h.1 h'.1 (h'.2.2 c h.1 h.2.1) (h.2.2 c' h'.1 h'.2.1)

/-- with distinct (mtime, key) the content of every position is determined: ReadAt is a function of the chunk SET -/
theorem byteOk_unique (data : Nat → Nat → Nat) {cs : List Chunk} (hd : KeysDistinct cs) {p b b' : Nat}
    (h : ByteOk data cs p b) (h' : ByteOk data cs p b') : b = b' := by
  rcases h with ⟨c, hc, rfl⟩ | ⟨hn, rfl⟩ <;> rcases h' with ⟨c', hc', rfl⟩ | ⟨hn', rfl⟩
  · rw [newest_unique hd hc hc']
  · exact absurd hc.2.1 (hn' c hc.1)
  · exact absurd hc'.2.1 (hn c' hc'.1)
  · rfl

/-- …and sort.Slice has no choice: all admissible orders coincide -/
theorem order_unique {lo hi : Nat} {ns : List Node} (hd : KeysDistinct (resolveList lo hi ns))
    {o1 o2 : List Chunk} (h1 : IsOrderOf o1 lo hi ns) (h2 : IsOrderOf o2 lo hi ns) : o1 = o2 :=
  List.Perm.eq_of_pairwise (le := keyLe)
    (fun _ _ ha hb hab hba => keyLe_antisymm hd (h1.1.mem_iff.1 ha) (h2.1.mem_iff.1 hb) hab hba) h1.2 h2.2
    (h1.1.trans h2.1.symm)

example : KeysDistinct [⟨0, 3, 1, 1, 1⟩, ⟨1, 3, 1, 2, 2⟩] := by
  intro a ha b hb; simp at ha hb; rcases ha with rfl | rfl <;> rcases hb with rfl | rfl <;> simp

/-- the chunk the reader shows at p for the chunk list cs (model order) -/
def shownAt (cs : List Chunk) (p : Nat) : Option Chunk :=
  lastCov (sortChunks (resolveList 0 maxInt64 (cs.map Node.data))) p

theorem shownAt_newest {cs : List Chunk} {p : Nat} (hp : p < maxInt64) {c : Chunk} (h : shownAt cs p = some c) :
    Newest cs p c := by
  have := newest_of_order (wellFormed_map_data cs) (model_order 0 maxInt64 (cs.map Node.data)) (Nat.zero_le p) hp h
  rwa [flatten_map_data] at this

theorem shownAt_exists {cs : List Chunk} {p : Nat} (hp : p < maxInt64) {c : Chunk} (hc : c ∈ cs) (hcov : covers c p) :
    ∃ c', shownAt cs p = some c' ∧ Newest cs p c' := by
  cases h : shownAt cs p with
  | some c' => exact ⟨c', rfl, shownAt_newest hp h⟩
  | none =>
    exfalso
    have := hole_of_order (wellFormed_map_data cs) (model_order 0 maxInt64 (cs.map Node.data)) (Nat.zero_le p) hp h
    rw [flatten_map_data] at this
    exact this c hc hcov

/-- every chunk the reader shows anywhere is kept by the compaction -/
theorem compact_keeps_shown (cs : List Chunk) {p : Nat} {c : Chunk} (h : shownAt cs p = some c) :
    c ∈ (compact cs).1 := by
  unfold shownAt at h
  have ho := model_order 0 maxInt64 (cs.map Node.data)
  have inv := SwV.Lemmas.C17.visibles_eq_overlay _ (order_pos ho)
  have hf : specOf (sortChunks (resolveList 0 maxInt64 (cs.map Node.data))) p = some (shows c p) := by
    rw [specOf_eq, h]; rfl
  obtain ⟨v, hv, _, hval⟩ := (inv.sem p (shows c p)).2 hf
  have hfid : v.fid = c.fid := congrArg Prod.fst hval
  have hcs : c ∈ cs := by
    have := (resolveList_sub 0 maxInt64 _ c (ho.1.mem_iff.1 (lastCov_newest ho.2 h).1)).1
    rwa [flatten_map_data] at this
  unfold compact
  simp only [List.mem_filter, List.contains_eq_mem, List.mem_map, decide_eq_true_eq]
  exact ⟨hcs, v, hv, hfid⟩

/-- garbage = the chunks whose file id is visible nowhere: compacted and garbage partition the list,
    and a garbage chunk is never the one shown -/
theorem compact_garbage (cs : List Chunk) :
    ((compact cs).1 ++ (compact cs).2).Perm cs ∧
    ∀ g ∈ (compact cs).2, g ∈ cs ∧ ∀ p c, shownAt cs p = some c → c.fid ≠ g.fid := by
  constructor
  · exact List.filter_append_perm _ cs
  · intro g hg
    have hg' : g ∈ cs ∧ _ := List.mem_filter.1 hg
    refine ⟨hg'.1, ?_⟩
    intro p c hs hfid
    -- c is kept, so its file id is among the visible ones; g's is not
    have hk := compact_keeps_shown cs hs
    unfold compact at hk hg'
    simp only [List.mem_filter] at hk
    have h1 := hk.2
    have h2 := hg'.2
    rw [hfid] at h1
    rw [h1] at h2
    exact absurd h2 Bool.false_ne_true

/-- CompactFileChunks never changes the content.  For every chunk list with distinct
    (mtime,key), every position below MaxInt64 and every byte value b: b is the content byte of the compacted list at p
    iff it is the content byte of the original list at p. -/
theorem compact_preserves (data : Nat → Nat → Nat) (cs : List Chunk) (hd : KeysDistinct cs) (p : Nat) (hp : p < maxInt64) (b : Nat) :
    ByteOk data (compact cs).1 p b ↔ ByteOk data cs p b := by
  have hsub : ∀ c ∈ (compact cs).1, c ∈ cs := fun c hc => (List.mem_filter.1 hc).1
  -- the newest chunk of cs at p is kept
  have hkeep : ∀ c, Newest cs p c → Newest (compact cs).1 p c := by
    intro c hn
    obtain ⟨c', hs, hn'⟩ := shownAt_exists hp hn.1 hn.2.1
    have := newest_unique hd hn hn'
    subst this
    exact ⟨compact_keeps_shown cs hs, hn.2.1, fun c'' hc'' => hn.2.2 c'' (hsub c'' hc'')⟩
  constructor
  · rintro (⟨c, hn, rfl⟩ | ⟨hn, rfl⟩)
    · left
      obtain ⟨c', -, hn'⟩ := shownAt_exists hp (hsub c hn.1) hn.2.1
      have hk := hkeep c' hn'
      have : c = c' := keyLe_antisymm hd (hsub c hn.1) hn'.1 (hn'.2.2 c (hsub c hn.1) hn.2.1) (hn.2.2 c' hk.1 hk.2.1)
      subst this
      exact ⟨c, hn', rfl⟩
    · right
      refine ⟨?_, rfl⟩
      intro c hc hcov
      obtain ⟨c', -, hn'⟩ := shownAt_exists hp hc hcov
      have hk := hkeep c' hn'
      exact hn c' hk.1 hk.2.1
  · rintro (⟨c, hn, rfl⟩ | ⟨hn, rfl⟩)
    · left; exact ⟨c, hkeep c hn, rfl⟩
    · right; exact ⟨fun c hc => hn c (hsub c hc), rfl⟩

/-- the extent mergeIntoManifest writes contains the batch -/
theorem mkManifest_wellFormed (fid : Nat) (batch : List Chunk) (rest : List Node) (h : wellFormed rest = true) :
    wellFormed (mkManifest fid batch :: rest) = true := by
  unfold mkManifest
  simp only [wellFormed_manifest, flatten_map_data, wellFormed_map_data, h, Bool.and_true, List.all_eq_true, decide_eq_true_eq]
  intro c hc
  have h1 := (foldl_min_le Chunk.off batch maxInt64).2 c hc
  have h2 : c.off + c.size ≤ _ := (le_foldl_max Chunk.stop batch 0).2 c hc
  omega

theorem batchLoop_flatten (k : Nat) : ∀ (fuel fid : Nat) (ds : List Chunk), flatten (batchLoop k fuel fid ds) = ds
  | 0, _, ds => by simp [batchLoop, flatten_map_data]
  | fuel + 1, fid, ds => by
    unfold batchLoop
    split
    · unfold mkManifest
      simp only [flatten_manifest, flatten_map_data, batchLoop_flatten k fuel (fid + 1) (ds.drop k), List.take_append_drop]
    · exact flatten_map_data ds

theorem batchLoop_wellFormed (k : Nat) : ∀ (fuel fid : Nat) (ds : List Chunk), wellFormed (batchLoop k fuel fid ds) = true
  | 0, _, ds => by simp [batchLoop, wellFormed_map_data]
  | fuel + 1, fid, ds => by
    unfold batchLoop
    split
    · exact mkManifest_wellFormed fid _ _ (batchLoop_wellFormed k fuel (fid + 1) (ds.drop k))
    · exact wellFormed_map_data ds

theorem split_perm : ∀ (ns : List Node), (flatten (ns.filter isManifest) ++ ns.filterMap nodeChunk).Perm (flatten ns)
  | [] => by simp [flatten]
  | .data c :: ns => by
    simp only [List.filter_cons, isManifest, Bool.false_eq_true, if_false, List.filterMap_cons, nodeChunk, flatten_data]
    exact List.perm_middle.trans ((split_perm ns).cons c)
  | .manifest o s f ch :: ns => by
    simp only [List.filter_cons, isManifest, if_true, List.filterMap_cons, nodeChunk, flatten_manifest, List.append_assoc]
    exact (split_perm ns).append_left _

theorem wellFormed_filter : ∀ (ns : List Node), wellFormed ns = true → wellFormed (ns.filter isManifest) = true
  | [], _ => by simp [wellFormed]
  | .data c :: ns, h => by
    simp only [List.filter_cons, isManifest, Bool.false_eq_true, if_false]
    exact wellFormed_filter ns (wellFormed_data c ns ▸ h)
  | .manifest o s f ch :: ns, h => by
    simp only [List.filter_cons, isManifest, if_true]
    simp only [wellFormed_manifest, Bool.and_eq_true] at h ⊢
    exact ⟨h.1, wellFormed_filter ns h.2⟩

/-- for every batch size and every tree doMaybeManifestize only regroups the data chunks: the chunks of the
    result are a permutation of the chunks of the input, and the result is well-formed if the input is -/
theorem manifestize_flatten (k base : Nat) (ns : List Node) :
    (flatten (manifestize k base ns)).Perm (flatten ns) ∧
    (wellFormed ns = true → wellFormed (manifestize k base ns) = true) := by
  unfold manifestize
  constructor
  · rw [flatten_append, batchLoop_flatten]
    exact split_perm ns
  · intro h
    rw [wellFormed_append, wellFormed_filter ns h, batchLoop_wellFormed]; rfl

/-- …hence the content is unchanged: a byte is a legal content byte of the manifestized file iff it is one of the original -/
theorem manifestize_preserves (data : Nat → Nat → Nat) (k base : Nat) (ns : List Node) (p b : Nat) :
    ByteOk data (flatten (manifestize k base ns)) p b ↔ ByteOk data (flatten ns) p b :=
  byteOk_congr data fun _ _ => (manifestize_flatten k base ns).1.mem_iff

/-- reading a manifestized file (any batch size, any admissible order) yields legal content bytes of the ORIGINAL chunks -/
theorem readAt_after_manifestize (data : Nat → Nat → Nat) (k base : Nat) (ns : List Node) (hw : wellFormed ns = true)
    (order : List Chunk) (ho : IsOrderOf order 0 maxInt64 (manifestize k base ns))
    (fileSize : Nat) (hfs : ∀ c ∈ flatten ns, c.off + c.size ≤ fileSize) (hmax : fileSize ≤ maxInt64)
    (p : List Nat) (offset : Nat) :
    let r := readAt data (viewsOfOrder order 0 maxInt64) fileSize p offset
    r.1 = min p.length (fileSize - offset) ∧
    (∀ i, i < r.1 → ByteOk data (flatten ns) (offset + i) (r.2.2.getD i 0)) := by
  have hp := (manifestize_flatten k base ns)
  have := readAt_eq_overlay data (manifestize k base ns) (hp.2 hw) order ho fileSize
    (fun c hc => hfs c (hp.1.mem_iff.1 hc)) hmax p offset
  intro r
  exact ⟨this.1, fun i hi => (manifestize_preserves data k base ns _ _).1 (this.2.2.2.1 i hi)⟩

/-! ### fetch faults (cache misses; `ok fid` = the fetch of blob fid succeeds) — for ALL oracles -/

/-- the fault-free result in readAtF's shape (0 = nil, 1 = io.EOF) -/
def liftRead (r : Nat × Bool × List Nat) : Nat × Nat × List Nat := (r.1, if r.2.1 then 1 else 0, r.2.2)

theorem readAtF_code (ok : Nat → Bool) (data : Nat → Nat → Nat) (views : List View) (fileSize : Nat) (p : List Nat) (offset : Nat) :
    (readAtF ok data views fileSize p offset).2.1 = 2 ↔
      (readLoopF ok data views { pos := offset, rem := p.length, acc := [] }).2 = true := by
  unfold readAtF
  simp only []
  generalize readLoopF ok data views { pos := offset, rem := p.length, acc := [] } = r
  obtain ⟨s, e⟩ := r
  cases e with
  | true => simp
  | false =>
    simp only [Bool.false_eq_true, if_false, iff_false]
    split <;> simp

/-- whatever fails: if ReadAt does not report the fetch error, its whole result is the fault-free result -/
theorem readAtF_no_error (ok : Nat → Bool) (data : Nat → Nat → Nat) (views : List View) (fileSize : Nat) (p : List Nat) (offset : Nat)
    (h : (readAtF ok data views fileSize p offset).2.1 ≠ 2) :
    readAtF ok data views fileSize p offset = liftRead (readAt data views fileSize p offset) := by
  have hs := readLoopF_spec ok data views { pos := offset, rem := p.length, acc := [] }
  split at hs
  · simp [readAtF, liftRead, readAt, readAcc, hs]
  · exact absurd ((readAtF_code ok data views fileSize p offset).2 hs) h

/-- the error is reported exactly when a blob the fault-free read fetches cannot be fetched -/
theorem readAtF_error_iff (ok : Nat → Bool) (data : Nat → Nat → Nat) (views : List View) (fileSize : Nat) (p : List Nat) (offset : Nat) :
    (readAtF ok data views fileSize p offset).2.1 = 2 ↔
      ∃ f ∈ usedFids data views { pos := offset, rem := p.length, acc := [] }, ok f = false := by
  have hs := readLoopF_spec ok data views { pos := offset, rem := p.length, acc := [] }
  rw [readAtF_code]
  split at hs
  · next h =>
    rw [hs]
    exact ⟨fun e => Bool.noConfusion e, fun ⟨f, hf, hk⟩ => Bool.noConfusion ((h f hf).symm.trans hk)⟩
  · next h => exact ⟨fun _ => by simpa using h, fun _ => hs⟩

/-- no spurious errors: if every fetch succeeds the result is the fault-free one -/
theorem readAtF_all_ok (ok : Nat → Bool) (hok : ∀ f, ok f = true) (data : Nat → Nat → Nat) (views : List View) (fileSize : Nat) (p : List Nat) (offset : Nat) :
    readAtF ok data views fileSize p offset = liftRead (readAt data views fileSize p offset) := by
  apply readAtF_no_error
  intro h
  obtain ⟨f, _, hk⟩ := (readAtF_error_iff ok data views fileSize p offset).1 h
  rw [hok f] at hk; cases hk

/-- FAULT THEOREM, part 1.  For every well-formed chunk tree, admissible order, file size as in the main theorem, window, buffer and EVERY fetch oracle: ReadAt either
    reports the fetch error, or returns exactly what the fault-free read returns — n = min |p| (fileSize-offset) bytes, each
    the byte of a newest chunk covering its position or 0 in holes/tail, EOF iff the window reaches the file size.
    Bytes handed out with a nil/EOF error are never anything but overlay bytes. -/
theorem readAtF_overlay_or_error (ok : Nat → Bool) (data : Nat → Nat → Nat) (ns : List Node) (hw : wellFormed ns = true)
    (order : List Chunk) (ho : IsOrderOf order 0 maxInt64 ns)
    (fileSize : Nat) (hfs : ∀ c ∈ flatten ns, c.off + c.size ≤ fileSize) (hmax : fileSize ≤ maxInt64)
    (p : List Nat) (offset : Nat) :
    let r := readAtF ok data (viewsOfOrder order 0 maxInt64) fileSize p offset
    r.2.1 = 2 ∨
    (r.1 = min p.length (fileSize - offset) ∧ (r.2.1 = 1 ↔ fileSize ≤ offset + p.length) ∧ r.2.2.length = p.length ∧
      (∀ i, i < r.1 → ByteOk data (flatten ns) (offset + i) (r.2.2.getD i 0)) ∧ r.2.2.drop r.1 = p.drop r.1) := by
  intro r
  by_cases h : r.2.1 = 2
  · exact Or.inl h
  · right
    have hr : r = liftRead (readAt data (viewsOfOrder order 0 maxInt64) fileSize p offset) := readAtF_no_error ok data _ fileSize p offset h
    obtain ⟨a1, a2, a3, a4, a5⟩ := readAt_eq_overlay data ns hw order ho fileSize hfs hmax p offset
    rw [hr]
    unfold liftRead
    refine ⟨a1, ?_, a3, a4, a5⟩
    simp only [a2]
    by_cases hle : fileSize ≤ offset + p.length <;> simp [hle]

/-- FAULT THEOREM, part 2.  If a byte of the window is covered by a chunk and no newest chunk covering it can be fetched,
    ReadAt reports an error (it cannot obtain the bytes the property promises, so it must not succeed). -/
theorem readAtF_unfetchable_is_error (ok : Nat → Bool) (data : Nat → Nat → Nat) (ns : List Node) (hw : wellFormed ns = true)
    (order : List Chunk) (ho : IsOrderOf order 0 maxInt64 ns) (fileSize : Nat) (p : List Nat) (offset : Nat)
    (q : Nat) (h1 : offset ≤ q) (h2 : q < offset + p.length) (hq : q < maxInt64)
    (hcov : ∃ c ∈ flatten ns, covers c q) (hbad : ∀ c, Newest (flatten ns) q c → ok c.fid = false) :
    (readAtF ok data (viewsOfOrder order 0 maxInt64) fileSize p offset).2.1 = 2 := by
  have D := denotes_whole hw ho
  have hq' : q < 0 + maxInt64 := by omega
  obtain ⟨c, hc, hcc⟩ := hcov
  obtain ⟨w, hw', hv⟩ := D.covered (Nat.zero_le q) hq' hc hcc
  obtain ⟨c', hn, hfid, -⟩ := D.newest q (Nat.zero_le q) hq' w hw' hv
  -- the view w covers q inside the window, so its blob is one the read fetches, and that blob is c''s
  exact (readAtF_error_iff ok data _ fileSize p offset).2
    ⟨w.fid, usedFids_of_cov data _ { pos := offset, rem := p.length, acc := [] } D.sorted w hw' q hv h1 h2, hfid ▸ hbad c' hn⟩

example : (readAtF (fun _ => false) (fun f i => f * 10 + i) (viewFromChunks [.data ⟨0, 2, 1, 1, 1⟩] 0 maxInt64) 2 [9, 9] 0).2.1 = 2 := by
  -- `List.mergeSort` goes by well-founded recursion and does not evaluate under `decide`: the resolved list and its
  -- sorted form are put in by lemma, the rest is evaluated (so in the other concrete witnesses below and in Props/C25)
  have hr : resolveList 0 (0 + maxInt64) [.data ⟨0, 2, 1, 1, 1⟩] = [⟨0, 2, 1, 1, 1⟩] := by
    simp [resolveList, resolveNode, outside, maxInt64]
  have hsrt : sortChunks [⟨0, 2, 1, 1, 1⟩] = [⟨0, 2, 1, 1, 1⟩] := List.mergeSort_of_pairwise (by decide)
  unfold viewFromChunks nonOverlapping
  rw [hr, hsrt]
  decide +kernel

/-! ### StreamContent (finding `StreamContent/hole-not-zero-filled`, repaired in /repo: the gaps are written as zeros)

Before the repair the views were written back to back (a sparse file streamed short, every byte after the first hole
shifted); the theorems below are about the repaired loop `streamLoop` and hold without a no-hole hypothesis. -/

/-- STREAM THEOREM (bounded window — what the filer's HTTP read handler calls with the Content-Length it promised).
    For every well-formed chunk tree, every window [offset, offset+size) with size ≠ MaxInt64 and every admissible sort order:
    StreamContent writes exactly `size` bytes, byte i being the byte of a NEWEST chunk covering offset+i, or 0 where no
    chunk covers it (holes before, between and after the chunks). -/
theorem streamContent_eq_overlay (data : Nat → Nat → Nat) (ns : List Node) (hw : wellFormed ns = true) (offset size : Nat)
    (hsz : size ≠ maxInt64) (order : List Chunk) (ho : IsOrderOf order offset (offset + size) ns) :
    let out := streamLoop data (streamStop offset size) (viewsOfOrder order offset size) offset
    out = (List.range' offset size).map (viewByte data (viewsOfOrder order offset size)) ∧
    out.length = size ∧
    ∀ i, i < size → ByteOk data (flatten ns) (offset + i) (out.getD i 0) := by
  have D := denotes ns hw offset size (viewStop_bounded hsz offset) order ho
  have key := streamLoop_spec data (offset + size) _ offset D.sorted (fun w h => (D.inside w h).2)
  rw [Nat.add_sub_cancel_left, ← streamStop_bounded hsz offset] at key
  exact ⟨key, D.rendered data (Nat.le_refl _) (Nat.le_refl _) key⟩

example : (5 : Nat) ≠ maxInt64 := by decide

/-- the same for the model's own order, i.e. for what `streamContent` computes -/
theorem streamContent_eq_overlay_model (data : Nat → Nat → Nat) (ns : List Node) (hw : wellFormed ns = true) (offset size : Nat)
    (hsz : size ≠ maxInt64) :
    streamContent data ns offset size = (List.range' offset size).map (viewByte data (viewFromChunks ns offset size)) ∧
    (streamContent data ns offset size).length = size ∧
    ∀ i, i < size → ByteOk data (flatten ns) (offset + i) ((streamContent data ns offset size).getD i 0) :=
  streamContent_eq_overlay data ns hw offset size hsz _ (model_order offset (offset + size) ns)

theorem le_extent {cs : List Chunk} {c : Chunk} (h : c ∈ cs) : c.off + c.size ≤ extent cs :=
  (le_foldl_max (fun c : Chunk => c.off + c.size) cs 0).2 c h

theorem extent_le {cs : List Chunk} {B : Nat} (h : ∀ c ∈ cs, c.off + c.size ≤ B) : extent cs ≤ B :=
  foldl_max_le _ B cs 0 (Nat.zero_le _) h

/-- when the window [0, H) holds every chunk, its views end at the largest end of a non-empty chunk: no view reaches beyond
    such a chunk (`Denotes.end_le`), and the last byte of each of them lies in a view (`Denotes.covered`) -/
theorem streamEnd_whole {cs : List Chunk} {ws : List View} {H : Nat} (D : Denotes cs 0 H ws)
    (hmax : ∀ c ∈ cs, c.off + c.size ≤ H) :
    streamEnd ws 0 = extent (cs.filter fun c => decide (0 < c.size)) := by
  apply Nat.le_antisymm
  · refine streamEnd_le _ _ 0 D.sorted (fun w h => ?_) (Nat.zero_le _)
    obtain ⟨c, hc, hpos, hle⟩ := D.end_le h
    exact ⟨Nat.zero_le _, Nat.le_trans hle (le_extent (List.mem_filter.2 ⟨hc, decide_eq_true hpos⟩))⟩
  · refine extent_le fun c hc => ?_
    obtain ⟨hc1, hc2⟩ := List.mem_filter.1 hc
    have hpos : 0 < c.size := of_decide_eq_true hc2
    have hm := hmax c hc1
    obtain ⟨w, h, hv⟩ := D.covered (p := c.off + c.size - 1) (Nat.zero_le _) (by omega) hc1 (by unfold covers; omega)
    have := (streamEnd_ge ws 0).2 w h
    unfold vcov at hv
    omega

/-- STREAM THEOREM (whole file: offset 0, size MaxInt64 — fs.cat, filer.cat, ReadEntry, the meta-event reader).
    The stream is the content of [0, E), E = the largest end of a non-empty chunk: every byte the newest chunk's, 0 in holes. -/
theorem streamContent_whole_eq_overlay (data : Nat → Nat → Nat) (ns : List Node) (hw : wellFormed ns = true)
    (hmax : ∀ c ∈ flatten ns, c.off + c.size ≤ maxInt64)
    (order : List Chunk) (ho : IsOrderOf order 0 maxInt64 ns) :
    let out := streamLoop data (streamStop 0 maxInt64) (viewsOfOrder order 0 maxInt64) 0
    let E := extent ((flatten ns).filter fun c => decide (0 < c.size))
    out = (List.range' 0 E).map (viewByte data (viewsOfOrder order 0 maxInt64)) ∧
    out.length = E ∧
    ∀ i, i < E → ByteOk data (flatten ns) i (out.getD i 0) := by
  have D := denotes_whole hw ho
  have key := streamLoop_open data _ 0 D.sorted (fun w _ => Nat.zero_le _)
  rw [streamEnd_whole D hmax, Nat.sub_zero] at key
  intro out E
  have hEmax : E ≤ maxInt64 := extent_le fun c hc => hmax c (List.mem_filter.1 hc).1
  have hr := D.rendered data (Nat.zero_le 0) (by omega) (key : out = _)
  exact ⟨key, hr.1, fun i hi => by have := hr.2 i hi; rwa [Nat.zero_add] at this⟩

theorem streamContent_whole_eq_overlay_model (data : Nat → Nat → Nat) (ns : List Node) (hw : wellFormed ns = true)
    (hmax : ∀ c ∈ flatten ns, c.off + c.size ≤ maxInt64) :
    let E := extent ((flatten ns).filter fun c => decide (0 < c.size))
    streamContent data ns 0 maxInt64 = (List.range' 0 E).map (viewByte data (viewFromChunks ns 0 maxInt64)) ∧
    (streamContent data ns 0 maxInt64).length = E ∧
    ∀ i, i < E → ByteOk data (flatten ns) i ((streamContent data ns 0 maxInt64).getD i 0) := by
  have ho : IsOrderOf (sortChunks (resolveList 0 (0 + maxInt64) ns)) 0 maxInt64 ns := model_order 0 maxInt64 ns
  exact streamContent_whole_eq_overlay data ns hw hmax _ ho

example : ∀ c ∈ flatten [.data ⟨0, 2, 1, 1, 1⟩, .data ⟨4, 2, 2, 2, 2⟩], c.off + c.size ≤ maxInt64 := by
  intro c hc; simp [flatten] at hc; rcases hc with rfl | rfl <;> simp [maxInt64]

/-- the witness of the finding (chunks [0,2) and [4,6), window [0,6)): the hole is zero-filled -/
theorem streamContent_fills_holes :
    streamContent (fun f i => f * 10 + i) [.data ⟨0, 2, 1, 1, 1⟩, .data ⟨4, 2, 2, 2, 2⟩] 0 6 = [10, 11, 0, 0, 20, 21] := by
  have hr : resolveList 0 (0 + 6) [.data ⟨0, 2, 1, 1, 1⟩, .data ⟨4, 2, 2, 2, 2⟩] = [⟨0, 2, 1, 1, 1⟩, ⟨4, 2, 2, 2, 2⟩] := by
    simp [resolveList, resolveNode, outside]
  have hsrt : sortChunks [⟨0, 2, 1, 1, 1⟩, ⟨4, 2, 2, 2, 2⟩] = [⟨0, 2, 1, 1, 1⟩, ⟨4, 2, 2, 2, 2⟩] :=
    List.mergeSort_of_pairwise (by decide)
  unfold streamContent viewFromChunks nonOverlapping
  rw [hr, hsrt]
  decide +kernel

/-- the repair changes nothing for dense windows: without a hole in [offset, offset+size) the repaired loop writes
    exactly the back-to-back concatenation of the views, which is what the code wrote before the repair -/
theorem streamContent_dense_unchanged (data : Nat → Nat → Nat) (ns : List Node) (hw : wellFormed ns = true) (offset size : Nat)
    (hsz : size ≠ maxInt64)
    (hnh : ∀ p, offset ≤ p → p < offset + size → ∃ c ∈ flatten ns, covers c p) :
    streamContent data ns offset size =
      (viewFromChunks ns offset size).flatMap fun v => (List.range' v.off v.size).map (data v.fid) := by
  have D := denotes ns hw offset size (viewStop_bounded hsz offset) _ (model_order offset (offset + size) ns)
  unfold streamContent
  rw [streamStop_bounded hsz offset, viewFromChunks_eq]
  refine streamLoop_dense data (offset + size) _ offset D.sorted D.inside fun p hp1 hp2 => ?_
  obtain ⟨c, hc, hcov⟩ := hnh p hp1 hp2
  exact D.covered hp1 hp2 hc hcov

example : ∀ p, 0 ≤ p → p < 0 + 2 → ∃ c ∈ flatten [.data ⟨0, 2, 1, 1, 1⟩], covers c p := by
  intro p _ h; exact ⟨⟨0, 2, 1, 1, 1⟩, by simp [flatten], by unfold covers; simp; omega⟩

/-! ### read windows and file size after doMaybeManifestize (judge clauses `doMaybeManifestize/window-content-changed`,
`…/window-wrong-length`, `…/file-size-changed`)

A whole-file resolution overlaps every manifest of non-empty extent, so it cannot see a manifest whose advertised extent is narrower than its
chunks; a WINDOW beyond the advertised end skips the manifest (the filter of ResolveChunkManifest).  The theorems below say
that for the extent `mkManifest` writes — [min offset, max stop) of the batch — every bounded window of the manifestized
file still reads the content of the ORIGINAL chunks and TotalSize is unchanged; the judges are run by the driver on the
real code's windows (op `mw`). -/

/-- WINDOW THEOREM after manifestize: for every well-formed tree, batch size, bounded window and admissible order, StreamContent over the
    manifestized list writes exactly `size` bytes, each a legal content byte of the ORIGINAL chunks -/
theorem streamContent_after_manifestize (data : Nat → Nat → Nat) (k base : Nat) (ns : List Node) (hw : wellFormed ns = true)
    (offset size : Nat) (hsz : size ≠ maxInt64) (order : List Chunk)
    (ho : IsOrderOf order offset (offset + size) (manifestize k base ns)) :
    let out := streamLoop data (streamStop offset size) (viewsOfOrder order offset size) offset
    out.length = size ∧ ∀ i, i < size → ByteOk data (flatten ns) (offset + i) (out.getD i 0) := by
  have hp := manifestize_flatten k base ns
  have h := streamContent_eq_overlay data (manifestize k base ns) (hp.2 hw) offset size hsz order ho
  intro out
  exact ⟨h.2.1, fun i hi => (manifestize_preserves data k base ns _ _).1 (h.2.2 i hi)⟩

example : IsOrderOf (sortChunks (resolveList 20 (20 + 1) (manifestize 2 900 [.data ⟨10, 10, 1, 1, 1⟩, .data ⟨0, 30, 2, 2, 2⟩])))
    20 (20 + 1) (manifestize 2 900 [.data ⟨10, 10, 1, 1, 1⟩, .data ⟨0, 30, 2, 2, 2⟩]) := model_order _ _ _

/-- …hence the judge of a bounded window after manifestize accepts the model's output on every well-formed tree -/
theorem manifestize_window_judge (data : Nat → Nat → Nat) (k base : Nat) (ns : List Node) (hw : wellFormed ns = true)
    (offset size : Nat) (hsz : size ≠ maxInt64) :
    manifestWindowJudge data (flatten ns) offset size (streamContent data (manifestize k base ns) offset size) = none := by
  have h := streamContent_after_manifestize data k base ns hw offset size hsz _ (model_order offset (offset + size) _)
  have hv : streamContent data (manifestize k base ns) offset size =
      streamLoop data (streamStop offset size) (viewsOfOrder (sortChunks (resolveList offset (offset + size) (manifestize k base ns))) offset size) offset := rfl
  unfold manifestWindowJudge
  rw [hv, if_neg (not_not_intro h.1), if_pos]
  rw [List.all_eq_true]
  intro i hi
  have hi' : i < size := List.mem_range.1 hi
  have hb := h.2 i hi'
  have hlen : i < (streamLoop data (streamStop offset size) (viewsOfOrder (sortChunks (resolveList offset (offset + size) (manifestize k base ns))) offset size) offset).length := by
    rw [h.1]; exact hi'
  rw [List.getD_eq_getElem?_getD, List.getElem?_eq_getElem hlen] at hb ⊢
  exact byteOk_of_ByteOk data _ _ _ hb

/-- the seeded witness shape: batch [10,20) then [0,30) (the later chunk widens the extent on both sides), window [20,21) -/
example : manifestWindowJudge (fun f i => f * 100 + i + 1) (flatten [.data ⟨10, 10, 1, 1, 1⟩, .data ⟨0, 30, 2, 2, 2⟩]) 20 1
    (streamContent (fun f i => f * 100 + i + 1) (manifestize 2 900 [.data ⟨10, 10, 1, 1, 1⟩, .data ⟨0, 30, 2, 2, 2⟩]) 20 1) = none :=
  manifestize_window_judge _ 2 900 _ (by simp [wellFormed]) 20 1 (by decide)

/-- the judge is not vacuous: a manifest advertising [0,20) for that batch (what an `else if` in the min/max scan produces)
    is skipped by the window [20,21), which then reads a zero instead of the newest chunk's byte -/
theorem manifest_narrow_extent_caught :
    manifestWindowJudge (fun f i => f * 100 + i + 1) [⟨10, 10, 1, 1, 1⟩, ⟨0, 30, 2, 2, 2⟩] 20 1
      (streamContent (fun f i => f * 100 + i + 1) [.manifest 0 20 900 [.data ⟨10, 10, 1, 1, 1⟩, .data ⟨0, 30, 2, 2, 2⟩]] 20 1)
      = some "doMaybeManifestize/window-content-changed" := by
  have hr : resolveList 20 (20 + 1) [.manifest 0 20 900 [.data ⟨10, 10, 1, 1, 1⟩, .data ⟨0, 30, 2, 2, 2⟩]] = [] := by
    simp [resolveList, resolveNode, outside]
  have hsrt : sortChunks [] = [] := List.mergeSort_of_pairwise (by decide)
  unfold streamContent viewFromChunks nonOverlapping
  rw [hr, hsrt]
  decide +kernel

/-- the end a top-level chunk advertises -/
def nodeEnd : Node → Nat
  | .data c => c.off + c.size
  | .manifest off size _ _ => off + size

theorem advertisedSize_cons (n : Node) (ns : List Node) :
    advertisedSize (n :: ns) = max (nodeEnd n) (advertisedSize ns) := by
  cases n <;> rfl

theorem advertisedSize_append (a b : List Node) : advertisedSize (a ++ b) = max (advertisedSize a) (advertisedSize b) := by
  induction a with
  | nil => exact (Nat.zero_max _).symm
  | cons n a ih => rw [List.cons_append, advertisedSize_cons, advertisedSize_cons, ih, Nat.max_assoc]

theorem advertisedSize_split : ∀ (ns : List Node),
    advertisedSize ns = max (advertisedSize (ns.filter isManifest)) (advertisedSize ((ns.filterMap nodeChunk).map Node.data))
  | [] => rfl
  | .data c :: ns => by
    show _ = max (advertisedSize (ns.filter isManifest)) (advertisedSize (.data c :: (ns.filterMap nodeChunk).map Node.data))
    rw [advertisedSize_cons, advertisedSize_cons, advertisedSize_split ns]
    exact Nat.max_left_comm _ _ _
  | .manifest o s f ch :: ns => by
    show _ = max (advertisedSize (.manifest o s f ch :: ns.filter isManifest)) (advertisedSize ((ns.filterMap nodeChunk).map Node.data))
    rw [advertisedSize_cons, advertisedSize_cons, advertisedSize_split ns, Nat.max_assoc]

theorem foldl_max_eq_advertised (l : List Chunk) : ∀ (init : Nat),
    l.foldl (fun m c => max m c.stop) init = max init (advertisedSize (l.map Node.data)) := by
  induction l with
  | nil => intro init; exact (Nat.max_zero _).symm
  | cons d l ih => intro init; rw [List.foldl_cons, ih, List.map_cons, advertisedSize_cons, Nat.max_assoc]; rfl

/-- the manifest of a non-empty batch advertises exactly the end of the batch -/
theorem mkManifest_advertised (fid : Nat) (batch : List Chunk) (hb : batch ≠ []) (rest : List Node) :
    advertisedSize (mkManifest fid batch :: rest) = max (advertisedSize (batch.map Node.data)) (advertisedSize rest) := by
  obtain ⟨c, hc⟩ := List.exists_mem_of_ne_nil batch hb
  have h1 := (foldl_min_le Chunk.off batch maxInt64).2 c hc
  have h2 : c.off + c.size ≤ _ := (le_foldl_max Chunk.stop batch 0).2 c hc
  rw [← Nat.zero_max (advertisedSize (batch.map Node.data)), ← foldl_max_eq_advertised batch 0]
  show max (_ + (_ - _)) _ = _
  rw [Nat.add_sub_cancel' (by omega)]

theorem batchLoop_advertised (k : Nat) (hk : 1 ≤ k) : ∀ (fuel fid : Nat) (ds : List Chunk),
    advertisedSize (batchLoop k fuel fid ds) = advertisedSize (ds.map Node.data)
  | 0, _, ds => by simp [batchLoop]
  | fuel + 1, fid, ds => by
    unfold batchLoop
    split
    · rename_i hle
      have hne : ds.take k ≠ [] := List.ne_nil_of_length_pos (by rw [List.length_take]; omega)
      rw [mkManifest_advertised fid _ hne, batchLoop_advertised k hk fuel (fid + 1) (ds.drop k), ← advertisedSize_append,
        ← List.map_append, List.take_append_drop]
    · rfl

/-- SIZE THEOREM: for every tree and every merge factor ≥ 1, doMaybeManifestize leaves TotalSize (the largest advertised
    end among the top-level chunks) unchanged -/
theorem manifestize_keeps_size (k base : Nat) (hk : 1 ≤ k) (ns : List Node) :
    manifestSizeJudge (advertisedSize ns) (advertisedSize (manifestize k base ns)) = none := by
  unfold manifestSizeJudge manifestize
  rw [if_pos]
  rw [advertisedSize_append, batchLoop_advertised k hk, ← advertisedSize_split]

example : advertisedSize (manifestize 2 900 [.data ⟨10, 10, 1, 1, 1⟩, .data ⟨0, 30, 2, 2, 2⟩]) = 30 := by decide +kernel

/-- …and the size judge is not vacuous: the narrow manifest of the witness shrinks the file from 30 to 20 bytes -/
example : manifestSizeJudge (advertisedSize [.data ⟨10, 10, 1, 1, 1⟩, .data ⟨0, 30, 2, 2, 2⟩])
    (advertisedSize [.manifest 0 20 900 [.data ⟨10, 10, 1, 1, 1⟩, .data ⟨0, 30, 2, 2, 2⟩]]) = some "doMaybeManifestize/file-size-changed" := by
  decide +kernel

/-! ### bridges to the source facts of `SwV.Gen.C17` (T1) -/

/-- the `min`/`max` helpers of filechunks.go (used by the window filter, the view clipping and the reader)
    are the minimum/maximum the model uses -/
theorem bridge_min (a b : Nat) : SwV.Gen.C17.min (a : Int) (b : Int) = ((Nat.min a b : Nat) : Int) := by
  unfold SwV.Gen.C17.min
  by_cases h : a ≤ b
  · simp [h, Nat.min_eq_left h]
  · have : b ≤ a := Nat.le_of_not_le h
    simp [Nat.min_eq_right this]; omega

theorem bridge_max (a b : Nat) : SwV.Gen.C17.max (a : Int) (b : Int) = ((Nat.max a b : Nat) : Int) := by
  unfold SwV.Gen.C17.max
  by_cases h : a ≤ b
  · simp [h, Nat.max_eq_right h]
  · have : b ≤ a := Nat.le_of_not_le h
    simp [Nat.max_eq_left this]; omega

/-- MaybeManifestize's merge factor is positive: the `1 ≤ k` of `manifestize_keeps_size` (with k = 0 the model's batching
    loop would emit empty manifests; the other `manifestize` theorems hold for every k) -/
theorem bridge_manifest_batch : 0 < SwV.Gen.C17.ManifestBatch := by decide

/-- the source of StreamContent and of its zero writer is the text the model `streamLoop` was written against
    (the `fix:` zero-fill version); an edit of either function breaks this obligation -/
theorem bridge_stream_pins :
    SwV.Gen.C17.src_StreamContent = "617969968f3cefe5" ∧ SwV.Gen.C17.src_writeZero = "b1b4e7d84f01ac68" := ⟨rfl, rfl⟩

end SwV.Props.C17
