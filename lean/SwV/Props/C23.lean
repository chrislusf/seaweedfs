/-
C23 — Path-specific storage rules resolve by longest matching prefix: every field of a match result is that of
the longest rule that prefixes the path and sets the field, and a deleted rule leaves no trace.
All statements are about the executable model in SwV/Model/C23.lean, which the
correspondence check ties to the exported FilerConf API of /repo on every run.
-/
import SwV.Lemmas.C23
import SwV.Gen.C23

namespace SwV.Props.C23
open SwV.Model.C23 SwV.Spec.C23 SwV.Lemmas.C23

/-- every rule set the API can build has distinct, non-empty keys -/
theorem wf_run (ops : List Op) : WF (run ops) := by
  suffices h : ∀ rs, WF rs → WF (ops.foldl applyOp rs) from h [] ⟨List.nodup_nil, nofun⟩
  induction ops with
  | nil => exact fun rs h => h
  | cons op rest ih =>
    intro rs h
    apply ih
    cases op with
    | add k c =>
      simp only [applyOp, addRule]
      by_cases hk : k = []
      · simpa [hk] using h
      · simpa [hk] using WF_putRule h hk c
    | del k => exact WF_delRule h k

/-- refinement: looking a prefix up in the rule set built by ANY history of API calls gives
    what the finite-map reading of that history gives -/
theorem lookup_run (ops : List Op) (q : Key) : List.lookup q (run ops) = denote ops q := by
  suffices h : ∀ rs m, (∀ q, List.lookup q rs = m q) →
      ∀ q, List.lookup q (ops.foldl applyOp rs) = ops.foldl denoteStep m q from
    h [] (fun _ => none) (by simp) q
  induction ops with
  | nil => intro rs m h; exact h
  | cons op rest ih =>
    intro rs m h
    apply ih
    intro q
    cases op with
    | add k c =>
      simp only [applyOp, addRule, denoteStep]
      by_cases hk : k = []
      · simp [hk, h]
      · simp [hk, lookup_putRule, h]
    | del k => simp [applyOp, denoteStep, lookup_delRule, h]

theorem match_ext (r1 r2 : Rules) (h : ∀ q, List.lookup q r1 = List.lookup q r2) (p : Key) :
    matchRule r1 p = matchRule r2 p := by
  have : matchStep r1 p = matchStep r2 p := by
    funext acc i; simp [matchStep, h]
  simp [matchRule, matchUpTo, this]

/-- MAIN: for every well-formed rule set and every path, every field of the match result is the
    value of that field in the LONGEST rule that prefixes the path and sets the field
    (default when no matching rule sets it). -/
theorem match_eq_fieldwise_longest (rs : Rules) (hwf : WF rs) (p : Key) :
    FieldwiseLongest rs p (matchRule rs p) := by
  have go : ∀ {α : Type} (get : Conf → α) (isSet : α → Bool),
      (∀ a b, get (mergePathConf a b) = if isSet (get b) = true then get b else get a) →
      IsLongestSetting rs p get isSet (get {}) (get (matchRule rs p)) :=
    fun get isSet hm => by
      have := upTo_longest get isSet hm rs hwf p p.length
      rw [List.take_length] at this
      exact this
  have hnvl : ∀ b a : List Char, nvl b a = if strSet b = true then b else a := fun b a => by simp [nvl, strSet]
  constructor
  · exact go _ _ (fun a b => hnvl b.collection a.collection)
  · exact go _ _ (fun a b => hnvl b.replication a.replication)
  · exact go _ _ (fun a b => hnvl b.ttl a.ttl)
  · exact go _ _ (by intro a b; simp [mergePathConf, strSet])
  · exact go _ _ (by intro a b; cases hb : b.fsync <;> simp [mergePathConf, boolSet, hb])
  · exact go _ _ (by intro a b; simp [mergePathConf, natSet])
  · exact go _ _ (by intro a b; cases hb : b.readOnly <;> simp [mergePathConf, boolSet, hb])

/-- … in particular after any history of AddLocationConf / DeleteLocationConf calls -/
theorem match_run_fieldwise_longest (ops : List Op) (p : Key) :
    FieldwiseLongest (run ops) p (matchRule (run ops) p) :=
  match_eq_fieldwise_longest _ (wf_run ops) p

/-- the specification is determinate: with distinct keys there is at most one longest setting -/
theorem longest_unique {α : Type} (rs : Rules) (hwf : WF rs) (p : Key) (get : Conf → α) (isSet : α → Bool)
    (dflt v w : α) (hv : IsLongestSetting rs p get isSet dflt v) (hw : IsLongestSetting rs p get isSet dflt w) : v = w := by
  rcases hv with ⟨k, c, hm, hk, hs, hv, hmax⟩ | ⟨hnone, hv⟩ <;> rcases hw with ⟨k', c', hm', hk', hs', hw, hmax'⟩ | ⟨hnone', hw⟩
  · have hlen : k.length = k'.length := Nat.le_antisymm (hmax' k c hm hk hs) (hmax k' c' hm' hk' hs')
    have hkk : k = k' := by
      rw [List.prefix_iff_eq_take.mp hk, List.prefix_iff_eq_take.mp hk', hlen]
    subst hkk
    have h1 := mem_lookup_of_nodup rs hwf.1 k c hm
    have h2 := mem_lookup_of_nodup rs hwf.1 k c' hm'
    rw [h1] at h2
    rw [hv, hw, Option.some.inj h2]
  · exact absurd hs (ne_true_of_eq_false (hnone' k c hm hk))
  · exact absurd hs' (ne_true_of_eq_false (hnone k' c' hm' hk'))
  · rw [hv, hw]

/-- after `DeleteLocationConf k` the settings are those of ANY rule set that agrees with the current one on all
    other prefixes and has no rule at `k` — the deleted rule's contents and the order of earlier calls leave no trace -/
theorem delete_eq_without (rs rs' : Rules) (k : Key)
    (hagree : ∀ q, q ≠ k → List.lookup q rs = List.lookup q rs') (hnone : List.lookup k rs' = none) (p : Key) :
    matchRule (delRule rs k) p = matchRule rs' p := by
  apply match_ext
  intro q
  rw [lookup_delRule]
  by_cases hq : q = k
  · subst hq; simp [hnone]
  · simp [hq, hagree q hq]

/-- in particular adding a rule at an unused prefix and deleting it again gives, for every path, exactly the
    settings of the original rules -/
theorem delete_restores (rs : Rules) (k : Key) (c : Conf) (hfree : List.lookup k rs = none) (p : Key) :
    matchRule (delRule (putRule rs k c) k) p = matchRule rs p :=
  delete_eq_without _ rs k (fun q hq => by rw [lookup_putRule, if_neg hq]) hfree p

/-- what a history does to the map at `q` depends on the map at `q` alone -/
theorem foldl_denoteStep_local (ops : List Op) (q : Key) : ∀ (m1 m2 : Key → Option Conf), m1 q = m2 q →
    ops.foldl denoteStep m1 q = ops.foldl denoteStep m2 q := by
  induction ops with
  | nil => exact fun _ _ h => h
  | cons op rest ih =>
    intro m1 m2 h
    apply ih
    cases op with
    | add k' c' =>
      simp only [denoteStep]
      by_cases e : k' = [] <;> simp [e, h]
    | del k' => simp [denoteStep, h]

/-- an `AddLocationConf` at `k` leaves no trace once `k` is deleted, whatever is called in between and afterwards:
    for every path the settings are those of the same history without that call -/
theorem delete_forgets (pre mid post : List Op) (k : Key) (c : Conf) (p : Key) :
    matchRule (run (pre ++ [.add k c] ++ mid ++ [.del k] ++ post)) p = matchRule (run (pre ++ mid ++ [.del k] ++ post)) p := by
  apply match_ext
  intro q
  rw [lookup_run, lookup_run]
  simp only [denote, List.foldl_append, List.foldl_cons, List.foldl_nil]
  generalize List.foldl denoteStep (fun _ => none) pre = m0
  -- after `del k` the two maps agree everywhere: at `k` both are empty, elsewhere `add k c` changed nothing
  apply foldl_denoteStep_local
  by_cases hq : q = k
  · simp [denoteStep, hq]
  · simp only [denoteStep, hq, if_false]
    apply foldl_denoteStep_local
    by_cases e : k = [] <;> simp [e, hq]

/-- history form: once `k` is deleted, an earlier `AddLocationConf` at `k` that no later call re-adds has left no
    trace: for every path the settings are those of the same history without that call -/
theorem delete_restores_history (pre mid : List Op) (k : Key) (c : Conf)
    (hmid : ∀ op ∈ mid, match op with | .add k' _ => k' ≠ k | .del _ => True) (p : Key) :
    matchRule (run (pre ++ [.add k c] ++ mid ++ [.del k])) p = matchRule (run (pre ++ mid ++ [.del k])) p := by
  have _ := hmid  -- not needed: `delete_forgets` allows any calls in between
  simpa only [List.append_nil] using delete_forgets pre mid [] k c p

example : WF [(['/'], {}), (['/', 'a'], { collection := ['c'] })] := by
  refine ⟨by decide, ?_⟩
  intro r hr
  simp at hr
  rcases hr with rfl | rfl <;> simp

/-- the scenario of the fixed finding DeleteLocationConf/settings-not-restored with shorter names: rules /b/, /b/a,
    /b/a/ ; deleting /b/a keeps /b/a/ in force (path /b/a/y) and leaves /b/ for /b/ay -/
theorem delete_keeps_longer_sibling_witness :
    let rs : Rules := [(['/', 'b', '/'], { collection := ['1'] }), (['/', 'b', '/', 'a'], { collection := ['2'] }),
                       (['/', 'b', '/', 'a', '/'], { collection := ['3'] })]
    (matchRule (delRule rs ['/', 'b', '/', 'a']) ['/', 'b', '/', 'a', '/', 'y']).collection = ['3'] ∧
    (matchRule (delRule rs ['/', 'b', '/', 'a']) ['/', 'b', '/', 'a', 'y']).collection = ['1'] := by decide +kernel

/-- `fsync` cannot be switched off by a longer rule: a rule "sets" a boolean only by `true` (`readOnly` is merged
    the same way) -/
theorem bool_fields_monotone_witness :
    (matchRule [(['/'], { fsync := true, readOnly := true }), (['/', 'a'], { fsync := false })] ['/', 'a', 'b']).fsync = true := by decide +kernel

/-! ## T1 bridges: facts regenerated from the source by `extract` (props/C23/extract.json → `SwV.Gen.C23`)

Each theorem but `bridge_pins` states the text of the decisive Go statements as they stand in the working tree together with the
model expression that mirrors them; an edit to the Go code changes the generated string and breaks the theorem
of that name. -/

/-- `util.Nvl(b, a)`: the first argument that is not the empty string (`nvl`) -/
theorem bridge_nvl :
    SwV.Gen.C23.nvl_cond = "s != \"\"" ∧
    (∀ b a : List Char, nvl b a = if b ≠ [] then b else a) ∧
    (∀ a : List Char, nvl [] a = a) ∧ (∀ (c : Char) (b a : List Char), nvl (c :: b) a = c :: b) :=
  ⟨rfl, fun _ _ => rfl, fun _ => rfl, fun _ _ _ => rfl⟩

/-- `mergePathConf(a, b)` field by field, in source order -/
theorem bridge_merge_strings :
    SwV.Gen.C23.merge_collection = "a.Collection = util.Nvl(b.Collection, a.Collection)" ∧
    SwV.Gen.C23.merge_replication = "a.Replication = util.Nvl(b.Replication, a.Replication)" ∧
    SwV.Gen.C23.merge_ttl = "a.Ttl = util.Nvl(b.Ttl, a.Ttl)" ∧
    SwV.Gen.C23.merge_disk_cond = "b.DiskType != \"\"" ∧ SwV.Gen.C23.merge_disk = "a.DiskType = b.DiskType" ∧
    ∀ a b : Conf,
      (mergePathConf a b).collection = nvl b.collection a.collection ∧
      (mergePathConf a b).replication = nvl b.replication a.replication ∧
      (mergePathConf a b).ttl = nvl b.ttl a.ttl ∧
      (mergePathConf a b).diskType = (if b.diskType ≠ [] then b.diskType else a.diskType) :=
  ⟨rfl, rfl, rfl, rfl, rfl, fun _ _ => ⟨rfl, rfl, rfl, rfl⟩⟩

theorem bridge_merge_flags :
    SwV.Gen.C23.merge_fsync = "a.Fsync = b.Fsync || a.Fsync" ∧
    SwV.Gen.C23.merge_growth_cond = "b.VolumeGrowthCount > 0" ∧
    SwV.Gen.C23.merge_growth = "a.VolumeGrowthCount = b.VolumeGrowthCount" ∧
    SwV.Gen.C23.merge_readonly_cond = "b.ReadOnly" ∧ SwV.Gen.C23.merge_readonly = "a.ReadOnly = b.ReadOnly" ∧
    ∀ a b : Conf,
      (mergePathConf a b).fsync = (b.fsync || a.fsync) ∧
      (mergePathConf a b).growth = (if b.growth > 0 then b.growth else a.growth) ∧
      (mergePathConf a b).readOnly = (if b.readOnly then b.readOnly else a.readOnly) :=
  ⟨rfl, rfl, rfl, rfl, rfl, fun _ _ => ⟨rfl, rfl, rfl⟩⟩

/-- `MatchStorageRule` starts from the empty conf and merges every reported rule INTO it (`matchStep`,
    `matchUpTo`); `AddLocationConf` keys the trie by `LocationPrefix`; `DeleteLocationConf` rebuilds the
    trie from every rule whose key differs (`delRule`). -/
theorem bridge_match_add_delete :
    SwV.Gen.C23.match_start = "pathConf = &filer_pb.FilerConf_PathConf{}" ∧
    SwV.Gen.C23.match_key = "[]byte(path)" ∧
    SwV.Gen.C23.match_merge_into = "pathConf" ∧ SwV.Gen.C23.match_merge_from = "t" ∧
    SwV.Gen.C23.add_key = "[]byte(locConf.LocationPrefix)" ∧ SwV.Gen.C23.add_value = "locConf" ∧
    SwV.Gen.C23.del_skip = "string(key) == locationPrefix" ∧
    SwV.Gen.C23.del_keep_key = "append([]byte{}, key...)" ∧ SwV.Gen.C23.del_keep_value = "value" ∧
    SwV.Gen.C23.del_install = "fc.rules = rules" ∧
    (∀ (rs : Rules) (path : Key) (acc c : Conf) (i : Nat), rs.lookup (path.take (i + 1)) = some c →
      matchStep rs path acc i = mergePathConf acc c) ∧
    (∀ (rs : Rules) (path : Key), matchUpTo rs path 0 = {}) ∧
    (∀ (rs : Rules) (k : Key), delRule rs k = rs.filter fun r => !decide (r.1 = k)) := by
  refine ⟨rfl, rfl, rfl, rfl, rfl, rfl, rfl, rfl, rfl, rfl, ?_, fun _ _ => rfl, ?_⟩
  · intro rs path acc c i h; simp [matchStep, h]
  · intro rs k; simp [delRule]

/-- weakest supplement: hashes of the whole mirrored functions (`MatchStorageRule`'s callback returning
    `true`, i.e. never stopping the descent, is only visible here) -/
theorem bridge_pins :
    SwV.Gen.C23.src_mergePathConf = "a3cfd1da571c2b43" ∧ SwV.Gen.C23.src_Nvl = "4f1b613a066b7610" ∧
    SwV.Gen.C23.src_MatchStorageRule = "8e872fce421dd56d" ∧
    SwV.Gen.C23.src_AddLocationConf = "f43f379e52890807" ∧
    SwV.Gen.C23.src_DeleteLocationConf = "582b58d75707e648" := ⟨rfl, rfl, rfl, rfl, rfl⟩

end SwV.Props.C23
