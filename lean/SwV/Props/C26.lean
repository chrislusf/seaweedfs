/-
C26 — S3 requests take effect only with a valid, permitted signature.

The model (SwV/Model/C26.lean) is tied to the Go code on every run: the harness regenerates the
route table, the auth-type order, the arms of the `authRequest` switch and each handler's own
verifier calls from the SOURCE (go/ast) and from the LIVE mux (`router.Walk`); the driver compares
them with `routes`, `authTypeOf`, `armOf`, `kindOf` (any difference = DIFF), and every request is
replayed through the model (matched route + effect at the filer). `bridge_*` below tie the same
facts as harness/cmd/c26facts writes them to `Gen/C26Routes`, and the constants and source hashes
regenerated by bin/extract into `Gen/C26`.

FULL STATEMENT (false of the code, kept visible):
   ∀ cfg rt rq, enabled cfg → rt ∈ routes → effect cfg rt rq ≥ 1 → authorized cfg rt rq
It fails because `authRequest` returns ErrNone for authTypeStreamingSigned and authTypePostPolicy
without looking at any credential, and only PutObjectHandler / PutObjectPartHandler /
PostPolicyBucketHandler verify these types themselves (`full_statement_is_false_*`).
-/
import SwV.Model.C26
import SwV.Spec.C26
import SwV.Gen.C26
import SwV.Gen.C26Routes
import SwV.Lemmas.C26

namespace SwV.Props.C26
open SwV.Model.C26 SwV.Spec.C26 SwV.Lemmas.C26

/-- shape conditions every row of the real table satisfies (`routes_wf`): only ListBuckets is registered
    without `iam.Auth`, and the handlers that re-verify a streaming seed (whose check hard-codes "Write")
    are registered with ACTION_WRITE -/
def RouteWF (rt : Route) : Prop :=
  ((rt.action == "-") = true → kindOf rt.handler = .listBuckets) ∧
  ((kindOf rt.handler = .putObject ∨ kindOf rt.handler = .putPart) → (rt.action == "-") = false ∧ actionValue rt.action = writeA)

instance (rt : Route) : Decidable (RouteWF rt) := by unfold RouteWF; infer_instance

theorem routes_wf : ∀ rt ∈ routes, RouteWF rt := by decide +kernel

/-- MAIN THEOREM (partial: the hypothesis `hex` excludes the known-finding classes; of these the PostPolicy class
    takes in every form upload of an unverified type whose policy signature verifies, whether or not its signer is
    permitted).
    For ANY well-formed route (in particular every row of the table), any configuration with identities and
    any request: if something reaches the filer, then the request carries an intact signature made with a key
    pair of a configured identity that `canDo` the route's action on the request's bucket (any configured identity
    on the unwrapped ListBuckets route, which has no action), or an anonymous identity may do it. -/
theorem handler_runs_only_if_authorized_partial (cfg : Config) (rt : Route) (rq : Req)
    (hen : enabled cfg = true) (hwf : RouteWF rt)
    (heff : effect cfg rt rq ≥ 1)
    (hex : excludedClass cfg rt rq (effect cfg rt rq) = none) :
    authorized cfg rt rq = true := by
  obtain ⟨hwf1, hwf2⟩ := hwf
  obtain ⟨he, hw⟩ := effect_pos hen heff
  rw [he] at heff hex
  by_cases hact : (rt.action == "-") = true
  · -- unwrapped route: ListBucketsHandler calls authUser itself
    have hk := hwf1 hact
    have hra : routeAction rt = none := if_pos hact
    have hau : authUser cfg rq = true := by
      simp only [handlerEffect, hk, hen, if_true] at heff
      by_cases h : authUser cfg rq = true
      · exact h
      · simp [h] at heff
    rcases authUser_sound hau with hp | ⟨i, hv⟩
    · simp [excludedClass_none_iff, hp, hk] at hex
    · exact authorized_of_vouched hv hra rfl
  · -- route wrapped by iam.Auth
    have hra : routeAction rt = some (actionValue rt.action) := if_neg hact
    obtain ⟨r, har⟩ := hw.resolve_left hact
    rcases authRequest_sound har with hp | ⟨i, hv, hc⟩
    · -- the arm returned ErrNone without verification: the handler verified the streaming seed itself, against "Write"
      obtain ⟨hk, ht, hpv⟩ := pass_handler_verifies hen hp heff hex
      obtain ⟨i, hv, hc⟩ := putVerify_streaming ht hpv
      exact authorized_of_vouched hv (hra.trans (congrArg some (hwf2 hk).2)) hc
    · -- the arm verified a credential (or found the anonymous identity) and `canDo` passed
      exact authorized_of_vouched hv hra hc

/-- the hypotheses of the main theorem are satisfiable on the real table (a signed, permitted PutObject) -/
example : ∃ cfg rt rq, enabled cfg = true ∧ rt ∈ routes ∧ RouteWF rt ∧ effect cfg rt rq ≥ 1 ∧
    excludedClass cfg rt rq (effect cfg rt rq) = none ∧ authorized cfg rt rq = true :=
  ⟨[⟨"w", ["Write".toList], [("AK", "sk")]⟩],
   ⟨"PutObjectHandler", "ACTION_WRITE", "PUT", true, false, [], .none⟩,
   { method := "PUT", bucket := "b1".toList, hasObject := true, query := [], auth := some "AWS4-HMAC-SHA256 Credential=AK",
     sha := streamingContentSHA256, ctype := "", copysrc := "", transport := some ⟨.v4h, "AK", "sk", true⟩, form := none, formBody := false },
   by decide +kernel⟩

/-- Corollary on the gateway as a whole: route matching (first match in registration order) + wrapper + handler. -/
theorem serve_effect_only_if_authorized_partial (cfg : Config) (rq : Req) (i : Nat) (rt : Route)
    (hen : enabled cfg = true) (hm : matchRoute routes rq = some (i, rt))
    (heff : (serve cfg rq).2 ≥ 1)
    (hex : excludedClass cfg rt rq (serve cfg rq).2 = none) :
    authorized cfg rt rq = true := by
  simp only [serve, hm] at heff hex
  exact handler_runs_only_if_authorized_partial cfg rt rq hen (routes_wf rt (matchIdx_mem hm)) heff hex

/-! ### the full statement is false: one `decide` witness per known-finding class, through `serve` on the real table -/

/-- one identity that may do everything; the attacker has NO credential at all -/
def cfgAdmin : Config := [⟨"admin", ["Admin".toList], [("AKADMIN", "skadmin")]⟩]

def bare (method : String) (hasObject : Bool) (query : List (String × String)) : Req :=
  { method := method, bucket := "b1".toList, hasObject := hasObject, query := query, auth := none, sha := "", ctype := "", copysrc := "",
    transport := none, form := none, formBody := false }

/-- unsigned PUT with `x-amz-content-sha256: STREAMING-AWS4-HMAC-SHA256-PAYLOAD` -/
def streamingPut (hasObject : Bool) (query : List (String × String)) (copysrc : String) : Req :=
  { bare "PUT" hasObject query with sha := streamingContentSHA256, copysrc := copysrc }

/-- unsigned POST with `Content-Type: multipart/form-data` -/
def multipartPost (hasObject : Bool) (query : List (String × String)) : Req :=
  { bare "POST" hasObject query with ctype := "multipart/form-data; boundary=x" }

def violates (cfg : Config) (rq : Req) (handler : String) : Bool :=
  match matchRoute routes rq with
  | some (_, rt) => rt.handler == handler && decide ((serve cfg rq).2 ≥ 1) && !authorized cfg rt rq
  | none => false

theorem full_statement_is_false_streaming_PutBucket : violates cfgAdmin (streamingPut false [] "") "PutBucketHandler" = true := by decide +kernel
theorem full_statement_is_false_streaming_CopyObject : violates cfgAdmin (streamingPut true [] "/b2/o") "CopyObjectHandler" = true := by decide +kernel
theorem full_statement_is_false_streaming_CopyObjectPart :
    violates cfgAdmin (streamingPut true [("partNumber", "1"), ("uploadId", "u")] "/b2/o") "CopyObjectPartHandler" = true := by decide +kernel
theorem full_statement_is_false_streaming_PutObjectTagging :
    violates cfgAdmin (streamingPut true [("tagging", "")] "") "PutObjectTaggingHandler" = true := by decide +kernel
theorem full_statement_is_false_streaming_PutObjectPart_lookup :
    violates cfgAdmin (streamingPut true [("partNumber", "1"), ("uploadId", "u")] "") "PutObjectPartHandler" = true := by decide +kernel
/-- …while the handlers that DO verify the streaming seed reject the same unsigned request (no effect beyond the
    upload-id lookup of PutObjectPart) -/
theorem unsigned_streaming_PutObject_rejected : serve cfgAdmin (streamingPut true [] "") = (13, 0) := by decide +kernel
theorem full_statement_is_false_postpolicy_CompleteMultipartUpload :
    violates cfgAdmin (multipartPost true [("uploadId", "u")]) "CompleteMultipartUploadHandler" = true := by decide +kernel
theorem full_statement_is_false_postpolicy_NewMultipartUpload :
    violates cfgAdmin (multipartPost true [("uploads", "")]) "NewMultipartUploadHandler" = true := by decide +kernel
/-- the batch delete is NOT reachable this way: a POST that is classified as POST-policy carries a
    multipart content type, and the PostPolicy row (registered BEFORE DeleteMultipleObjects, no query matcher)
    takes every such bucket-level request; that handler then rejects it for want of a policy signature. -/
theorem multipart_batch_delete_is_taken_by_PostPolicy_route :
    serve cfgAdmin (multipartPost false [("delete", "")]) = (20, 0) := by decide +kernel
/-- the POST-policy bypass cannot reach the batch delete: every request classified as POST-policy that matches the
    DeleteMultipleObjects row also matches the PostPolicy row, which is registered before it -/
theorem postPolicy_type_never_served_by_DeleteMultipleObjects (rq : Req) (h : authTypeOf rq = .postPolicy)
    (i : Nat) (rt : Route) (hm : matchRoute routes rq = some (i, rt)) : rt.handler ≠ "DeleteMultipleObjectsHandler" := by
  intro hd
  obtain ⟨hmeth, hct⟩ := postPolicy_type_facts rq h
  obtain ⟨j, _, hj, hmt, hpre⟩ := matchIdx_first hm
  -- the only row with this handler is row 21, and row 20 is the PostPolicy row
  have hrow : ∀ n < 23, routes[n]?.map (·.handler) = some "DeleteMultipleObjectsHandler" → n = 21 := by decide +kernel
  have hj21 : j = 21 := hrow j (List.getElem?_eq_some_iff.mp hj).1 (Option.map_eq_some_iff.mpr ⟨rt, hj, hd⟩)
  subst hj21
  have hpp := hpre 20 (Nat.lt_add_one 20) _ rfl
  cases hj
  simp [routeMatches, hdrMatches, hmeth, hct] at hmt hpp
  exact absurd hmt (by simp [hpp])

/-- a valid POST policy signed by an identity that may only READ uploads a file -/
theorem full_statement_is_false_PostPolicy_signer_not_permitted :
    violates [⟨"reader", ["Read".toList], [("AKR", "skr")]⟩]
      { multipartPost false [] with form := some ⟨.pol4, "AKR", "skr", true⟩, formBody := true } "PostPolicyBucketHandler" = true := by decide +kernel

/-- On the real table a `pass` arm (streaming: PUT only, POST policy: POST only) can meet a non-verifying handler only
    on these rows (the last one is shadowed by the PostPolicy row, see above). -/
theorem excluded_pairs_on_table :
    (routes.filter fun rt => (rt.method == "PUT" || rt.method == "POST") && kindOf rt.handler == .plain).map (·.handler)
      = ["CopyObjectPartHandler", "CompleteMultipartUploadHandler", "NewMultipartUploadHandler", "PutObjectTaggingHandler",
         "CopyObjectHandler", "PutBucketHandler", "DeleteMultipleObjectsHandler"] := by decide +kernel

/-- streaming needs PUT and POST-policy needs POST: on rows with another method no request is of a `pass` type,
    so for those rows the main theorem holds with NO exclusion -/
theorem no_exclusion_off_put_post (cfg : Config) (rt : Route) (rq : Req) (eff : Nat)
    (hm : rq.method = rt.method) (hput : rt.method ≠ "PUT") (hpost : rt.method ≠ "POST") :
    excludedClass cfg rt rq eff = none := by
  have : armOf (authTypeOf rq) ≠ .pass := by
    intro hp
    rcases arm_pass_iff.mp hp with h | h
    · exact hput (hm ▸ (authTypeOf_streamingSigned h).2)
    · exact hpost (hm ▸ (authTypeOf_postPolicy h).2)
  exact excludedClass_none_iff.mpr (.inl this)

/-- `GetActions` never yields more (action, bucket) pairs than the Allow statements name:
    whatever `canDo` grants on the list GetActions produced, for a non-empty action without a colon, is named by an
    Allow statement of the document. -/
theorem iam_actions_subset (p : List Stmt) (action bucket : Str) (ha : ':' ∉ action) (hne : action ≠ [])
    (h : canDo (getActions p) action bucket = true) : grants p action bucket := by
  obtain ⟨x, hx, hg⟩ := canDo_granted h
  obtain ⟨st, hst, he, res, hres, a, hma, hxa⟩ := getActions_mem p x hx
  exact ⟨st, hst, he, res, hres, a, hma, element_named res a x action bucket hxa ha hne hg⟩

/-- the executable judge the driver runs (`grantsB`) accepts only pairs the specification `grants` names -/
theorem grantsB_sound (p : List Stmt) (action bucket : Str) (h : grantsB p action bucket = true) : grants p action bucket := by
  simp only [grantsB, List.any_eq_true, Bool.and_eq_true, decide_eq_true_eq, Bool.or_eq_true] at h
  obtain ⟨st, hst, he, res, hres, a, ha, hrn, hact⟩ := h
  refine ⟨st, hst, he, res, hres, a, ha, ?_, hact⟩
  unfold resourceNamesB at hrn
  split at hrn
  · rename_i x y z region account pat hs
    simp only [Bool.and_eq_true, decide_eq_true_eq, Bool.or_eq_true] at hrn
    obtain ⟨⟨⟨rfl, rfl⟩, rfl⟩, hpat⟩ := hrn
    refine ⟨region, account, pat, eq_join_of_splitOn hs, ?_⟩
    rcases hpat with hpat | hpat
    · exact Or.inl hpat
    · split at hpat
      · rename_i g sfx hsl
        simp only [Bool.and_eq_true, decide_eq_true_eq] at hpat
        obtain ⟨rfl, hg⟩ := hpat
        exact Or.inr ⟨g, eq_join_of_splitOn hsl, hg⟩
      · simp at hpat
  · simp at hrn

/-- satisfiable: a bucket-scoped wildcard statement grants (and names) Read on a matching bucket -/
example : canDo (getActions [⟨"Allow".toList, ["s3:Get*".toList], ["arn:aws:s3:::b1*/*".toList]⟩]) "Read".toList "b10".toList = true := by decide +kernel

/-- Deny statements, foreign ARNs and unknown actions yield nothing that `canDo` accepts for a non-empty action
    without a colon -/
example : getActions [⟨"Deny".toList, ["s3:*".toList], ["arn:aws:s3:::*".toList]⟩,
                      ⟨"Allow".toList, ["s3:GetObject".toList, "iam:*".toList], ["arn:aws:s3:::b1/*".toList, "arn:aws:iam:::*".toList]⟩]
    = [":b1".toList] := by decide +kernel

/-- T1: the model's route table IS the table `registerRouter` registers (regenerated from the source by
    harness/cmd/c26facts at every check; method, path shape, query matchers, header matcher, handler, ACTION_*),
    and nothing in the source was beyond the model's `Route` vocabulary. Adding, removing, reordering or re-wrapping a
    route breaks this obligation; the theorems above are about `routes`, hence about the regenerated table. -/
theorem bridge_routes : SwV.Gen.C26Routes.routes = routes ∧ SwV.Gen.C26Routes.unknownRouteShapes = [] := ⟨rfl, rfl⟩

/-- the decision order of `getRequestAuthType` and the text of its predicates are what `authTypeOf` transcribes -/
theorem bridge_auth_order :
    SwV.Gen.C26Routes.authOrder = expectedAuthOrder ∧ SwV.Gen.C26Routes.authPreds = expectedPred := ⟨rfl, rfl⟩

/-- every arm of the switch in `authRequest` is the arm `armOf` gives that auth type (in particular WHICH types return
    ErrNone without verification), all nine auth types have an arm, and the code after the switch is the canDo check -/
theorem bridge_auth_arms :
    (SwV.Gen.C26Routes.authCases.all fun c =>
      if c.1 == "default" then c.2 == "notimpl"
      else match authTypeOfName c.1 with
        | some t => armName (armOf t) == c.2
        | none => false) = true ∧
    (["authTypeUnknown", "authTypeAnonymous", "authTypePresigned", "authTypePresignedV2", "authTypePostPolicy",
      "authTypeStreamingSigned", "authTypeSigned", "authTypeSignedV2", "authTypeJWT"].all fun n =>
        (SwV.Gen.C26Routes.authCases.lookup n).isSome) = true ∧
    SwV.Gen.C26Routes.authTail = expectedTail := ⟨by decide +kernel, by decide +kernel, rfl⟩

theorem lookup_isSome_of_mem {α β : Type} [BEq α] [LawfulBEq α] {l : List (α × β)} {k : α} (h : k ∈ l.map (·.1)) :
    (l.lookup k).isSome = true :=
  List.lookup_isSome_iff.mpr ((List.mem_map.mp h).imp fun _ hp => ⟨hp.1, beq_iff_eq.mpr hp.2.symm⟩)

/-- which handlers verify what themselves (`kindOf`): the verifier calls found in each routed handler's body -/
theorem bridge_handler_verifiers :
    (SwV.Gen.C26Routes.handlerVerifiers.all fun hv => expectedVerifiers hv.1 == hv.2) = true ∧
    (routes.all fun rt => (SwV.Gen.C26Routes.handlerVerifiers.lookup rt.handler).isSome) = true :=
  -- the extracted list has one row per registered route, in registration order
  ⟨by decide +kernel, List.all_eq_true.mpr fun _ hrt => lookup_isSome_of_mem
    ((rfl : SwV.Gen.C26Routes.handlerVerifiers.map (·.1) = routes.map (·.handler)) ▸ List.mem_map_of_mem hrt)⟩

theorem bridge_actions :
    actionValue "ACTION_READ" = SwV.Gen.C26.ACTION_READ.toList ∧ actionValue "ACTION_WRITE" = SwV.Gen.C26.ACTION_WRITE.toList ∧
    actionValue "ACTION_ADMIN" = SwV.Gen.C26.ACTION_ADMIN.toList ∧ actionValue "ACTION_TAGGING" = SwV.Gen.C26.ACTION_TAGGING.toList ∧
    actionValue "ACTION_LIST" = SwV.Gen.C26.ACTION_LIST.toList ∧ adminA = SwV.Gen.C26.ACTION_ADMIN.toList ∧ writeA = SwV.Gen.C26.ACTION_WRITE.toList := by decide +kernel

theorem bridge_auth_constants :
    streamingContentSHA256 = SwV.Gen.C26.streamingContentSHA256 ∧ signV4Algorithm = SwV.Gen.C26.signV4Algorithm ∧
    signV2Algorithm = SwV.Gen.C26.signV2Algorithm := ⟨rfl, rfl, rfl⟩

theorem bridge_iam_constants :
    mapToStatementAction SwV.Gen.C26.StatementActionAdmin.toList = SwV.Gen.C26.ACTION_ADMIN.toList ∧
    mapToStatementAction SwV.Gen.C26.StatementActionWrite.toList = SwV.Gen.C26.ACTION_WRITE.toList ∧
    mapToStatementAction SwV.Gen.C26.StatementActionRead.toList = SwV.Gen.C26.ACTION_READ.toList ∧
    mapToStatementAction SwV.Gen.C26.StatementActionList.toList = SwV.Gen.C26.ACTION_LIST.toList ∧
    mapToStatementAction SwV.Gen.C26.StatementActionTagging.toList = SwV.Gen.C26.ACTION_TAGGING.toList := by decide +kernel

/-- seven functions the model transcribes (`authUser`, whose switch no bridge reads either, is not among them), pinned by
    the hash of their whitespace-normalised source: an edit of any of them must be re-read against the model (the
    run-time facts say WHAT changed) -/
theorem bridge_pinned_sources :
    SwV.Gen.C26.src_registerRouter = "06a6125d790e75e0" ∧ SwV.Gen.C26.src_authRequest = "fde76b3b9c849eb7" ∧
    SwV.Gen.C26.src_Auth = "fd53309620320efb" ∧ SwV.Gen.C26.src_canDo = "1f61e8696d996760" ∧
    SwV.Gen.C26.src_getRequestAuthType = "f210cc6f95a5555f" ∧ SwV.Gen.C26.src_GetActions = "464a113160385987" ∧
    SwV.Gen.C26.src_MapToStatementAction = "a567f3008cc690af" := ⟨rfl, rfl, rfl, rfl, rfl, rfl, rfl⟩

end SwV.Props.C26
