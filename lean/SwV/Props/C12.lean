/-
C12 — property theorems: master capacity accounting.

Main result `counters_eq_recount_partial`: for every well-formed (`OpsOkE`) operation sequence of the model — ALL operation
kinds: connects, max-count changes, full and incremental volume heartbeats, full and incremental EC
heartbeats, disconnects, refresh rounds — the invariant `CountersOk` (on a connected server the volume,
remote-volume and EC-shard counter of every disk = recount of what is registered on the disk, and node = disk;
rack / data center / topology = sums over the connected servers, for the disk types 0 and 1) is preserved.  The max-volume counter is covered from the disk
upwards only (node = disk and the sums are equalities of all four counters): what a server last reported is
not part of `Core`, so the disk's own max count has no recount in `CountersOk` and is compared by the judge
alone (`Spec.C12.recountDisk`).  Incremental deletions need NO condition but ids in range: the model (`Core.delReg`) mirrors
`DeltaUpdateVolumes` as repaired in /repo (bf7edee2: a deletion message for a volume that is not registered is
ignored; fb6f0331: the remote flag is taken from the registered volume); a history for each of the two findings
behind these repairs, inc/volume-count and inc/remote-volume-count, is proved exact below
(`delete_unregistered_recount_exact`, `delete_remote_incremental_recount_exact`).  `OpOkE` is
well-formedness of the messages only (ids, and the disk types of EC messages, in the modelled range; a full EC heartbeat lists a
volume once and under the disk type its shards are registered on — the recorded assumptions of
props/C12/prop.json).  The EC conjunct through `UpdateEcShards` rests on `popcount_diff`
(popcount(new) − popcount(old) = popcount(new \ old) − popcount(old \ new), Lemmas/C12Ec).

The proof follows `stepCore`, the DataNode side of `step` (`step_core`: no layout call writes `Core`, by `Keeps` and
`EKeep` of the C11 lemma files), with `Ok c N w`: `CountersOk` with the EC conjunct under a flag `w`, so that `ok_step`
holds for every operation with indices in range (`OpOk`), with no condition on what a full EC heartbeat lists (it
clears the flag), and `okE_step` puts the EC conjunct back under `EcFullOk`; for that it carries `EcDisksOk` along
(shards are registered on the two modelled disk types only: an invariant, `ecDisks_step`).  Inside a heartbeat the
loops are followed with `Mid` (`Ok` together with the connection flags and the id range of the state the heartbeat
arrived in), one `mid_*` lemma per function a heartbeat calls; the heartbeat as a whole, like every other operation that
writes `Core`, has an `ok_*` lemma.
-/
import SwV.Model.C11
import SwV.Spec.C12
import SwV.Lemmas.C12
import SwV.Lemmas.C12Ec
import SwV.Lemmas.C11Core
import SwV.Lemmas.C11Layout
import SwV.Gen.C12
namespace SwV.Props.C12
open SwV.Model.C11 SwV.Spec.C12 SwV.Lemmas.C12 SwV.Lemmas.C12Ec
open SwV.Lemmas.C11 (addAll_fst same_adjustMax same_updateVolumes same_deltaUpdateVolumes connect_fields)
open SwV.Lemmas.C11 (keeps_syncFull keeps_syncInc keeps_unavails keeps_refresh)
open SwV.Lemmas.C11Ec (ekeep_foldl ekeep_registerEc ekeep_unregisterEc ekeep_ecLayout)

@[simp] theorem upAdj_vols (c : Core) (s t d) : (c.upAdj s t d).vols = c.vols := rfl
@[simp] theorem upAdj_ecs (c : Core) (s t d) : (c.upAdj s t d).ecs = c.ecs := rfl
@[simp] theorem upAdj_conn (c : Core) (s t d) : (c.upAdj s t d).conn = c.conn := rfl
@[simp] theorem upAdj_nVid (c : Core) (s t d) : (c.upAdj s t d).nVid = c.nVid := rfl

theorem recount_step {α : Type} (π : Counts → Int) (hπ : ∀ a b, π (a.add b) = π a + π b) (g : α → Int)
    (f : Nat → Nat → Nat → α) (s t vid : Nat) (x : α) {n : Nat} (hvid : vid < n) {k k' : Nat → Nat → Counts} {d : Counts}
    (hk : ∀ s' t', k' s' t' = if s' = s ∧ t' = t then (k s t).add d else k s' t')
    (hd : π d = g x - g (f s t vid)) (s' t' : Nat) (h : π (k s' t') = sumI n fun v => g (f s' t' v)) :
    π (k' s' t') = sumI n fun v => g (upd3 f s t vid x s' t' v) := by
  rw [proj_add_at π hπ hk, h, sumI_upd3 g f s t vid x hvid, hd]

theorem diskvol_step {c c' : Core} (h : DiskVolOk c) (s t vid : Nat) (x : Option VInfo) (d : Counts)
    (hn : c'.nVid = c.nVid) (hconn : c'.conn = c.conn) (hvols : c'.vols = upd3 c.vols s t vid x)
    (hdisk : ∀ s' t', c'.cDisk s' t' = if s' = s ∧ t' = t then (c.cDisk s t).add d else c.cDisk s' t')
    (hvid : vid < c.nVid + 1)
    (hdv : d.vol = volBit x - volBit (c.vols s t vid)) (hdr : d.rem = remBit x - remBit (c.vols s t vid)) :
    DiskVolOk c' := by
  refine ⟨fun s' t' hc => ?_, fun s' t' hc => ?_⟩
  · rw [hconn] at hc
    rw [recountVol, hn, hvols]
    exact recount_step (·.vol) (fun _ _ => rfl) volBit c.vols s t vid x hvid hdisk hdv s' t' (h.vol s' t' hc)
  · rw [hconn] at hc
    rw [recountRem, hn, hvols]
    exact recount_step (·.rem) (fun _ _ => rfl) remBit c.vols s t vid x hvid hdisk hdr s' t' (h.rem s' t' hc)

theorem diskec_step {c c' : Core} (h : DiskEcOk c) (s t vid x : Nat) (d : Counts)
    (hn : c'.nVid = c.nVid) (hconn : c'.conn = c.conn) (hecs : c'.ecs = upd3 c.ecs s t vid x)
    (hdisk : ∀ s' t', c'.cDisk s' t' = if s' = s ∧ t' = t then (c.cDisk s t).add d else c.cDisk s' t')
    (hvid : vid < c.nVid + 1) (hde : d.ec = (popcount x : Int) - (popcount (c.ecs s t vid) : Int)) :
    DiskEcOk c' := by
  intro s' t' hc
  rw [hconn] at hc
  rw [recountEc, hn, hecs]
  exact recount_step (·.ec) (fun _ _ => rfl) (fun b => (popcount b : Int)) c.ecs s t vid x hvid hdisk hde s' t' (h s' t' hc)

theorem diskvol_frame {c c' : Core} (h : DiskVolOk c)
    (hn : c'.nVid = c.nVid) (hconn : ∀ s, c'.conn s = true → c.conn s = true) (hvols : c'.vols = c.vols)
    (hv : ∀ s t, (c'.cDisk s t).vol = (c.cDisk s t).vol) (hr : ∀ s t, (c'.cDisk s t).rem = (c.cDisk s t).rem) :
    DiskVolOk c' := by
  constructor
  · intro s t hc; rw [hv, h.vol s t (hconn s hc)]; unfold recountVol; rw [hn, hvols]
  · intro s t hc; rw [hr, h.rem s t (hconn s hc)]; unfold recountRem; rw [hn, hvols]

theorem diskec_frame {c c' : Core} (h : DiskEcOk c)
    (hn : c'.nVid = c.nVid) (hconn : ∀ s, c'.conn s = true → c.conn s = true) (hecs : c'.ecs = c.ecs)
    (he : ∀ s t, (c'.cDisk s t).ec = (c.cDisk s t).ec) : DiskEcOk c' := by
  intro s t hc; rw [he, h s t (hconn s hc)]; unfold recountEc; rw [hn, hecs]

/-- the invariant; the EC conjunct is carried under the flag `w` (full EC heartbeats drop it) -/
structure Ok (c : Core) (N : Nat) (w : Prop) : Prop where
  hier : HierOk c N
  vols : DiskVolOk c
  ec : w → DiskEcOk c

theorem Ok.mono {c : Core} {N : Nat} {w w' : Prop} (h : Ok c N w) (hw : w' → w) : Ok c N w' :=
  ⟨h.hier, h.vols, fun x => h.ec (hw x)⟩

/-- what every operation except connect/disconnect keeps.  Not the `Same π` of `Lemmas/C11Core` (namespace
    `SwV.Lemmas.C11`), whose `same_*` lemmas `ecDisks_step` uses: that one says in addition `π c' = π c` -/
def Same (c' c : Core) : Prop := c'.conn = c.conn ∧ c'.nVid = c.nVid

theorem Same.refl (c : Core) : Same c c := ⟨rfl, rfl⟩
theorem Same.trans {a b c : Core} (h1 : Same a b) (h2 : Same b c) : Same a c := ⟨h1.1.trans h2.1, h1.2.trans h2.2⟩

/-- the invariant in the middle of a heartbeat that started in `c0`: the accounting is exact, and the connection
    flags and the id range are those of `c0`, so what is known of the server and of the message when the
    heartbeat arrives holds at every step of it -/
structure Mid (N : Nat) (w : Prop) (c0 c : Core) : Prop where
  ok : Ok c N w
  same : Same c c0

theorem Ok.mid {c : Core} {N : Nat} {w : Prop} (h : Ok c N w) : Mid N w c c := ⟨h, Same.refl c⟩

theorem Mid.conn {N : Nat} {w : Prop} {c0 c : Core} (h : Mid N w c0 c) {s : Nat} (hc : c0.conn s = true) :
    c.conn s = true := by
  rw [h.same.1]; exact hc
theorem Mid.vid {N : Nat} {w : Prop} {c0 c : Core} (h : Mid N w c0 c) {v : Nat} (hv : v < c0.nVid + 1) :
    v < c.nVid + 1 := by
  rw [h.same.2]; exact hv

theorem ok_foldl {α : Type} {N : Nat} {w : Prop} (f : Core → α → Core) (s : Nat) (c0 : Core)
    (hf : ∀ c a, Ok c N w → c.conn s = true → c.nVid = c0.nVid → Ok (f c a) N w ∧ Same (f c a) c)
    (l : List α) {c : Core} (h : Ok c N w) (hc : c.conn s = true) (hn : c.nVid = c0.nVid) :
    Ok (l.foldl f c) N w ∧ Same (l.foldl f c) c :=
  have := foldl_inv (Mid N w c) f (fun c' a k =>
    have r := hf c' a k.ok (k.conn hc) (k.same.2.trans hn)
    ⟨r.1, r.2.trans k.same⟩) l c h.mid
  ⟨this.ok, this.same⟩

section
variable {c0 c : Core} {N : Nat} {w : Prop}

theorem mid_setVol (h : Mid N w c0 c) (s t vid : Nat) (x : Option VInfo) (d : Counts)
    (hc : c0.conn s = true) (hs : s < N) (hvid : vid < c0.nVid + 1)
    (hdv : d.vol = volBit x - volBit (c.vols s t vid)) (hdr : d.rem = remBit x - remBit (c.vols s t vid))
    (hde : d.ec = 0) :
    Mid N w c0 (Core.upAdj { c with vols := upd3 c.vols s t vid x } s t d) :=
  ⟨⟨hier_upAdj (hier_of_eq h.ok.hier rfl rfl rfl rfl rfl rfl rfl rfl) (h.conn hc) hs,
    diskvol_step h.ok.vols s t vid x d rfl rfl rfl (upAdj_cDisk _ s t d) (h.vid hvid) hdv hdr,
    fun hw => diskec_frame (h.ok.ec hw) rfl (fun _ => id) rfl
      (upAdj_proj_of_zero (·.ec) (fun _ _ => rfl) hde _ s t)⟩, h.same⟩

theorem mid_setVol0 (h : Mid N w c0 c) (s t vid : Nat) (x : Option VInfo)
    (hvid : vid < c0.nVid + 1)
    (hdv : volBit x = volBit (c.vols s t vid)) (hdr : remBit x = remBit (c.vols s t vid)) :
    Mid N w c0 { c with vols := upd3 c.vols s t vid x } := by
  refine ⟨⟨hier_of_eq h.ok.hier rfl rfl rfl rfl rfl rfl rfl rfl, ?_,
    fun hw => diskec_frame (h.ok.ec hw) rfl (fun _ => id) rfl (fun _ _ => rfl)⟩, h.same⟩
  refine diskvol_step h.ok.vols s t vid x {} rfl rfl rfl (fun s' t' => ?_) (h.vid hvid)
    (Int.sub_eq_zero_of_eq hdv).symm (Int.sub_eq_zero_of_eq hdr).symm
  split
  · next e => obtain ⟨rfl, rfl⟩ := e; exact (Counts.add_zero _).symm
  · rfl

theorem mid_setEc (h : Mid N w c0 c) (s t vid x : Nat) (d : Counts)
    (hc : c0.conn s = true) (hs : s < N) (hvid : vid < c0.nVid + 1)
    (hdv : d.vol = 0) (hdr : d.rem = 0)
    (hde : d.ec = (popcount x : Int) - (popcount (c.ecs s t vid) : Int)) :
    Mid N w c0 (Core.upAdj { c with ecs := upd3 c.ecs s t vid x } s t d) :=
  ⟨⟨hier_upAdj (hier_of_eq h.ok.hier rfl rfl rfl rfl rfl rfl rfl rfl) (h.conn hc) hs,
    diskvol_frame h.ok.vols rfl (fun _ => id) rfl (upAdj_proj_of_zero (·.vol) (fun _ _ => rfl) hdv _ s t)
      (upAdj_proj_of_zero (·.rem) (fun _ _ => rfl) hdr _ s t),
    fun hw => diskec_step (h.ok.ec hw) s t vid x d rfl rfl rfl (upAdj_cDisk _ s t d) (h.vid hvid) hde⟩, h.same⟩

/-- a counter delta without volume / remote component; the EC conjunct survives when the delta has no EC
    component either (max-count changes), and is dropped otherwise (the loops of a full EC heartbeat) -/
theorem mid_upAdj (h : Mid N w c0 c) (s t : Nat) (d : Counts)
    (hc : c0.conn s = true) (hs : s < N) (hdv : d.vol = 0) (hdr : d.rem = 0) (hde : w → d.ec = 0) :
    Mid N w c0 (c.upAdj s t d) :=
  ⟨⟨hier_upAdj h.ok.hier (h.conn hc) hs,
    diskvol_frame h.ok.vols rfl (fun _ => id) rfl (upAdj_proj_of_zero (·.vol) (fun _ _ => rfl) hdv c s t)
      (upAdj_proj_of_zero (·.rem) (fun _ _ => rfl) hdr c s t),
    fun hw => diskec_frame (h.ok.ec hw) rfl (fun _ => id) rfl
      (upAdj_proj_of_zero (·.ec) (fun _ _ => rfl) (hde hw) c s t)⟩, h.same⟩

theorem mid_addOrUpdate (h : Mid N w c0 c) (s : Nat) (v : VInfo)
    (hc : c0.conn s = true) (hs : s < N) (hv : v.id < c0.nVid + 1) : Mid N w c0 (c.addOrUpdate s v).1 := by
  cases heq : c.vols s v.key.disk v.id with
  | none =>
    simp only [Core.addOrUpdate, heq]
    exact mid_setVol h s v.key.disk v.id (some v) _ hc hs hv (by rw [heq]; rfl)
      (by rw [heq]; exact (Int.sub_zero _).symm) rfl
  | some old =>
    by_cases hr : (old.remote != v.remote) = true
    · simp only [Core.addOrUpdate, heq, hr, if_true]
      exact mid_setVol h s v.key.disk v.id (some v) { rem := Core.b2i v.remote - Core.b2i old.remote } hc hs hv
        (by rw [heq]; rfl) (by rw [heq]; rfl) rfl
    · simp only [Core.addOrUpdate, heq, hr]
      have : old.remote = v.remote := by simpa using hr
      exact mid_setVol0 h s v.key.disk v.id (some v) hv (by rw [heq]; rfl)
        (by rw [heq]; exact congrArg Core.b2i this.symm)

theorem mid_delVol (h : Mid N w c0 c) (s t vid : Nat) (old : VInfo)
    (hc : c0.conn s = true) (hs : s < N) (hv : vid < c0.nVid + 1) (hreg : c.vols s t vid = some old) :
    Mid N w c0 (c.delVol s t vid old.remote) :=
  mid_setVol h s t vid none _ hc hs hv (by rw [hreg]; rfl) (by rw [hreg]; exact (Int.zero_sub _).symm) rfl

theorem mid_sweepGone (h : Mid N w c0 c) (s : Nat) (actual : List VInfo) (t : Nat)
    (hc : c0.conn s = true) (hs : s < N) (n : Nat) (hn : n ≤ c0.nVid + 1) : Mid N w c0 (c.sweepGone s actual t n).1 := by
  induction n with
  | zero => exact h
  | succ n ih =>
    have ih := ih (Nat.le_of_succ_le hn)
    simp only [Core.sweepGone]
    split
    · next v heq =>
      split
      · exact ih
      · exact mid_delVol ih s t n v hc hs (Nat.lt_of_succ_le hn) heq
    · exact ih

/-- the additions of a heartbeat (`DeltaUpdateVolumes`, and `UpdateVolumes` through `addAll_fst`) -/
theorem mid_news (h : Mid N w c0 c) (s : Nat) (vs : List VInfo)
    (hc : c0.conn s = true) (hs : s < N) (hv : ∀ v ∈ vs, v.id < c0.nVid + 1) :
    Mid N w c0 (vs.foldl (fun c v => (c.addOrUpdate s v).1) c) :=
  foldl_inv_mem (Mid N w c0) _ vs (fun _ v hm k => mid_addOrUpdate k s v hc hs (hv v hm)) c h

/-- DataNode.UpdateVolumes (full volume heartbeat) keeps the accounting exact -/
theorem ok_updateVolumes (h : Ok c N w) (s : Nat) (vs : List VInfo)
    (hc : c.conn s = true) (hs : s < N) (hv : ∀ v ∈ vs, v.id < c.nVid + 1) :
    Ok (c.updateVolumes s vs).1 N w := by
  unfold Core.updateVolumes
  dsimp only
  rw [addAll_fst]
  exact (mid_news (mid_sweepGone (mid_sweepGone h.mid s vs 0 hc hs _ (Nat.le_refl _)) s vs 1 hc hs _ (Nat.le_refl _))
    s vs hc hs hv).ok

/-- one deletion message of an incremental heartbeat (`delReg`): a registered volume is deleted with the
    decrement its registration calls for; a message for a volume that is not registered changes nothing -/
theorem mid_delReg (h : Mid N w c0 c) (s : Nat) (v : VInfo)
    (hc : c0.conn s = true) (hs : s < N) (hv : v.id < c0.nVid + 1) : Mid N w c0 (c.delReg s v) := by
  unfold Core.delReg
  split
  · next old hreg => exact mid_delVol h s v.key.disk v.id old hc hs hv hreg
  · exact h

/-- DataNode.DeltaUpdateVolumes (incremental heartbeat) keeps the accounting exact for ANY deletion
    messages (ids in the modelled range): duplicates, stale messages, messages for remote volumes -/
theorem ok_deltaUpdateVolumes (h : Ok c N w) (s : Nat) (news dels : List VInfo)
    (hc : c.conn s = true) (hs : s < N) (hv : ∀ v ∈ news ++ dels, v.id < c.nVid + 1) :
    Ok (c.deltaUpdateVolumes s news dels) N w :=
  (mid_news (foldl_inv_mem (Mid N w c) _ dels
      (fun _ v hm k => mid_delReg k s v hc hs (hv v (List.mem_append_right _ hm))) c h.mid)
    s news hc hs fun v hm => hv v (List.mem_append_left _ hm)).ok

theorem mid_adjustMax1 (h : Mid N w c0 c) (s t m : Nat) (hc : c0.conn s = true) (hs : s < N) :
    Mid N w c0 (c.adjustMax1 s t m) := by
  unfold Core.adjustMax1
  split
  · exact h
  · split
    · exact h
    · exact mid_upAdj h s t _ hc hs rfl rfl (fun _ => rfl)

theorem ok_if_conn {c : Core} {N : Nat} {w : Prop} (h : Ok c N w) (s : Nat) {c' : Core}
    (hX : c.conn s = true → Ok c' N w) : Ok (if c.conn s then c' else c) N w :=
  iteInduction (motive := fun x => Ok x N w) hX fun _ => h

/-- DataNode.AdjustMaxVolumeCounts -/
theorem ok_adjustMax (h : Ok c N w) (s mh ms : Nat) (hs : s < N) : Ok (c.adjustMax s mh ms) N w :=
  ok_if_conn h s fun hc => (mid_adjustMax1 (mid_adjustMax1 h.mid s 0 mh hc hs) s 1 ms hc hs).ok

/-- a fresh, empty DataNode is linked under (dc, rack) -/
theorem ok_link (h : Ok c N w) (s dc rack : Nat) (hc : c.conn s = false) :
    Ok ({ c with
        conn := upd1 c.conn s true, dcOf := upd1 c.dcOf s dc, rackOf := upd1 c.rackOf s rack
        vols := fun x => if x = s then fun _ _ => none else c.vols x
        ecs := fun x => if x = s then fun _ _ => 0 else c.ecs x
        cDisk := fun x => if x = s then fun _ => {} else c.cDisk x
        cNode := fun x => if x = s then fun _ => {} else c.cNode x } : Core) N w := by
  have old : ∀ s', s' ≠ s → upd1 c.conn s true s' = true → c.conn s' = true :=
    fun s' e hc' => (if_neg e).symm.trans hc'
  refine ⟨⟨fun s' t' hc' => ?_, sums_of_live_eq h.hier.sums (fun i t _ => ?_) (fun i => ?_) rfl rfl rfl⟩,
    ⟨fun s' t' hc' => ?_, fun s' t' hc' => ?_⟩, fun hw s' t' hc' => ?_⟩
  · by_cases e : s' = s
    · simp only [e, if_true]
    · simp only [if_neg e]; exact h.hier.node s' t' (old s' e hc')
  · -- the new server contributes nothing, before (not connected) and after (empty)
    by_cases e : i = s
    · simp [live, upd1, e, hc]
    · simp [live, upd1, e]
  · by_cases e : i = s
    · exact Or.inr fun t _ => by simp [live, e, hc]
    · exact Or.inl ⟨if_neg e, if_neg e⟩
  · by_cases e : s' = s
    · simp only [recountVol, e, if_true]; exact (sumI_zero fun _ _ => rfl).symm
    · simp only [recountVol, if_neg e]; exact h.vols.vol s' t' (old s' e hc')
  · by_cases e : s' = s
    · simp only [recountRem, e, if_true]; exact (sumI_zero fun _ _ => rfl).symm
    · simp only [recountRem, if_neg e]; exact h.vols.rem s' t' (old s' e hc')
  · by_cases e : s' = s
    · simp only [recountEc, e, if_true]; exact (sumI_zero fun _ _ => popcount_zero ▸ rfl).symm
    · simp only [recountEc, if_neg e]; exact h.ec hw s' t' (old s' e hc')

/-- GetOrCreateDataNode: a fresh DataNode is linked, then one Disk per reported type -/
theorem ok_connect (h : Ok c N w) (s dc rack mh ms : Nat) (hs : s < N) : Ok (c.connect s dc rack mh ms) N w := by
  unfold Core.connect
  by_cases hc : c.conn s = true
  · rw [if_pos hc]; exact h
  · rw [if_neg hc]
    have hc1 : upd1 c.conn s true s = true := if_pos rfl
    have h2 := mid_upAdj (ok_link h s dc rack (Bool.eq_false_iff.mpr hc)).mid s 0 { max := (mh : Int) } hc1 hs
      rfl rfl (fun _ => rfl)
    dsimp only
    by_cases hm : ms > 0
    · rw [if_pos hm]; exact (mid_upAdj h2 s 1 { max := (ms : Int) } hc1 hs rfl rfl (fun _ => rfl)).ok
    · rw [if_neg hm]; exact h2.ok

/-- a DataNode whose counters are zero is unlinked -/
theorem ok_unlink (s : Nat) (hsum : Sums c N) (hz : ∀ t, t < 2 → c.cNode s t = {})
    (hnode : ∀ s' t, s' ≠ s → c.conn s' = true → c.cNode s' t = c.cDisk s' t)
    (hv : DiskVolOk c) (he : w → DiskEcOk c) : Ok { c with conn := upd1 c.conn s false } N w := by
  have alive : ∀ s', upd1 c.conn s false s' = true → s' ≠ s ∧ c.conn s' = true := by
    intro s' hc'
    have e : s' ≠ s := fun e => by rw [e] at hc'; exact absurd ((if_pos rfl).symm.trans hc') Bool.false_ne_true
    exact ⟨e, (if_neg e).symm.trans hc'⟩
  refine ⟨⟨fun s' t' hc' => hnode s' t' (alive s' hc').1 (alive s' hc').2,
      sums_of_live_eq hsum (fun i t ht => ?_) (fun i => Or.inl ⟨rfl, rfl⟩) rfl rfl rfl⟩,
    diskvol_frame hv rfl (fun s' hc' => (alive s' hc').2) rfl (fun _ _ => rfl) (fun _ _ => rfl),
    fun hw => diskec_frame (he hw) rfl (fun s' hc' => (alive s' hc').2) rfl (fun _ _ => rfl)⟩
  show (if upd1 c.conn s false i = true then c.cNode i t else {}) = if c.conn i = true then c.cNode i t else {}
  by_cases e : i = s
  · subst e; rw [hz t ht, ite_self, ite_self]
  · rw [show upd1 c.conn s false i = c.conn i from if_neg e]

/-- UnRegisterDataNode: the node's usages are subtracted from everything above the node (`UnlinkChildNode`; the model
    subtracts them from the node too, so the node counts nothing and the sums are still those of the connected
    servers), then the node is unlinked -/
theorem ok_disconnect (h : Ok c N w) (s : Nat) (hc : c.conn s = true) (hs : s < N) : Ok (c.disconnect s) N w := by
  unfold Core.disconnect
  refine ok_unlink s (sums_nodeUp (sums_nodeUp h.hier.sums hc hs) hc hs) (fun t ht => ?_) (fun s' t e hc' => ?_)
    (diskvol_frame h.vols rfl (fun _ => id) rfl (fun _ _ => rfl) (fun _ _ => rfl))
    (fun hw => diskec_frame (h.ec hw) rfl (fun _ => id) rfl (fun _ _ => rfl))
  · have : t = 0 ∨ t = 1 := by omega
    rcases this with rfl | rfl
    · rw [nodeUp_cNode, if_neg (fun h => absurd h.2 Nat.zero_ne_one), nodeUp_cNode, if_pos ⟨rfl, rfl⟩, Counts.add_neg]
    · rw [nodeUp_cNode, if_pos ⟨rfl, rfl⟩, Counts.add_neg]
  · rw [nodeUp_cNode, if_neg (fun h => e h.1), nodeUp_cNode, if_neg (fun h => e h.1)]
    exact h.hier.node s' t hc'

theorem mid_delEc (h : Mid N w c0 c) (s : Nat) (e : EcInfo)
    (hc : c0.conn s = true) (hs : s < N) (hv : e.id < c0.nVid + 1) : Mid N w c0 (c.delEc s e) := by
  simp only [Core.delEc]
  split
  · exact h
  · exact mid_setEc h s e.disk e.id _ _ hc hs hv rfl rfl rfl

/-- DataNode.DeltaUpdateEcShards (incremental EC heartbeat) keeps the accounting exact -/
theorem ok_deltaUpdateEcShards (h : Ok c N w) (s : Nat) (news dels : List EcInfo)
    (hc : c.conn s = true) (hs : s < N) (hv : ∀ e ∈ news ++ dels, e.id < c.nVid + 1) :
    Ok (c.deltaUpdateEcShards s news dels) N w :=
  (foldl_inv_mem (Mid N w c) _ dels (fun _ e hm k => mid_delEc k s e hc hs (hv e (List.mem_append_right _ hm))) _
    (foldl_inv_mem (Mid N w c) (fun c e => c.addEc s e) news
      (fun _ e hm k => mid_setEc k s e.disk e.id _ _ hc hs (hv e (List.mem_append_left _ hm)) rfl rfl rfl) c h.mid)).ok

theorem mid_ecs (h : Mid N False c0 c) (e : Nat → Nat → Nat → Nat) : Mid N False c0 { c with ecs := e } :=
  ⟨⟨hier_of_eq h.ok.hier rfl rfl rfl rfl rfl rfl rfl rfl,
    diskvol_frame h.ok.vols rfl (fun _ => id) rfl (fun _ _ => rfl) (fun _ _ => rfl), fun f => f.elim⟩, h.same⟩

/-- DataNode.UpdateEcShards (full EC heartbeat): the hierarchy and the volume counters stay exact
    for ANY message (the EC counter needs a well-formed message: `ok_updateEcShards_ec` below) -/
theorem ok_updateEcShards (h : Ok c N w) (s : Nat) (actual : List EcInfo)
    (hc : c.conn s = true) (hs : s < N) : Ok (c.updateEcShards s actual).1 N False := by
  have k := foldl_inv (Mid N False c) (fun (c' : Core) (p : Nat × Int) => c'.upAdj s p.1 { ec := p.2 })
    (fun _ p k => mid_upAdj k s p.1 _ hc hs rfl rfl False.elim) (ecDeltas c s actual) c (h.mono False.elim).mid
  rw [updateEcShards_eq]
  exact (mid_ecs k _).ok

end

@[simp] theorem removeWritable_core (st : St) (k : Key) (v : Nat) : (removeWritable st k v).toCore = st.toCore := rfl

/-- the DataNode/Disk side of one operation -/
def stepCore (c : Core) : Op → Core
  | .conn s dc rack h ssd => c.connect s dc rack h ssd
  | .max s h ssd => c.adjustMax s h ssd
  | .full s vs => if c.conn s then (c.updateVolumes s vs).1 else c
  | .inc s ns ds => if c.conn s then c.deltaUpdateVolumes s ns ds else c
  | .ecfull s es => if c.conn s then (c.updateEcShards s es).1 else c
  | .ecinc s ns ds => if c.conn s then c.deltaUpdateEcShards s ns ds else c
  | .disc s => if c.conn s then c.disconnect s else c
  | .refresh => c

theorem step_core (st : St) (op : Op) : (step st op).toCore = stepCore st.toCore op := by
  cases op with
  | conn s dc rack h ssd => rfl
  | max s h ssd => rfl
  | full s vs => exact (keeps_syncFull st s vs).toCore
  | inc s ns ds => exact (keeps_syncInc st s ns ds).toCore
  | ecfull s es =>
    show (syncEcFull st s es).toCore = if st.conn s then _ else _
    unfold syncEcFull
    cases st.conn s
    · rfl
    · exact (ekeep_ecLayout st _ s _ _).toCore
  | ecinc s ns ds =>
    show (syncEcInc st s ns ds).toCore = if st.conn s then _ else _
    unfold syncEcInc
    cases st.conn s
    · rfl
    · exact ((ekeep_foldl _ (fun st (e : EcInfo) => ekeep_unregisterEc st e.id e.bits s)).trans
        (ekeep_foldl _ (fun st (e : EcInfo) => ekeep_registerEc st e.id e.bits s))).toCore
  | disc s =>
    show (disc st s).toCore = if st.conn s then _ else _
    unfold disc
    cases st.conn s
    · rfl
    · exact congrArg (Core.disconnect · s) (keeps_unavails s).toCore
  | refresh => exact (keeps_refresh st maxSrv).toCore

/-- well-formed operation in state `c` with `N` modelled servers: indices in range, nothing else -/
def OpOk (c : Core) (N : Nat) : Op → Prop
  | .conn s _ _ _ _ => s < N
  | .max s _ _ => s < N
  | .full s vs => s < N ∧ ∀ v ∈ vs, v.id < c.nVid + 1
  | .inc s ns ds => s < N ∧ ∀ v ∈ ns ++ ds, v.id < c.nVid + 1
  | .ecfull s _ => s < N
  | .ecinc s ns ds => s < N ∧ ∀ e ∈ ns ++ ds, e.id < c.nVid + 1
  | .disc s => s < N
  | .refresh => True

def isEcFull : Op → Prop
  | .ecfull _ _ => True
  | _ => False

/-- one operation preserves the invariant; a full EC heartbeat keeps everything but the EC conjunct -/
theorem ok_step {c : Core} {N : Nat} {w : Prop} (h : Ok c N w) (op : Op) (hop : OpOk c N op) :
    Ok (stepCore c op) N (w ∧ ¬ isEcFull op) := by
  cases op with
  | conn s dc rack mh ms => exact (ok_connect h s dc rack mh ms hop).mono (·.1)
  | max s mh ms => exact (ok_adjustMax h s mh ms hop).mono (·.1)
  | full s vs => exact (ok_if_conn h s fun hc => ok_updateVolumes h s vs hc hop.1 hop.2).mono (·.1)
  | inc s ns ds => exact (ok_if_conn h s fun hc => ok_deltaUpdateVolumes h s ns ds hc hop.1 hop.2).mono (·.1)
  | ecfull s es =>
    exact (ok_if_conn (h.mono False.elim) s fun hc => ok_updateEcShards h s es hc hop).mono fun x => x.2 trivial
  | ecinc s ns ds => exact (ok_if_conn h s fun hc => ok_deltaUpdateEcShards h s ns ds hc hop.1 hop.2).mono (·.1)
  | disc s => exact (ok_if_conn h s fun hc => ok_disconnect h s hc hop).mono (·.1)
  | refresh => exact h.mono (·.1)

/-- every operation of the sequence is well-formed in the state it is applied to -/
def OpsOk (st : St) (N : Nat) : List Op → Prop
  | [] => True
  | op :: ops => OpOk st.toCore N op ∧ OpsOk (step st op) N ops

theorem ok_init (limit : Nat) (asMin : Bool) (nVid N : Nat) : Ok (init limit asMin nVid).toCore N True := by
  -- nobody is connected: the conditions on connected servers are empty and every sum is zero
  have dead : ∀ s, (init limit asMin nVid).conn s = true → False := fun s hc => by simp [init] at hc
  refine ⟨⟨fun s t hc => (dead s hc).elim, ⟨fun d r t _ => ?_, fun d t _ => ?_, fun t _ => ?_⟩⟩,
    ⟨fun s t hc => (dead s hc).elim, fun s t hc => (dead s hc).elim⟩, fun _ s t hc => (dead s hc).elim⟩
  · exact (sumC_zero fun i _ => by simp [live, init]).symm
  · exact (sumC_zero fun i _ => by simp [live, init]).symm
  · exact (sumC_zero fun i _ => by simp [live, init]).symm

theorem ok_run {st : St} {N : Nat} {w : Prop} (h : Ok st.toCore N w) (ops : List Op) (hops : OpsOk st N ops) :
    Ok (run st ops).toCore N (w ∧ ∀ op ∈ ops, ¬ isEcFull op) := by
  induction ops generalizing st w with
  | nil => exact h.mono (·.1)
  | cons op ops ih =>
    simp only [run, List.foldl_cons]
    have h1 := ok_step h op hops.1
    rw [← step_core] at h1
    have h2 := ih h1 hops.2
    exact h2.mono (fun ⟨hw, hall⟩ => ⟨⟨hw, hall op List.mem_cons_self⟩, fun o ho => hall o (List.mem_cons_of_mem _ ho)⟩)

/-- C12, invariant step: `CountersOk` (property counters_eq_recount) is preserved by every operation other
    than a full EC heartbeat, for every operation with indices in range (`OpOk`) -/
theorem counters_step_partial (st : St) (N : Nat) (op : Op) (h : CountersOk st.toCore N)
    (hop : OpOk st.toCore N op) (hne : ¬ isEcFull op) : CountersOk (step st op).toCore N := by
  have := ok_step (w := True) ⟨h.hier, h.vols, fun _ => h.ec⟩ op hop
  rw [← step_core] at this
  exact ⟨this.hier, this.vols, this.ec ⟨trivial, hne⟩⟩

/-- C12 for sequences without full EC heartbeats: no condition on the EC messages but ids in range
    (`counters_eq_recount_partial` below covers every operation kind, under `OpsOkE`) -/
theorem counters_run_noEcFull_partial (limit : Nat) (asMin : Bool) (nVid N : Nat) (ops : List Op)
    (hops : OpsOk (init limit asMin nVid) N ops) (hne : ∀ op ∈ ops, ¬ isEcFull op) :
    CountersOk (run (init limit asMin nVid) ops).toCore N := by
  have := ok_run (ok_init limit asMin nVid N) ops hops
  exact ⟨this.hier, this.vols, this.ec ⟨trivial, hne⟩⟩

/-- C12 for ALL operation sequences with indices in range (`OpsOk`; full EC heartbeats included, whatever they
    list): the propagation through the five levels (above the node: for the disk types 0 and 1) and the volume /
    remote-volume counters are exact -/
theorem hier_vols_run (limit : Nat) (asMin : Bool) (nVid N : Nat) (ops : List Op)
    (hops : OpsOk (init limit asMin nVid) N ops) :
    HierOk (run (init limit asMin nVid) ops).toCore N ∧ DiskVolOk (run (init limit asMin nVid) ops).toCore := by
  have := ok_run (ok_init limit asMin nVid N) ops hops
  exact ⟨this.hier, this.vols⟩

/-- `OpsOk`, the hypothesis of `hier_vols_run` and `counters_run_noEcFull_partial`, is satisfiable by a
    history with every kind of operation but the full EC heartbeat -/
example : OpsOk (init 1000 false 12) 4
    [.conn 0 0 0 5 4, .conn 1 0 1 5 0, .max 0 7 9, .full 0 [⟨3, 10, false, true, ⟨0, 1, 0, 0⟩⟩],
     .inc 1 [⟨3, 0, false, false, ⟨0, 1, 0, 0⟩⟩] [], .ecinc 1 [⟨5, 0, 0, 7⟩] [⟨5, 0, 0, 2⟩], .refresh, .disc 0] := by
  simp only [OpsOk, OpOk, List.mem_cons, List.mem_append, List.not_mem_nil, or_false, forall_eq, forall_eq_or_imp, and_true]
  decide +kernel

/-- DataNode.UpdateEcShards (full EC heartbeat) with a well-formed message (`EcFullOk`), in a state with shards on the
    disk types 0 and 1 only (`EcDisksOk`: the store clears every disk type, the deltas cover these two), keeps the
    WHOLE accounting exact, EC shard counters included -/
theorem ok_updateEcShards_ec {c : Core} {N : Nat} (h : Ok c N True) (s : Nat) (actual : List EcInfo)
    (hc : c.conn s = true) (hs : s < N) (w : EcFullOk c s actual) (hd : EcDisksOk c) :
    Ok (c.updateEcShards s actual).1 N True := by
  have h1 := ok_updateEcShards h s actual hc hs
  exact ⟨h1.hier, h1.vols, fun _ => diskEc_updateEcShards c s actual (h.ec trivial) w hd⟩

@[simp] theorem nodeUp_ecs (c : Core) (s t d) : (c.nodeUp s t d).ecs = c.ecs := rfl

theorem ecDisks_connect {c : Core} (hd : EcDisksOk c) (s dc rack mh ms : Nat) : EcDisksOk (c.connect s dc rack mh ms) := by
  cases hc : c.conn s with
  | true => simp only [Core.connect, hc, if_true]; exact hd
  | false =>
    intro s' t vid ht
    rw [(connect_fields c s dc rack mh ms hc).2.2.2]
    dsimp only
    split
    · rfl
    · exact hd s' t vid ht

theorem ecDisks_set {c : Core} (hd : EcDisksOk c) (s t vid x : Nat) (ht : t < 2) :
    EcDisksOk { c with ecs := upd3 c.ecs s t vid x } := by
  intro s' t' vid' h2
  have : ¬ (s' = s ∧ t' = t ∧ vid' = vid) := fun ⟨_, b, _⟩ => by omega
  exact (if_neg this).trans (hd s' t' vid' h2)

theorem ecDisks_deltaUpdateEcShards {c : Core} (hd : EcDisksOk c) (s : Nat) (news dels : List EcInfo)
    (hr : ∀ e ∈ news ++ dels, e.disk < 2) : EcDisksOk (c.deltaUpdateEcShards s news dels) := by
  refine foldl_inv_mem EcDisksOk _ dels (fun c e hm hc => ?_) _
    (foldl_inv_mem EcDisksOk _ news (fun c e hm hc => ?_) c hd)
  · simp only [Core.delEc]
    split
    · exact hc
    · exact ecDisks_set hc s e.disk e.id _ (hr e (List.mem_append_right _ hm))
  · exact ecDisks_set hc s e.disk e.id _ (hr e (List.mem_append_left _ hm))

theorem ecDisks_of_ecs {c c' : Core} (hd : EcDisksOk c) (h : c'.ecs = c.ecs) : EcDisksOk c' :=
  fun s t vid ht => by rw [h]; exact hd s t vid ht

theorem ecDisks_if_conn {c c' : Core} (hd : EcDisksOk c) (s : Nat) (h : c.conn s = true → EcDisksOk c') :
    EcDisksOk (if c.conn s then c' else c) :=
  iteInduction (motive := EcDisksOk) h fun _ => hd

/-- the conditions on EC messages: modelled disk types, and `EcFullOk` for a full EC heartbeat
    (each volume listed once, under the disk type its shards are registered on) -/
def EcOpOk (c : Core) : Op → Prop
  | .ecfull s es => c.conn s = true → EcFullOk c s es
  | .ecinc _ ns ds => ∀ e ∈ ns ++ ds, e.disk < 2
  | _ => True

def OpOkE (c : Core) (N : Nat) (op : Op) : Prop := OpOk c N op ∧ EcOpOk c op

theorem ecDisks_step {c : Core} (hd : EcDisksOk c) (op : Op) (he : EcOpOk c op) : EcDisksOk (stepCore c op) := by
  cases op with
  | conn s dc rack mh ms => exact ecDisks_connect hd s dc rack mh ms
  | max s mh ms => exact ecDisks_of_ecs hd (same_adjustMax Core.ecs (fun _ _ _ _ => rfl) c s mh ms).1
  | full s vs => exact ecDisks_if_conn hd s fun _ => ecDisks_of_ecs hd (same_updateVolumes c s vs).1
  | inc s ns ds => exact ecDisks_if_conn hd s fun _ => ecDisks_of_ecs hd (same_deltaUpdateVolumes c s ns ds).1
  | ecfull s es =>
    exact ecDisks_if_conn hd s fun hc => ecDisks_updateEcShards hd s es fun e h => ((he hc).range e h).2
  | ecinc s ns ds => exact ecDisks_if_conn hd s fun _ => ecDisks_deltaUpdateEcShards hd s ns ds he
  | disc s => exact ecDisks_if_conn hd s fun _ => ecDisks_of_ecs hd rfl
  | refresh => exact hd

/-- one operation — of ANY kind — preserves the complete invariant -/
theorem okE_step {c : Core} {N : Nat} (h : Ok c N True) (hd : EcDisksOk c) (op : Op) (hop : OpOkE c N op) :
    Ok (stepCore c op) N True ∧ EcDisksOk (stepCore c op) := by
  refine ⟨?_, ecDisks_step hd op hop.2⟩
  cases op with
  | ecfull s es => exact ok_if_conn h s fun hc => ok_updateEcShards_ec h s es hc hop.1 (hop.2 hc) hd
  -- for each remaining constructor `isEcFull _` reduces to `False`, so `id` proves `¬ isEcFull _`
  | _ => exact (ok_step h _ hop.1).mono fun _ => ⟨trivial, id⟩

def OpsOkE (st : St) (N : Nat) : List Op → Prop
  | [] => True
  | op :: ops => OpOkE st.toCore N op ∧ OpsOkE (step st op) N ops

theorem okE_run {st : St} {N : Nat} (h : Ok st.toCore N True) (hd : EcDisksOk st.toCore) (ops : List Op)
    (hops : OpsOkE st N ops) : Ok (run st ops).toCore N True ∧ EcDisksOk (run st ops).toCore := by
  induction ops generalizing st with
  | nil => exact ⟨h, hd⟩
  | cons op ops ih =>
    simp only [run, List.foldl_cons]
    have h1 := okE_step h hd op hops.1
    rw [← step_core] at h1
    exact ih h1.1 h1.2 hops.2

/-- C12, invariant step for EVERY operation kind (full EC heartbeats included) -/
theorem counters_step_all_partial (st : St) (N : Nat) (op : Op) (h : CountersOk st.toCore N)
    (hd : EcDisksOk st.toCore) (hop : OpOkE st.toCore N op) : CountersOk (step st op).toCore N := by
  have := (okE_step (N := N) ⟨h.hier, h.vols, fun _ => h.ec⟩ hd op hop).1
  rw [← step_core] at this
  exact ⟨this.hier, this.vols, this.ec trivial⟩

/-- C12, main theorem: after ANY well-formed operation sequence from the empty topology — connects,
    max-count changes, full and incremental volume heartbeats, full and incremental EC heartbeats,
    disconnects, refresh rounds — on every connected server each disk's volume / remote / EC counters equal the
    recount of what is registered on it and the node equals its disk, and for the disk types 0 and 1 every rack, data center
    and the topology equal the sums over their connected servers.  `OpsOkE` is well-formedness of the messages only (ids,
    and the disk types of EC messages, in the modelled range; a full EC heartbeat lists an EC volume once, under the disk type its shards are
    registered on); no condition on what an incremental heartbeat deletes (duplicate, stale, remote). -/
theorem counters_eq_recount_partial (limit : Nat) (asMin : Bool) (nVid N : Nat) (ops : List Op)
    (hops : OpsOkE (init limit asMin nVid) N ops) : CountersOk (run (init limit asMin nVid) ops).toCore N := by
  have := (okE_run (ok_init limit asMin nVid N) (fun _ _ _ _ => rfl) ops hops).1
  exact ⟨this.hier, this.vols, this.ec trivial⟩

/-- `OpOkE` in a form `decide` can evaluate (bounded quantifiers only) -/
def OpOkB (c : Core) (N : Nat) : Op → Prop
  | .conn s _ _ _ _ => s < N
  | .max s _ _ => s < N
  | .full s vs => s < N ∧ ∀ v ∈ vs, v.id < c.nVid + 1
  | .inc s ns ds => s < N ∧ ∀ v ∈ ns ++ ds, v.id < c.nVid + 1
  | .ecfull s es => s < N ∧ (c.conn s = true →
      (es.map (·.id)).Nodup ∧ (∀ e ∈ es, e.id < c.nVid + 1 ∧ e.disk < 2) ∧ ∀ e ∈ es, ∀ t, t < 2 → c.ecs s t e.id ≠ 0 → t = e.disk)
  | .ecinc s ns ds => s < N ∧ (∀ e ∈ ns ++ ds, e.id < c.nVid + 1) ∧ ∀ e ∈ ns ++ ds, e.disk < 2
  | .disc s => s < N
  | .refresh => True

instance (c : Core) (N : Nat) (op : Op) : Decidable (OpOkB c N op) := by
  cases op <;> unfold OpOkB <;> infer_instance

theorem opOkE_of_B (c : Core) (N : Nat) (op : Op) : OpOkB c N op → OpOkE c N op := by
  cases op with
  | conn s dc rack mh ms => intro h; exact ⟨h, trivial⟩
  | max s mh ms => intro h; exact ⟨h, trivial⟩
  | full s vs => intro h; exact ⟨h, trivial⟩
  | inc s ns ds => intro h; exact ⟨h, trivial⟩
  | ecfull s es => intro h; exact ⟨h.1, fun hc => ⟨(h.2 hc).1, (h.2 hc).2.1, (h.2 hc).2.2⟩⟩
  | ecinc s ns ds => intro h; exact ⟨⟨h.1, h.2.1⟩, h.2.2⟩
  | disc s => intro h; exact ⟨h, trivial⟩
  | refresh => intro _; exact ⟨trivial, trivial⟩

/-- the hypotheses of the main theorem are satisfiable by a history with every kind of operation,
    including full EC heartbeats that add, change and drop several EC volumes at once -/
example : OpsOkE (init 1000 false 12) 4
    [.conn 0 0 0 5 4, .conn 1 0 1 5 0, .max 0 7 9, .full 0 [⟨3, 10, false, true, ⟨0, 1, 0, 0⟩⟩],
     .inc 1 [⟨3, 0, false, false, ⟨0, 1, 0, 0⟩⟩] [], .ecinc 1 [⟨5, 0, 0, 7⟩] [⟨5, 0, 0, 2⟩],
     .ecfull 1 [⟨5, 0, 0, 12⟩, ⟨6, 0, 1, 3⟩], .ecfull 1 [⟨6, 0, 1, 5⟩, ⟨7, 0, 0, 1⟩],
     .inc 1 [] [⟨3, 0, false, false, ⟨0, 1, 0, 0⟩⟩], .refresh, .disc 0] := by
  refine ⟨opOkE_of_B _ _ _ (by decide +kernel), opOkE_of_B _ _ _ (by decide +kernel), opOkE_of_B _ _ _ (by decide +kernel), opOkE_of_B _ _ _ (by decide +kernel), opOkE_of_B _ _ _ (by decide +kernel),
    opOkE_of_B _ _ _ (by decide +kernel), opOkE_of_B _ _ _ (by decide +kernel), opOkE_of_B _ _ _ (by decide +kernel), opOkE_of_B _ _ _ (by decide +kernel), opOkE_of_B _ _ _ (by decide +kernel),
    opOkE_of_B _ _ _ (by decide +kernel), trivial⟩

/-- the well-formedness condition "a full EC heartbeat lists a volume once" is needed: UpdateEcShards
    adds the shard count of every message entry whose volume was not registered at entry, so a
    duplicated entry is counted twice.  `Store.CollectErasureCodingHeartbeat` builds the message from one map
    per disk location (`DiskLocation.ecVolumes`): a volume is listed once for every location of the server that
    holds shards of it, so the condition is met by a server that keeps each EC volume's shards in one location -/
theorem ecfull_duplicate_entry_counts_twice :
    let st := run (init 1000 false 12) [.conn 0 0 0 5 0, .ecfull 0 [⟨3, 0, 0, 7⟩, ⟨3, 0, 0, 7⟩]]
    (st.cDisk 0 0).ec = 6 ∧ recountEc st.toCore 0 0 = 3 := by decide +kernel

/-! ## the findings inc/volume-count and inc/remote-volume-count

Before bf7edee2 / fb6f0331 the code gave `(st.cDisk 0 0).vol = -1` resp. `(st.cDisk 0 0).rem = 1` on the
histories below (the second is corpus/C12/delete_remote_incremental.ops; corpus/C12/delete_unregistered.ops comes to
the same -1 by deleting a registered volume twice);
`deltaUpdateVolumesOld` models that behaviour.  The judge reports these counters after an incremental
heartbeat under the classes inc/volume-count and inc/remote-volume-count, so a regression of the code is seen. -/

/-- a deletion message for a volume that is not registered (never registered, or already deleted: the
    second message of a duplicate) is within the hypotheses of the main theorem -/
example : OpsOkE (init 1000 false 12) 4
    [.conn 0 0 0 5 0, .inc 0 [] [⟨3, 0, false, false, ⟨0, 0, 0, 0⟩⟩],
     .inc 0 [⟨3, 0, false, false, ⟨0, 0, 0, 0⟩⟩] [], .inc 0 [] [⟨3, 0, false, false, ⟨0, 0, 0, 0⟩⟩, ⟨3, 0, false, false, ⟨0, 0, 0, 0⟩⟩]] := by
  exact ⟨opOkE_of_B _ _ _ (by decide +kernel), opOkE_of_B _ _ _ (by decide +kernel), opOkE_of_B _ _ _ (by decide +kernel), opOkE_of_B _ _ _ (by decide +kernel), trivial⟩

/-- finding inc/volume-count: a delete for a volume that is not registered leaves the counters alone -/
theorem delete_unregistered_recount_exact :
    let st := run (init 1000 false 12) [.conn 0 0 0 5 0, .inc 0 [] [⟨3, 0, false, false, ⟨0, 0, 0, 0⟩⟩]]
    (st.cDisk 0 0).vol = 0 ∧ recountVol st.toCore 0 0 = 0 ∧ (st.cTopo 0).vol = 0 := by decide +kernel

/-- finding inc/remote-volume-count: a remote volume deleted by an incremental (short) message,
    whose `remote` field is always false, takes the remote counter back to 0 -/
theorem delete_remote_incremental_recount_exact :
    let st := run (init 1000 false 12)
      [.conn 0 0 0 5 0, .full 0 [⟨3, 10, false, true, ⟨0, 0, 0, 0⟩⟩], .inc 0 [] [⟨3, 0, false, false, ⟨0, 0, 0, 0⟩⟩]]
    (st.cDisk 0 0).rem = 0 ∧ recountRem st.toCore 0 0 = 0 ∧ (st.cDisk 0 0).vol = 0 ∧ (st.cTopo 0).rem = 0 := by decide +kernel

/-- `DeltaUpdateVolumes` before bf7edee2 / fb6f0331: every deletion message decrements, with the
    remote flag of the message.  On the two histories it breaks the recount — this is what the judge
    classes inc/volume-count and inc/remote-volume-count detect in the implementation. -/
def deltaUpdateVolumesOld (c : Core) (s : Nat) (news dels : List VInfo) : Core :=
  let c := dels.foldl (fun c v => c.delVol s v.key.disk v.id v.remote) c
  news.foldl (fun c v => (c.addOrUpdate s v).1) c

theorem old_delete_unregistered_breaks_recount :
    let c := ((init 1000 false 12).toCore.connect 0 0 0 5 0)
    let c' := deltaUpdateVolumesOld c 0 [] [⟨3, 0, false, false, ⟨0, 0, 0, 0⟩⟩]
    (c'.cDisk 0 0).vol = -1 ∧ recountVol c' 0 0 = 0 := by decide +kernel

theorem old_delete_remote_incremental_breaks_recount :
    let c := (((init 1000 false 12).toCore.connect 0 0 0 5 0).updateVolumes 0 [⟨3, 10, false, true, ⟨0, 0, 0, 0⟩⟩]).1
    let c' := deltaUpdateVolumesOld c 0 [] [⟨3, 0, false, false, ⟨0, 0, 0, 0⟩⟩]
    (c'.cDisk 0 0).rem = 1 ∧ recountRem c' 0 0 = 0 := by decide +kernel

/-- the repaired and the old DeltaUpdateVolumes agree on a deletion message that names a volume registered at
    that moment whose remote flag is the one in the message -/
theorem delReg_eq_old_of_registered (c : Core) (s : Nat) (v old : VInfo)
    (hreg : c.vols s v.key.disk v.id = some old) (hrem : old.remote = v.remote) :
    c.delReg s v = c.delVol s v.key.disk v.id v.remote := by
  simp [Core.delReg, hreg, hrem]

/-! ## T1 bridges: facts regenerated from the source by `extract` (props/C12/extract.json → `SwV.Gen.C12`)

Each theorem but `bridge_pins` (hashes) states the text of the decisive Go statements as they stand in the working tree,
and all but `bridge_ec_counts` state beside it the model expression that mirrors them; an edit to the Go code
changes the generated string and breaks the theorem of that name. -/

/-- `DiskUsageCounts.addDiskUsageCounts` and `DiskUsages.negative` are field-wise (`Counts.add`, `Counts.neg`;
    `activeVolumeCount` is not modelled). -/
theorem bridge_counts_add_neg :
    SwV.Gen.C12.add_vol = "a.volumeCount += b.volumeCount" ∧
    SwV.Gen.C12.add_rem = "a.remoteVolumeCount += b.remoteVolumeCount" ∧
    SwV.Gen.C12.add_ec = "a.ecShardCount += b.ecShardCount" ∧
    SwV.Gen.C12.add_max = "a.maxVolumeCount += b.maxVolumeCount" ∧
    SwV.Gen.C12.neg_vol = "a.volumeCount = -b.volumeCount" ∧
    SwV.Gen.C12.neg_rem = "a.remoteVolumeCount = -b.remoteVolumeCount" ∧
    SwV.Gen.C12.neg_ec = "a.ecShardCount = -b.ecShardCount" ∧
    SwV.Gen.C12.neg_max = "a.maxVolumeCount = -b.maxVolumeCount" ∧
    (∀ a b : Counts, a.add b = { vol := a.vol + b.vol, rem := a.rem + b.rem, ec := a.ec + b.ec, max := a.max + b.max }) ∧
    (∀ b : Counts, b.neg = { vol := -b.vol, rem := -b.rem, ec := -b.ec, max := -b.max }) :=
  ⟨rfl, rfl, rfl, rfl, rfl, rfl, rfl, rfl, fun _ _ => rfl, fun _ => rfl⟩

/-- `NodeImpl.UpAdjustDiskUsageDelta`: every level adds the SAME delta and hands it to its parent (`upAdj`,
    `nodeUp`); link / unlink apply the child's usages resp. their negative. -/
theorem bridge_up_adjust :
    SwV.Gen.C12.up_adds = "diskUsage" ∧ SwV.Gen.C12.up_has_parent = "n.parent != nil" ∧
    SwV.Gen.C12.up_passes_same_delta = "deltaDiskUsages" ∧
    SwV.Gen.C12.link_cond = "n.children[node.Id()] == nil" ∧ SwV.Gen.C12.link_delta = "node.GetDiskUsages()" ∧
    SwV.Gen.C12.unlink_cond = "node != nil" ∧ SwV.Gen.C12.unlink_delta = "node.GetDiskUsages().negative()" ∧
    (∀ (c : Core) (s t : Nat) (d : Counts),
      (c.upAdj s t d).cDisk s t = (c.cDisk s t).add d ∧ (c.upAdj s t d).cNode s t = (c.cNode s t).add d ∧
      (c.upAdj s t d).cRack (c.dcOf s) (c.rackOf s) t = (c.cRack (c.dcOf s) (c.rackOf s) t).add d ∧
      (c.upAdj s t d).cDc (c.dcOf s) t = (c.cDc (c.dcOf s) t).add d ∧
      (c.upAdj s t d).cTopo t = (c.cTopo t).add d) := by
  refine ⟨rfl, rfl, rfl, rfl, rfl, rfl, rfl, fun c s t d => ?_⟩
  simp [Core.upAdj, Core.nodeUp, upd1, upd2, upd3]

/-- `Disk.doAddOrUpdateVolume` -/
theorem bridge_add_or_update :
    SwV.Gen.C12.addvol_new = "!ok" ∧ SwV.Gen.C12.addvol_vol = "deltaDiskUsage.volumeCount = 1" ∧
    SwV.Gen.C12.addvol_new_remote = "v.IsRemote()" ∧
    SwV.Gen.C12.addvol_new_remote_delta = "deltaDiskUsage.remoteVolumeCount = 1" ∧
    SwV.Gen.C12.addvol_remote_changed = "oldV.IsRemote() != v.IsRemote()" ∧
    SwV.Gen.C12.addvol_now_remote_delta = "deltaDiskUsage.remoteVolumeCount = 1" ∧
    SwV.Gen.C12.addvol_was_remote = "oldV.IsRemote()" ∧
    SwV.Gen.C12.addvol_was_remote_delta = "deltaDiskUsage.remoteVolumeCount = -1" ∧
    SwV.Gen.C12.addvol_changed_ro = "isChangedRO = d.volumes[v.Id].ReadOnly != v.ReadOnly" ∧
    -- a new volume: +1 volume, +1 remote if remote
    (∀ (c : Core) (s : Nat) (v : VInfo), c.vols s v.key.disk v.id = none →
      c.addOrUpdate s v =
        (Core.upAdj { c with vols := upd3 c.vols s v.key.disk v.id (some v) } s v.key.disk
           { vol := 1, rem := if v.remote then 1 else 0 }, true, false)) ∧
    -- a known volume: the remote counter moves only when the flag changed, by +1 (now remote) or -1 (was remote)
    (∀ (c : Core) (s : Nat) (v old : VInfo), c.vols s v.key.disk v.id = some old →
      (c.addOrUpdate s v).2 = (false, old.ro != v.ro) ∧
      (c.addOrUpdate s v).1.cDisk s v.key.disk =
        (if old.remote != v.remote then (c.cDisk s v.key.disk).add { rem := if old.remote then -1 else 1 }
         else c.cDisk s v.key.disk)) := by
  refine ⟨rfl, rfl, rfl, rfl, rfl, rfl, rfl, rfl, rfl, ?_, ?_⟩
  · intro c s v h
    simp [Core.addOrUpdate, h, Core.b2i]
  · intro c s v old h
    simp only [Core.addOrUpdate, h]
    cases ho : old.remote <;> cases hv : v.remote <;>
      simp [upAdj_cDisk, Core.b2i]

/-- the deletions of `DataNode.UpdateVolumes` / `DeltaUpdateVolumes` (`delVol`): -1 volume, -1 remote if remote;
    `DeltaUpdateVolumes` looks the volume of the (short) deletion message up among the registered volumes of the
    disk, skips the message when it is not found and asks the REGISTERED volume whether it is remote (`delReg`;
    the repairs bf7edee2 and fb6f0331 — reverting either changes a text below) -/
theorem bridge_delete_volume :
    SwV.Gen.C12.upd_gone = "!ok" ∧ SwV.Gen.C12.upd_gone_vol = "deltaDiskUsage.volumeCount = -1" ∧
    SwV.Gen.C12.upd_gone_remote = "v.IsRemote()" ∧
    SwV.Gen.C12.upd_gone_remote_delta = "deltaDiskUsage.remoteVolumeCount = -1" ∧
    SwV.Gen.C12.delta_del_lookup = "registered, found := disk.volumes[v.Id]" ∧
    SwV.Gen.C12.delta_del_skip = "!found" ∧
    SwV.Gen.C12.delta_del_vol = "deltaDiskUsage.volumeCount = -1" ∧
    SwV.Gen.C12.delta_del_remote = "registered.IsRemote()" ∧
    SwV.Gen.C12.delta_del_remote_delta = "deltaDiskUsage.remoteVolumeCount = -1" ∧
    (∀ (c : Core) (s t vid : Nat) (remote : Bool), c.delVol s t vid remote =
      Core.upAdj { c with vols := upd3 c.vols s t vid none } s t { vol := -1, rem := if remote then -1 else 0 }) ∧
    -- not found: nothing changes
    (∀ (c : Core) (s : Nat) (v : VInfo), c.vols s v.key.disk v.id = none → c.delReg s v = c) ∧
    -- found: the registered volume decides about the remote counter, the message's flag is not looked at
    (∀ (c : Core) (s : Nat) (v registered : VInfo), c.vols s v.key.disk v.id = some registered →
      c.delReg s v = Core.upAdj { c with vols := upd3 c.vols s v.key.disk v.id none } s v.key.disk
        { vol := -1, rem := if registered.remote then -1 else 0 }) := by
  refine ⟨rfl, rfl, rfl, rfl, rfl, rfl, rfl, rfl, rfl,
    fun c s t vid remote => ?_, fun c s v h => ?_, fun c s v registered h => ?_⟩
  · cases remote <;> simp [Core.delVol, Core.b2i]
  · simp [Core.delReg, h]
  · cases hr : registered.remote <;> simp [Core.delReg, h, Core.delVol, Core.b2i, hr]

/-- `DataNode.AdjustMaxVolumeCounts` (`adjustMax1`) -/
theorem bridge_adjust_max :
    SwV.Gen.C12.max_zero_skip = "maxVolumeCount == 0" ∧
    SwV.Gen.C12.max_same_skip = "currentDiskUsage.maxVolumeCount == int64(maxVolumeCount)" ∧
    SwV.Gen.C12.max_delta = "deltaDiskUsage.maxVolumeCount = int64(maxVolumeCount) - currentDiskUsage.maxVolumeCount" ∧
    (∀ (c : Core) (s t m : Nat), c.adjustMax1 s t m =
      (if m = 0 then c else if (c.cNode s t).max = (m : Int) then c
       else c.upAdj s t { max := (m : Int) - (c.cNode s t).max })) :=
  ⟨rfl, rfl, rfl, fun _ _ _ _ => rfl⟩

/-- `DataNode.UpdateEcShards`, `Disk.AddOrUpdateEcShard`, `Disk.DeleteEcShard`: the shard-count deltas -/
theorem bridge_ec_counts :
    SwV.Gen.C12.ec_gone = "!ok" ∧ SwV.Gen.C12.ec_gone_count = "deletedShardCount += ecShards.ShardIdCount()" ∧
    SwV.Gen.C12.ec_more = "a.ShardIdCount() > 0" ∧ SwV.Gen.C12.ec_more_count = "newShardCount += a.ShardIdCount()" ∧
    SwV.Gen.C12.ec_less = "d.ShardIdCount() > 0" ∧ SwV.Gen.C12.ec_less_count = "deletedShardCount += d.ShardIdCount()" ∧
    SwV.Gen.C12.ec_delta_existing = "deltaDiskUsage.ecShardCount = int64(newShardCount - deletedShardCount)" ∧
    SwV.Gen.C12.ec_known_skip = "dn.hasEcShards(ecShards.VolumeId)" ∧
    SwV.Gen.C12.ec_delta_new = "deltaDiskUsage.ecShardCount = int64(ecShards.ShardIdCount())" ∧
    SwV.Gen.C12.ec_store_cond = "len(newShards) > 0 || len(deletedShards) > 0" ∧
    SwV.Gen.C12.ecadd_new = "!ok" ∧ SwV.Gen.C12.ecadd_new_delta = "delta = s.ShardBits.ShardIdCount()" ∧
    SwV.Gen.C12.ecadd_plus = "existing.ShardBits = existing.ShardBits.Plus(s.ShardBits)" ∧
    SwV.Gen.C12.ecadd_old_delta = "delta = existing.ShardBits.ShardIdCount() - oldCount" ∧
    SwV.Gen.C12.ecadd_apply = "deltaDiskUsage.ecShardCount = int64(delta)" ∧
    SwV.Gen.C12.ecdel_known = "ok" ∧
    SwV.Gen.C12.ecdel_minus = "existing.ShardBits = existing.ShardBits.Minus(s.ShardBits)" ∧
    SwV.Gen.C12.ecdel_delta = "delta := existing.ShardBits.ShardIdCount() - oldCount" ∧
    SwV.Gen.C12.ecdel_drop_empty = "existing.ShardBits.ShardIdCount() == 0" :=
  ⟨rfl, rfl, rfl, rfl, rfl, rfl, rfl, rfl, rfl, rfl, rfl, rfl, rfl, rfl, rfl, rfl, rfl, rfl, rfl⟩

/-- weakest supplement: hashes of the whole mirrored functions -/
theorem bridge_pins :
    SwV.Gen.C12.src_UpAdjustDiskUsageDelta = "004cbaf1c856040f" ∧
    SwV.Gen.C12.src_addDiskUsageCounts = "26dfb5415ac6d7e9" ∧
    SwV.Gen.C12.src_negative = "e9f92856e93cda2b" ∧
    SwV.Gen.C12.src_doAddOrUpdateVolume = "6b540a4e1cc26df2" ∧
    SwV.Gen.C12.src_UpdateVolumes = "27f7efacbefa0684" ∧
    SwV.Gen.C12.src_DeltaUpdateVolumes = "1545b25ee4d79be7" ∧
    SwV.Gen.C12.src_AdjustMaxVolumeCounts = "de287af7e03e24c1" ∧
    SwV.Gen.C12.src_UpdateEcShards = "446c66596f37f067" ∧
    SwV.Gen.C12.src_doUpdateEcShards = "dfb40d6ff9cb0fb9" ∧
    SwV.Gen.C12.src_Disk_AddOrUpdateEcShard = "2ce4921c707fe3d8" ∧
    SwV.Gen.C12.src_Disk_DeleteEcShard = "5e79fcda643184a1" ∧
    SwV.Gen.C12.src_doLinkChildNode = "68809e04f9f160ea" ∧
    SwV.Gen.C12.src_UnlinkChildNode = "2cd1e267fb9f2b9d" ∧
    SwV.Gen.C12.src_GetOrCreateDataNode = "d5b94e23343a7c49" :=
  ⟨rfl, rfl, rfl, rfl, rfl, rfl, rfl, rfl, rfl, rfl, rfl, rfl, rfl, rfl⟩

end SwV.Props.C12
