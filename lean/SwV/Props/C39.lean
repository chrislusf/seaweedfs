/-
C39 — property theorems.  The model (SwV/Model/C39.lean) is the FsNode tree of
weed/filesys/fscache.go; the reference tree (SwV/Spec/C39.lean) says pointwise what is at
every path after each operation.  The correspondence check ties model and real FsCache.

`fscache_eq_reference_tree` rests on `step_refines`: what the tree holds at each path (`find`, Lemmas/C39) after an
operation is the reference operation applied to what it held before.  The clause theorems read the equation of the one
operation they speak of (`find_move`, `find_remove`, `find_setNode`; `move_frame` the move case of `step_refines`).
-/
import SwV.Model.C39
import SwV.Spec.C39
import SwV.Lemmas.C39
import SwV.Gen.C39

namespace SwV.Props.C39
open SwV.Model.C39 SwV.Spec.C39 SwV.Lemmas.C39

theorem step_refines (t : Node) (op : Op) : find (applyOp t op) = refApply (find t) op := by
  cases op with
  | set p v => exact find_setNode t p v
  | ensure p v =>
    simp only [applyOp, refApply, ensureNode, refEnsure, refLookup, ← get_eq]
    cases h : SwV.Model.C39.get t p with
    | none => exact find_setNode t p v
    | some w => rfl
  | del p => exact find_remove t p
  | move o n =>
    simp only [applyOp, refApply]
    by_cases hinv : o = [] ∨ n = []
    · simp [move, hinv]
    · cases hs : sub t o with
      | none => simp [move, hinv, find, hs]
      | some s =>
        have hne : (find t o).isNone = false := by simp [find, hs]
        simp only [hinv, hne, if_false, Bool.false_eq_true]
        exact find_move t o n (fun e => hinv (.inl e)) (fun e => hinv (.inr e)) (hs ▸ rfl)

theorem find_run (ops : List Op) : find (run ops) = denote ops := by
  suffices h : ∀ t, find (ops.foldl applyOp t) = ops.foldl refApply (find t) by
    simpa [run, denote, find_empty] using h emptyNode
  induction ops with
  | nil => intro t; rfl
  | cons op rest ih => intro t; simp only [List.foldl_cons, ih, step_refines]

/-- after any sequence of insertions, ensure-lookups, deletes and moves, `GetFsNode`
    returns for EVERY path exactly the node the reference tree holds there -/
theorem fscache_eq_reference_tree (ops : List Op) (q : Path) :
    SwV.Model.C39.get (run ops) q = refLookup (denote ops) q := by
  rw [get_eq, find_run, refLookup]

/-! ### the clauses of the property text, directly on lookups -/

/-- a moved subtree appears under the new path … -/
theorem move_appears_under_new (t : Node) (old new r : Path) (ho : old ≠ []) (hn : new ≠ [])
    (hex : (sub t old).isSome) :
    SwV.Model.C39.get (move t old new).1 (new ++ r) = SwV.Model.C39.get t (old ++ r) := by
  rw [get_eq, get_eq, find_move t old new ho hn hex]
  simp [refMove]

/-- … and nowhere else: below the old path nothing is left (unless that path is also below the new one) -/
theorem move_gone_from_old (t : Node) (old new q : Path) (ho : old ≠ []) (hn : new ≠ [])
    (hex : (sub t old).isSome) (hq : old <+: q) (hnew : ¬ new <+: q) :
    SwV.Model.C39.get (move t old new).1 q = none := by
  rw [get_eq, find_move t old new ho hn hex]
  simp only [refMove, hnew, if_false, refDel, ho, hq, if_true]
  by_cases h2 : q <+: new <;> simp [h2]

-- the hypothesis `hex` of the move theorems is satisfiable
example : (sub (setNode emptyNode ["a", "b"] 1) ["a"]).isSome = true := by decide +kernel

/-- paths neither below the old nor below the new path keep their nodes -/
theorem move_frame (t : Node) (old new q : Path) (hq : ¬ old <+: q) (hnew : ¬ new <+: q) :
    SwV.Model.C39.get (move t old new).1 q = SwV.Model.C39.get t q := by
  have h := congrFun (step_refines t (.move old new)) q
  simp only [applyOp, refApply] at h
  rw [get_eq, get_eq, h]
  by_cases hinv : old = [] ∨ new = []
  · simp [hinv]
  · simp only [hinv, if_false]
    by_cases hne : (find t old).isNone
    · simp [hne]
    · have ho : old ≠ [] := fun e => hinv (Or.inl e)
      simp only [hne, Bool.false_eq_true, if_false, refMove, hnew, refDel, ho, hq]
      by_cases h2 : q <+: new <;> simp [h2]

/-- a deleted subtree is gone … -/
theorem delete_gone (t : Node) (p q : Path) (h : p <+: q) : SwV.Model.C39.get (remove t p) q = none := by
  rw [get_eq, find_remove, refDel]
  by_cases hp : p = []
  · subst hp; simp only [refEmpty, if_true]; by_cases hq : q = [] <;> simp [hq]
  · simp [hp, h]

/-- … and nothing else is touched -/
theorem delete_frame (t : Node) (p q : Path) (h : ¬ p <+: q) : SwV.Model.C39.get (remove t p) q = SwV.Model.C39.get t q := by
  rw [get_eq, get_eq, find_remove, refDel]
  have hp : p ≠ [] := by intro e; subst e; exact h List.nil_prefix
  simp [hp, h]

theorem set_get (t : Node) (p : Path) (v : Nat) : SwV.Model.C39.get (setNode t p v) p = some v := by
  rw [get_eq, find_setNode]; simp [refSet]

theorem set_frame (t : Node) (p q : Path) (v : Nat) (h : q ≠ p) :
    SwV.Model.C39.get (setNode t p v) q = SwV.Model.C39.get t q := by
  rw [get_eq, get_eq, find_setNode]
  simp only [refSet, h, if_false]
  by_cases h2 : q <+: p <;> simp [h2]

/-- Move(/a, /a/b) with /a ↦ 1, /a/x ↦ 2: the model (like the code) ends with /a/b ↦ 1, /a/b/x ↦ 2
    and /a an empty placeholder — the same as the reference tree (`fscache_eq_reference_tree`) -/
theorem move_into_own_subtree_witness :
    let t := setNode (setNode emptyNode ["a"] 1) ["a", "x"] 2
    let t' := (move t ["a"] ["a", "b"]).1
    SwV.Model.C39.get t' ["a", "b"] = some 1 ∧ SwV.Model.C39.get t' ["a", "b", "x"] = some 2 ∧
    SwV.Model.C39.get t' ["a"] = none ∧ SwV.Model.C39.get t' ["a", "x"] = none := by decide +kernel

/-! ## T1 bridges: facts regenerated from the source by `extract` (props/C39/extract.json → `SwV.Gen.C39`)

Each theorem but `bridge_pins` states the text of the decisive Go statements as they stand in the working tree together with the
model equation that mirrors them; an edit to the Go code changes the generated string and breaks the theorem of
that name. -/

/-- `doGetFsNode`: descend with `findChild`, stop at the first absent component, answer the `node` field -/
theorem bridge_get :
    SwV.Gen.C39.get_descend = "t = t.findChild(p)" ∧ SwV.Gen.C39.get_absent = "t == nil" ∧
    SwV.Gen.C39.find_found = "found" ∧
    (∀ (t : Node), sub t [] = some t) ∧
    (∀ (t : Node) (x : Name) (p : Path), t.2.child x = none → sub t (x :: p) = none) ∧
    (∀ (t c : Node) (x : Name) (p : Path), t.2.child x = some c → sub t (x :: p) = sub c p) ∧
    (∀ (t : Node) (p : Path), SwV.Model.C39.get t p = (sub t p).bind (·.1)) := by
  refine ⟨rfl, rfl, rfl, fun _ => rfl, ?_, ?_, fun _ _ => rfl⟩
  · intro t x p h; simp [sub, h]
  · intro t c x p h; simp [sub, h]

/-- `doSetFsNode` / `ensureChild` / `EnsureFsNode` -/
theorem bridge_set_ensure :
    SwV.Gen.C39.set_descend = "t = t.ensureChild(p)" ∧ SwV.Gen.C39.set_store = "t.node = node" ∧
    SwV.Gen.C39.ensure_child_no_map = "n.children == nil" ∧ SwV.Gen.C39.ensure_child_found = "found" ∧
    SwV.Gen.C39.ensure_child_store = "n.children[name] = t" ∧
    SwV.Gen.C39.ensure_lookup = "t := c.doGetFsNode(path)" ∧ SwV.Gen.C39.ensure_cached = "t != nil" ∧
    SwV.Gen.C39.ensure_store_path = "path" ∧ SwV.Gen.C39.ensure_store_node = "t" ∧
    (∀ (t : Node) (v : Nat), setNode t [] v = (some v, t.2)) ∧
    (∀ (t : Node) (x : Name) (p : Path) (v : Nat),
      setNode t (x :: p) v = (t.1, t.2.setChild x (setNode ((t.2.child x).getD emptyNode) p v))) ∧
    (∀ (t : Node) (p : Path) (v w : Nat), SwV.Model.C39.get t p = some w → ensureNode t p v = (t, w)) ∧
    (∀ (t : Node) (p : Path) (v : Nat), SwV.Model.C39.get t p = none → ensureNode t p v = (setNode t p v, v)) := by
  refine ⟨rfl, rfl, rfl, rfl, rfl, rfl, rfl, rfl, rfl, fun _ _ => rfl, fun _ _ _ _ => rfl, ?_, ?_⟩
  · intro t p v w h; simp [ensureNode, h]
  · intro t p v h; simp [ensureNode, h]

/-- `DeleteFsNode` / `disconnectChild` / `deleteSelf` -/
theorem bridge_delete :
    SwV.Gen.C39.del_descend = "t = t.findChild(p)" ∧ SwV.Gen.C39.del_absent = "t == nil" ∧
    SwV.Gen.C39.del_has_parent = "t.parent != nil" ∧ SwV.Gen.C39.del_disconnect = "t" ∧
    SwV.Gen.C39.disconnect_key = "child.name" ∧
    SwV.Gen.C39.delete_self_children = "n.children = nil" ∧ SwV.Gen.C39.delete_self_node = "n.node = nil" ∧
    (∀ (t : Node), remove t [] = emptyNode) ∧
    (∀ (t : Node) (x : Name), remove t [x] = (t.1, t.2.delChild x)) ∧
    (∀ (t : Node) (x y : Name) (p : Path), t.2.child x = none → remove t (x :: y :: p) = t) := by
  refine ⟨rfl, rfl, rfl, rfl, rfl, rfl, rfl, fun _ => rfl, fun _ _ => rfl, ?_⟩
  intro t x y p h; simp [remove, h]

/-- `Move` / `connectToParent` -/
theorem bridge_move :
    SwV.Gen.C39.move_src_descend = "src = src.findChild(p)" ∧ SwV.Gen.C39.move_src_absent = "src == nil" ∧
    SwV.Gen.C39.move_src_has_parent = "src.parent != nil" ∧ SwV.Gen.C39.move_src_disconnect = "src" ∧
    SwV.Gen.C39.move_target_descend = "target = target.ensureChild(p)" ∧
    SwV.Gen.C39.move_target_parent = "parent := target.parent" ∧
    SwV.Gen.C39.move_target_disconnect = "target" ∧
    SwV.Gen.C39.move_rename = "src.name = target.name" ∧ SwV.Gen.C39.move_connect = "parent" ∧
    SwV.Gen.C39.connect_old = "oldNode := parent.findChild(n.name)" ∧
    SwV.Gen.C39.connect_old_present = "oldNode != nil" ∧
    SwV.Gen.C39.connect_store = "parent.children[n.name] = n" ∧
    (∀ (t : Node) (old new : Path), old ≠ [] → new ≠ [] → sub t old = none → move t old new = (t, .absent)) ∧
    (∀ (t s : Node) (old new : Path), old ≠ [] → new ≠ [] → sub t old = some s →
      move t old new = (putSub (remove t old) new s, .ok)) ∧
    (∀ (t s : Node) (x : Name), putSub t [x] s = (t.1, t.2.setChild x s)) := by
  refine ⟨rfl, rfl, rfl, rfl, rfl, rfl, rfl, rfl, rfl, rfl, rfl, rfl, ?_, ?_, fun _ _ _ => rfl⟩
  · intro t old new ho hn h; simp [move, ho, hn, h]
  · intro t s old new ho hn h; simp [move, ho, hn, h]

/-- weakest supplement: hashes of the whole mirrored functions -/
theorem bridge_pins :
    SwV.Gen.C39.src_doGetFsNode = "5fcfde4392d43b37" ∧ SwV.Gen.C39.src_doSetFsNode = "9b1d673a075230b5" ∧
    SwV.Gen.C39.src_EnsureFsNode = "e50997914ac04795" ∧ SwV.Gen.C39.src_DeleteFsNode = "b69f0a5377c3a9fb" ∧
    SwV.Gen.C39.src_Move = "71094896c641c745" ∧ SwV.Gen.C39.src_connectToParent = "6d1abcc57b3ef0fd" ∧
    SwV.Gen.C39.src_findChild = "78cd2ac0def0ce12" ∧ SwV.Gen.C39.src_ensureChild = "fd9dc62ad98b929d" ∧
    SwV.Gen.C39.src_disconnectChild = "b00412ad498397f9" ∧ SwV.Gen.C39.src_deleteSelf = "e01515e2b650fcc5" :=
  ⟨rfl, rfl, rfl, rfl, rfl, rfl, rfl, rfl, rfl, rfl⟩

end SwV.Props.C39
