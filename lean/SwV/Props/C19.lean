/-
C19 — property theorems. They are about the executable model in SwV/Model/C19.lean, which the
correspondence check compares with the real Filer on leveldb, leveldb2, leveldb3 and the
generic-path store on every run. The exactness theorems for directories without expired entries are
instances of `stream_of_dirListLive` (one per store path that provides `DirListLive`);
`listing_exact_expired_partial` covers expired entries on the native path. `pagination_complete` is about
`pages` (`Lemmas/C19`), the pagination run on the specification's `specList`; what carries it to the model is
`page_after_returned_name`: every request a pagination sends after the first is one that
`listing_exact_partial` covers. The two are not composed into one statement about `stream`.
-/
import SwV.Model.C19
import SwV.Spec.C19
import SwV.Lemmas.C19
import SwV.Gen.C19

namespace SwV.Props.C19
open SwV.Model.C19 SwV.Spec.C19 SwV.Lemmas.C19

/-- the directory as the specification sees it: the non-empty child names in key order -/
def childNames (nameOf : Bytes → Bytes) (dk : Bytes) (db : Db) : List Bytes :=
  ((children nameOf dk db).map (·.1)).filter fun n => decide (n ≠ [])

theorem childNames_sorted (nameOf : Bytes → Bytes) (dk : Bytes) (db : Db) (hs : SortedDb db) (hwf : KeysWF nameOf dk db) :
    SortedNames (childNames nameOf dk db) := by
  unfold childNames SortedNames SortedBy
  refine List.Pairwise.filter _ ?_
  rw [List.pairwise_map]
  exact children_sorted nameOf dk db hs hwf

theorem mem_dbPut (e : Ent) (db : Db) (y : Ent) (h : y ∈ dbPut e db) : y = e ∨ y ∈ db := by
  induction db with
  | nil => exact Or.inl (List.mem_singleton.1 h)
  | cons x xs ih =>
    unfold dbPut at h
    split at h
    · exact List.mem_cons.1 h
    · split at h
      · exact (List.mem_cons.1 h).imp_right (List.mem_cons_of_mem _)
      · rcases List.mem_cons.1 h with rfl | h
        · exact Or.inr List.mem_cons_self
        · exact (ih h).imp_right (List.mem_cons_of_mem _)

/-- every database built by Put (and Delete) operations is strictly sorted: the hypothesis
    `SortedDb` of the theorems of this file holds for every reachable store state -/
theorem dbPut_sorted (e : Ent) (db : Db) (hs : SortedDb db) : SortedDb (dbPut e db) := by
  induction db with
  | nil => exact List.pairwise_singleton _ _
  | cons x xs ih =>
    have hx := (List.pairwise_cons.1 hs).1
    have hs' : SortedDb xs := (List.pairwise_cons.1 hs).2
    unfold dbPut
    split
    · rename_i hlt
      refine List.pairwise_cons.2 ⟨?_, hs⟩
      intro y hy
      rcases List.mem_cons.1 hy with rfl | hy
      · exact hlt
      · exact ltB_trans _ _ _ hlt (hx y hy)
    · rename_i hlt
      split
      · rename_i heq
        refine List.pairwise_cons.2 ⟨?_, hs'⟩
        intro y hy; rw [heq]; exact hx y hy
      · rename_i hne
        refine List.pairwise_cons.2 ⟨?_, ih hs'⟩
        intro y hy
        rcases mem_dbPut e xs y hy with rfl | hy
        · cases h : ltB x.key y.key with
          | true => rfl
          | false => exact absurd (ltB_total _ _ (eq_false_of_ne_true hlt) h) hne
        · exact hx y hy

theorem dbDel_sorted (k : Bytes) (db : Db) (hs : SortedDb db) : SortedDb (dbDel k db) :=
  List.Pairwise.filter _ hs

/-- STORE LEVEL, all sorted databases with well-formed keys (`KeysWF`), all requests with `start = "" ∨ prefix ≤ start`:
    `ListDirectoryPrefixedEntries` of leveldb/leveldb2/leveldb3 hands out exactly the first `limit`
    children with a non-empty name that have the prefix and lie after the start, in name order (foreign keys — other
    directories, kv entries — never leak in, the scan stops exactly at the end of the prefix range) -/
theorem store_scan_exact_partial (nameOf : Bytes → Bytes) (dk : Bytes) (db : Db) (start : Bytes) (incl : Bool) (limit : Nat)
    (pfx : Bytes) (hs : SortedDb db) (hwf : KeysWF nameOf dk db) (hstart : start = [] ∨ ltB start pfx = false) :
    storeList nameOf dk db start incl limit pfx = ((children nameOf dk db).filter (sel start incl pfx)).take limit :=
  storeList_exact nameOf dk db start incl limit pfx hs hwf hstart

/-- FULL-STRENGTH store exactness (without `hstart`) is FALSE — known finding
    leveldb/start-before-prefix-stops-early: names a2 b1 b2, prefix b, start a1 ⇒ nothing -/
theorem store_scan_start_before_prefix_witness :
    let dk : Bytes := [47, 100, 0]
    let db : Db := [⟨dk ++ [97, 50], false⟩, ⟨dk ++ [98, 49], false⟩, ⟨dk ++ [98, 50], false⟩]
    storeList nameAfterLastNul dk db [97, 49] false 10 [98] = [] ∧
    ((children nameAfterLastNul dk db).filter (sel [97, 49] false [98])).take 10 = [([98, 49], false), ([98, 50], false)] := by
  decide +kernel

/-- over any store path that satisfies `DirListLive`, in a directory without expired entries, for a `GoodReq`
    request whose start name is `Ok`,
    `Filer.StreamListDirectoryEntries` delivers the specification's list of the directory's names -/
theorem stream_of_dirListLive (k : Kind) (dk : Bytes) (db : Db) (r : Req) {Ok : Bytes → Prop}
    (hdl : DirListLive k dk (effPrefix r) db Ok) (hok : Ok r.start)
    (hlive : ∀ p ∈ children k.nameOf dk db, p.2 = false) (hgood : GoodReq r) :
    (stream k dk db r).map (·.1) = some (specList (childNames k.nameOf dk db) r) := by
  unfold stream
  have hlen : (selected k.nameOf dk db r.start r.incl (effPrefix r)).length < (db.length + 3) * (db.length + 3) := by
    have h1 := selected_length_le k.nameOf dk db r.start r.incl (effPrefix r)
    have h2 : db.length + 3 ≤ (db.length + 3) * (db.length + 3) := Nat.le_mul_self _
    omega
  rw [streamLoop_of_dirListLive k dk (effPrefix r) _ r.excl db hdl hlive _ r.start r.incl r.limit hok hlen]
  rw [refill_exact (by rw [List.length_map]; exact hlen)]
  unfold specList childNames selected
  rw [map_fst_filter_sel, List.filter_filter]
  congr 2
  apply List.filter_congr
  intro n _
  exact passes_iff_matches r hgood n

/-- MAIN: for every sorted database with well-formed keys (`KeysWF`), every directory without expired entries and every request in the
    domain (no pattern, or no prefix and a well-split pattern; start empty or not before the effective prefix),
    `Filer.StreamListDirectoryEntries` delivers exactly `take limit (filter matches (filter afterStart names))`:
    ordered, duplicate-free, complete up to the limit — through the native store loop and the
    missed-count refill loop. -/
theorem listing_exact_partial (k : Kind) (dk : Bytes) (db : Db) (r : Req) (hs : SortedDb db) (hwf : KeysWF k.nameOf dk db)
    (hlive : ∀ p ∈ children k.nameOf dk db, p.2 = false) (hgood : GoodReq r)
    (hnat : k.native = true ∨ effPrefix r = []) (hstart : r.start = [] ∨ ltB r.start (effPrefix r) = false) :
    (stream k dk db r).map (·.1) = some (specList (childNames k.nameOf dk db) r) :=
  stream_of_dirListLive k dk db r (dirListLive_native k dk (effPrefix r) db hnat hs hwf hlive) hstart hlive hgood

/-- MAIN, generic path: the same for stores WITHOUT native prefix listing
    (`FilerStoreWrapper.prefixFilterEntries`, as repaired): every start name is fine here, the
    start-before-prefix defect does not exist on this path -/
theorem listing_exact_generic_partial (k : Kind) (dk : Bytes) (db : Db) (r : Req) (hgen : k.native = false) (hs : SortedDb db)
    (hwf : KeysWF k.nameOf dk db) (hlive : ∀ p ∈ children k.nameOf dk db, p.2 = false) (hgood : GoodReq r) :
    (stream k dk db r).map (·.1) = some (specList (childNames k.nameOf dk db) r) := by
  by_cases hp : effPrefix r = []
  · exact listing_exact_partial k dk db r hs hwf hlive hgood (Or.inr hp) (Or.inr (by rw [hp]; exact ltB_nil_right _))
  · exact stream_of_dirListLive k dk db r (dirListLive_generic k dk (effPrefix r) db hgen hp hs hwf hlive) trivial hlive hgood

/-- non-vacuity of `listing_exact_generic_partial`: generic store, names a ab b ba bb c, prefix b, start a (before the
    prefix!), limit 2 ⇒ [b, ba] -/
example :
    let dk : Bytes := [47, 100, 0]
    let db : Db := [⟨dk ++ [97], false⟩, ⟨dk ++ [97, 98], false⟩, ⟨dk ++ [98], false⟩, ⟨dk ++ [98, 97], false⟩,
      ⟨dk ++ [98, 98], false⟩, ⟨dk ++ [99], false⟩]
    (stream .mem dk db ⟨[97], false, 2, [98], [], []⟩).map (·.1) = some [[98], [98, 97]] := by
  decide +kernel

/-- non-vacuity of `listing_exact_partial`: a leveldb directory {a, ab, b}, pattern `a*`, limit 1, start a (exclusive) ⇒ [ab] -/
example :
    let dk : Bytes := [47, 100, 0]
    let db : Db := [⟨[47, 0, 100], false⟩, ⟨dk ++ [97], false⟩, ⟨dk ++ [97, 98], false⟩, ⟨dk ++ [98], false⟩, ⟨[47, 100, 50, 0, 97], false⟩]
    (stream .leveldb dk db ⟨[97], false, 1, [], [97, 42], []⟩).map (·.1) = some [[97, 98]] := by
  decide +kernel

/-- FULL-STRENGTH listing exactness is FALSE outside `GoodReq` — known finding splitPattern/literal-pattern-ignored:
    pattern "ab" (no wildcard) lists every child -/
theorem literal_pattern_ignored_witness :
    let dk : Bytes := [47, 100, 0]
    let db : Db := [⟨dk ++ [97], false⟩, ⟨dk ++ [97, 98], false⟩]
    let r : Req := ⟨[], false, 10, [], [97, 98], []⟩
    (stream .leveldb dk db r).map (·.1) = some [[97], [97, 98]] ∧ specList (childNames nameAfterLastNul dk db) r = [[97, 98]] := by
  decide +kernel

/-- … known finding splitPattern/question-mark-in-prefix: pattern "?*" lists only names with a literal '?' -/
theorem question_mark_in_prefix_witness :
    let dk : Bytes := [47, 100, 0]
    let db : Db := [⟨dk ++ [97, 98], false⟩, ⟨dk ++ [98, 98], false⟩]
    let r : Req := ⟨[], false, 10, [], [63, 42], []⟩
    (stream .leveldb dk db r).map (·.1) = some [] ∧ specList (childNames nameAfterLastNul dk db) r = [[97, 98], [98, 98]] := by
  decide +kernel

/-- … known finding leveldb/start-before-prefix-stops-early at the filer level -/
theorem start_before_prefix_witness :
    let dk : Bytes := [47, 100, 0]
    let db : Db := [⟨dk ++ [97, 50], false⟩, ⟨dk ++ [98, 49], false⟩, ⟨dk ++ [98, 50], false⟩]
    let r : Req := ⟨[97, 49], false, 10, [98], [], []⟩
    (stream .leveldb dk db r).map (·.1) = some [] ∧ specList (childNames nameAfterLastNul dk db) r = [[98, 49], [98, 50]] := by
  decide +kernel

/-- … and FALSE with expired entries under a pattern — known finding
    StreamListDirectoryEntries/restart-after-expired-refill: names aa, aab (expired), bbb; pattern `*a*` ⇒ aa aa -/
theorem restart_after_expired_refill_witness :
    let dk : Bytes := [47, 100, 0]
    let db : Db := [⟨dk ++ [97, 97], false⟩, ⟨dk ++ [97, 97, 98], true⟩, ⟨dk ++ [98, 98, 98], false⟩]
    let r : Req := ⟨[], false, 4, [], [42, 97, 42], []⟩
    (stream .leveldb dk db r).map (·.1) = some [[97, 97], [97, 97]] := by
  decide +kernel

/-- the live (not expired) non-empty child names in key order -/
def liveChildNames (nameOf : Bytes → Bytes) (dk : Bytes) (db : Db) : List Bytes :=
  (((children nameOf dk db).filter fun p => !p.2).map (·.1)).filter fun n => decide (n ≠ [])

/-- EXPIRED ENTRIES: for every sorted database with well-formed keys — expired entries anywhere — and every request without
    pattern/exclude filter (start not before the prefix) to a native store, or without a name prefix to the
    generic one, the listing skips the expired entries
    WITHOUT shortening the page: it is `take limit` of the matching LIVE names. (With a pattern the
    statement is false: `restart_after_expired_refill_witness`.) -/
theorem listing_exact_expired_partial (k : Kind) (dk : Bytes) (db : Db) (r : Req) (hs : SortedDb db)
    (hwf : ∀ e ∈ db, isPrefix dk e.key = true → e.key = dk ++ k.nameOf e.key)
    (hpat : r.pattern = []) (hexcl : r.excl = [])
    (hnat : k.native = true ∨ r.pfx = []) (hstart : r.start = [] ∨ ltB r.start r.pfx = false) :
    (stream k dk db r).map (·.1) = some (specList (liveChildNames k.nameOf dk db) r) := by
  have heff := effPrefix_of_pattern_nil r hpat
  have hrest : (splitPattern r.pattern).2 = [] := by rw [hpat, splitPattern_nil]
  have hlen : (selected k.nameOf dk db r.start r.incl r.pfx).length < db.length + 2 :=
    Nat.lt_succ_of_le (Nat.le_succ_of_le (selected_length_le ..))
  unfold stream
  rw [heff, hrest, hexcl, streamLoop_nofilter (Nat.mul_ne_zero (Nat.succ_ne_zero _) (Nat.succ_ne_zero _)),
    Option.map_some, listValid_exact k dk r.pfx hnat (db.length + 2) db r.start r.incl r.limit hs hwf hstart hlen,
    refill_exact hlen, List.map_take]
  unfold specList liveChildNames selected
  have hcomm : ((children k.nameOf dk db).filter (sel r.start r.incl r.pfx)).filter (fun p => !p.2) =
      ((children k.nameOf dk db).filter fun p => !p.2).filter (sel r.start r.incl r.pfx) := by
    rw [List.filter_filter, List.filter_filter]
    congr 1; funext a; exact Bool.and_comm _ _
  rw [hcomm, map_fst_filter_sel]
  congr 2
  apply List.filter_congr
  intro n _
  simp [matchesReq, hpat, hexcl]

/-- non-vacuity: names a, ab (expired), b, c; limit 2 ⇒ the page is still full: [a, b] -/
example :
    let dk : Bytes := [47, 100, 0]
    let db : Db := [⟨dk ++ [97], false⟩, ⟨dk ++ [97, 98], true⟩, ⟨dk ++ [98], false⟩, ⟨dk ++ [99], false⟩]
    (stream .leveldb dk db ⟨[], false, 2, [], [], []⟩).map (·.1) = some [[97], [98]] := by
  decide +kernel

/-- following the last returned name: the next request starts (exclusively) at a name that has the
    effective prefix, so it satisfies `hstart` of `listing_exact_partial`, whose other hypotheses stay:
    the start-before-prefix defect of the native stores cannot be reached by paginating -/
theorem page_after_returned_name (k : Kind) (dk : Bytes) (db : Db) (r : Req) (last : Bytes) (hs : SortedDb db)
    (hwf : KeysWF k.nameOf dk db) (hlive : ∀ p ∈ children k.nameOf dk db, p.2 = false) (hgood : GoodReq r)
    (hnat : k.native = true ∨ effPrefix r = []) (hlast : isPrefix (effPrefix r) last = true) :
    (stream k dk db { r with start := last, incl := false }).map (·.1) =
      some (specList (childNames k.nameOf dk db) { r with start := last, incl := false }) := by
  have heff : effPrefix { r with start := last, incl := false } = effPrefix r := rfl
  have hgood' : GoodReq { r with start := last, incl := false } := hgood
  exact listing_exact_partial k dk db { r with start := last, incl := false } hs hwf hlive hgood'
    (by rw [heff]; exact hnat) (by rw [heff]; exact Or.inr (not_lt_of_isPrefix _ _ hlast))

/-- PAGINATION: on the specification, following the last returned name page after page (limit ≥ 1)
    enumerates every match exactly once, in order: the concatenation of the pages IS
    `filter matches (sorted names)` — for all sorted lists of non-empty names and all requests, given fuel for
    more pages than there are matches -/
theorem pagination_complete (sorted : List Bytes) (r : Req) (hs : SortedNames sorted) (hne : ∀ n ∈ sorted, n ≠ [])
    (hlim : 0 < r.limit) (fuel : Nat) (hf : (specAll sorted r).length < fuel) :
    pages sorted r fuel [] = specAll sorted r := by
  have hall : (specAll sorted r).filter (afterStart [] false) = specAll sorted r := by
    rw [List.filter_eq_self]
    intro n hn
    have : n ∈ sorted := (List.mem_filter.1 hn).1
    rw [afterStart_excl]
    exact (ltB_nil n).2 (hne n this)
  have := pages_eq sorted r hs hlim fuel [] (by rw [hall]; exact hf)
  rw [this, hall]

/-- the hypotheses of `pagination_complete` on the names hold for the `childNames` of every sorted database with
    well-formed keys (`KeysWF`) -/
theorem pagination_complete_model (k : Kind) (dk : Bytes) (db : Db) (r : Req) (hs : SortedDb db) (hwf : KeysWF k.nameOf dk db)
    (hlim : 0 < r.limit) :
    pages (childNames k.nameOf dk db) r ((specAll (childNames k.nameOf dk db) r).length + 1) [] =
      specAll (childNames k.nameOf dk db) r := by
  apply pagination_complete _ r (childNames_sorted k.nameOf dk db hs hwf) _ hlim _ (Nat.lt_succ_self _)
  intro n hn
  exact of_decide_eq_true (List.mem_filter.1 hn).2

/-- non-vacuity: three names, limit 2, pattern `*` -/
example : pages [[97], [97, 98], [98]] ⟨[], false, 2, [], [42], []⟩ 4 [] = [[97], [97, 98], [98]] := by decide +kernel

/-- the loop conditions the model transcribes are the ones in the source: stop at the first key without
    the prefix, exclusive-start skip, limit test, the two refill loops and the generic filter loop -/
theorem bridge_loop_conditions :
    SwV.Gen.C19.stopCondLeveldb = "!bytes.HasPrefix(key, directoryPrefix)" ∧
    SwV.Gen.C19.stopCondLeveldb2 = "!bytes.HasPrefix(key, directoryPrefix)" ∧
    SwV.Gen.C19.stopCondLeveldb3 = "!bytes.HasPrefix(key, directoryPrefix)" ∧
    SwV.Gen.C19.skipStartLeveldb = "fileName == startFileName && !includeStartFile" ∧
    SwV.Gen.C19.skipStartLeveldb2 = "fileName == startFileName && !includeStartFile" ∧
    SwV.Gen.C19.skipStartLeveldb3 = "fileName == startFileName && !includeStartFile" ∧
    SwV.Gen.C19.limitCondLeveldb = "limit < 0" ∧
    SwV.Gen.C19.missedLoopCond = "missedCount > 0 && err == nil" ∧
    SwV.Gen.C19.expiredLoopCond = "expiredCount > 0 && err == nil" ∧
    SwV.Gen.C19.prefixFilterLoopCond = "count < limit && len(notPrefixed) > 0" :=
  ⟨rfl, rfl, rfl, rfl, rfl, rfl, rfl, rfl, rfl, rfl⟩

/-- the functions the model transcribes are unchanged (source hashes; a source edit breaks this obligation) -/
theorem bridge_pinned_sources :
    SwV.Gen.C19.src_leveldb_ListDirectoryPrefixedEntries = "55c449cc448d5492" ∧
    SwV.Gen.C19.src_leveldb2_ListDirectoryPrefixedEntries = "b73984763a9dab44" ∧
    SwV.Gen.C19.src_leveldb3_ListDirectoryPrefixedEntries = "0f74e02cbce29af0" ∧
    SwV.Gen.C19.src_leveldb_genDirectoryKeyPrefix = "2da9a70a6bf1b3c0" ∧
    SwV.Gen.C19.src_leveldb_getNameFromKey = "548a39a2097fd1fe" ∧
    SwV.Gen.C19.src_leveldb2_genDirectoryKeyPrefix = "c73927f75b8280fe" ∧
    SwV.Gen.C19.src_leveldb3_genDirectoryKeyPrefix = "061269bdf0241cc2" ∧
    SwV.Gen.C19.src_findDB = "3d0a7a5505f282f2" ∧
    SwV.Gen.C19.src_prefixFilterEntries = "39c051133885193c" ∧
    SwV.Gen.C19.src_wrapper_ListDirectoryPrefixedEntries = "e6f15774cc588814" ∧
    SwV.Gen.C19.src_StreamListDirectoryEntries = "5df12bdf1ebaa2bb" ∧
    SwV.Gen.C19.src_doListPatternMatchedEntries = "19b99b4533a3048c" ∧
    SwV.Gen.C19.src_doListValidEntries = "ebb85eee918a1190" ∧
    SwV.Gen.C19.src_doListDirectoryEntries = "8c89010a0f6ddc2d" ∧
    SwV.Gen.C19.src_splitPattern = "21a04c190ee16b79" :=
  ⟨rfl, rfl, rfl, rfl, rfl, rfl, rfl, rfl, rfl, rfl, rfl, rfl, rfl, rfl, rfl⟩

end SwV.Props.C19
