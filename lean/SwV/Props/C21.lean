/-
C21 — property theorems: hard links share one file.

`Cons s h` (Lemmas/C21): identity h has no record and no names, or a file record for h whose
counter is the number of stored names carrying h. `ConsAll` = every non-zero identity.
All statements are about the executable model (SwV/Model/C18.lean), which the correspondence
check compares with the real Filer after every operation (stored entries, FindEntry and
listing views, link records).
-/
import SwV.Model.C18
import SwV.Gen.C21
import SwV.Spec.C21
import SwV.Lemmas.C18
import SwV.Lemmas.C21

namespace SwV.Props.C21
open SwV.Model.C18 SwV.Spec.C21 SwV.Lemmas.C18 SwV.Lemmas.C21

/-- all names of an identity that has its record show the record (content, attributes, counter) through FindEntry -/
theorem links_share (s : St) (p q : RPath) (a b r : Entry) (ha : lookup p s.ents = some a) (hb : lookup q s.ents = some b)
    (hab : a.hl = b.hl) (h0 : a.hl ≠ 0) (hr : kvGet s a.hl = some r) : find s p = some r ∧ find s q = some r :=
  ⟨find_of_lookup_linked ha h0 hr, find_of_lookup_linked hb (hab ▸ h0) (hab ▸ hr)⟩

/-- in a consistent state every name of an identity shows the same thing -/
theorem links_share_consistent (s : St) (inv : TreeInv s) (c : ConsAll s) (p q : RPath) (a b : Entry)
    (ha : (p, a) ∈ s.ents) (hb : (q, b) ∈ s.ents) (hab : a.hl = b.hl) (h0 : a.hl ≠ 0) : find s p = find s q := by
  rcases find_of_linked inv ha h0 (c _ h0) with ⟨r, hg, hf, _⟩
  have h0b : b.hl ≠ 0 := hab ▸ h0
  rcases find_of_linked inv hb h0b (c _ h0b) with ⟨r', hg', hf', _⟩
  rw [← hab, hg] at hg'
  rw [hf, hf', Option.some.inj hg']

theorem write_record (s : St) (inv : TreeInv s) (c : ConsAll s) (p : RPath) (ex : Entry) (hm : (p, ex) ∈ s.ents)
    (hk : ex.hl ≠ 0) (tag : Nat) (chunks : List Nat) :
    ∃ e, kvGet (step s (.write p tag chunks)).1 ex.hl = some e ∧ e.chunks = chunks ∧ e.tag = tag := by
  rcases find_of_linked inv hm hk (c _ hk) with ⟨r, _, hf, hrl, hrf, _⟩
  rw [step_write, viaQ_fst, hf, createEntry_over (inv.parent _ hm).1 hf hrf]
  refine ⟨{ isDir := false, tag := tag, chunks := chunks, hl := r.hl, cnt := r.cnt }, ?_, rfl, rfl⟩
  rw [kvGet_wInsert_linked (hrl ▸ hk) fun y hy => Or.inl (mem_unique inv.nodup hy hm ▸ hrl.symm)]
  exact if_pos hrl.symm

/-- MAIN (links_share): in a consistent state an update made through ANY name of an identity shows through EVERY name of it -/
theorem write_visible_through_all_names (s : St) (inv : TreeInv s) (c : ConsAll s) (p : RPath) (ex : Entry)
    (hm : (p, ex) ∈ s.ents) (hk : ex.hl ≠ 0) (tag : Nat) (chunks : List Nat) :
    ∀ (q : RPath) (b : Entry), (q, b) ∈ (step s (.write p tag chunks)).1.ents → b.hl = ex.hl →
      ∃ v, find (step s (.write p tag chunks)).1 q = some v ∧ v.chunks = chunks ∧ v.tag = tag := by
  intro q b hq hb
  have inv' : TreeInv (step s (.write p tag chunks)).1 := inv_step inv trivial
  rcases write_record s inv c p ex hm hk tag chunks with ⟨e, he, hec, het⟩
  exact ⟨e, find_of_lookup_linked (lookup_of_mem_nodup inv'.nodup hq) (hb ▸ hk) (hb ▸ he), hec, het⟩

example : ∃ (s : St) (p : RPath) (ex : Entry), TreeInv s ∧ (p, ex) ∈ s.ents ∧ ex.hl ≠ 0 :=
  ⟨run {} [.create ["a"] { isDir := false, tag := 1, chunks := [1], hl := 0, cnt := 0 } false, .link ["a"] ["b"] 1],
   ["b"], { isDir := false, tag := 1, chunks := [1], hl := 1, cnt := 2 },
   inv_run _ _ inv_empty (by simp [OpOk]), by decide +kernel, by decide +kernel⟩

/-- operations under which the counter invariant is proved: write through a name, link with a fresh identity for a
    plain source, unlink / delete of a file (any flags), create or overwrite with a plain entry where no linked name is.
    Excluded: the known findings (rename: drops the link; a plain entry over a linked name; deletes of directories:
    metadata-only recursive delete forgets the links below), raw updates (the caller chooses identity and counter),
    and a create whose entry carries a link identity, which the client issues only inside Dir.Link (`link`). -/
def Allowed (s : St) : Op → Prop
  | .write _ _ _ => True
  | .link src _ h => LinkFresh s src h
  | .unlink p => ∀ o, find s p = some o → o.isDir = false
  | .delete p _ _ _ => ∀ o, find s p = some o → o.isDir = false
  | .create p e _ => e.hl = 0 ∧ ∀ ex, (p, ex) ∈ s.ents → ex.hl = 0
  | _ => False

/-- one step keeps every identity's counter equal to its number of names, and its record present exactly while
    names exist -/
theorem counter_eq_names_step (s : St) (op : Op) (inv : TreeInv s) (c : ConsAll s) (ok : Allowed s op) :
    ConsAll (step s op).1 := by
  cases op with
  | write p tag chunks => exact consAll_write inv c p tag chunks
  | link src dst h => exact consAll_linkOp inv c src dst h ok
  | unlink p => exact consAll_unlink inv c p ok
  | create p e x => exact consAll_createEntry_plain c p e x ok.1 ok.2
  | delete p r i d => exact consAll_deleteEntry_file inv c p r d ok
  | update p e => exact False.elim ok
  | rename a b => exact False.elim ok

def AllowedRun : St → List Op → Prop
  | _, [] => True
  | s, op :: t => Allowed s op ∧ AllowedRun (step s op).1 t

theorem allowed_opOk (s : St) (op : Op) (h : Allowed s op) : OpOk op := by
  cases op with
  | create p e x => intro _; exact h.1
  | update p e => exact False.elim h
  | _ => exact trivial

/-- MAIN (counter_eq_names): from a consistent state, after ANY history of allowed operations (`Allowed`: write / link / unlink, file deletes,
    plain creates where no linked name is) the counter of every identity equals its number of names -/
theorem counter_eq_names_run (ops : List Op) : ∀ (s : St), TreeInv s → ConsAll s → AllowedRun s ops →
    ConsAll (run s ops) ∧ TreeInv (run s ops) := by
  induction ops with
  | nil => intro s inv c _; exact ⟨c, inv⟩
  | cons op t ih =>
    intro s inv c ok
    simp only [run, List.foldl]
    exact ih _ (inv_step inv (allowed_opOk s op ok.1)) (counter_eq_names_step s op inv c ok.1) ok.2

theorem counter_eq_names (ops : List Op) (ok : AllowedRun {} ops) : ConsAll (run {} ops) :=
  (counter_eq_names_run ops {} inv_empty consAll_empty ok).1

example : AllowedRun {} [.write ["a"] 1 [1], .link ["a"] ["b"] 1, .unlink ["a"]] := by
  refine ⟨trivial, ?_, ?_, trivial⟩
  · intro ex _ _
    exact ⟨by decide, by decide⟩
  · intro o ho
    have : find (step (step {} (.write ["a"] 1 [1])).1 (.link ["a"] ["b"] 1)).1 ["a"]
        = some { isDir := false, tag := 1, chunks := [1], hl := 1, cnt := 2 } := by decide +kernel
    rw [this] at ho
    cases ho
    rfl

/-- "the shared record disappears exactly when the last name is removed" -/
theorem record_iff_names (s : St) (h : Nat) (c : Cons s h) : kvGet s h = none ↔ nameCount s.ents h = 0 := by
  cases hg : kvGet s h with
  | none => simp [(cons_none hg).mp c]
  | some r => simp [((cons_some hg).mp c).2.2.1]

/-- a consistent identity passes the judge's check (`counterOk` over the implementation's dump) -/
theorem counterOk_of_cons (s : St) (h : Nat) (c : Cons s h) : counterOk s.ents s.kv h = true := by
  have hn : (namesOf s.ents h).length = nameCount s.ents h := by
    simp [namesOf, nameCount, List.countP_eq_length_filter]
  have hr : record s.kv h = kvGet s h := rfl
  unfold counterOk
  rw [hn, hr]
  cases hg : kvGet s h with
  | none => simp [(cons_none hg).mp c]
  | some r => simp [((cons_some hg).mp c).2.2]

/-! ### what is NOT true of the code (known findings): witnesses

FULL-STRENGTH statement: `ConsAll` and "a renamed name stays a name of its identity" hold after EVERY operation.
False for rename, for a plain overwrite of a linked name, and for a metadata-only recursive delete: -/

def linkedPair : St := run {} [.create ["a"] { isDir := false, tag := 1, chunks := [1], hl := 0, cnt := 0 } false, .link ["a"] ["b"] 1]

/-- rename/drops-hard-link: the renamed name is a plain file afterwards (moveSelfEntry copies no HardLinkId) -/
theorem rename_drops_hard_link_witness :
    (lookup ["b"] linkedPair.ents).map (·.hl) = some 1 ∧
    (lookup ["d"] (step linkedPair (.rename ["b"] ["d"])).1.ents).map (·.hl) = some 0 := by decide +kernel

/-- create/counter-above-names: a plain entry over a linked name leaves the counter at 2 with one name -/
theorem overwrite_keeps_counter_witness :
    let s' := (step linkedPair (.create ["a"] { isDir := false, tag := 4, chunks := [2], hl := 0, cnt := 0 } false)).1
    (kvGet s' 1).map (·.cnt) = some 2 ∧ nameCount s'.ents 1 = 1 := by decide +kernel

/-- delete-meta-only/counter-above-names: metadata-only recursive delete of the directory of a name -/
theorem meta_only_delete_keeps_counter_witness :
    let s := run {} [.create ["c", "a"] { isDir := false, tag := 1, chunks := [1], hl := 0, cnt := 0 } false, .link ["c", "a"] ["b"] 1]
    let s' := (step s (.delete ["a"] true false false)).1
    (kvGet s' 1).map (·.cnt) = some 2 ∧ nameCount s'.ents 1 = 1 := by decide +kernel

/-- the stored copy of the OTHER name keeps the old content after a write (what a leveldb2 listing shows) -/
theorem listing_stale_witness :
    let s' := (step linkedPair (.write ["b"] 2 [2])).1
    (children s' []).map (fun x => (x.1, x.2.chunks)) = [("a", [1]), ("b", [2])] ∧
    (find s' ["a"]).map (·.chunks) = some [2] := by decide +kernel

/-- a source edit of any mirrored function changes its hash and breaks this obligation (the model must then be
    re-read against the code; the correspondence check says whether behaviour changed) -/
theorem bridge_source_pins :
    SwV.Gen.C21.src_handleUpdateToHardLinks = "33f7d51202e82d7e" ∧
    SwV.Gen.C21.src_setHardLink = "ec3767ce94f9ae6b" ∧
    SwV.Gen.C21.src_maybeReadHardLink = "e36b9e844d02cbd6" ∧
    SwV.Gen.C21.src_DeleteHardLink = "a2ddc84588aadf75" ∧
    SwV.Gen.C21.src_InsertEntry = "bbabe9f3d4e7edec" ∧
    SwV.Gen.C21.src_UpdateEntry = "f7fe3164dd69a486" ∧
    SwV.Gen.C21.src_FindEntry = "f1b72d3fe965f0cb" ∧
    SwV.Gen.C21.src_DeleteOneEntry = "f25f2d182ec2dcf7" ∧
    SwV.Gen.C21.src_ListDirectoryPrefixedEntries = "e6f15774cc588814" ∧
    SwV.Gen.C21.src_moveSelfEntry = "6fb6d3093248b367" :=
  ⟨rfl, rfl, rfl, rfl, rfl, rfl, rfl, rfl, rfl, rfl⟩

end SwV.Props.C21
