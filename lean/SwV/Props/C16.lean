/-
C16 — theorems about ec.balance as modelled in Model/C16.lean (dry-run bookkeeping), judged by Spec/C16.lean.

Proved for all inputs: the bitmaps after one planned move (`moveMountedShardToEcNode`) differ from those before in
exactly the moved shard; a move between different servers (server ids unique) whose source holds the shard and whose
destination lacks it keeps the number of holders of EVERY (volume, shard), along any sequence of such moves, and the
per-rack guard only approves such moves; deduplication removes nothing but duplicates; an approved destination is
another server with a free slot below the average; `freeEcSlot` + shards held is invariant under `addEcVolumeShards` /
`deleteEcVolumeShards` of shard ids below 14, so counters that equal the recount (capacity − shards held) still do after
every sequence of such steps; the model's `ceilDiv` is ⌈a/b⌉.
False of the code, negations proved on witnesses (the corpus holds the same inputs): the per-rack guard does not
imply a free slot; no across/within guard checks that the destination lacks the shard (witness for the within-rack
guard; the across-racks case is the corpus input `across_onto_holder.ops` only); across-racks balancing can forget
picked shards.  Conservation along whole PHASES of the real planner is judged on every run
(`Spec.judgeBook`), not proved.
-/
import SwV.Model.C16
import SwV.Spec.C16
import SwV.Lemmas.C16
import SwV.Lemmas.C16Slots
import SwV.Gen.C16
namespace SwV.Props.C16
open SwV.Model.C16 SwV.Spec.C16
open SwV.Lemmas.C16 (copies)

/-- `addEcVolumeShards`: the destination's bitmap of the volume gains exactly shard `s`. -/
theorem add_bits_same (n : ENode) (vid s j : Nat) :
    hasBit ((n.add vid s).bits vid) j = (hasBit (n.bits vid) j || decide (s = j)) := by
  rw [Lemmas.C16.bits_add, if_pos rfl, Lemmas.C16.hasBit_addBit]

theorem add_bits_other (n : ENode) (vid vid' s : Nat) (hne : vid' ≠ vid) :
    (n.add vid s).bits vid' = n.bits vid' := by
  rw [Lemmas.C16.bits_add, if_neg hne]

/-- `deleteEcVolumeShards`: the source's bitmap of the volume loses exactly shard `s`. -/
theorem del_bits_same (n : ENode) (vid s j : Nat) :
    hasBit ((n.del vid s).bits vid) j = (hasBit (n.bits vid) j && !decide (s = j)) := by
  rw [Lemmas.C16.bits_del, if_pos rfl, Lemmas.C16.hasBit_delBit]

theorem del_bits_other (n : ENode) (vid vid' s : Nat) (hne : vid' ≠ vid) :
    (n.del vid s).bits vid' = n.bits vid' := by
  rw [Lemmas.C16.bits_del, if_neg hne]

/-- the guard of `pickOneEcNodeAndMoveOneShard`: another server, with a free slot, below the average -/
theorem destOk_sound {cands : List ENode} {avg vid src : Nat} {d : ENode} (h : destOk cands avg vid src d = true) :
    d.id ≠ src ∧ d.free > 0 ∧ popc (d.bits vid) < avg := by
  simp only [destOk, Bool.and_eq_true, bne_iff_ne, ne_eq, decide_eq_true_eq] at h
  exact ⟨h.1.1.1, h.1.1.2, h.1.2⟩

/-- an approved across-racks move: free slot on the server, free slot and room below the even-spread
    target ceil(14/#racks) on the destination rack (planner counters) -/
theorem across_move_guarded (a : Across) (src s dst : Nat) (h : a.moveOk src s dst = true) :
    ∃ d, a.st.node? dst = some d ∧ d.id ≠ src ∧ d.free > 0 ∧ a.count d.rack + 1 ≤ a.avg ∧ a.st.rackFreeOf d.rack > 0 := by
  unfold Across.moveOk at h
  cases hd : a.st.node? dst with
  | none => simp [hd] at h
  | some d =>
    simp only [hd, Bool.and_eq_true] at h
    obtain ⟨⟨_, hel⟩, hdest⟩ := h
    have hs := destOk_sound hdest
    simp only [Across.eligible, Bool.and_eq_true, decide_eq_true_eq] at hel
    exact ⟨d, rfl, hs.1, hs.2.1, Int.add_one_le_of_lt hel.1, hel.2⟩

theorem withinMoveOk_sound (st : ESt) (avg vid src s dst : Nat) (h : withinMoveOk st avg vid src s dst = true) :
    ∃ sn d, st.node? src = some sn ∧ st.node? dst = some d ∧ d.rack = sn.rack ∧ d.id ≠ src ∧ d.free > 0 ∧
      hasBit (sn.bits vid) s = true ∧ popc (d.bits vid) < avg := by
  unfold withinMoveOk at h
  cases hs : st.node? src with
  | none => simp [hs] at h
  | some sn =>
    cases hd : st.node? dst with
    | none => simp [hs, hd] at h
    | some d =>
      simp only [hs, hd, Bool.and_eq_true] at h
      obtain ⟨⟨⟨hr, _⟩, hb⟩, hdest⟩ := h
      have hk := destOk_sound hdest
      exact ⟨sn, d, rfl, rfl, eq_of_beq hr, hk.1, hk.2.1, hb, hk.2.2⟩

example : ∃ a src s dst, Across.moveOk a src s dst = true :=
  ⟨acrossStart ⟨[⟨1, 1, 42, true, [(1, 255)]⟩, ⟨2, 2, 50, true, []⟩], [(1, 42), (2, 50)]⟩ 1, 1, 0, 2, by decide +kernel⟩

def wRack : ESt := ⟨[⟨2, 1, 0, true, []⟩, ⟨1, 1, -1, true, [(1, 2047)]⟩], [(1, -1)]⟩

/-- `doBalanceEcRack` plans shard 1.0 onto server 2 although its freeEcSlot is 0
    (corpus/C16/rackbal_no_free_slot.ops; class rackbal/target-without-free-slot). -/
theorem rackbal_no_free_slot_witness :
    rackMoveOk wRack 1 1 0 2 = true ∧ (wRack.node? 2).map (·.free) = some 0 ∧
    judgeMove "rackbal" wRack 1 1 0 2 = ["rackbal/target-without-free-slot"] := by decide +kernel

def wHold : ESt := ⟨[⟨2, 1, 49, true, [(1, 1)]⟩, ⟨1, 1, 46, true, [(1, 15)]⟩], [(1, 95)]⟩

/-- the within-rack guard approves moving shard 1.0 onto server 2, which holds shard 1.0
    (corpus/C16/within_onto_holder.ops; class within/target-already-holds-shard). -/
theorem dest_may_hold_shard_witness :
    withinMoveOk wHold (withinAvg wHold 1 1) 1 1 0 2 = true ∧
    judgeMove "within" wHold 1 1 0 2 = ["within/target-already-holds-shard"] := by decide +kernel

def wDrop : ESt := ⟨[⟨1, 1, 6, true, [(1, 16383)]⟩, ⟨2, 2, 0, true, []⟩], [(1, 6), (2, 0)]⟩

/-- across-racks balancing picks 7 shards of volume 1, no rack is eligible, and the bookkeeping
    after the phase has lost them (corpus/C16/across_no_rack_drops.ops; class across/shard-dropped-from-bookkeeping). -/
theorem across_drops_shards_witness :
    (acrossStart wDrop 1).todo.length = 7 ∧ (acrossStart wDrop 1).noRackOk 0 1 = true ∧
    judgeBook "across" wDrop wDrop (acrossStart wDrop 1).st = ["across/shard-dropped-from-bookkeeping"] := by decide +kernel

/-! ### shard conservation: the multiset of (volume, shard) over all servers

`copies st vid s` = number of servers whose bookkeeping holds shard `s` of volume `vid`. -/

/-- the guard under which a planned move is a real move: different servers, the source holds the shard,
    the destination lacks it (`…/target-already-holds-shard` is the open finding: neither the across-racks nor the
    within-rack guard checks the last part) -/
def guardOk (st : ESt) (src dst vid s : Nat) : Bool :=
  src != dst &&
  match st.node? src, st.node? dst with
  | some sn, some dn => holdsShard sn vid s && !holdsShard dn vid s
  | _, _ => false

theorem guardOk_iff {st : ESt} {src dst vid s : Nat} : guardOk st src dst vid s = true ↔
    src ≠ dst ∧ ∃ sn dn, st.node? src = some sn ∧ st.node? dst = some dn ∧
      holdsShard sn vid s = true ∧ holdsShard dn vid s = false := by
  unfold guardOk
  cases st.node? src <;> cases st.node? dst <;> simp

/-- a guarded move (`moveMountedShardToEcNode` bookkeeping = addBit at the destination +
    delBit at the source) keeps the number of holders of EVERY (volume, shard) — server ids unique -/
theorem move_preserves_shards (st : ESt) (src dst vid s : Nat) (hu : (st.nodes.map (·.id)).Nodup)
    (hg : guardOk st src dst vid s = true) (vid' j : Nat) :
    copies (st.move src dst vid s) vid' j = copies st vid' j := by
  obtain ⟨hne, sn, dn, hs, hd, h1, h2⟩ := guardOk_iff.mp hg
  have key := Lemmas.C16.copies_move st src dst vid s sn dn hu hs hd hne vid' j
  simp only [h1, h2, and_true] at key
  exact Nat.add_right_cancel key

/-- the consequence of the open finding `…/target-already-holds-shard`: a move the planner's guards allow onto a
    server that already holds the shard removes one copy from the bookkeeping -/
theorem move_onto_holder_loses_copy (st : ESt) (src dst vid s : Nat) (sn dn : ENode)
    (hu : (st.nodes.map (·.id)).Nodup) (hs : st.node? src = some sn) (hd : st.node? dst = some dn) (hne : src ≠ dst)
    (h1 : holdsShard sn vid s = true) (h2 : holdsShard dn vid s = true) :
    copies (st.move src dst vid s) vid s + 1 = copies st vid s := by
  have key := Lemmas.C16.copies_move st src dst vid s sn dn hu hs hd hne vid s
  simpa [h1, h2] using key

/-- across racks: `pickNEcShardsToMoveFrom` deletes the picked shard from its source at once (−1), the planned
    move adds it at the destination (+1, its delBit at the source is void): pick + move conserve every shard
    when the destination lacks it.  A pick WITHOUT a following move loses the copy
    (open finding across/shard-dropped-from-bookkeeping, `across_drops_shards_witness`). -/
theorem pick_then_move_preserves_shards (st : ESt) (src dst vid s : Nat) (sn dn : ENode)
    (hu : (st.nodes.map (·.id)).Nodup) (hs : st.node? src = some sn) (hd : st.node? dst = some dn) (hne : src ≠ dst)
    (h1 : holdsShard sn vid s = true) (h2 : holdsShard dn vid s = false) (vid' j : Nat) :
    copies ((st.upd src (·.del vid s)).move src dst vid s) vid' j = copies st vid' j := by
  have hid := Lemmas.C16.del_id vid s
  have hp := Lemmas.C16.copies_pick st src vid s sn hu hs vid' j
  have hm := Lemmas.C16.copies_move (st.upd src (·.del vid s)) src dst vid s (sn.del vid s) dn
    (by rwa [Lemmas.C16.upd_ids hid]) (Lemmas.C16.node?_upd_same hid hs)
    (Lemmas.C16.node?_upd_other hid (Ne.symm hne) hd) hne vid' j
  have hgone : holdsShard (sn.del vid s) vid s = false := by simp [Lemmas.C16.holds_del]
  simp only [hgone, h2, Bool.false_eq_true, and_false, if_false, and_true] at hm
  simp only [h1, and_true] at hp
  omega

/-- any sequence of guarded moves -/
def runGuarded : ESt → List (Nat × Nat × Nat × Nat) → Option ESt
  | st, [] => some st
  | st, (src, dst, vid, s) :: rest => if guardOk st src dst vid s then runGuarded (st.move src dst vid s) rest else none

/-- along ANY sequence of guarded moves every (volume, shard) keeps its number of holders — server ids unique -/
theorem guarded_moves_preserve_shards (ms : List (Nat × Nat × Nat × Nat)) :
    ∀ (st out : ESt), (st.nodes.map (·.id)).Nodup → runGuarded st ms = some out →
      (out.nodes.map (·.id)).Nodup ∧ ∀ vid j, copies out vid j = copies st vid j := by
  induction ms with
  | nil => intro st out hu h; cases h; exact ⟨hu, fun _ _ => rfl⟩
  | cons m rest ih =>
    intro st out hu h
    obtain ⟨src, dst, vid, s⟩ := m
    simp only [runGuarded] at h
    split at h
    next hg =>
      obtain ⟨h1, h2⟩ := ih _ _ (by rwa [Lemmas.C16.move_ids]) h
      exact ⟨h1, fun v j => by rw [h2, move_preserves_shards st src dst vid s hu hg]⟩
    next => cases h

def wMove : ESt := ⟨[⟨1, 1, 5, true, [(1, 7)]⟩, ⟨2, 1, 5, true, [(1, 8)]⟩, ⟨3, 2, 5, true, []⟩], [(1, 10), (2, 5)]⟩
example : (runGuarded wMove [(1, 2, 1, 0), (2, 3, 1, 3), (1, 3, 1, 1)]).isSome = true ∧ (wMove.nodes.map (·.id)).Nodup := by decide +kernel

/-- the within-rack guard makes a move guarded as soon as the destination lacks the shard -/
theorem within_move_is_guarded (st : ESt) (avg vid src s dst : Nat) (h : withinMoveOk st avg vid src s dst = true)
    (hl : ∀ dn, st.node? dst = some dn → holdsShard dn vid s = false) : guardOk st src dst vid s = true := by
  obtain ⟨sn, d, hs, hd, _, hne, _, hb, _⟩ := withinMoveOk_sound st avg vid src s dst h
  have hne' : src ≠ dst := fun e => hne ((Lemmas.C16.node_id hd).trans e.symm)
  exact guardOk_iff.mpr ⟨hne', sn, d, hs, hd, (Lemmas.C16.holds_eq sn vid s).trans hb, hl d hd⟩

/-- the per-rack step (`doBalanceEcRack`) needs no extra hypothesis: it only moves a shard of a volume the
    destination has no entry for -/
theorem rack_move_is_guarded (st : ESt) (src vid s dst : Nat) (h : rackMoveOk st src vid s dst = true) :
    guardOk st src dst vid s = true := by
  unfold rackMoveOk at h
  cases hs : st.node? src with
  | none => simp [hs] at h
  | some f =>
    cases hd : st.node? dst with
    | none => simp [hs, hd] at h
    | some e =>
      simp only [hs, hd, Bool.and_eq_true, beq_iff_eq] at h
      obtain ⟨hpair, hdue⟩ := h
      have hpick : rackPick f e = some (vid, s) := by
        unfold rackMoveDue at hdue
        simp only [] at hdue
        split at hdue
        · exact hdue
        · simp at hdue
      obtain ⟨h1, h2⟩ := Lemmas.C16.rackPick_guard f e vid s hpick
      have hne : src ≠ dst := by
        simp only [rackPairOk, Bool.and_eq_true, bne_iff_ne, ne_eq] at hpair
        rw [← Lemmas.C16.node_id hs, ← Lemmas.C16.node_id hd]
        exact fun x => hpair.1.1.2 x.symm
      exact guardOk_iff.mpr ⟨hne, f, e, hs, hd, h1, h2⟩

example : rackMoveOk ⟨[⟨2, 1, 5, true, []⟩, ⟨1, 1, 3, true, [(1, 2047)]⟩], [(1, 8)]⟩ 1 1 0 2 = true := by decide +kernel

/-- one step of `doDeduplicateEcShards` (applyBalancing = true; nothing happens when the shard has at most one
    holder): the treated shard is present once if it was present at all, every other (volume, shard) keeps its holders -/
theorem dedup_step_removes_only_duplicates (st : ESt) (vid s keep : Nat) (hu : (st.nodes.map (·.id)).Nodup)
    (hk : (holders st vid s).length ≤ 1 ∨ dedupKeepOk st vid s keep = true) :
    copies (st.dedupShard vid s keep) vid s = min (copies st vid s) 1 ∧
    ∀ vid' j, ¬ (vid' = vid ∧ j = s) → copies (st.dedupShard vid s keep) vid' j = copies st vid' j := by
  refine ⟨?_, fun vid' j => Lemmas.C16.copies_dedupShard_other st vid s keep vid' j⟩
  by_cases hle : (holders st vid s).length ≤ 1
  · rw [ESt.dedupShard, if_pos hle, Lemmas.C16.copies_eq_holders, Nat.min_eq_left hle]
  · obtain ⟨kn, h1, h2, h3⟩ := Lemmas.C16.keep_is_holder st vid s keep (hk.resolve_left hle)
    rw [Lemmas.C16.copies_dedupShard_same st vid s keep kn hu h1 h2 h3, Lemmas.C16.copies_eq_holders,
      Nat.min_eq_right (Nat.le_of_not_le hle)]

/-- the whole loop over shard ids (each id at most once, as `range shardToLocations` does): afterwards a shard
    that was treated is present exactly once if it was present before (min 1), untreated shards and other
    volumes are untouched — nothing but duplicates is removed -/
theorem dedup_removes_only_duplicates (vid : Nat) (steps : List (Nat × Nat)) :
    ∀ (st out : ESt), (st.nodes.map (·.id)).Nodup → (steps.map (·.1)).Nodup → dedupRun vid st steps = some out →
      (∀ vid' j, (vid' ≠ vid ∨ j ∉ steps.map (·.1)) → copies out vid' j = copies st vid' j) ∧
      (∀ j ∈ steps.map (·.1), copies out vid j = min (copies st vid j) 1) := by
  induction steps with
  | nil =>
    intro st out _ _ h
    cases h
    exact ⟨fun _ _ _ => rfl, fun j hj => nomatch hj⟩
  | cons step rest ih =>
    intro st out hu hn h
    obtain ⟨s, keep⟩ := step
    simp only [List.map_cons, List.nodup_cons] at hn
    obtain ⟨hk, h⟩ := Lemmas.C16.dedupRun_cons h
    obtain ⟨i1, i2⟩ := ih _ out (by rwa [Lemmas.C16.dedup_ids]) hn.2 h
    obtain ⟨d1, d2⟩ := dedup_step_removes_only_duplicates st vid s keep hu hk
    refine ⟨fun vid' j hc => ?_, fun j hj => ?_⟩
    · rw [i1 vid' j (hc.imp_right fun hj e => hj (List.mem_cons_of_mem _ e))]
      exact d2 vid' j fun e => hc.elim (· e.1) (· (e.2 ▸ List.mem_cons_self))
    · rcases List.mem_cons.mp hj with rfl | hj
      · rw [i1 vid j (Or.inr hn.1), d1]
      · rw [i2 j hj, d2 vid j fun e => hn.1 (e.2 ▸ hj)]

def wDup : ESt := ⟨[⟨1, 1, 3, true, [(1, 7)]⟩, ⟨2, 1, 5, true, [(1, 3)]⟩, ⟨3, 2, 4, true, [(1, 9)]⟩], [(1, 8), (2, 4)]⟩
example : (dedupRun 1 wDup [(0, 1), (1, 1), (2, 1), (3, 3)]).map (fun st => (copies st 1 0, copies st 1 1, copies st 1 2, copies st 1 3))
    = some (1, 1, 1, 1) ∧ copies wDup 1 0 = 3 := by decide +kernel

/-- the across-racks step on the model (`Across.applyMove`): the picked shard — already deleted from its source by
    `pickNEcShardsToMoveFrom` — reappears at the destination: one holder more when the destination lacked it,
    every other (volume, shard) unchanged -/
theorem across_move_places_picked (a : Across) (src s dst : Nat) (sn dn : ENode)
    (hu : (a.st.nodes.map (·.id)).Nodup) (hs : a.st.node? src = some sn) (hd : a.st.node? dst = some dn) (hne : src ≠ dst)
    (h1 : holdsShard sn a.vid s = false) (h2 : holdsShard dn a.vid s = false) (vid' j : Nat) :
    copies (a.applyMove src s dst).st vid' j = copies a.st vid' j + (if vid' = a.vid ∧ j = s then 1 else 0) := by
  have key := Lemmas.C16.copies_move a.st src dst a.vid s sn dn hu hs hd hne vid' j
  simp only [h1, h2, Bool.false_eq_true, and_false, if_false, and_true, Nat.add_zero] at key
  rw [← key]
  simp only [Across.applyMove, hs, hd]
  rfl

/-! hypotheses of the conservation theorems are satisfiable -/
example : guardOk wMove 1 3 1 0 = true ∧ (wMove.nodes.map (·.id)).Nodup := by decide +kernel
example : ∃ sn dn, wHold.node? 1 = some sn ∧ wHold.node? 2 = some dn ∧ holdsShard sn 1 0 = true ∧ holdsShard dn 1 0 = true ∧
    copies (wHold.move 1 2 1 0) 1 0 + 1 = copies wHold 1 0 := ⟨_, _, rfl, rfl, by decide, by decide, by decide⟩
example : ∃ sn dn, wMove.node? 1 = some sn ∧ wMove.node? 3 = some dn ∧ holdsShard sn 1 0 = true ∧ holdsShard dn 1 0 = false ∧
    copies ((wMove.upd 1 (·.del 1 0)).move 1 3 1 0) 1 0 = copies wMove 1 0 := ⟨_, _, rfl, rfl, by decide, by decide, by decide⟩
example : withinMoveOk wMove 2 1 1 0 2 = true ∧ ∀ dn, wMove.node? 2 = some dn → holdsShard dn 1 0 = false := by decide +kernel
example : dedupKeepOk wDup 1 0 1 = true ∧ (wDup.nodes.map (·.id)).Nodup := by decide +kernel

/-! ### free shard slots by recount

"never plans a shard onto a server that has no free shard slot" is judged against where the shards ARE:
capacity (`cap`, from the declared topology: (max − active)·10 of the hdd disk) minus the shards held by
the server's bitmaps (`Spec.recountFree`), not only against the planner's own `freeEcSlot` counter.  On
the model the two are the same number at build time and stay so along every sequence of additions and deletions of
shard ids below 14 (`build_counter_is_recount`, `moves_keep_counter_exact`). -/
open SwV.Lemmas.C16Slots (SlackOk)

/-- `addEcVolumeShards` (shard id below 14) / `deleteEcVolumeShards`: counter + shards held is unchanged -/
theorem add_keeps_counter_plus_held (n : ENode) (vid s : Nat) (hs : s < 14) :
    (n.add vid s).free + ((n.add vid s).total : Int) = n.free + (n.total : Int) := Lemmas.C16Slots.add_slack vid s hs n
theorem del_keeps_counter_plus_held (n : ENode) (vid s : Nat) :
    (n.del vid s).free + ((n.del vid s).total : Int) = n.free + (n.total : Int) := Lemmas.C16Slots.del_slack vid s n

theorem delBit_idem (b s : Nat) : delBit (delBit b s) s = delBit b s := by
  have h := Lemmas.C16.hasBit_delBit b s s
  simp [hasBit] at h
  rw [delBit.eq_1 (delBit b s) s]
  simp [h]

/-- the across-racks step deletes every moved shard twice from its source (`pickNEcShardsToMoveFrom`, then
    `moveMountedShardToEcNode`): the second deletion credits no free slot -/
theorem del_twice_credits_once (n : ENode) (vid s : Nat) : ((n.del vid s).del vid s).free = (n.del vid s).free := by
  have h1 := del_keeps_counter_plus_held (n.del vid s) vid s
  have h2 : ((n.del vid s).del vid s).total = (n.del vid s).total := by
    have : ((n.del vid s).del vid s).shards = (n.del vid s).shards ∧ ((n.del vid s).del vid s).hdd = (n.del vid s).hdd := by
      unfold ENode.del
      by_cases hh : n.hdd = true
      · simp only [hh, Bool.not_true, Bool.false_eq_true, if_false, List.map_map, and_true]
        apply List.map_congr_left
        intro e _
        simp only [Function.comp]
        by_cases hv : (e.1 == vid) = true
        · simp [hv, delBit_idem]
        · simp [hv]
      · have hh2 : n.hdd = false := eq_false_of_ne_true hh
        simp [hh2]
    unfold ENode.total
    rw [this.1, this.2]
  omega

/-- `collectEcVolumeServersByDc` / `countFreeShardSlots`: at build time the counter is the recount -/
theorem build_counter_is_recount (id rack : Nat) (hdd : Bool) (max active : Nat) (sh : List (Nat × Nat)) :
    let n : ENode := ⟨id, rack, freeSlots hdd max active sh, hdd, if hdd then sh else []⟩
    n.free = recountFree (fun _ => if hdd then ((max : Int) - active) * 10 else 0) n := by
  cases hdd <;> simp [freeSlots, recountFree, ENode.total]

/-- the model's bookkeeping steps: (dst, vid, s) added / (src, vid, s) deleted / a move -/
inductive SlotStep where
  | add (dst vid s : Nat) | del (src vid s : Nat) | move (src dst vid s : Nat)

def SlotStep.ok : SlotStep → Prop
  | .add _ _ s => s < 14
  | .del .. => True
  | .move _ _ _ s => s < 14

def SlotStep.apply (st : ESt) : SlotStep → ESt
  | .add dst vid s => st.upd dst (·.add vid s)
  | .del src vid s => st.upd src (·.del vid s)
  | .move src dst vid s => st.move src dst vid s

/-- after ANY sequence of planned moves, picks (deletions) and additions of shard ids below 14 the counter of
    every server is still capacity − shards held -/
theorem moves_keep_counter_exact (cap : Nat → Int) (steps : List SlotStep) : ∀ (st : ESt), SlackOk cap st →
    (∀ x ∈ steps, x.ok) → SlackOk cap (steps.foldl SlotStep.apply st) := by
  induction steps with
  | nil => intro st h _; exact h
  | cons x xs ih =>
    intro st h hok
    simp only [List.foldl_cons]
    apply ih _ _ (fun y hy => hok y (List.mem_cons_of_mem _ hy))
    have hx := hok x (List.mem_cons_self ..)
    cases x with
    | add dst vid s => exact Lemmas.C16Slots.slackOk_add cap st dst vid s hx h
    | del src vid s => exact Lemmas.C16Slots.slackOk_del cap st src vid s h
    | move src dst vid s => exact Lemmas.C16Slots.slackOk_del cap _ src vid s (Lemmas.C16Slots.slackOk_add cap st dst vid s hx h)

/-- on a layout whose counters are exact, a destination approved by the guard of `pickOneEcNodeAndMoveOneShard`
    has a free slot by recount -/
theorem approved_target_has_recounted_slot (cap : Nat → Int) (st : ESt) (h : SlackOk cap st) (dst : Nat) (d : ENode)
    (hd : st.node? dst = some d) (cands : List ENode) (avg vid src : Nat) (hok : destOk cands avg vid src d = true) :
    recountFree cap d > 0 := by
  have := h d (List.mem_of_find?_eq_some hd)
  have := (destOk_sound hok).2.1
  omega

/-- on a layout whose counters are exact, the recount clause of the judge adds nothing -/
theorem recount_clause_silent (cap : Nat → Int) (st : ESt) (h : SlackOk cap st) (phase : String) (src vid s dst : Nat) :
    judgeMove phase st src vid s dst (some cap) = judgeMove phase st src vid s dst none := by
  unfold judgeMove
  cases hs : st.node? src with
  | none => rfl
  | some sn =>
    cases hd : st.node? dst with
    | none => rfl
    | some d =>
      have e := h d (List.mem_of_find?_eq_some hd)
      have : (decide (d.free > 0) && decide (recountFree cap d ≤ 0)) = false := by
        rw [← e, Bool.and_eq_false_iff, decide_eq_false_iff_not, decide_eq_false_iff_not]
        omega
      simp [this]

/-- hypotheses are satisfiable: `wMove` with capacities 8 / 6 / 5, a move and a pick -/
example : SlackOk (fun id => if id = 1 then 8 else if id = 2 then 6 else 5) wMove ∧
    (∀ x ∈ [SlotStep.move 1 3 1 0, .del 2 1 3], x.ok) := by
  refine ⟨?_, ?_⟩
  · intro n hn
    simp only [wMove, List.mem_cons, List.mem_nil_iff, or_false] at hn
    rcases hn with rfl | rfl | rfl <;> decide +kernel
  · intro x hx
    simp only [List.mem_cons, List.mem_nil_iff, or_false] at hx
    rcases hx with rfl | rfl <;> simp [SlotStep.ok]

/-- what the clause catches: a server holding 10 shards with capacity 10 whose counter says 1 (credited
    twice for a shard it gave away earlier) is planned as a destination -/
theorem recount_clause_fires_on_phantom_slot :
    judgeMove "within" ⟨[⟨1, 1, 1, true, [(1, 1023)]⟩, ⟨2, 1, 0, true, [(2, 7)]⟩], [(1, 1)]⟩ 2 2 0 1 (some fun _ => 10) =
      ["within/target-full-by-recount-of-its-shards"] := by decide +kernel

/-- the model's `ceilDiv a b` IS ⌈a/b⌉ for all a and all b > 0: the least q with a ≤ q·b -/
theorem ceilDiv_is_ceiling (a b : Nat) (hb : b > 0) : a ≤ ceilDiv a b * b ∧ ∀ q, a ≤ q * b → ceilDiv a b ≤ q :=
  ⟨(Lemmas.C16.ceilDiv_le_iff hb).mp (Nat.le_refl _), fun _ => (Lemmas.C16.ceilDiv_le_iff hb).mpr⟩

theorem ceilDiv_exact (q b : Nat) (hb : b > 0) : ceilDiv (q * b) b = q :=
  Nat.le_antisymm ((Lemmas.C16.ceilDiv_le_iff hb).mpr (Nat.le_refl _))
    (Nat.le_of_mul_le_mul_right ((Lemmas.C16.ceilDiv_le_iff hb).mp (Nat.le_refl _)) hb)

theorem ceilDiv_inexact (q r b : Nat) (h1 : 0 < r) (h2 : r < b) : ceilDiv (q * b + r) b = q + 1 := by
  have hb : b > 0 := Nat.lt_of_le_of_lt (Nat.zero_le r) h2
  refine Nat.le_antisymm ((Lemmas.C16.ceilDiv_le_iff hb).mpr ?_) (Nat.lt_of_not_le fun h => ?_)
  · rw [Nat.succ_mul]; omega
  · have := (Lemmas.C16.ceilDiv_le_iff hb).mp h; omega

/-- the even-spread target ceil(14/#racks) for 1..14 racks (7 racks: 2, 14 racks: 1) -/
theorem rack_target_table : (List.range 14).map (fun r => ceilDiv 14 (r + 1)) = [14, 7, 5, 4, 3, 3, 2, 2, 2, 2, 2, 2, 2, 1] := by decide +kernel

example : ceilDiv 14 7 = 2 ∧ ceilDiv 15 7 = 3 ∧ ceilDiv 0 3 = 0 := by decide +kernel

/-! ### bridges: the guard texts and sources the model was written from (T1 tie)

`SwV.Gen.C16` is regenerated from the working tree on every run; an edit to one of these guards or functions
breaks the named obligation below. -/

/-! `ceilDivide` = int(math.Ceil(float64(total) / float64(n))) ↔ Model.ceilDiv (`ceilDiv_is_ceiling`); its three uses: the per-rack target
    ceil(14/#racks) of `acrossStart`, `withinAvg`, `rackAvg` -/
theorem bridge_TotalShardsCount : SwV.Gen.C16.TotalShardsCount = 14 := rfl
theorem bridge_ceil_body : SwV.Gen.C16.ceil_body = "math.Ceil(float64(total) / float64(n))" := rfl
theorem bridge_ceil_quotient : SwV.Gen.C16.ceil_quotient = "float64(total) / float64(n)" := rfl
theorem bridge_across_average : SwV.Gen.C16.across_average = "averageShardsPerEcRack := ceilDivide(erasure_coding.TotalShardsCount, len(racks))" := rfl
theorem bridge_within_average : SwV.Gen.C16.within_average = "averageShardsPerEcNode := ceilDivide(rackToShardCount[rackId], len(possibleDestinationEcNodes))" := rfl
theorem bridge_rackbal_average : SwV.Gen.C16.rackbal_average = "averageShardCount := ceilDivide(totalShardCount, len(rackEcNodes))" := rfl

/-! `pickOneEcNodeAndMoveOneShard` ↔ Model.destOk (`destOk_sound`): not the source, `free > 0`, `popc (bits vid) < avg`;
    NO test that the destination lacks the shard (hypothesis of `within_move_is_guarded`) -/
theorem bridge_dest_is_source : SwV.Gen.C16.dest_is_source = "destEcNode.info.Id == existingLocation.info.Id" := rfl
theorem bridge_dest_no_free_slot : SwV.Gen.C16.dest_no_free_slot = "destEcNode.freeEcSlot <= 0" := rfl
theorem bridge_dest_at_average : SwV.Gen.C16.dest_at_average = "findEcVolumeShards(destEcNode, vid).ShardIdCount() >= averageShardsPerEcNode" := rfl

/-! `pickOneRack` ↔ Across.eligible: `count r < avg && rackFreeOf r > 0` -/
theorem bridge_rack_at_average : SwV.Gen.C16.rack_at_average = "rackToShardCount[string(rackId)] >= averageShardsPerEcRack" := rfl
theorem bridge_rack_no_free_slot : SwV.Gen.C16.rack_no_free_slot = "rack.freeEcSlot <= 0" := rfl

/-! `doBalanceEcShardsAcrossRacks` ↔ acrossStart: racks over the average give `count − avg` picks -/
theorem bridge_across_over : SwV.Gen.C16.across_over = "count > averageShardsPerEcRack" := rfl
theorem bridge_across_pick_count : SwV.Gen.C16.across_pick_count = "count - averageShardsPerEcRack" := rfl

/-! `doBalanceEcShardsWithinOneRack` ↔ `withinRun` of Drv/C16.lean, the driver's replay (`over + avg + k = base`) -/
theorem bridge_within_over : SwV.Gen.C16.within_over = "overLimitCount := shardBits.ShardIdCount() - averageShardsPerEcNode" := rfl
theorem bridge_within_stop : SwV.Gen.C16.within_stop = "overLimitCount <= 0" := rfl

/-! `doBalanceEcRack` ↔ rackMoveDue / rackStopOk (`rack_move_is_guarded`) -/
theorem bridge_rackbal_single : SwV.Gen.C16.rackbal_single = "len(ecRack.ecNodes) <= 1" := rfl
theorem bridge_rackbal_guard : SwV.Gen.C16.rackbal_guard = "fullNodeShardCount > averageShardCount && emptyNodeShardCount+1 <= averageShardCount" := rfl

/-! `moveMountedShardToEcNode` ↔ ESt.move: add at the destination, delete at the source, same shard ids;
    `deleteEcVolumeShards` credits only the bits really removed (ENode.del) -/
theorem bridge_move_adds : SwV.Gen.C16.move_adds = "copiedShardIds" := rfl
theorem bridge_move_deletes : SwV.Gen.C16.move_deletes = "copiedShardIds" := rfl
theorem bridge_del_free_slot : SwV.Gen.C16.del_free_slot = "ecNode.freeEcSlot -= newShardBits.ShardIdCount() - oldShardBits.ShardIdCount()" := rfl

/-! `doDeduplicateEcShards` ↔ dedupExpected / ESt.dedupShard: only shard ids with more than one holder -/
theorem bridge_dedup_single : SwV.Gen.C16.dedup_single = "len(ecNodes) <= 1" := rfl

/-! source pins of the functions the model mirrors -/
theorem bridge_src_ceilDivide : SwV.Gen.C16.src_ceilDivide = "09f804aabda66dbf" := rfl
theorem bridge_src_pickOneEcNodeAndMoveOneShard : SwV.Gen.C16.src_pickOneEcNodeAndMoveOneShard = "4c95eb9fbf0ad5f3" := rfl
theorem bridge_src_pickOneRack : SwV.Gen.C16.src_pickOneRack = "ca53bc080b3ff16e" := rfl
theorem bridge_src_pickNEcShardsToMoveFrom : SwV.Gen.C16.src_pickNEcShardsToMoveFrom = "6925991c2316d7fc" := rfl
theorem bridge_src_doBalanceEcShardsAcrossRacks : SwV.Gen.C16.src_doBalanceEcShardsAcrossRacks = "9b9f73f04b0993af" := rfl
theorem bridge_src_balanceEcShardsWithinRacks : SwV.Gen.C16.src_balanceEcShardsWithinRacks = "f9c64ce6cde7ffe6" := rfl
theorem bridge_src_doBalanceEcShardsWithinOneRack : SwV.Gen.C16.src_doBalanceEcShardsWithinOneRack = "b7ef38de70b6f929" := rfl
theorem bridge_src_doBalanceEcRack : SwV.Gen.C16.src_doBalanceEcRack = "e84e92abd5f3cf7e" := rfl
theorem bridge_src_doDeduplicateEcShards : SwV.Gen.C16.src_doDeduplicateEcShards = "9d65ba336cb7e311" := rfl
theorem bridge_src_moveMountedShardToEcNode : SwV.Gen.C16.src_moveMountedShardToEcNode = "7e30de4f9c01379b" := rfl
theorem bridge_src_findEcVolumeShards : SwV.Gen.C16.src_findEcVolumeShards = "3e0f2e4da3f5abbb" := rfl
theorem bridge_src_addEcVolumeShards : SwV.Gen.C16.src_addEcVolumeShards = "14a728732636dbc2" := rfl
theorem bridge_src_deleteEcVolumeShards : SwV.Gen.C16.src_deleteEcVolumeShards = "61e9c1a8e39f4acf" := rfl

end SwV.Props.C16
