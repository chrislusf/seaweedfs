/-
C05 — property theorems (theorems only; helper lemmas live in SwV/Lemmas/C05{,b,c,d,e,f,g}.lean).
They are about the model in SwV/Model/C05.lean, which the correspondence check compares with
the real needle_map.CompactMap / storage needle mappers on every call (returned values,
AscendingVisit contents, all counters), under both offset widths.  That check is all there is for
`visitL` (AscendingVisit), for the LevelDB and sorted-file maps (`LdbMap`, `kvFromIdxLdb`, `kvFromIdxMemDb`)
and for `metricFromIdx`: no theorem speaks of them.
-/
import SwV.Model.C05
import SwV.Spec.C05
import SwV.Gen.C05
import SwV.Lemmas.C05
import SwV.Lemmas.C05b
import SwV.Lemmas.C05c
import SwV.Lemmas.C05d
import SwV.Lemmas.C05e
import SwV.Lemmas.C05f
import SwV.Lemmas.C05g

namespace SwV.Props.C05
open SwV.Model.C05 SwV.Spec.C05 SwV.Lemmas.C05

theorem bridge_batch_and_limit :
    SwV.Gen.C05.batch = 100000 ∧ SwV.Gen.C05.SectionalNeedleIdLimit = (limit : Int) ∧
    SwV.Gen.C05.TombstoneFileSize = -1 :=
  ⟨rfl, rfl, rfl⟩

/-- the look-back distance and the two conditions that decide between in-window insertion,
    overflow and a new section are the expressions the model was written from -/
theorem bridge_set_conditions :
    SwV.Gen.C05.lookBackExpr = "lookBackIndex := cs.counter - 128" ∧ lookBack = 128 ∧
    SwV.Gen.C05.windowCond = "cs.counter < batch && cs.values[lookBackIndex].Key < skey" ∧
    SwV.Gen.C05.newSectionCond = "x < 0 || (key-cm.list[x].start) > SectionalNeedleIdLimit" :=
  ⟨rfl, rfl, rfl, rfl⟩

/-- `CompactSection.Set`, `Delete` and `Get`, whose bodies the model mirrors, are unchanged (any edit
    breaks this obligation and must be re-modelled).  The other source hashes of SwV/Gen/C05.lean
    (`setOverflowEntry`, `binarySearchCompactSection`, `doLoading`, `newNeedleMapMetricFromIndexFile`)
    and the translated `Size.IsValid`/`IsDeleted` are mentioned by no theorem of this file. -/
theorem bridge_source_pins :
    SwV.Gen.C05.src_Set = "7cc7556418c87ae2" ∧ SwV.Gen.C05.src_Delete = "a131352e6bac57ed" ∧
    SwV.Gen.C05.src_Get = "724f47d43ce82813" :=
  ⟨rfl, rfl, rfl⟩

/-! ### a section refines a key ↦ entry map

`SecInv batch s` (SwV/Lemmas/C05b.lean): `counter` = number of values, values strictly sorted,
overflow strictly sorted, no key in both, and — while the section is not full — every overflow key
lies below the whole look-back window.  `look s k` is the denoted binding of sectional key `k`
(overflow first, else values). -/

/-- `CompactSection.Get` returns exactly the denoted binding, for every section satisfying the
    invariant and every key -/
theorem section_get_refines (batch : Nat) (s : Sec) (h : SecInv batch s) (key : Nat) :
    Sec.get s key = (look s (skeyOf s key)).map (toNV s) :=
  secGet_refines batch s h key

/-- `CompactSection.Delete`: for every section satisfying the invariant and every key, the denoted
    map changes at that key only (a positive size is negated), the invariant is kept, and the
    returned size is the removed size — EXCEPT that for an overflow entry the stored size is
    returned even when it is already negative (finding
    CompactSection.Delete/negative-size-on-repeated-delete). -/
theorem section_delete_refines (batch : Nat) (s : Sec) (h : SecInv batch s) (key : Nat) (k' : Nat) :
    let r := Sec.delete s key
    let sk := skeyOf s key
    SecInv batch r.1 ∧
    look r.1 k' = (if k' = sk then (look s sk).map (fun e => if e.size > 0 then { e with size := -e.size } else e) else look s k') ∧
    r.2 = (match getK sk s.ovf with
           | some v => v.size
           | none => match getK sk s.rvals with
             | some e => if e.size > 0 then e.size else 0
             | none => 0) :=
  have ⟨hinv, _, _, _, _, hlook, hret⟩ := secDelete_refines batch s h key
  ⟨hinv, hlook k', hret⟩

/-- `CompactSection.Set`: for every section satisfying the invariant, every key (in any order:
    append, in-window insertion, overflow, overwrite) and every value, the invariant is kept, the
    denoted map is updated at that key only, and the PREVIOUS binding is returned ((0,0,0) when
    there was none) — EXCEPT that an overwritten overflow entry keeps its old `OffsetHigher` byte
    (`setEnt`; finding CompactSection.setOverflowEntry/stale-offset-high-byte). -/
theorem section_set_refines (batch : Nat) (s : Sec) (h : SecInv batch s) (key off hi : Nat) (size : Int) (k' : Nat) :
    let r := Sec.set batch s key off hi size
    let sk := skeyOf s key
    SecInv batch r.1 ∧ r.1.start = s.start ∧ r.1.stop = max s.stop key ∧ s.cnt ≤ r.1.cnt ∧
    (∀ x, x ∈ keys r.1.rvals ∨ x ∈ keys r.1.ovf ↔ x = sk ∨ (x ∈ keys s.rvals ∨ x ∈ keys s.ovf)) ∧
    look r.1 k' = (if k' = sk then some (setEnt s sk off hi size) else look s k') ∧
    r.2 = oldOf (look s sk) :=
  have ⟨hinv, hstart, hstop, hcnt, hkeys, hlook, hold⟩ := secSet_refines batch s h key off hi size
  ⟨hinv, hstart, hstop, hcnt, hkeys, hlook k', hold⟩

/-- the invariant is satisfiable by a section with values and overflow entries … -/
example : ∃ s : Sec, SecInv 2 s ∧ s.ovf ≠ [] ∧ s.rvals ≠ [] :=
  ⟨⟨0, 10, 2, [⟨10, 2, 0, 22⟩, ⟨1, 1, 0, 11⟩], [⟨5, 3, 0, 33⟩]⟩, by
    refine ⟨⟨rfl, by simp [DescSorted, keys], by simp [AscSorted, keys], ?_, ?_⟩, by decide, by decide⟩
    · intro x hx; simp [keys] at hx; subst hx; decide
    · intro hb; exact absurd hb (by decide)⟩

/-- … and by one that is not full (first Set, append, in-window insertion) -/
example : ∃ s : Sec, SecInv 100000 s ∧ s.rvals.length = 3 ∧ s.cnt < 100000 :=
  ⟨(Sec.set 100000 (Sec.set 100000 (Sec.first 100000 1 1 0 11) 9 2 0 22).1 3 3 0 33).1,
    (secSet_refines 100000 _ (secSet_refines 100000 _ (first_props 100000 1 1 0 11 none (by intro n hn; cases hn)).1
      9 2 0 22).1 3 3 0 33).1, by decide, by decide⟩

/-! ### the section list refines the reference map: all operation sequences

`Op` = `set key offLower offHigher size | del key | get key` (SwV/Lemmas/C05d.lean); `execL`/`execR`
run a sequence on the model (`setL`/`delL`) and on the reference (`Ref.set`/`Ref.delete` of the
Spec, with full offset `fullOff lower higher`); `Abs cm r` says the map denoted by the section list
(`denote`, read through `fullOff`) IS the reference map; `resOk` says the operation's result is the
reference's.  `admFrom batch [] ops` is the decidable predicate on the op list that excludes the
recorded findings, by replaying the model:
  * `get k`/`del k` with `k − start ≥ 2^32` for the last section starting at or below `k`, the one
    consulted for `k` if any is (`noAlias`; this also shuts out such a `k` whose wrapped sectional key
    is not stored, where the code answers correctly);
  * `set` overwriting an OVERFLOW entry whose `OffsetHigher` differs (`ovfAt`) — never with 4-byte
    offsets, where that byte is always 0.
The third finding (negative size returned by a repeated delete of an overflow entry) is not
excluded: `resOk` states it as what it is. -/

/- FULL-STRENGTH statement (false, see the `decide` witnesses below:
   `far_key_aliases_witness`, `overflow_overwrite_stale_high_byte_witness`,
   `delete_twice_overflow_negative_witness`):

   theorem compactMap_refines_map (batch : Nat) (pre : List Op) (op : Op) :
       Abs (execL batch [] pre) (execR [] pre) ∧
       (match op with
        | .del key => (delL batch key (execL batch [] pre)).2 = ((execR [] pre).delete key).2
        | op => resOk batch (execL batch [] pre) (execR [] pre) op) -/

/-- For EVERY sequence of set/delete/get operations (keys in any order, any distance apart) and
    operation `op` following it that together are admissible (`admFrom`): the abstraction of
    the model state equals the reference map before and after `op`, and the result of `op` is the
    reference's (Set: previous binding; Get: the binding, under the requested key; Delete: the removed
    size, or the stored negative size of an already deleted overflow entry). -/
theorem compactMap_refines_map_partial (batch : Nat) (pre : List Op) (op : Op)
    (h : admFrom batch [] (pre ++ [op]) = true) :
    Abs (execL batch [] pre) (execR [] pre) ∧
    resOk batch (execL batch [] pre) (execR [] pre) op ∧
    Abs (applyL batch (execL batch [] pre) op) (applyR (execR [] pre) op) :=
  run_results batch pre op h

/-- admissibility is prefix-closed, so the theorem above covers every operation of an admissible
    sequence, and the final state of the whole sequence -/
theorem compactMap_refines_map_final_partial (batch : Nat) (ops : List Op) (h : admFrom batch [] ops = true) :
    MapInv batch (execL batch [] ops) ∧ Abs (execL batch [] ops) (execR [] ops) ∧
    ∀ pre post, ops = pre ++ post → admFrom batch [] pre = true :=
  have ⟨hinv, habs⟩ := run_sim batch ops [] [] trivial abs_nil h
  ⟨hinv, habs, fun pre post e => admFrom_prefix batch pre post [] (e ▸ h)⟩

/-- in terms of the Spec's judges: on admissible sequences the model's results are never rejected,
    except with the known class `CompactSection.Delete/negative-size-on-repeated-delete` -/
theorem compactMap_judges_accept_partial (batch : Nat) (pre : List Op) (op : Op)
    (h : admFrom batch [] (pre ++ [op]) = true) :
    judgesAccept batch (execL batch [] pre) (execR [] pre) op :=
  judges_accept batch _ _ op (run_results batch pre op h).2.1

/-- the same for the REFINED judges the driver runs (`setJudgeH`/`getJudgeH` of the Spec: the recorded
    class `…/stale-offset-high-byte` is kept only for a high offset byte the key was stored with before;
    any other high byte — e.g. the byte of a neighbouring entry — gets a class of its own): on admissible
    sequences the model's results are never rejected by them either, whatever history list they are given -/
theorem compactMap_refined_judges_accept_partial (batch : Nat) (pre : List Op) (op : Op) (his : List Nat)
    (h : admFrom batch [] (pre ++ [op]) = true) :
    judgesAcceptH batch (execL batch [] pre) (execR [] pre) his op :=
  judges_acceptH batch _ _ his op (compactMap_judges_accept_partial batch pre op h)

/-- non-vacuity of the refinement: a key stored once at offset 2^32+8 (high byte 1) that reads back with
    offset 8 (high byte 0, a byte it never had: what an in-window insertion that moves `values` without
    `valuesExtra` produces) is rejected with a class of its own, while the recorded defect's output (an OLDER
    byte of the same key) keeps the recorded class, and a correct answer passes -/
example : getJudgeH 30 (some (4294967304, 300)) [1] (some (30, 8, 300))
    = some "CompactMap.Get/offset-high-byte-never-stored-for-key" := by
  simp [getJudgeH, getJudge, refineStale, staleClass, hiOf, low32]
example : getJudgeH 5 (some (8589934596, 44)) [2, 1] (some (5, 4294967300, 44)) = some staleClass := by
  simp [getJudgeH, getJudge, refineStale, staleClass, hiOf, low32]
example : getJudgeH 5 (some (8589934596, 44)) [2, 1] (some (5, 8589934596, 44)) = none := by
  simp [getJudgeH, getJudge, refineStale]
example : visitJudgeH (fun k => if k = 20 then [1] else [0]) [(10, 5, 1), (20, 4294967304, 2)] [(10, 5, 1), (20, 8, 2)]
    = some "CompactMap.AscendingVisit/offset-high-byte-never-stored-for-key" := by
  simp [visitJudgeH, visitJudge, staleClass, hiOf, low32]

/-- non-vacuity: an admissible sequence (batch = 2) that appends, inserts out of order into the
    overflow list, overwrites an overflow entry, deletes it twice, opens a new section behind a full
    one and one 2^33 away, and reads keys of all three sections -/
example : admFrom 2 [] [.set 1 1 0 11, .set 10 2 0 22, .set 5 3 0 33, .set 5 4 0 44, .del 5, .del 5,
    .get 5, .set 100 5 0 55, .set 8589934592 6 0 66, .get 8589934592, .get 7, .del 100, .get 100,
    .set 3 7 1 77, .get 3] = true := by decide +kernel

/-- the exclusions are real: the sequences of `far_key_aliases_witness` and
    `overflow_overwrite_stale_high_byte_witness` are NOT admissible -/
example : admFrom 100000 [] [.set 1000 7 0 70, .get (1000 + 4294967296)] = false := by decide +kernel
example : admFrom 2 [] [.set 1 1 0 11, .set 10 2 0 22, .set 5 3 1 33, .set 5 4 2 44] = false := by decide +kernel

/-! ### reload: `doLoading` over the index log reproduces the map and every counter

`MOp` = `put key offset size | del key tombstoneOffset` on the in-memory NeedleMap
(`MemMap.put`/`MemMap.delete`: CompactMap + `mapMetric` + appended .idx record).
`reloadOkFrom batch {} [] ops` is the decidable predicate on the op list (replaying model and
reference) that excludes the recorded reload findings: every put has size > 0
(`mem-reload/empty-needle-counted-as-deletion`, `mem-reload/empty-needle-not-found`) and a non-zero
offset (offset 0 is the superblock: `doLoading` reads such a record as a deletion) and is
CompactMap-admissible; every delete addresses a key that is LIVE in the reference
(`mem-reload/noop-delete-counted-as-deletion`) and does not alias. -/

/- FULL-STRENGTH statement (false: `reload_counters_empty_needle_witness` below):
   theorem reload_counters (batch : Nat) (ops : List MOp) :
       let online := ops.foldl (applyM batch) {}
       loadMem batch online.idx.reverse = (online.cm, online.met) -/

/-- For EVERY such sequence of puts and deletes, replaying the index-entry log through the loader
    yields exactly the section list and exactly the counters (FileCounter, DeletionCounter,
    FileByteCounter, DeletionByteCounter, MaxFileKey) that were maintained online. -/
theorem reload_counters_partial (batch : Nat) (ops : List MOp) (h : reloadOkFrom batch {} [] ops = true) :
    let online := ops.foldl (applyM batch) {}
    loadMem batch online.idx.reverse = (online.cm, online.met) :=
  (reload_run batch ops {} [] (reload_init batch) h).2.2.1

/-- consequently every lookup after the reload equals the lookup before -/
theorem reload_lookups_partial (batch : Nat) (ops : List MOp) (h : reloadOkFrom batch {} [] ops = true) (key : Nat) :
    let online := ops.foldl (applyM batch) {}
    getL batch key (loadMem batch online.idx.reverse).1 = getL batch key online.cm := by
  intro online
  rw [reload_counters_partial batch ops h]

/-- non-vacuity: puts (appended, out of order into overflow, overwritten) and deletes of live keys -/
example : reloadOkFrom 2 {} [] [.put 3 10 100, .put 9 11 200, .put 5 12 300, .put 3 13 400, .del 5 14,
    .put 5 15 500, .del 9 16, .put 100 17 600] = true := by decide +kernel

/-! ### the same two theorems under conditions on the op list ALONE (no replay of the model)

4-byte offsets (`OffsetHigher` = 0 in every Set, i.e. offsets < 2^32) and all keys of the sequence
inside one window `[lo, lo + 2^32)` imply admissibility (`admFrom_of_plain`): no section start can
then be 2^32 or more below a key, and every stored high byte is 0.  `admFrom_of_plain` and
`reloadOk_of_plain` ask of the keys only what that argument reads, Set keys from `lo` up and Get/Delete keys
below `lo + 2^32` (`plainAdm`, `plainMAdmFrom`).  (Weaker than the theorems above,
which also cover keys arbitrarily far apart and 5-byte offsets outside the stale-byte case.) -/

theorem compactMap_refines_map_window_partial (batch lo : Nat) (pre : List Op) (op : Op)
    (h : (pre ++ [op]).all (plainOp lo) = true) :
    Abs (execL batch [] pre) (execR [] pre) ∧
    resOk batch (execL batch [] pre) (execR [] pre) op ∧
    Abs (applyL batch (execL batch [] pre) op) (applyR (execR [] pre) op) :=
  run_results batch pre op (admFrom_of_plain lo batch _ [] (List.forall_mem_nil _)
    (List.all_eq_true.mpr fun o ho => plainAdm_of_plainOp lo o (List.all_eq_true.mp h o ho)))

example : ([.set 7 1 0 11, .set 3 2 0 22, .del 3, .del 3, .get 3, .get 4294967298] : List Op).all (plainOp 3) = true := by
  decide +kernel

/-- `plainMFrom lo [] ops`: every put has size > 0 and 0 < offset < 2^32, all keys lie in
    `[lo, lo + 2^32)`, and every delete addresses a key that is live in the REFERENCE map at that
    point (last operation on it was a put) — computed from the op list and the Spec's reference only -/
theorem reload_counters_window_partial (batch lo : Nat) (ops : List MOp) (h : plainMFrom lo [] ops = true) :
    let online := ops.foldl (applyM batch) {}
    loadMem batch online.idx.reverse = (online.cm, online.met) :=
  reload_counters_partial batch ops (reloadOk_of_plain lo batch ops {} [] (List.forall_mem_nil _)
    (plainMAdmFrom_of_plainMFrom lo ops [] h))

example : plainMFrom 0 [] [.put 3 10 100, .put 9 11 200, .put 5 12 300, .put 3 13 400, .del 5 14,
    .put 5 15 500, .del 9 16] = true := by decide +kernel

/-! ### the recorded findings, on concrete witnesses (`batch` = 2 makes the section full after two entries: same overflow code path) -/

/-- FULL-STRENGTH "Delete returns the removed size (0 when nothing was live)" is FALSE:
    key 5 sits in the overflow list; the second delete returns −33. -/
theorem delete_twice_overflow_negative_witness :
    let cm := (setL 2 5 3 0 33 (setL 2 10 2 0 22 (setL 2 1 1 0 11 []).1).1).1
    (delL 2 5 cm).2 = 33 ∧ (delL 2 5 (delL 2 5 cm).1).2 = -33 := by decide +kernel

/-- FULL-STRENGTH "Get returns the latest offset" is FALSE for 5-byte offsets: overwriting an
    overflow entry keeps the old high byte (1 instead of 2). -/
theorem overflow_overwrite_stale_high_byte_witness :
    let cm := (setL 2 5 3 1 33 (setL 2 10 2 0 22 (setL 2 1 1 0 11 []).1).1).1
    getL 2 5 (setL 2 5 4 2 44 cm).1 = some ⟨5, 4, 1, 44⟩ := by decide +kernel

/-- FULL-STRENGTH "a never-stored key is not found / deleting it removes nothing" is FALSE:
    key − start is truncated to 32 bits in Get and Delete. -/
theorem far_key_aliases_witness :
    let cm := (setL 100000 1000 7 0 70 []).1
    getL 100000 (1000 + 4294967296) cm = some ⟨1000, 7, 0, 70⟩ ∧
    (delL 100000 (1000 + 2 * 4294967296) cm).2 = 70 := by decide +kernel

/-- `reload_counters` at full strength is FALSE: an empty needle counts as a file online and as a
    deletion after `doLoading` (and is then not found). -/
theorem reload_counters_empty_needle_witness :
    let online := (MemMap.put 100000 {} 3 10 0)
    let re := loadMem 100000 online.idx.reverse
    online.met.fc = 1 ∧ online.met.dc = 0 ∧ re.2.fc = 0 ∧ re.2.dc = 1 ∧
    (getL 100000 3 online.cm).isSome ∧ getL 100000 3 re.1 = none := by decide +kernel

/-- what does hold on that example's well-behaved sibling: put, overwrite, delete of live keys
    reload to the same counters and the same lookups -/
theorem reload_counters_example :
    let online := MemMap.delete 100000 (MemMap.put 100000 (MemMap.put 100000 (MemMap.put 100000 {} 3 10 100) 4 11 200) 3 12 300) 4 13
    let re := loadMem 100000 online.idx.reverse
    re.2 = online.met ∧ getL 100000 3 re.1 = getL 100000 3 online.cm ∧ getL 100000 4 re.1 = getL 100000 4 online.cm := by decide +kernel

end SwV.Props.C05
