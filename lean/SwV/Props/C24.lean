/-
C24 — property theorems. The model (SwV/Model/C24.lean) is tied to the Go code by the
correspondence check on every run; protobuf and gzip enter only through `Codec.Sound`.
C24 has no lemma file: the lemmas about the stored value, the key-value list, the keys and the id
canonicalisation stand here before the theorems that use them; the file-id facts come from `Lemmas/C08`.
-/
import SwV.Model.C24
import SwV.Spec.C24
import SwV.Lemmas.C08
import SwV.Gen.C24

namespace SwV.Props.C24
open SwV.Model.C08 SwV.Model.C24 SwV.Spec.C24 SwV.Lemmas.C08

/-- 1f is not a protobuf tag byte (its wire type would be 7), so nothing that starts with a tag
    byte passes `IsGzippedContent` -/
theorem no_false_gzip (t : Nat) (rest : Bytes) (h : validTagByte t = true) : looksGzip (t :: rest) = false := by
  cases rest with
  | nil => rfl
  | cons b r =>
    simp only [looksGzip, validTagByte] at *
    have : t ≠ 31 := by intro h31; subst h31; simp at h
    simp [this]

/-- the first byte of every marshalled entry is one of three tags, all valid -/
theorem firstTag_valid (e : Entry) : validTagByte (firstTag e) = true := by
  unfold firstTag; split
  · decide
  · split <;> decide

/-- … hence `MaybeDecompressData` leaves every plain marshalled entry alone -/
theorem marshal_not_gzip (C : Codec) (hC : C.Sound) (e : Entry) : looksGzip (C.marshal e) = false := by
  obtain ⟨rest, hm⟩ := List.head?_eq_some_iff.1 (hC.first_byte e)
  rw [hm]; exact no_false_gzip _ _ (firstTag_valid e)

/-- the witness that the test matters: a value starting 1f 8b WOULD be sent through gunzip -/
theorem looksGzip_witness : looksGzip [31, 139, 8, 0] = true := by decide +kernel

/-- any number of chunks, either side of the gzip threshold -/
theorem value_roundtrip (C : Codec) (hC : C.Sound) (e : Entry) : loadValue C (storeValue C e) = some e := by
  have hng := marshal_not_gzip C hC e
  unfold loadValue storeValue
  split
  · unfold maybeGzip
    rw [if_neg (ne_true_of_eq_false hng)]
    split
    · unfold maybeDecompress; rw [if_neg (ne_true_of_eq_false hng)]; exact hC.proto_rt e
    · unfold maybeDecompress; rw [if_pos (hC.gzip_magic _), hC.gzip_rt]; exact hC.proto_rt e
  · unfold maybeDecompress; rw [if_neg (ne_true_of_eq_false hng)]; exact hC.proto_rt e

theorem kvGet_put_same {s : KV} {k v : Bytes} : kvGet (kvPut s k v) k = some v := by
  simp [kvGet, kvPut]

theorem kvGet_put_other {s : KV} {k k' v : Bytes} (h : k ≠ k') : kvGet (kvPut s k v) k' = kvGet s k' := by
  simp [kvGet, kvPut, h]

/-- lookup after insert/update returns the canonical form of the written entry — for every entry,
    every key and whatever the store held before -/
theorem find_insert (C : Codec) (hC : C.Sound) (key : Bytes) (s : KV) (e : Entry) :
    find C key (SwV.Model.C24.insert C key s e) = some (afterEntry (beforeEntry e)) := by
  unfold find SwV.Model.C24.insert
  rw [kvGet_put_same]
  simp only [value_roundtrip C hC, Option.map_some]

theorem find_insert_other (C : Codec) (key key' : Bytes) (s : KV) (e : Entry) (h : key ≠ key') :
    find C key' (SwV.Model.C24.insert C key s e) = find C key' s := by
  unfold find SwV.Model.C24.insert
  rw [kvGet_put_other h]

/-- listing through the native prefixed path returns the stored form (no AfterEntryDeserialization) -/
theorem list_insert (C : Codec) (hC : C.Sound) (key : Bytes) (s : KV) (e : Entry) :
    listRaw C key (SwV.Model.C24.insert C key s e) = some (beforeEntry e) := by
  unfold listRaw SwV.Model.C24.insert
  rw [kvGet_put_same]
  simp only [value_roundtrip C hC]

theorem append_sep_inj {α : Type} (x : α) (l1 : List α) : ∀ (l2 r1 r2 : List α), (∀ b ∈ l1, b ≠ x) → (∀ b ∈ l2, b ≠ x) →
    l1 ++ [x] ++ r1 = l2 ++ [x] ++ r2 → l1 = l2 ∧ r1 = r2 := by
  induction l1 with
  | nil =>
    intro l2 r1 r2 _ h2 h
    cases l2 with
    | nil => exact ⟨rfl, List.cons.inj h |>.2⟩
    | cons b l2 => exact absurd (List.cons.inj h).1.symm (h2 b List.mem_cons_self)
  | cons a l1 ih =>
    intro l2 r1 r2 h1 h2 h
    cases l2 with
    | nil => exact absurd (List.cons.inj h).1 (h1 a List.mem_cons_self)
    | cons b l2 =>
      obtain ⟨hab, ht⟩ := List.cons.inj h
      obtain ⟨e1, e2⟩ := ih l2 r1 r2 (fun c hc => h1 c (List.mem_cons_of_mem _ hc))
        (fun c hc => h2 c (List.mem_cons_of_mem _ hc)) ht
      exact ⟨by rw [hab, e1], e2⟩

/-- leveldb: `dir 00 name` determines (dir, name) when directory paths contain no 0x00 -/
theorem keyLeveldb_injective : ∀ (d1 d2 n1 n2 : Bytes), (∀ b ∈ d1, b ≠ 0) → (∀ b ∈ d2, b ≠ 0) →
    keyLeveldb d1 n1 = keyLeveldb d2 n2 → d1 = d2 ∧ n1 = n2 :=
  fun d1 d2 n1 n2 => append_sep_inj 0 d1 d2 n1 n2

/-- leveldb2/leveldb3: `md5(dir) name` determines (dir, name) for a fixed-length injective hash (trusted: md5) -/
theorem keyMd5_injective (h : Bytes → Bytes) (hlen : ∀ d, (h d).length = 16) (hinj : ∀ d1 d2, h d1 = h d2 → d1 = d2)
    (d1 d2 n1 n2 : Bytes) (heq : keyMd5 h d1 n1 = keyMd5 h d2 n2) : d1 = d2 ∧ n1 = n2 := by
  unfold keyMd5 at heq
  have := List.append_inj heq (by rw [hlen, hlen])
  exact ⟨hinj _ _ this.1, this.2⟩

/-- so an insert at one path never changes what another path reads (leveldb, directory paths without 0x00) -/
theorem find_insert_other_path (C : Codec) (d1 d2 n1 n2 : Bytes) (s : KV) (e : Entry) (hd1 : ∀ b ∈ d1, b ≠ 0)
    (hd2 : ∀ b ∈ d2, b ≠ 0) (hne : ¬ (d1 = d2 ∧ n1 = n2)) :
    find C (keyLeveldb d2 n2) (SwV.Model.C24.insert C (keyLeveldb d1 n1) s e) = find C (keyLeveldb d2 n2) s :=
  find_insert_other C _ _ s e (fun h => hne (keyLeveldb_injective d1 d2 n1 n2 hd1 hd2 h))

/-- `BeforeEntrySerialization` keeps the id the writer meant, in canonical form -/
theorem effId_beforeId (s : List Char) (f : Option Fid) :
    effId (beforeId s f).1 (beforeId s f).2 = writtenId s f := by
  unfold beforeId writtenId canonId
  by_cases hs : s = []
  · subst hs
    cases f <;> simp [effId]
  · simp only [hs, ne_eq, not_false_eq_true, if_true]
    cases hp : parseFid s with
    | some g => simp [effId]
    | none => simp [effId, hs]

/-- `AfterEntryDeserialization` only writes out the string `GetFileIdString` would have built anyway -/
theorem effId_afterId (s : List Char) (f : Option Fid) : effId (afterId s f).1 (afterId s f).2 = effId s f := by
  unfold afterId
  cases f with
  | none => rfl
  | some g =>
    by_cases hs : s = []
    · subst hs; simp [effId]
    · simp [hs]

theorem sameChunks_before (cs : List Chunk) : sameChunks cs (cs.map beforeChunk) = true := by
  induction cs with
  | nil => rfl
  | cons c cs ih =>
    simp only [List.map_cons, sameChunks, ih, Bool.and_true]
    simp only [sameChunk, beforeChunk, effId_beforeId, decide_true, and_self]

theorem sameChunks_after (ws : List Chunk) : ∀ rs, sameChunks ws (rs.map afterChunk) = sameChunks ws rs := by
  induction ws with
  | nil => intro rs; cases rs <;> rfl
  | cons w ws ih =>
    intro rs
    cases rs with
    | nil => rfl
    | cons r rs => simp only [List.map_cons, sameChunks, ih, sameChunk, afterChunk, effId_afterId]

theorem sameEntry_before (e : Entry) : sameEntry e (beforeEntry e) = true := by
  simp [sameEntry, beforeEntry, canonMime, sameChunks_before]

theorem sameEntry_after (w r : Entry) : sameEntry w (afterEntry r) = sameEntry w r := by
  simp only [sameEntry, afterEntry, sameChunks_after]

/-- MAIN: what lookup (and the wrapper's listing) returns after an insert is the written entry in
    the sense of the specification: all fields equal but the mime type, where `application/octet-stream`
    reads back as "", and every chunk's effective file id is the canonical form of the written id -/
theorem find_returns_written (C : Codec) (hC : C.Sound) (key : Bytes) (s : KV) (e : Entry) :
    ∃ r, find C key (SwV.Model.C24.insert C key s e) = some r ∧ sameEntry e r = true :=
  ⟨_, find_insert C hC key s e, by rw [sameEntry_after, sameEntry_before]⟩

/-- the same through the native prefixed listing path -/
theorem list_returns_written (C : Codec) (hC : C.Sound) (key : Bytes) (s : KV) (e : Entry) :
    ∃ r, listRaw C key (SwV.Model.C24.insert C key s e) = some r ∧ sameEntry e r = true :=
  ⟨_, list_insert C hC key s e, sameEntry_before e⟩

/-- the codec-free half of the round trip, computed on one entry: the written id `3,0001637037d6` is not in
    canonical form (a leading zero key byte) and still reads back as the same entry. No `Codec` with `Codec.Sound`
    is constructed anywhere: that would need the protobuf byte format, and `Sound` is the trusted base. -/
example : sameEntry ⟨[], 0, "application/octet-stream".toList, [⟨"3,0001637037d6".toList, none, [], none, "p"⟩], []⟩
    (afterEntry (beforeEntry ⟨[], 0, "application/octet-stream".toList, [⟨"3,0001637037d6".toList, none, [], none, "p"⟩], []⟩)) = true := by
  decide +kernel

theorem insertAll_cons (C : Codec) (s : KV) (p : Bytes × Entry) (t : List (Bytes × Entry)) :
    insertAll C s (p :: t) = insertAll C (SwV.Model.C24.insert C p.1 s p.2) t := rfl

theorem kvGet_insertAll_absent (C : Codec) (k : Bytes) : ∀ (l : List (Bytes × Entry)) (s : KV), k ∉ l.map (·.1) →
    kvGet (insertAll C s l) k = kvGet s k := by
  intro l
  induction l with
  | nil => intro s _; rfl
  | cons p t ih =>
    intro s h
    simp only [List.map_cons, List.mem_cons, not_or] at h
    rw [insertAll_cons, ih _ h.2]
    exact kvGet_put_other (Ne.symm h.1)

theorem kvGet_insertAll_mem (C : Codec) (k : Bytes) (e : Entry) : ∀ (l : List (Bytes × Entry)) (s : KV), (l.map (·.1)).Nodup →
    (k, e) ∈ l → kvGet (insertAll C s l) k = some (storeValue C (beforeEntry e)) := by
  intro l
  induction l with
  | nil => intro s _ h; cases h
  | cons p t ih =>
    intro s hnd hmem
    simp only [List.map_cons, List.nodup_cons] at hnd
    rw [insertAll_cons]
    rcases List.mem_cons.1 hmem with h | h
    · subst h
      rw [kvGet_insertAll_absent C k t _ hnd.1]
      exact kvGet_put_same
    · exact ih _ hnd.2 h

/-- CONCURRENT WRITERS: whatever order (permutation `l'`) the atomic inserts of a batch with pairwise
    distinct keys are executed in, and whatever the store held before, every entry of the batch is found
    afterwards and reads back as what ITS writer wrote -/
theorem concurrent_inserts_commute (C : Codec) (hC : C.Sound) (s : KV) (l l' : List (Bytes × Entry))
    (hperm : l'.Perm l) (hnd : (l.map (·.1)).Nodup) (k : Bytes) (e : Entry) (hmem : (k, e) ∈ l) :
    find C k (insertAll C s l') = some (afterEntry (beforeEntry e)) ∧
    ∃ r, find C k (insertAll C s l') = some r ∧ sameEntry e r = true := by
  have hnd' : (l'.map (·.1)).Nodup := (List.Perm.nodup_iff (List.Perm.map _ hperm)).2 hnd
  have hmem' : (k, e) ∈ l' := (List.Perm.mem_iff hperm).2 hmem
  have hfind : find C k (insertAll C s l') = some (afterEntry (beforeEntry e)) := by
    unfold find
    rw [kvGet_insertAll_mem C k e l' s hnd' hmem']
    simp only [value_roundtrip C hC, Option.map_some]
  exact ⟨hfind, _, hfind, by rw [sameEntry_after, sameEntry_before]⟩

/-- … in particular two orders of the same batch give the same answer for every key of the batch -/
theorem concurrent_inserts_order_irrelevant (C : Codec) (hC : C.Sound) (s : KV) (l l' : List (Bytes × Entry))
    (hperm : l'.Perm l) (hnd : (l.map (·.1)).Nodup) (k : Bytes) (e : Entry) (hmem : (k, e) ∈ l) :
    find C k (insertAll C s l') = find C k (insertAll C s l) := by
  rw [(concurrent_inserts_commute C hC s l l' hperm hnd k e hmem).1,
    (concurrent_inserts_commute C hC s l l (List.Perm.refl l) hnd k e hmem).1]

/-- FULL-STRENGTH "equal via lookup and via listing" is FALSE for hard links — known finding
    Filer.ListDirectoryEntries/hard-link-not-resolved: after a second link of the file was written
    (`shared`), lookup resolves the link, the native prefixed listing returns the stale own copy -/
theorem hardlink_listing_stale_witness :
    let own : Entry := ⟨["1", "1", "420", "0", "0", "-", "-", "0", "-", "-", "-", "-", "-", "5"], 420, [], [], ["-", "01aa", "1", "6331", "-"]⟩
    let shared : Entry := ⟨["1", "1", "420", "0", "0", "-", "-", "0", "-", "-", "-", "-", "-", "7"], 420, [], [], ["-", "01aa", "2", "63326332", "-"]⟩
    readResolved own (some shared) = shared ∧ readRaw own (some shared) = own ∧ sameEntry shared (readRaw own (some shared)) = false := by
  decide +kernel

/-- without a hard link id both read paths agree up to `AfterEntryDeserialization`, i.e. on every effective file id
    (`find_returns_written` / `list_returns_written` above) -/
theorem readResolved_no_hardlink (own : Entry) (shared : Option Entry) (h : hardLinkId own = "-") :
    readResolved own shared = afterEntry (readRaw own shared) := by
  unfold readResolved readRaw; rw [if_pos h]

/-- canonicalising file ids is idempotent, for EVERY string -/
theorem fid_canonical_idempotent (s : List Char) : canonId (canonId s) = canonId s := by
  unfold canonId
  cases h : parseFid s with
  | none => simp [h]
  | some g =>
    simp only
    -- formatting what was parsed either no longer parses (key 0) or parses to the same value
    obtain ⟨hv, hk, hc⟩ := parseFid_bounds h
    rcases g with ⟨v, k, c⟩
    by_cases hk0 : k = 0
    · subst hk0
      simp [parseFid_key0 v c]
    · simp [parseFid_fidString v k c hk0 hk hv hc]

/-- … and value-preserving: a string that denotes (volume, key ≠ 0, cookie) is replaced by a string
    that denotes the same triple -/
theorem fid_canonical_value_preserving (s : List Char) (g : Fid) (h : parseFid s = some g) (hk : g.key ≠ 0) :
    parseFid (canonId s) = some g := by
  obtain ⟨hv, hk', hc⟩ := parseFid_bounds h
  unfold canonId; rw [h]
  rcases g with ⟨v, k, c⟩
  exact parseFid_fidString v k c hk hk' hv hc

/-- FULL-STRENGTH value preservation is FALSE for key 0 (outside the domain: needle keys start at 1) -/
theorem fid_key0_not_preserved_witness :
    parseFid "3,00000000000000001234abcd".toList = some ⟨3, 0, 0x1234abcd⟩ ∧
    parseFid (canonId "3,00000000000000001234abcd".toList) = none := by
  decide +kernel

/-- non-vacuity of `fid_canonical_value_preserving` -/
example : parseFid (canonId "3,0001637037d6".toList) = some ⟨3, 1, 0x637037d6⟩ :=
  fid_canonical_value_preserving _ _ (by decide +kernel) (by decide)

/-- the three stores gzip above the same threshold the model uses, and `IsGzippedContent` tests the
    two magic bytes of `looksGzip` -/
theorem bridge_gzip_threshold_and_magic :
    SwV.Gen.C24.gzipCondLeveldb = "len(entry.Chunks) > 50" ∧ SwV.Gen.C24.gzipCondLeveldb2 = "len(entry.Chunks) > 50" ∧
    SwV.Gen.C24.gzipCondLeveldb3 = "len(entry.Chunks) > 50" ∧
    SwV.Gen.C24.gzipMagicTest = "data[0] == 31 && data[1] == 139" ∧ SwV.Gen.C24.gzipMagicLenGuard = "len(data) < 2" := by
  decide +kernel

/-- `GzipData` returns the bytes of a buffer it allocated itself (`buf := new(bytes.Buffer)`), so the value a
    store hands to `db.Put` is private to that insert — the fact behind "an insert is one atomic step" — and
    the function is otherwise unchanged -/
theorem bridge_gzip_fresh_buffer :
    SwV.Gen.C24.gzipOutputBuffer = "buf := new(bytes.Buffer)" ∧ SwV.Gen.C24.src_GzipData = "c0dd50744adf9eeb" := by
  decide +kernel

/-- seven of the functions the model transcribes are unchanged (source hashes); `genKey`, `GetFileIdString`,
    `ToFileIdObject` and `maybeReadHardLink` have no hash -/
theorem bridge_pinned_sources :
    SwV.Gen.C24.src_BeforeEntrySerialization = "aebc786f3bb2d4fa" ∧ SwV.Gen.C24.src_AfterEntryDeserialization = "259c0eea2ce14d16" ∧
    SwV.Gen.C24.src_MaybeGzipData = "5103381fbc7c42f6" ∧ SwV.Gen.C24.src_MaybeDecompressData = "c15859469e3aa682" ∧
    SwV.Gen.C24.src_EncodeAttributesAndChunks = "03f8be5d30c4833d" ∧ SwV.Gen.C24.src_IsGzippedContent = "8372add8b26a7de0" ∧
    SwV.Gen.C24.src_ToExistingProtoEntry = "c5fa3ea5fdf7885b" := by
  decide +kernel

end SwV.Props.C24
