/-
C09 — property theorems; helper lemmas, the invariants and the histories live in SwV/Lemmas/C09.lean and C09b.lean.
The model (SwV/Model/C09.lean) is tied to the Go code by the correspondence check on every run and by the
`bridge_*` theorems to definitions REGENERATED from the source (SwV/Gen/C09.lean).
-/
import SwV.Model.C09
import SwV.Spec.C09
import SwV.Gen.C09
import SwV.Lemmas.C09
import SwV.Lemmas.C09b

namespace SwV.Props.C09
open SwV.Model.C08 SwV.Model.C09 SwV.Spec.C09 SwV.Lemmas.C09

/-- a needle that carries a non-zero TTL and the LastModified flag is returned by `readNeedle`
    exactly while `now < AppendAtNs + ttl` -/
theorem ttl_window (n : Needle) (nowNs : Nat) (h1 : n.hasTtl = true) (h2 : ttlMinutes n.ttl ≠ 0) (h3 : n.hasLM = true) :
    readable n nowNs = true ↔ nowNs < n.appendNs + ttlMinutes n.ttl * 60 * nsPerSec := by
  simp [readable, h1, h2, h3]

/-- … and every other needle is returned at all times (no TTL flag, a TTL of 0 minutes, or no LastModified flag) -/
theorem ttl_window_unbounded (n : Needle) (nowNs : Nat)
    (h : n.hasTtl = false ∨ ttlMinutes n.ttl = 0 ∨ n.hasLM = false) : readable n nowNs = true := by
  unfold readable
  rcases h with h | h | h
  · simp [h]
  · by_cases h1 : n.hasTtl = true <;> simp [h1, h]
  · by_cases h1 : n.hasTtl = true <;> by_cases h2 : ttlMinutes n.ttl = 0 <;> simp [h1, h2, h]

/-- the model's read decision IS the promise of the spec, for every needle of the upload path and every time -/
theorem read_refines_promise (n : Needle) (nowNs : Nat) (h : n.hasLM = true) : readable n nowNs = live n nowNs := by
  unfold readable live promisedNs
  by_cases h1 : n.hasTtl = true <;> by_cases h2 : ttlMinutes n.ttl = 0 <;> simp [h1, h2, h]

/- FULL-STRENGTH statement (false of the model and of the code, findings compact/*):
     ∀ vt n now, readable n now = true → vacuumDrops vt n (now / nsPerSec) = false -/

/-- witnesses of the four ways compaction removes a needle that a read still returns
    (now = 2 000 000 000 s; 1h needle on a volume without TTL; 1h needle on a 5m volume;
     client-supplied LastModified two hours back; 137y volume whose seconds wrap in uint32) -/
theorem no_early_removal_compaction_witness :
    (readable ⟨true, ⟨1, 2⟩, true, 1999999800, 1999999800 * nsPerSec⟩ (2000000000 * nsPerSec) = true ∧
      vacuumDrops emptyTTL ⟨true, ⟨1, 2⟩, true, 1999999800, 1999999800 * nsPerSec⟩ 2000000000 = true) ∧
    (readable ⟨true, ⟨1, 2⟩, true, 1999999100, 1999999100 * nsPerSec⟩ (2000000000 * nsPerSec) = true ∧
      vacuumDrops ⟨5, 1⟩ ⟨true, ⟨1, 2⟩, true, 1999999100, 1999999100 * nsPerSec⟩ 2000000000 = true) ∧
    (readable ⟨true, ⟨1, 2⟩, true, 1999992800, 2000000000 * nsPerSec⟩ (2000000000 * nsPerSec) = true ∧
      vacuumDrops ⟨1, 2⟩ ⟨true, ⟨1, 2⟩, true, 1999992800, 2000000000 * nsPerSec⟩ 2000000000 = true) ∧
    (readable ⟨true, ⟨137, 6⟩, true, 1970000000, 1970000000 * nsPerSec⟩ (2000000000 * nsPerSec) = true ∧
      vacuumDrops ⟨137, 6⟩ ⟨true, ⟨137, 6⟩, true, 1970000000, 1970000000 * nsPerSec⟩ 2000000000 = true) := by
  decide +kernel

/-- `no_early_removal`, compaction, partial: if the needle's TTL is positive, not longer than the volume's and comes
    with the LastModified flag, the volume TTL in seconds fits uint32, and LastModified precedes the append by less than
    `δ` seconds, then a needle that a read would still return `δ` seconds from now is NOT dropped by a compaction now.
    (`δ = 1`: LastModified is the second of the append — the server-stamped case.) -/
theorem no_early_removal_compaction_partial (vt : TTL) (n : Needle) (nowNs δ : Nat)
    (hflags : n.hasTtl = true → n.hasLM = true ∧ 0 < ttlMinutes n.ttl ∧ ttlMinutes n.ttl ≤ ttlMinutes vt)
    (hov : ttlMinutes vt * 60 < 4294967296)
    (hskew : n.appendNs < (n.lm + δ) * nsPerSec)
    (hlive : readable n (nowNs + δ * nsPerSec) = true) :
    vacuumDrops vt n (nowNs / nsPerSec) = false := by
  by_cases h1 : n.hasTtl = true
  · obtain ⟨h3, h2, hle⟩ := hflags h1
    have hw := (ttl_window n (nowNs + δ * nsPerSec) h1 (Nat.ne_zero_of_lt h2) h3).1 hlive
    simp only [vacuumDrops, h1, Bool.true_and, decide_eq_false_iff_not, u32_of_lt _ hov]
    simp only [nsPerSec] at hw hskew ⊢
    omega
  · simp [vacuumDrops, h1]

/-- witnesses: (a) 1h needle on a 5m volume, both 15 minutes old: the heartbeat deletes the volume, the needle is live;
    (b) fresh 1h volume (lastModified 0), blob written now with a client-supplied LastModified 100 000 s back -/
theorem no_early_removal_expiry_witness :
    (let n : Needle := ⟨true, ⟨1, 2⟩, true, 1999999100, 1999999100 * nsPerSec⟩
     let v : Vol := ⟨⟨5, 1⟩, 1999999100, [(1, n)], true, 2 ^ 30⟩
     SwV.Model.C09.read v 1 (2000000000 * nsPerSec) = .ok ∧ hbDecision v 2000000000 = .deleted ∧
     SwV.Model.C09.read (step v (2000000000 * nsPerSec) .heartbeat) 1 (2000000000 * nsPerSec) = .novol) ∧
    (let v0 : Vol := ⟨⟨1, 2⟩, 0, [], true, 2 ^ 30⟩
     let v := step v0 (2000000000 * nsPerSec) (.put 1 emptyTTL true 1999900000)
     SwV.Model.C09.read v 1 (2000000000 * nsPerSec) = .ok ∧ hbDecision v 2000000000 = .deleted) := by
  decide +kernel

/-- `no_early_removal`, expiry, partial: if the needle has the LastModified flag and a positive TTL not longer than the
    volume's, and the volume's lastModified is less than `δ` seconds older than the needle's append, then a heartbeat
    never deletes the volume while a read would still return the needle `δ - 1` seconds from now (δ ≤ 1: now). -/
theorem no_early_removal_expiry_partial (v : Vol) (n : Needle) (nowNs δ : Nat)
    (h1 : n.hasTtl = true) (h3 : n.hasLM = true) (h2 : 0 < ttlMinutes n.ttl)
    (hle : ttlMinutes n.ttl ≤ ttlMinutes v.ttl)
    (hskew : n.appendNs < (v.lm + δ) * nsPerSec)
    (hlive : readable n (nowNs + (δ - 1) * nsPerSec) = true) :
    hbDecision v (nowNs / nsPerSec) ≠ .deleted := by
  have hw := (ttl_window n _ h1 (Nat.ne_zero_of_lt h2) h3).1 hlive
  intro hd
  have hx := expiredLongEnough_lt (hbDecision_deleted v _ hd)
  simp only [nsPerSec] at hw hskew hx
  omega

/-- a read returns the blob exactly when the volume is there, the index finds the key and the record has not expired -/
theorem read_ok_iff (v : Vol) (key nowNs : Nat) :
    SwV.Model.C09.read v key nowNs = .ok ↔
      v.alive = true ∧ ∃ kn, v.needles.find? (·.1 = key) = some kn ∧ readable kn.2 nowNs = true := by
  unfold SwV.Model.C09.read lookup
  cases v.alive
  · exact ⟨fun h => (nomatch h), fun h => (nomatch h.1)⟩
  · cases v.needles.find? (·.1 = key) with
    | none => exact ⟨fun h => (nomatch h), fun ⟨_, _, h, _⟩ => (nomatch h)⟩
    | some kn => cases hr : readable kn.2 nowNs <;> simp [hr]

/-- MAIN: in a volume whose records are all honest (`Inv`, preserved along honest histories as `inv_history` says)
    and whose TTL in seconds fits uint32, neither compaction nor a heartbeat (expiry) executed now takes away a key
    that a read one second from now would still return — the read one second from now still returns it afterwards. -/
theorem no_early_removal_honest (v : Vol) (nowNs key : Nat) (op : Op) (hop : op = .compact ∨ op = .heartbeat)
    (hinv : Inv v) (hov : ttlMinutes v.ttl * 60 < 4294967296)
    (h : SwV.Model.C09.read v key (nowNs + nsPerSec) = .ok) :
    SwV.Model.C09.read (step v nowNs op) key (nowNs + nsPerSec) = .ok := by
  obtain ⟨ha, kn, hf, hr⟩ := (read_ok_iff v key _).mp h
  obtain ⟨g1, g2, g3, g4⟩ := hinv kn (List.mem_of_find?_eq_some hf)
  rcases hop with rfl | rfl
  · -- compaction: the record passes the vacuum filter, so the index still finds it
    have hkeep : vacuumDrops v.ttl kn.2 (nowNs / nsPerSec) = false :=
      no_early_removal_compaction_partial v.ttl kn.2 nowNs 1 g1 hov g2 (by simpa using hr)
    have hf' := find_filter v.needles (fun x => !vacuumDrops v.ttl x.2 (nowNs / nsPerSec)) _ kn hf (by simp [hkeep])
    refine (read_ok_iff _ key _).mpr ?_
    simp only [step, ha, Bool.not_true, Bool.false_eq_true, if_false]
    exact ⟨trivial, kn, hf', hr⟩
  · -- heartbeat: the volume is not deleted
    have hnd : hbDecision v (nowNs / nsPerSec) ≠ .deleted := by
      by_cases hh : kn.2.hasTtl = true
      · obtain ⟨a1, a2, a3⟩ := g1 hh
        exact no_early_removal_expiry_partial v kn.2 nowNs 2 hh a1 a2 a3
          (Nat.lt_of_lt_of_le g2 (Nat.mul_le_mul_right _ (by omega))) (by simpa using hr)
      · have hz := g4 (eq_false_of_ne_true hh)
        intro hd
        simp [hbDecision, ha, volExpired, hz] at hd
    -- unfolding `step` leaves a match on the decision; `hnd` in the context rules out its `.deleted` arm
    have hs : step v nowNs .heartbeat = v := by simp only [step]
    rw [hs]
    exact h

/-- the induction: from a volume that satisfies the invariant, whose lastModified is not ahead of the clock and whose
    TTL is empty or positive, the invariant holds after every honest timed history (and the volume TTL never changes) -/
theorem inv_history (h : List (Nat × HOp)) : ∀ (v : Vol) (last : Nat), Inv v → v.lm ≤ last / nsPerSec →
    (v.ttl = emptyTTL ∨ 0 < ttlMinutes v.ttl) → HonestRun v last h →
    Inv (hrun v h) ∧ (hrun v h).ttl = v.ttl := by
  induction h with
  | nil => intro v last hinv _ _ _; exact ⟨hinv, rfl⟩
  | cons x r ih =>
    intro v last hinv hlm hvt hh
    obtain ⟨t, o⟩ := x
    obtain ⟨hle, ho, hr⟩ := hh
    obtain ⟨k1, k2⟩ := hstep_keeps v t o hinv (Nat.le_trans hlm (Nat.div_le_div_right hle)) hvt ho
    have k3 := hstep_ttl v t o
    have IH := ih (hstep v t o) t k1 k2 (k3 ▸ hvt) hr
    exact ⟨IH.1, IH.2.trans k3⟩

/-- MAIN (histories): for EVERY list of honest operations — writes with a server-stamped LastModified and a TTL that is
    empty or not longer than the volume's, overwrites, deletes, compactions, heartbeats, reloads that find a .dat mtime
    neither before the volume's lastModified nor after the clock, at clocks that never
    run backwards — from the empty volume (its TTL empty or positive, and in seconds within uint32), at EVERY prefix
    of the history: neither a compaction nor an expiry-driven heartbeat executed at any time `nowNs` removes a needle
    that a read one second later would return (the read one second later still returns it afterwards). -/
theorem no_early_removal_history (t0 : TTL) (lim : Nat) (ht0 : t0 = emptyTTL ∨ 0 < ttlMinutes t0)
    (hov : ttlMinutes t0 * 60 < 4294967296) (h : List (Nat × HOp)) (hh : HonestRun ⟨t0, 0, [], true, lim⟩ 0 h) :
    ∀ pre rest, h = pre ++ rest → ∀ (nowNs key : Nat) (op : Op), op = .compact ∨ op = .heartbeat →
      SwV.Model.C09.read (hrun ⟨t0, 0, [], true, lim⟩ pre) key (nowNs + nsPerSec) = .ok →
      SwV.Model.C09.read (step (hrun ⟨t0, 0, [], true, lim⟩ pre) nowNs op) key (nowNs + nsPerSec) = .ok := by
  intro pre rest hpr nowNs key op hop hread
  subst hpr
  have hp := honestRun_prefix pre rest _ _ hh
  obtain ⟨hinv, httl⟩ := inv_history pre ⟨t0, 0, [], true, lim⟩ 0 (List.forall_mem_nil _) (Nat.zero_le _) ht0 hp
  exact no_early_removal_honest _ nowNs key op hop hinv (by rw [httl]; exact hov) hread

/-- non-vacuity: a 1-hour volume; write key 1 at second 5, OVERWRITE it at second 6, write key 2, DELETE key 2, compact
    at second 8, heartbeat at second 9, reload: an honest history; key 1 is readable at the end -/
def exampleHistory : List (Nat × HOp) := [
  (5 * nsPerSec, .op (.put 1 emptyTTL true 5)),
  (6 * nsPerSec, .op (.put 1 ⟨30, 1⟩ true 6)),
  (6 * nsPerSec + 7, .op (.put 2 emptyTTL true 6)),
  (7 * nsPerSec, .del 2),
  (8 * nsPerSec, .op .compact),
  (9 * nsPerSec, .op .heartbeat),
  (9 * nsPerSec, .op (.reload 9))]

example : HonestRun ⟨⟨1, 2⟩, 0, [], true, 1000⟩ 0 exampleHistory ∧
    SwV.Model.C09.read (hrun ⟨⟨1, 2⟩, 0, [], true, 1000⟩ exampleHistory) 1 (10 * nsPerSec) = .ok ∧
    SwV.Model.C09.read (hrun ⟨⟨1, 2⟩, 0, [], true, 1000⟩ exampleHistory) 2 (10 * nsPerSec) = .notfound := by
  refine ⟨⟨by decide, ⟨⟨rfl, by decide, Or.inl rfl⟩, fun m h => by cases h⟩,
    by decide, ⟨⟨rfl, by decide, Or.inr (by decide)⟩, fun m h => by cases h⟩,
    by decide, ⟨⟨rfl, by decide, Or.inl rfl⟩, fun m h => by cases h⟩,
    by decide, trivial,
    by decide, ⟨trivial, fun m h => by cases h⟩,
    by decide, ⟨trivial, fun m h => by cases h⟩,
    by decide, ⟨(by show (_ : Nat) ≤ 9; decide), fun m h => by cases h; decide⟩, trivial⟩, by decide, by decide⟩

/- FULL-STRENGTH statement (false, finding sec2ttl/rounds-down):
     ∀ s, 0 < s → s < 2^31 → volMinutes s = 0 ∨ s ≤ 60 * volMinutes s -/

/-- exact characterisation: the volume TTL chosen by `SecondsToTTL` (regenerated from the source) and read back by
    `ReadTTL`/`Minutes` lasts at least `s` seconds IFF `s` is an exact multiple (count ≤ 255) of one of the six units -/
theorem filer_ttl_covered_iff (s : Int) (h0 : 0 < s) (h1 : s < 2147483648) :
    (s ≤ 60 * (volMinutes s : Int)) ↔ exactUnit s := by
  have hs := Int.le_of_lt h0
  unfold volMinutes SwV.Gen.C09.SecondsToTTL exactUnit
  simp only [SwV.Go.wrapS_tdiv (n := 31) hs h1, SwV.Go.wrapS_tmod (n := 31) hs h1, Int.reduceLT, Bool.and_eq_true, decide_eq_true_eq,
    if_neg (Int.ne_of_gt h0)]
  -- the exact tests, largest unit first: test `i` is disjunct `i` of `exactUnit`
  refine exact_step hs "y" 'y' (by decide +kernel) fun c1 => ?_
  refine exact_step hs "M" 'M' (by decide +kernel) fun c2 => ?_
  refine exact_step hs "w" 'w' (by decide +kernel) fun c3 => ?_
  refine exact_step hs "d" 'd' (by decide +kernel) fun c4 => ?_
  refine exact_step hs "h" 'h' (by decide +kernel) fun c5 => ?_
  by_cases c6 : s / 60 < 256
  · rw [if_pos c6, covered_unit s _ "m" 'm' hs c6 (by decide +kernel), and_iff_left c6]
  rw [if_neg c6]
  -- what is left truncates: it picks a unit whose count fits but which, by the tests above, does not divide `s`
  refine iff_of_false ?_ (fun h => c6 h.2)
  refine trunc_step hs "h" 'h' (by decide +kernel) c5 ?_
  refine trunc_step hs "d" 'd' (by decide +kernel) c4 ?_
  refine trunc_step hs "w" 'w' (by decide +kernel) c3 ?_
  refine trunc_step hs "M" 'M' (by decide +kernel) c2 ?_
  refine trunc_step hs "y" 'y' (by decide +kernel) c1 ?_
  rw [minutes_empty]
  omega

/-- 90 s is stored in a volume that promises 60 s ("1m"), 15 361 s (256 whole minutes, one more than a byte count holds) in
    one that promises 14 400 s ("4h") -/
theorem filer_ttl_rounds_down_witness : ¬ ((90 : Int) ≤ 60 * (volMinutes 90 : Int)) ∧ ¬ ((15361 : Int) ≤ 60 * (volMinutes 15361 : Int)) := by
  rw [filer_ttl_covered_iff 90 (by decide) (by decide), filer_ttl_covered_iff 15361 (by decide) (by decide)]
  unfold exactUnit
  omega

theorem filer_ttl_covered_partial (s : Int) (h0 : 0 < s) (h1 : s < 2147483648) (hx : exactUnit s) :
    s ≤ 60 * (volMinutes s : Int) := (filer_ttl_covered_iff s h0 h1).2 hx

/-- `Filer.FindEntry` / listing: an entry is visible exactly while `now ≤ Crtime + TtlSec` (or it has no TTL);
    Mtime plays no role, so appends and touches do not extend its life -/
theorem entry_visible_iff (e : FEntry) (nowNs : Nat) :
    entryVisible e nowNs = true ↔ e.ttlSec = 0 ∨ nowNs ≤ (e.crtime + e.ttlSec) * nsPerSec := by
  simp [entryVisible]

/- FULL-STRENGTH statement (false because of finding sec2ttl/rounds-down):
     every chunk of a visible entry, stored with ttl string SecondsToTTL(TtlSec), is readable. -/

/-- witness: entry with TtlSec = 90 created at second 1000, chunk in a "1m" volume: at second 1070 the entry is
    visible and its chunk is gone -/
theorem visible_entry_expired_chunk_witness :
    entryVisible ⟨90, 1000, 1000, [⟨⟨1, 1⟩, 1000 * nsPerSec⟩]⟩ (1070 * nsPerSec) = true ∧
    chunkReadable ⟨⟨1, 1⟩, 1000 * nsPerSec⟩ (1070 * nsPerSec) = false := by decide +kernel

/-- partial: if the chunk's volume TTL covers the entry's TtlSec and the chunk was written less than `δ` seconds
    before the entry's Crtime (or any time after it — appends), then whenever the entry is still visible `δ` seconds
    from now, the chunk is readable now. (δ = 0: chunk written after Crtime, same instant.) -/
theorem visible_chunk_readable_partial (e : FEntry) (c : Chunk) (nowNs δ : Nat)
    (hc : Covers e.ttlSec c) (hskew : e.crtime * nsPerSec < c.appendNs + δ * nsPerSec)
    (hvis : entryVisible e (nowNs + δ * nsPerSec) = true) : chunkReadable c nowNs = true := by
  unfold chunkReadable
  by_cases hm : ttlMinutes c.ttl = 0
  · exact ttl_window_unbounded _ _ (Or.inr (Or.inl hm))
  · have he : c.ttl ≠ emptyTTL := ne_of_apply_ne ttlMinutes hm
    have hflag : (chunkNeedle c).hasTtl = true := by simp [chunkNeedle, he]
    rw [ttl_window (chunkNeedle c) nowNs hflag hm rfl]
    obtain ⟨h0, h1⟩ := hc
    have hs : e.ttlSec ≠ 0 := fun h => hm (h0 h)
    have hle : e.ttlSec ≤ 60 * ttlMinutes c.ttl := h1.resolve_left hm
    have hv := (entry_visible_iff e _).1 hvis
    simp only [chunkNeedle, nsPerSec] at *
    omega

/-- the chunk TTL the filer asks for (`SecondsToTTL(TtlSec)`, regenerated from the source, read by `ReadTTL`)
    covers TtlSec whenever TtlSec is an exact unit multiple — the complement is finding sec2ttl/rounds-down -/
theorem filer_assign_covers_partial (s : Nat) (c : Chunk) (h0 : 0 < s) (h1 : s < 2147483648)
    (hx : exactUnit (s : Int)) (hc : c.ttl = (readTTL (SwV.Gen.C09.SecondsToTTL (s : Int)).toList).1) :
    Covers s c := by
  have h := (filer_ttl_covered_iff (s : Int) (Int.natCast_pos.2 h0) (Int.ofNat_lt.2 h1)).2 hx
  have hm : volMinutes (s : Int) = ttlMinutes c.ttl := by rw [hc]; rfl
  rw [hm] at h
  exact ⟨fun hs => by omega, Or.inr (by omega)⟩

theorem finv_init (δ nowNs : Nat) : FInv δ [] nowNs := List.forall_mem_nil _

theorem finv_mono (δ : Nat) (st : FStore) (a b : Nat) (h : FInv δ st a) (hab : a ≤ b) : FInv δ st b :=
  fun ke hke => ⟨(h ke hke).1, Nat.le_trans (h ke hke).2 hab⟩

/-- FindEntry and listing only delete entries -/
theorem finv_find (δ : Nat) (st : FStore) (nowNs k : Nat) (h : FInv δ st nowNs) : FInv δ (ffind st nowNs k).2 nowNs :=
  fun ke hke => h ke (ffind_store_subset st nowNs k hke)

theorem finv_list (δ : Nat) (st : FStore) (nowNs : Nat) (h : FInv δ st nowNs) : FInv δ (flist st nowNs) nowNs :=
  fun ke hke => h ke (List.mem_filter.1 hke).1

/-- CreateEntry (create, or update-after-create: append / touch / new TtlSec) preserves the invariant when the
    submitted entry's Crtime is not in the future and each of its chunks is covered for the submitted TtlSec and is
    either a chunk of the still-visible old entry (kept) or was written less than `δ` seconds ago -/
theorem finv_put (δ : Nat) (st : FStore) (nowNs k : Nat) (e : FEntry) (hinv : FInv δ st nowNs)
    (hcr : e.crtime * nsPerSec ≤ nowNs)
    (hch : ∀ c ∈ e.chunks, Covers e.ttlSec c ∧
      ((∃ o, (ffind st nowNs k).1 = some o ∧ c ∈ o.chunks) ∨ nowNs < c.appendNs + δ * nsPerSec)) :
    FInv δ (fput st nowNs k e) nowNs := by
  have hsub := ffind_store_subset st nowNs k
  have hold := ffind_some st nowNs k
  unfold fput
  generalize ffind st nowNs k = r at hch hsub hold ⊢
  obtain ⟨old, st1⟩ := r
  simp only [] at hch hsub hold ⊢
  intro ke hke
  simp only [List.mem_cons, List.mem_filter] at hke
  rcases hke with rfl | ⟨hm, _⟩
  · cases old with
    | none =>
      refine ⟨fun c hc => ?_, hcr⟩
      obtain ⟨h1, h2⟩ := hch c hc
      refine ⟨h1, ?_⟩
      rcases h2 with ⟨o, ho, _⟩ | h2
      · cases ho
      · exact Nat.lt_of_le_of_lt hcr h2
    | some o =>
      obtain ⟨⟨kn, hkn, rfl⟩, _⟩ := hold o rfl
      obtain ⟨go, gcr⟩ := hinv kn hkn
      refine ⟨fun c hc => ?_, gcr⟩
      obtain ⟨h1, h2⟩ := hch c hc
      refine ⟨h1, ?_⟩
      rcases h2 with ⟨o', ho', hc'⟩ | h2
      · cases ho'
        exact (go c hc').2
      · exact Nat.lt_of_le_of_lt gcr h2
  · exact hinv ke (hsub hm)

/-- MAIN (filer): along every history that keeps `FInv` (create at t0 with TtlSec, later updates/appends that keep old
    chunks — `finv_put`, `finv_find`, `finv_list`, `finv_mono`), an entry that FindEntry still returns `δ` seconds
    from now only has chunks that are readable now. -/
theorem visible_never_points_at_expired (δ : Nat) (st : FStore) (nowNs k : Nat) (e : FEntry)
    (hinv : FInv δ st nowNs) (hf : (ffind st (nowNs + δ * nsPerSec) k).1 = some e) :
    ∀ c ∈ e.chunks, chunkReadable c nowNs = true := by
  obtain ⟨⟨kn, hkn, rfl⟩, hv⟩ := ffind_some st _ k e hf
  intro c hc
  obtain ⟨g, _⟩ := hinv kn hkn
  exact visible_chunk_readable_partial kn.2 c nowNs δ (g c hc).1 (g c hc).2 hv

theorem bridge_ttl_minutes (c u : Nat) (hc : c < 256) :
    SwV.Gen.C09.TTL_Minutes c u = (ttlMinutes ⟨c, u⟩ : Nat) := bridge_minutes c u hc

theorem bridge_constants :
    SwV.Gen.C09.MAX_TTL_VOLUME_REMOVAL_DELAY = (maxRemovalDelay : Int) ∧ SwV.Gen.C09.SuperBlockSize = 8 ∧
    SwV.Gen.C09.LastModifiedBytesLength = 5 := by decide +kernel

/-- the source text of eight of the functions the model mirrors by hand, by its hash (CollectHeartbeat, writeNeedle2,
    doWriteRequest, the volume load and CreateEntry have none): an edit of the source changes the regenerated hash and
    breaks this -/
theorem bridge_pins :
    SwV.Gen.C09.src_readNeedle = "f3764387cee126f8" ∧ SwV.Gen.C09.src_expired = "cf47f37966c26e15" ∧
    SwV.Gen.C09.src_expiredLongEnough = "95aaed9accc2f78c" ∧ SwV.Gen.C09.src_VisitNeedle = "93d511a40ba8dc87" ∧
    SwV.Gen.C09.src_copyDataBasedOnIndexFile = "fb8c6ae27b972798" ∧
    SwV.Gen.C09.src_FindEntry = "97a4529ec5f4b108" ∧ SwV.Gen.C09.src_doListDirectoryEntries = "8c89010a0f6ddc2d" ∧
    SwV.Gen.C09.src_UpdateEntry = "42f0d53b6e3a8052" := ⟨rfl, rfl, rfl, rfl, rfl, rfl, rfl, rfl⟩

example : Covers 3600 ⟨⟨1, 2⟩, 5⟩ := ⟨fun h => (by cases h), Or.inr (by decide)⟩
example : FGood 0 ⟨3600, 10, 10, [⟨⟨1, 2⟩, 10 * nsPerSec + 1⟩]⟩ := by
  intro c hc; simp at hc; subst hc; exact ⟨⟨fun h => (by cases h), Or.inr (by decide)⟩, by decide⟩
example : exactUnit 7200 := by unfold exactUnit; omega
example : Good ⟨1, 2⟩ 100 ⟨true, ⟨1, 2⟩, true, 100, 100 * nsPerSec + 5⟩ := by
  refine ⟨fun _ => ⟨rfl, by decide, by decide⟩, by decide, by decide, fun h => by cases h⟩
example : HonestOp ⟨⟨1, 2⟩, 0, [], true, 1⟩ (5 * nsPerSec) (.put 1 emptyTTL true 5) := ⟨rfl, by decide, Or.inl rfl⟩

end SwV.Props.C09
