/-
C40 — theorems.

Full statement (FALSE of the code, kept visible):
    every successful upload/delete leaves all replicas with the same view of the key.
It fails because the forwarding upload does not reproduce the primary's needle (`StableForward` below is false when
doUploadData re-sniffs the mime type or gzips the bytes: findings ReplicatedWrite/replicas-differ-in-mime and
ReplicatedWrite/replicas-differ-in-metadata-of-unchanged-bytes) — witnesses `forward_not_stable_witness`,
`agreement_fails_witness`, `unchanged_answer_witness`.
What is proved (`replicas_agree_on_success_partial`): along ANY history of uploads and deletes on healthy replicas in
which every upload is forwarded stably, all replicas stay IDENTICAL (hence agree on every key) and every operation
succeeds (or answers not-found on all of them).
`stableForward_iff_syntactic` characterises the hypothesis without gzip and without the Store: `StableForward c s q` holds,
for EVERY codec, exactly when the decidable `stableSyntactic s q` does = the forwarding upload does not re-compress the
bytes (already compressed, or a type `IsCompressableFileType` does not compress and no compressible 128-byte sample of an
untyped blob > 16 KiB) and the replica derives the mime type the primary stored (a stored, client-supplied type — class
`stable_of_typed_upload` —, or nothing stored and a sniffed/extension type the replica drops again).
`replicas_agree_on_success_syntactic_partial` is the agreement theorem under that codec-free hypothesis; identical rewrites
(isFileUnchanged) need no exclusion there: identical replicas decide it identically.
-/
import SwV.Model.C40
import SwV.Spec.C40
import SwV.Gen.C40
import SwV.Lemmas.C40
namespace SwV.Props.C40
open SwV.Model.C33 (Codec)
open SwV.Model.C40 SwV.Spec.C40

/-- the replica rebuilds exactly the primary's needle from the forwarded request (excluded otherwise: the two findings) -/
def StableForward (c : Codec) (s : Sniff) (q : Req) : Prop :=
  createNeedle (forward c s (createNeedle q)) = createNeedle q

def AllEq (nodes : List Node) (p : Node) : Prop := ∀ nd ∈ nodes, nd = p
def Healthy (fs : List Nat) : Prop := ∀ f ∈ fs, f = 0

theorem AllEq.cons {p : Node} {rs : List Node} (h : AllEq rs p) : AllEq (p :: rs) p :=
  List.forall_mem_cons.2 ⟨rfl, h⟩

theorem AllEq.map {rs : List Node} {p : Node} {f : Node → Node} (h : AllEq rs p) : AllEq (rs.map f) (f p) :=
  List.forall_mem_map.2 fun nd hnd => congrArg f (h nd hnd)

theorem Healthy.head {fs : List Nat} (h : Healthy fs) : fs.headD 0 = 0 := by
  cases fs with
  | nil => rfl
  | cons f _ => exact h f List.mem_cons_self

theorem Healthy.tail {fs : List Nat} (h : Healthy fs) : Healthy fs.tail :=
  fun x hx => h x (List.mem_of_mem_tail hx)

theorem fanOut_healthy (q : Req) (k : Nat) : ∀ (rs : List Node) (fs : List Nat), Healthy fs →
    fanOut q k rs fs = (rs.map fun nd => (writeLocal nd k (createNeedle q)).1, true)
  | [], _, _ => rfl
  | nd :: rest, fs, hf => by
    simp only [fanOut, fanOut_healthy q k rest fs.tail hf.tail, hf.head]
    rfl

theorem fanOutDelete_healthy (k : Nat) : ∀ (rs : List Node) (fs : List Nat), Healthy fs →
    fanOutDelete k rs fs = (rs.map (·.erase k), true)
  | [], _, _ => rfl
  | nd :: rest, fs, hf => by
    simp only [fanOutDelete, fanOutDelete_healthy k rest fs.tail hf.tail, hf.head]
    rfl

theorem upload_keeps_replicas_identical (c : Codec) (s : Sniff) (w : World) (k : Nat) (q : Req) (p : Node)
    (hne : w.nodes ≠ []) (heq : AllEq w.nodes p) (hh : Healthy w.faults) (hst : StableForward c s q) :
    success (upload c s w k q).2 = true ∧
      AllEq (upload c s w k q).1.nodes (writeLocal p k (createNeedle q)).1 ∧
      (upload c s w k q).1.faults = w.faults ∧ (upload c s w k q).1.nodes ≠ [] := by
  obtain ⟨nodes, faults⟩ := w
  cases nodes with
  | nil => exact absurd rfl hne
  | cons p0 rs =>
    obtain ⟨rfl, hrs⟩ := List.forall_mem_cons.1 heq
    unfold StableForward at hst
    simp only [upload, fanOut_healthy _ k rs _ hh.tail, hst]
    refine ⟨?_, .cons (AllEq.map hrs), trivial, List.cons_ne_nil _ _⟩
    cases (writeLocal p0 k (createNeedle q)).2 <;> rfl

theorem delete_keeps_replicas_identical (w : World) (k : Nat) (p : Node)
    (hne : w.nodes ≠ []) (heq : AllEq w.nodes p) (hh : Healthy w.faults) :
    ((delete w k).2 = .deleted ∨ (delete w k).2 = .notfound) ∧
      (∃ p', AllEq (delete w k).1.nodes p') ∧ (delete w k).1.faults = w.faults ∧ (delete w k).1.nodes ≠ [] := by
  obtain ⟨nodes, faults⟩ := w
  cases nodes with
  | nil => exact absurd rfl hne
  | cons p0 rs =>
    obtain ⟨rfl, hrs⟩ := List.forall_mem_cons.1 heq
    simp only [delete, fanOutDelete_healthy k rs _ hh.tail]
    cases p0.get k with
    | none => exact ⟨.inr rfl, ⟨p0, heq⟩, rfl, hne⟩
    | some r => exact ⟨.inl rfl, ⟨_, .cons (AllEq.map hrs)⟩, rfl, List.cons_ne_nil _ _⟩

inductive Op where
  | up (s : Sniff) (k : Nat) (q : Req)
  | del (k : Nat)

def applyOp (c : Codec) (w : World) : Op → World × Status
  | .up s k q => upload c s w k q
  | .del k => delete w k

def runOps (c : Codec) (w : World) : List Op → World × List Status
  | [] => (w, [])
  | o :: os =>
    let (w1, st) := applyOp c w o
    let (w2, sts) := runOps c w1 os
    (w2, st :: sts)

def StableOp (c : Codec) : Op → Prop
  | .up s _ q => StableForward c s q
  | .del _ => True

theorem applyOp_keeps_replicas_identical (c : Codec) (w : World) (p : Node) (o : Op)
    (hne : w.nodes ≠ []) (heq : AllEq w.nodes p) (hh : Healthy w.faults) (hst : StableOp c o) :
    (success (applyOp c w o).2 = true ∨ (applyOp c w o).2 = .notfound) ∧
      (∃ p', AllEq (applyOp c w o).1.nodes p') ∧ (applyOp c w o).1.faults = w.faults ∧ (applyOp c w o).1.nodes ≠ [] := by
  cases o with
  | up s k q =>
    obtain ⟨u1, u2, u3, u4⟩ := upload_keeps_replicas_identical c s w k q p hne heq hh hst
    exact ⟨.inl u1, ⟨_, u2⟩, u3, u4⟩
  | del k =>
    obtain ⟨d1, d2, d3, d4⟩ := delete_keeps_replicas_identical w k p hne heq hh
    exact ⟨d1.imp (fun d => (congrArg success d).trans rfl) id, d2, d3, d4⟩

/-- along any history of uploads and deletes on healthy replicas whose uploads are forwarded stably,
    every operation succeeds (or finds nothing to delete) and the replicas stay identical — so they agree on every key. -/
theorem replicas_agree_on_success_partial (c : Codec) (ops : List Op) :
    ∀ (w : World) (p : Node), w.nodes ≠ [] → AllEq w.nodes p → Healthy w.faults → (∀ o ∈ ops, StableOp c o) →
      (∀ st ∈ (runOps c w ops).2, success st = true ∨ st = .notfound) ∧
      (∃ p', AllEq (runOps c w ops).1.nodes p') ∧
      (∀ k, Agree c (runOps c w ops).1.nodes k) := by
  induction ops with
  | nil =>
    intro w p _ heq _ _
    refine ⟨List.forall_mem_nil _, ⟨p, heq⟩, ?_⟩
    intro k a ha b hb
    rw [heq a ha, heq b hb]
  | cons o os ih =>
    intro w p hne heq hh hst
    obtain ⟨hso, hsos⟩ := List.forall_mem_cons.1 hst
    obtain ⟨a1, ⟨p', a2⟩, a3, a4⟩ := applyOp_keeps_replicas_identical c w p o hne heq hh hso
    obtain ⟨i1, i2, i3⟩ := ih (applyOp c w o).1 p' a4 a2 (a3 ▸ hh) hsos
    exact ⟨List.forall_mem_cons.2 ⟨a1, i1⟩, i2, i3⟩

/-- `StableForward` does not depend on gzip: it is the decidable, codec-free `stableSyntactic` (no re-compression on the
    forwarding path ∧ the replica derives the stored mime type) -/
theorem stableForward_iff_syntactic (c : Codec) (s : Sniff) (q : Req) :
    StableForward c s q ↔ SwV.Lemmas.C40.stableSyntactic s q = true :=
  SwV.Lemmas.C40.stable_iff_syntactic c s q

/-- a readable class: the primary stored a media type (client-supplied, not octet-stream, not the extension's), the
    forwarding step's extension oracle is the request's (`hext`), and the bytes are not re-compressed (sent compressed, or
    a type `IsCompressableFileType` is not sure to compress) -/
theorem stable_of_typed_upload (c : Codec) (s : Sniff) (q : Req) (hm : (createNeedle q).mime ≠ []) (hext : s.extMime = q.extMime)
    (hz : q.gz = true ∨
      (SwV.Model.C33.isCompressable (if (createNeedle q).name = [] then ['.'] else (createNeedle q).name) (createNeedle q).mime).1 = false ∨
      (SwV.Model.C33.isCompressable (if (createNeedle q).name = [] then ['.'] else (createNeedle q).name) (createNeedle q).mime).2 = false) :
    StableForward c s q :=
  (stableForward_iff_syntactic c s q).mpr (SwV.Lemmas.C40.syntactic_of_typed s q hm hext hz)

def stableOpB : Op → Bool
  | .up s _ q => SwV.Lemmas.C40.stableSyntactic s q
  | .del _ => true

/-- the same under the codec-free hypothesis: along any history of uploads and deletes on healthy replicas whose uploads
    are syntactically stable, every operation succeeds (or finds nothing to delete) and the replicas stay identical —
    whatever gzip does. Excluded: the uploads the two open findings start from (re-sniffed mime / re-compressed bytes on
    the forwarding path, and what follows from the replicas holding other bytes) and replica failures. -/
theorem replicas_agree_on_success_syntactic_partial (c : Codec) (ops : List Op) (w : World) (p : Node)
    (hne : w.nodes ≠ []) (heq : AllEq w.nodes p) (hh : Healthy w.faults) (hst : ∀ o ∈ ops, stableOpB o = true) :
    (∀ st ∈ (runOps c w ops).2, success st = true ∨ st = .notfound) ∧
    (∃ p', AllEq (runOps c w ops).1.nodes p') ∧
    (∀ k, Agree c (runOps c w ops).1.nodes k) :=
  replicas_agree_on_success_partial c ops w p hne heq hh (fun o ho => by
    have := hst o ho
    cases o with
    | up s k q => exact (stableForward_iff_syntactic c s q).mpr this
    | del k => trivial)

def symCodec : Codec :=
  { gzip := fun x => 31 :: 139 :: x,
    gunzip := fun x => match x with | 31 :: 139 :: r => some r | _ => none,
    enc := id, dec := some }

def sniffText : Sniff := ⟨"text/plain; charset=utf-8".toList, [], false⟩

def reqVideo : Req := ⟨"f".toList, "video/mp4".toList, .given 7, [], "-", false, false, [104, 105], []⟩
def reqPlain : Req := ⟨"f".toList, [], .given 7, [], "-", false, false, [104, 105], []⟩

theorem syntactic_video : SwV.Lemmas.C40.stableSyntactic sniffText reqVideo = true := by decide +kernel

theorem syntactic_plain : SwV.Lemmas.C40.stableSyntactic sniffText reqPlain = false := by decide +kernel

/-- a client-supplied, non-sniffable content type travels unchanged -/
example : StableForward symCodec sniffText reqVideo := (stableForward_iff_syntactic ..).mpr syntactic_video

/-- text bytes without a content type: the replicas get `text/plain; charset=utf-8` and gzip bytes -/
theorem forward_not_stable_witness : ¬ StableForward symCodec sniffText reqPlain := fun h =>
  Bool.false_ne_true (syntactic_plain.symm.trans ((stableForward_iff_syntactic ..).mp h))

/-- the same two facts, syntactically (no codec) -/
example : SwV.Lemmas.C40.stableSyntactic sniffText reqVideo = true ∧ SwV.Lemmas.C40.stableSyntactic sniffText reqPlain = false :=
  ⟨syntactic_video, syntactic_plain⟩

/-- "sniffs to itself": a.png without a content type, sniffed as image/png = the extension's type — nothing stored on the
    primary, the replica drops the forwarded type again, images are not compressed: stable.  a.txt with text bytes sniffs to
    itself as well but is re-compressed on the way: not stable (the views still agree; the replica holds gzip bytes at rest,
    which is what finding replicas-differ-in-metadata-of-unchanged-bytes starts from). -/
theorem self_sniffing_witnesses :
    SwV.Lemmas.C40.stableSyntactic ⟨"image/png".toList, "image/png".toList, false⟩
      ⟨"a.png".toList, [], .given 7, [], "-", false, false, [137, 80], "image/png".toList⟩ = true ∧
    SwV.Lemmas.C40.stableSyntactic ⟨"text/plain; charset=utf-8".toList, "text/plain; charset=utf-8".toList, false⟩
      ⟨"a.txt".toList, [], .given 7, [], "-", false, false, [104, 105], "text/plain; charset=utf-8".toList⟩ = false := by decide +kernel

/-- the hypothesis `hst` of `replicas_agree_on_success_syntactic_partial` is satisfiable: typed upload, delete, the upload again, the same bytes under another name -/
example : ∀ o ∈ [Op.up sniffText 1 reqVideo, Op.del 1, Op.up sniffText 1 reqVideo, Op.up sniffText 1 { reqVideo with name := "g".toList }],
    stableOpB o = true := by decide +kernel

/-- the hypotheses `hm`, `hext` of `stable_of_typed_upload` hold of the typed upload -/
example : (createNeedle reqVideo).mime ≠ [] ∧ sniffText.extMime = reqVideo.extMime := by decide +kernel

def twoEmpty : World := ⟨[[], []], [0, 0]⟩

/-- the full statement fails on a healthy pair of replicas: the upload is reported `created`, the views differ -/
theorem agreement_fails_witness :
    (upload symCodec sniffText twoEmpty 1 reqPlain).2 = .created ∧
      ¬ Agree symCodec (upload symCodec sniffText twoEmpty 1 reqPlain).1.nodes 1 := by
  unfold Agree
  decide +kernel

/-- and the same bytes uploaded again under another name are answered `unchanged` while the replicas disagree on the name -/
theorem unchanged_answer_witness :
    let w1 := (upload symCodec sniffText twoEmpty 1 reqVideo).1
    let q2 : Req := { reqPlain with name := "g".toList }
    (upload symCodec sniffText w1 1 q2).2 = .unchanged ∧
      ((upload symCodec sniffText w1 1 q2).1.nodes.map fun nd => (nd.get 1).map (·.name)) = [some "f".toList, some "g".toList] := by
  decide +kernel

/-- an edit of any of these functions breaks this obligation -/
theorem bridge_source_pins :
    SwV.Gen.C40.src_ReplicatedWrite = "5c851f7c671e10ff" ∧
    SwV.Gen.C40.src_ReplicatedDelete = "a06f670318c08a41" ∧
    SwV.Gen.C40.src_distributedOperation = "a5f59e07d1398366" ∧
    SwV.Gen.C40.src_getWritableRemoteReplications = "c0bf1608c1f1ad89" ∧
    SwV.Gen.C40.src_CreateNeedleFromRequest = "a3abd6a61c4a5dff" ∧
    SwV.Gen.C40.src_isFileUnchanged = "9b0c84174250e52d" :=
  ⟨rfl, rfl, rfl, rfl, rfl, rfl⟩

end SwV.Props.C40
