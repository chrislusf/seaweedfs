/-
C34 — theorems. The model's decision procedure (`check`, a chain of early returns in the order of the Go code)
is characterised declaratively (`authorized_iff`), shown sound for the file-level reading of the property
(`authorized_names_target`), and the handler is shown to touch nothing when it rejects (`rejected_touches_nothing`).
-/
import SwV.Model.C34
import SwV.Spec.C34
import SwV.Gen.C34
namespace SwV.Props.C34
open SwV.Model.C34 SwV.Spec.C34

/-- the key a request of this method is checked against -/
def keyFor (cfg : Cfg) (method : String) : List Char := if isWrite method then cfg.wkey else cfg.rkey

theorem authorized_ite_refusing {c : Prop} [Decidable c] (v : Verdict) {rest : Verdict} (hv : authorized v = false) :
    authorized (if c then v else rest) = true ↔ ¬ c ∧ authorized rest = true := by
  by_cases h : c <;> simp [h, hv]

/-- a request is let through exactly when no key is configured for its kind, or the presented string is not empty, is the
    described token and that token is well-formed, HMAC, signed (untampered) with exactly that key, inside its time
    window, and its fid claim is `vid,fid` with the sub-file suffix of `fid` removed. -/
theorem authorized_iff (cfg : Cfg) (method : String) (vid fid s : List Char) (t : Tok) :
    authorized (check cfg method vid fid s t) = true ↔
      keyFor cfg method = [] ∨
      (s ≠ [] ∧ s = t.str ∧ t.wellFormed = true ∧ isHmac t.alg = true ∧ t.sigOk = true ∧ t.signKey = keyFor cfg method ∧
        t.expOk = true ∧ t.nbfOk = true ∧ t.iatOk = true ∧ t.fid = vid ++ ',' :: stripDelta fid) := by
  unfold check
  show authorized (if keyFor cfg method = [] then _ else _) = true ↔ _
  by_cases hk : keyFor cfg method = []
  · simp [hk, authorized]
  · -- the chain of early returns, guard by guard
    rw [if_neg hk, authorized_ite_refusing .missing rfl, authorized_ite_refusing .malformed rfl,
      authorized_ite_refusing .wrongMethod rfl, authorized_ite_refusing .badSignature rfl,
      authorized_ite_refusing .timeInvalid rfl]
    have last : authorized (if t.fid = vid ++ ',' :: stripDelta fid then Verdict.ok else Verdict.fidMismatch) = true ↔
        t.fid = vid ++ ',' :: stripDelta fid := by
      by_cases h : t.fid = vid ++ ',' :: stripDelta fid <;> simp [h, authorized]
    simp only [last, hk, false_or, not_or, ne_eq, Decidable.not_not, Bool.not_eq_false, Bool.and_eq_true, and_assoc]
    exact Iff.rfl

theorem token_of_authorized {cfg : Cfg} {method : String} {vid fid s : List Char} {t : Tok}
    (hk : keyFor cfg method ≠ []) (h : authorized (check cfg method vid fid s t) = true) :
    s ≠ [] ∧ s = t.str ∧ t.wellFormed = true ∧ isHmac t.alg = true ∧ t.sigOk = true ∧ t.signKey = keyFor cfg method ∧
      t.expOk = true ∧ t.nbfOk = true ∧ t.iatOk = true ∧ t.fid = vid ++ ',' :: stripDelta fid :=
  ((authorized_iff cfg method vid fid s t).mp h).resolve_left hk

example : authorized (check ⟨"w".toList, []⟩ "POST" "3".toList "01637037d6".toList "tok".toList
    ⟨"tok".toList, true, "HS256", "w".toList, true, true, true, true, "3,01637037d6".toList⟩) = true := by decide +kernel

/-- with a key configured, no token means no access -/
theorem missing_token_rejected (cfg : Cfg) (method : String) (vid fid : List Char) (t : Tok)
    (hk : keyFor cfg method ≠ []) : authorized (check cfg method vid fid [] t) = false :=
  Bool.eq_false_iff.mpr fun h => (token_of_authorized hk h).1 rfl

/-- with a key configured, tokens of another algorithm family (none, RS256, …) never pass -/
theorem non_hmac_rejected (cfg : Cfg) (method : String) (vid fid s : List Char) (t : Tok)
    (hk : keyFor cfg method ≠ []) (ha : isHmac t.alg = false) : authorized (check cfg method vid fid s t) = false :=
  Bool.eq_false_iff.mpr fun h => Bool.false_ne_true (ha.symm.trans (token_of_authorized hk h).2.2.2.1)

/-- with a key configured, tokens signed with any other key, tampered tokens, expired / not-yet-valid tokens never pass -/
theorem bad_signature_or_time_rejected (cfg : Cfg) (method : String) (vid fid s : List Char) (t : Tok)
    (hk : keyFor cfg method ≠ [])
    (hb : t.sigOk = false ∨ t.signKey ≠ keyFor cfg method ∨ t.expOk = false ∨ t.nbfOk = false ∨ t.iatOk = false) :
    authorized (check cfg method vid fid s t) = false := by
  refine Bool.eq_false_iff.mpr fun h => ?_
  obtain ⟨_, _, _, _, a, b, c, d, e, _⟩ := token_of_authorized hk h
  rcases hb with hb | hb | hb | hb | hb
  · exact ne_true_of_eq_false hb a
  · exact hb b
  · exact ne_true_of_eq_false hb c
  · exact ne_true_of_eq_false hb d
  · exact ne_true_of_eq_false hb e

/-- file-level soundness: when a key is configured and the request passes, the token's claim denotes (file-id grammar
    of C08) exactly what the path addresses, sub-file suffix ignored: the same file, or neither is a file id -/
theorem authorized_names_target (cfg : Cfg) (method : String) (vid fid s : List Char) (t : Tok)
    (hk : keyFor cfg method ≠ []) (h : authorized (check cfg method vid fid s t) = true) :
    tokenGood (keyFor cfg method) t = true ∧ SwV.Model.C08.parseFid t.fid = fileOf vid (stripDelta fid) := by
  obtain ⟨_, _, a, b, c, d, e, f, g, i⟩ := token_of_authorized hk h
  constructor
  · simp [tokenGood, a, b, c, d, e, f, g]
  · rw [i]; rfl

/-- with a key configured, a token for another file is rejected: the claim must be the very string `vid,base` -/
theorem other_file_rejected (cfg : Cfg) (method : String) (vid fid s : List Char) (t : Tok)
    (hk : keyFor cfg method ≠ []) (hf : t.fid ≠ vid ++ ',' :: stripDelta fid) :
    authorized (check cfg method vid fid s t) = false :=
  Bool.eq_false_iff.mpr fun h => hf (token_of_authorized hk h).2.2.2.2.2.2.2.2.2

/-- the sub-file suffix: `base_n` (base non-empty, no '_' in n) is checked as `base` -/
theorem stripDelta_suffix (base ds : List Char) (hb : base ≠ []) (hd : '_' ∉ ds) :
    stripDelta (base ++ '_' :: ds) = base := by
  have key : ∀ (b : List Char), lastIndexOf '_' (b ++ '_' :: ds) = some b.length := by
    intro b
    induction b with
    | nil =>
      have : lastIndexOf '_' ds = none := by
        induction ds with
        | nil => rfl
        | cons x xs ih =>
          have hx : x ≠ '_' := (List.ne_of_not_mem_cons hd).symm
          have hxs : '_' ∉ xs := List.not_mem_of_not_mem_cons hd
          simp [lastIndexOf, ih hxs, hx]
      simp [lastIndexOf, this]
    | cons x xs ih => simp [lastIndexOf, ih]
  unfold stripDelta cutLastPositive
  rw [key base]
  have : base.length > 0 := List.length_pos_iff.mpr hb
  simp [this]

example : stripDelta "01637037d6_12".toList = "01637037d6".toList := by decide +kernel

/-- the check comes before the Store access: a rejected request leaves the store as it was, whatever the handler's
    effect would have been -/
theorem rejected_touches_nothing {σ : Type} (cfg : Cfg) (method : String) (path qjwt auth : List Char) (t : Tok)
    (effect : σ → σ) (s : σ) (h : (handle cfg method path qjwt auth t effect s).status401 = true) :
    (handle cfg method path qjwt auth t effect s).store = s := by
  unfold handle at h ⊢
  generalize parseURLPath path = p at h ⊢
  obtain ⟨vid, fid⟩ := p
  dsimp only at h ⊢
  by_cases ha : authorized (check cfg method vid fid (getJwt qjwt auth) t) = true
  · simp [ha] at h
  · simp [ha]

theorem read_touches_nothing {σ : Type} (cfg : Cfg) (method : String) (path qjwt auth : List Char) (t : Tok)
    (effect : σ → σ) (s : σ) (h : isWrite method = false) :
    (handle cfg method path qjwt auth t effect s).store = s := by
  unfold handle
  generalize parseURLPath path = p
  obtain ⟨vid, fid⟩ := p
  dsimp only
  split <;> simp [h]

/-- once the token passed the key/format/signature/time checks, the verdict is decided by one EQUALITY between the fid
    claim and `vid,fid` with the sub-file suffix removed — not a prefix, not a containment test -/
theorem claim_comparison_is_equality (cfg : Cfg) (method : String) (vid fid : List Char) (t : Tok)
    (hk : keyFor cfg method ≠ []) (hs : t.str ≠ []) (hw : t.wellFormed = true) (ha : isHmac t.alg = true)
    (hsig : t.sigOk = true) (hkey : t.signKey = keyFor cfg method) (he : t.expOk = true) (hn : t.nbfOk = true) (hi : t.iatOk = true) :
    authorized (check cfg method vid fid t.str t) = true ↔ t.fid = vid ++ ',' :: stripDelta fid := by
  constructor
  · exact fun h => (token_of_authorized hk h).2.2.2.2.2.2.2.2.2
  · intro h; exact (authorized_iff ..).mpr (Or.inr ⟨hs, rfl, hw, ha, hsig, hkey, he, hn, hi, h⟩)

/-- … so a claim that is only a PREFIX of the target is rejected, however the target is addressed: with a key
    configured, any valid token whose fid claim differs from `vid,stripDelta fid` gives 401 -/
theorem other_claim_rejected (cfg : Cfg) (method : String) (vid fid s : List Char) (t : Tok)
    (hk : keyFor cfg method ≠ []) (hne : t.fid ≠ vid ++ ',' :: stripDelta fid) :
    authorized (check cfg method vid fid s t) = false :=
  other_file_rejected cfg method vid fid s t hk hne

/-- witness (the sub-file form `B_n` with a claim that is a strict textual prefix of B, and the empty claim):
    needle 0x163 cookie 7037d6ab addressed as `01637037d6ab_0`, token for `1,01637037d6` (needle 0x01 cookie 637037d6) -/
theorem prefix_claim_witness :
    let t : Tok := ⟨"tok".toList, true, "HS256", "k".toList, true, true, true, true, "1,01637037d6".toList⟩
    check ⟨"k".toList, []⟩ "DELETE" "1".toList "01637037d6ab_0".toList "tok".toList t = .fidMismatch ∧
    check ⟨"k".toList, []⟩ "DELETE" "1".toList "01637037d6ab_0".toList "tok".toList { t with fid := [] } = .fidMismatch ∧
    check ⟨"k".toList, []⟩ "DELETE" "1".toList "01637037d6_0".toList "tok".toList t = .ok := by decide +kernel

example : ∃ (cfg : Cfg) (method : String) (vid fid : List Char) (t : Tok), keyFor cfg method ≠ [] ∧ t.fid ≠ vid ++ ',' :: stripDelta fid ∧ t.str ≠ [] :=
  ⟨⟨"k".toList, []⟩, "DELETE", "1".toList, "01637037d6ab_0".toList,
    ⟨"tok".toList, true, "HS256", "k".toList, true, true, true, true, "1,01637037d6".toList⟩, by decide +kernel, by decide +kernel, by decide +kernel⟩

/-- bridge: the source text of the comparison in `maybeCheckJwtAuthorization` (regenerated on every check) is `==` between the
    claim and `vid+","+fid`, after `fid = fid[:sepIndex]` for `sepIndex := strings.LastIndex(fid, "_")`, `sepIndex > 0` —
    what `check`'s last step and `stripDelta` model; replacing the equality by a prefix/contains test breaks this obligation -/
theorem bridge_claim_comparison :
    SwV.Gen.C34.claim_cmp = "sc.Fid == vid+\",\"+fid" ∧
    SwV.Gen.C34.delta_sep = "sepIndex := strings.LastIndex(fid, \"_\")" ∧
    SwV.Gen.C34.delta_cond = "sepIndex > 0" ∧
    SwV.Gen.C34.delta_strip = "fid = fid[:sepIndex]" ∧
    (∀ fid : List Char, stripDelta fid = (cutLastPositive '_' fid).1) := by
  exact ⟨rfl, rfl, rfl, rfl, fun _ => rfl⟩

/-- an edit of any of these functions (e.g. moving the check after the Store access) breaks this obligation -/
theorem bridge_source_pins :
    SwV.Gen.C34.src_maybeCheckJwtAuthorization = "a7aaa84ea0076d91" ∧
    SwV.Gen.C34.src_GetJwt = "5dd17d49c931ebea" ∧
    SwV.Gen.C34.src_DecodeJwt = "bbd47ba7b5469b39" ∧
    SwV.Gen.C34.src_parseURLPath = "7944ea4a4dd4abde" ∧
    SwV.Gen.C34.src_PostHandler = "d71ebc4b835f65ab" ∧
    SwV.Gen.C34.src_DeleteHandler = "77decf1f3bbb4b4c" :=
  ⟨rfl, rfl, rfl, rfl, rfl, rfl⟩

end SwV.Props.C34
