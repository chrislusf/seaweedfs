/-
C08 — property theorems (only theorems here; helper lemmas live in SwV/Lemmas).
Each theorem is about the executable model in SwV/Model/C08.lean, which the
correspondence check ties to the Go code on every run; the `bridge_*` theorems
tie the model to definitions REGENERATED from the Go source (SwV/Gen/C08.lean).
-/
import SwV.Model.C08
import SwV.Spec.C08
import SwV.Gen.C08
import SwV.Lemmas.C08

namespace SwV.Props.C08
open SwV.Model.C08 SwV.Spec.C08 SwV.Lemmas.C08

/-- every valid placement survives String → FromString -/
theorem rp_string_roundtrip (rp : RP) (h : rpValid rp) : rpFromString (rpString rp) = (rp, true) := by
  exact (rp_canon rp h).1

/-- every valid placement survives Byte → FromByte -/
theorem rp_byte_roundtrip (rp : RP) (h : rpValid rp) : rpFromByte (rpByte rp) = (rp, true) := by
  rw [rpFromByte, (rp_canon rp h).2, (rp_canon rp h).1]

/-- every byte is classified: an accepted byte decodes to a valid placement that encodes back to it — by the table
    of all 256 bytes (`rp_accepted_bytes`) it is the byte of a valid placement, which `rp_byte_roundtrip` decodes -/
theorem rp_byte_exact : ∀ b : Fin 256, (rpFromByte b.val).2 = true →
    rpByte (rpFromByte b.val).1 = b.val ∧ rpValid (rpFromByte b.val).1 := by
  intro b h
  have hm : b.val ∈ (List.range 256).filter fun b => (rpFromByte b).2 :=
    List.mem_filter.2 ⟨List.mem_range.2 b.isLt, h⟩
  rw [rp_accepted_bytes] at hm
  obtain ⟨rp, hv, e⟩ := mem_rpBytes _ hm
  rw [e, rp_byte_roundtrip rp hv]
  exact ⟨rfl, hv⟩

/-- exactly 27 of the 256 bytes are accepted -/
theorem rp_byte_accepts_27 : ((List.range 256).filter fun b => (rpFromByte b).2).length = 27 := by
  rw [rp_accepted_bytes]
  rfl

/-- FULL-STRENGTH statement "an accepted string is the canonical encoding of its value" is FALSE of the
    model (and of the code, see known_findings.json rp/accepts-wrong-length): witness. -/
theorem rp_accepts_wrong_length_witness :
    rpFromString ['1'] = (⟨1, 0, 0⟩, true) ∧ rpString ⟨1, 0, 0⟩ ≠ ['1'] ∧
    rpFromString ['0', '0', '1', '1'] = (⟨0, 0, 1⟩, true) := by decide +kernel

/-- … and it holds for strings of the documented length 3 -/
theorem rp_accepts_only_canonical_partial (a b c : Char) (h : (rpFromString [a, b, c]).2 = true) :
    rpString (rpFromString [a, b, c]).1 = [a, b, c] ∧ rpValid (rpFromString [a, b, c]).1 := by
  obtain ⟨rp, hv, e⟩ := rpFromString_accepts a b c h
  rw [e, (rp_canon rp hv).1]
  exact ⟨rfl, hv⟩

theorem ttl_bytes_roundtrip (c u : Nat) : (loadTTLFromBytes c u).count = c ∧ (loadTTLFromBytes c u).unit = u := by
  unfold loadTTLFromBytes
  split
  · rename_i h; exact ⟨h.1.symm, h.2.symm⟩
  · exact ⟨rfl, rfl⟩

theorem ttl_u32_roundtrip (t : TTL) (hc : t.count ≠ 0) (hc' : t.count < 256) (hu : t.unit < 256) :
    loadTTLFromUint32 (ttlToUint32 t) = t := by
  rcases t with ⟨c, u⟩
  simp only [ttlToUint32, loadTTLFromUint32, loadTTLFromBytes] at *
  simp only [hc, if_false]
  have h1 : (c * 256 + u) / 256 % 256 = c := by omega
  have h2 : (c * 256 + u) % 256 = u := Nat.mul_add_mod_of_lt hu
  rw [h1, h2]; simp [hc]

/-- every storable TTL (count 1..255, unit m/h/d/w/M/y) survives String → ReadTTL (`readTTL_ttlString`, which
    reads the printed string back directly); only "each of the six units has a letter" is a table -/
theorem ttl_string_roundtrip : ∀ c : Fin 255, ∀ u : Fin 6,
    readTTL (ttlString ⟨c.val + 1, u.val + 1⟩) = (⟨c.val + 1, u.val + 1⟩, true) := by
  intro c u
  have hu : ∀ u : Fin 6, (unitChar (u.val + 1)).isSome = true := by decide
  obtain ⟨ch, h⟩ := Option.isSome_iff_exists.1 (hu u)
  exact readTTL_ttlString ⟨c.val + 1, u.val + 1⟩ ch (Nat.succ_ne_zero _) (Nat.succ_le_of_lt c.isLt) h

/-- inputs inside the documented grammar decode to their denotation -/
theorem ttl_read_in_grammar (s : List Char) (d : TTL) (h : ttlDenotation s = some d) :
    readTTL s = (d, true) := ttl_in_grammar s d h

/-- FULL-STRENGTH "inputs outside the grammar are rejected" is FALSE (known findings ttl/accepts-*): witnesses -/
theorem ttl_accepts_invalid_witness :
    readTTL "300m".toList = (⟨44, 1⟩, true) ∧ ttlDenotation "300m".toList = none ∧
    readTTL "5x".toList = (⟨5, 0⟩, true) ∧ ttlDenotation "5x".toList = none ∧
    readTTL "-1m".toList = (⟨255, 1⟩, true) ∧ ttlDenotation "-1m".toList = none := by
  decide +kernel

theorem idx_entry_roundtrip (padding key actual : Nat) (size : Int) (offsetSize : Nat)
    (hw : offsetSize = 4 ∨ offsetSize = 5) (hp : 0 < padding) (ha : actual % padding = 0)
    (hr : actual / padding < 256 ^ offsetSize) (hk : key < 2 ^ 64)
    (hs : -(2 ^ 31 : Int) ≤ size ∧ size < (2 ^ 31 : Int)) :
    idxEntryParse padding offsetSize (idxEntryBytes padding offsetSize key actual size) = (key, actual, size) := by
  unfold idxEntryParse idxEntryBytes
  have hu : toOffsetUnits padding offsetSize actual = actual / padding := Nat.mod_eq_of_lt hr
  rw [hu]
  have hA : (beBytes 8 key).length = 8 := beBytes_length _ _
  have hO : (offsetBytes offsetSize (actual / padding)).length = offsetSize := offsetBytes_length _ _ hw
  have hAO : (beBytes 8 key ++ offsetBytes offsetSize (actual / padding)).length = 8 + offsetSize := by
    rw [List.length_append, hA, hO]
  have hS : (beBytes 4 (sizeToU32 size)).length = 4 := beBytes_length _ _
  rw [List.drop_left' hAO, List.append_assoc, List.take_left' hA, List.drop_left' hA, List.take_left' hO,
    List.take_of_length_le (Nat.le_of_eq hS), beValue_beBytes 8 key hk, offset_roundtrip _ _ hw hr,
    beValue_beBytes 4 _ (sizeToU32_lt size), size_roundtrip size hs,
    Nat.div_mul_cancel (Nat.dvd_of_mod_eq_zero ha)]

/-- Bytes → ReadSuperBlock, with an extra of up to 65 534 bytes (`Bytes` refuses to write more). The right side is
    `some s`: `loadTTLFromBytes c u` is `⟨c, u⟩` in both of its branches (`ttl_bytes_roundtrip`). -/
theorem superblock_roundtrip (s : SuperBlock) (hv : s.version < 256) (hrp : rpValid s.rp)
    (hc : s.ttl.count < 256) (hu : s.ttl.unit < 256) (hr : s.rev < 65536) (he : s.extra.length < 65535) :
    sbRead (sbBytes s) = some { s with ttl := loadTTLFromBytes s.ttl.count s.ttl.unit } := by
  rcases s with ⟨v, rp, ⟨c, u⟩, rev, extra⟩
  simp only at hv hrp hc hu hr he
  -- the block is eight header bytes followed by the extra; `sbRead` picks them by position
  obtain ⟨r1, r2, hr2⟩ : ∃ a b, beBytes 2 rev = [a, b] := ⟨_, _, rfl⟩
  have hrv : beValue [r1, r2] = rev := hr2 ▸ beValue_beBytes 2 rev hr
  obtain ⟨t1, t2, hT, htv⟩ : ∃ a b, (if extra.isEmpty = true then [0, 0] else beBytes 2 extra.length ++ extra) =
      a :: b :: extra ∧ beValue [a, b] = extra.length := by
    cases extra with
    | nil => exact ⟨0, 0, rfl, rfl⟩
    | cons x xs => exact ⟨_, _, rfl, beValue_beBytes 2 _ (Nat.lt_trans he (by decide))⟩
  unfold sbRead sbBytes
  simp only [hr2, hT, List.cons_append, List.nil_append, List.getD_cons_zero, List.getD_cons_succ, List.drop_succ_cons,
    List.drop_zero, List.take_succ_cons, List.take_zero, List.length_cons]
  rw [if_neg (by omega), rp_byte_roundtrip rp hrp, hrv, htv, Nat.mod_eq_of_lt hv, Nat.mod_eq_of_lt hc, Nat.mod_eq_of_lt hu]
  dsimp only
  split
  · next h0 => rw [List.eq_nil_of_length_eq_zero h0]
  · rw [if_neg (by omega), List.take_of_length_le (Nat.le_refl _)]

/-- key 0 is outside the round-trip domain: the formatter drops all eight zero bytes and the parser
    rejects the remaining 8 characters as too short (needle keys start at 1) -/
theorem fid_key0_witness : parseFid (fidString ⟨3, 0, 5⟩) = none := parseFid_key0 3 5

/-- FULL-STRENGTH "volume ids out of range are rejected" is FALSE (known finding fid/accepts-out-of-range-volume-id) -/
theorem fid_accepts_out_of_range_vid_witness :
    parseFid "4294967297,01637037d6".toList = some ⟨1, 1, 0x637037d6⟩ := by decide +kernel

/-- every file id with a non-zero 64-bit key, 32-bit volume id and 32-bit cookie survives String → ParseFileIdFromString -/
theorem fid_roundtrip (vid key cookie : Nat) (hk : 0 < key) (hk' : key < 2 ^ 64) (hv : vid < 2 ^ 32)
    (hc : cookie < 2 ^ 32) : parseFid (fidString ⟨vid, key, cookie⟩) = some ⟨vid, key, cookie⟩ :=
  parseFid_fidString vid key cookie (Nat.ne_zero_of_lt hk) hk' hv hc

/-- non-vacuity of `fid_roundtrip`: its hypotheses are satisfiable -/
example : parseFid (fidString ⟨3, 0x01637037, 0xd6000001⟩) = some ⟨3, 0x01637037, 0xd6000001⟩ :=
  fid_roundtrip 3 0x01637037 0xd6000001 (by decide) (by decide) (by decide) (by decide)

theorem bridge_entry_size :
    SwV.Gen.C08.NeedleMapEntrySize = SwV.Gen.C08.NeedleIdSize + SwV.Gen.C08.OffsetSize + SwV.Gen.C08.SizeSize ∧
    SwV.Gen.C08.NeedleIdSize = 8 ∧ SwV.Gen.C08.CookieSize = 4 ∧ SwV.Gen.C08.SizeSize = 4 ∧
    (SwV.Gen.C08.OffsetSize = 4 ∨ SwV.Gen.C08.OffsetSize = 5) ∧ SwV.Gen.C08.NeedlePaddingSize = 8 ∧
    SwV.Gen.C08.SuperBlockSize = 8 ∧ SwV.Gen.C08.TombstoneFileSize = -1 := by decide +kernel

theorem bridge_rp_byte (dc rack same : Nat) (h : dc < 1000 ∧ rack < 1000 ∧ same < 1000) :
    SwV.Gen.C08.ReplicaPlacement_Byte same rack dc = (rpByte ⟨dc, rack, same⟩ : Nat) := by
  simp only [SwV.Gen.C08.ReplicaPlacement_Byte, rpByte, SwV.Go.wrapS, SwV.Go.wrapU]
  push_cast
  omega

theorem bridge_ttl_minutes (c u : Nat) (hc : c < 256) :
    SwV.Gen.C08.TTL_Minutes c u = (ttlMinutes ⟨c, u⟩ : Nat) := bridge_minutes c u hc

theorem bridge_ttl_u32 (c u : Nat) (hc : c < 256) (hu : u < 256) :
    SwV.Gen.C08.TTL_ToUint32 c u = (ttlToUint32 ⟨c, u⟩ : Nat) := by
  simp only [SwV.Gen.C08.TTL_ToUint32, ttlToUint32, SwV.Go.wrapU, SwV.Go.shl]
  by_cases h : c = 0
  · simp [h]
  · have : ¬ ((c : Int) = 0) := Int.natCast_ne_zero.2 h
    simp [h]
    omega

theorem bridge_size_predicates (s : Int) :
    SwV.Gen.C08.Size_IsValid s = decide (0 < s) ∧ SwV.Gen.C08.Size_IsDeleted s = decide (s < 0) := by
  simp only [SwV.Gen.C08.Size_IsValid, SwV.Gen.C08.Size_IsDeleted]
  constructor
  · by_cases h : 0 < s <;> simp [h] <;> omega
  · by_cases h : s < 0 <;> simp [h] <;> omega

example : rpValid ⟨2, 1, 0⟩ := by decide
example : ttlDenotation "12h".toList = some ⟨12, 2⟩ := by decide +kernel
example : (rpFromString ['0', '1', '2']).2 = true := by decide

end SwV.Props.C08
