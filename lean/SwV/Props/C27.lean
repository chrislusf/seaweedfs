/-
C27 — S3 object listings are complete and paginate correctly.

FULL STATEMENT (property text), for the model `walk` of `listFilerEntries`/`doListFilerEntries`:

    ∀ bucket contents ks, prefix, delimiter ∈ {"", "/"}, max-keys ≥ 1, continuation style:
      the pages have ≤ max-keys items, only items under the prefix, never `.uploads` internals, the
      walk ends within #keys+2 requests and has then enumerated every matching key exactly once,
      and the bucket is unchanged.

It is FALSE of the code; each conjunct that fails is refuted below on a concrete bucket by `decide`
(the same buckets are replayed against the real handlers, corpus/C27/witnesses.ops):

  * `.uploads` (or any skipped entry) inside the `maxKeys+1` request window ⇒ `IsTruncated=false`
    with keys left                                   `not_complete_with_uploads_dir`
  * prefix with a directory part: markers are read relative to that directory, so continuing from the
    last key repeats keys forever                    `last_key_marker_under_dir_prefix_loops`
  * prefix "/" lists the whole bucket                `leading_slash_prefix_lists_everything`
  * prefix ".uploads/" lists upload internals        `prefix_into_uploads_lists_internals`
  * marker "dir/…" lists below dir with the prefix dropped        `marker_subdir_ignores_prefix`
  * marker with two "/" : sub-count dropped ⇒ page larger than max-keys and a key lost
                                                     `nested_marker_overfills_and_loses`
  * marker "/" with delimiter "/" DELETES the top-level directories the request reaches (`.uploads` apart)
                                                     `listing_deletes_directories`

What IS proved for all inputs (`pages_partition_matches_partial`): for delimiter "/", max-keys ≥ 1 and a prefix
without directory part, on every bucket whose top directory holds no `.uploads` directory under the
prefix, following NextMarker / NextContinuationToken from the start yields pages of ≤ max-keys
items whose Contents and CommonPrefixes, concatenated, are exactly the files and directories of
the top directory under the prefix, in order, each once; the last page is untruncated; nothing is deleted.
Of the fields of the hypothesis `Flat`, `split` and the first clause of `good` name the excluded inputs (= the classes of the
findings above); `sorted`, `noslash`, `nonempty` and the second clause of `good` (the emptiness probe finds every
directory of the top directory under the prefix) speak of the model's directory view and are assumed, not derived; `nonempty` also
excludes keys that begin with "/" (their first segment is the empty name).

The recursive case (delimiter "", prefix "") is proved for directory trees of depth ≤ 2
(`pages_partition_matches_recursive_partial`, section "the recursive listing" below): the hypothesis `Tree2` asks no `.uploads`
directory in the top directory (class skipped-entry-counted-in-limit-window) and no key with three or more
segments (class nested-marker-drops-sub-count: only markers with two or more "/" lose the sub-count); its other clauses are
described in that section.  Deeper trees and
prefixes with a directory part stay covered by the correspondence check only.

Both theorems compare the pages with the model's directory view (`F`, `allKeys`), not with `expectedKeys` /
`expectedPfxs` of the specification: that the view holds every key is proved for the recursive case only, and there
for buckets that hold no key next to a key below it (`every_key_listed_recursive_partial`; the view of
`bucket ["a", "a/b"]` lacks `a`); that it holds nothing else is left to the judges at run time.
-/
import SwV.Model.C27
import SwV.Spec.C27
import SwV.Lemmas.C27
import SwV.Lemmas.C27b
import SwV.Lemmas.C27c
import SwV.Lemmas.C27d
import SwV.Gen.C27
namespace SwV.Props.C27
open SwV.Model.C19 (Bytes ltB isPrefix)
open SwV.Model.C27 SwV.Spec.C27 SwV.Lemmas.C27 SwV.Lemmas.C19

/-- MAIN THEOREM (partial): delimiter "/", prefix without directory part, no skipped entry in range. -/
theorem pages_partition_matches_partial (ks : List (List Bytes)) (pfx : Bytes) (h : Flat ks pfx)
    (maxKeys : Nat) (hmk : 0 < maxKeys) (fuel : Nat) (hfuel : (F ks pfx).length < fuel) :
    ∃ pages, walk pfx maxKeys true true fuel ks [] = (pages, ks) ∧ Exact maxKeys (F ks pfx) pages := by
  have hG : G ks pfx [] = F ks pfx := filter_ltB_nil fun e he => h.nonempty e (List.mem_filter.1 he).1
  exact hG ▸ walk_flat ks pfx h maxKeys hmk fuel [] (Or.inl rfl) (hG ▸ hfuel)

/-- "exactly once": the enumerated names are pairwise distinct (strictly increasing) -/
theorem enumerated_once (ks : List (List Bytes)) (pfx : Bytes) (h : Flat ks pfx) :
    ((F ks pfx).map (·.key)).Pairwise (fun a b => ltB a b = true) := by
  rw [List.pairwise_map]
  exact List.Pairwise.sublist List.filter_sublist h.sorted

/-- every item of an exact pagination (`Exact … (F ks pfx)`) is under the prefix -/
theorem items_under_prefix (ks : List (List Bytes)) (pfx : Bytes) :
    (∀ k ∈ emitK (F ks pfx), isPrefix pfx k = true) ∧ (∀ q ∈ emitP (F ks pfx), isPrefix pfx q = true) := by
  constructor
  · intro k hk
    unfold emitK at hk
    obtain ⟨e, he, rfl⟩ := List.mem_map.1 hk
    exact (List.mem_filter.1 (List.mem_filter.1 he).1).2
  · intro q hq
    unfold emitP at hq
    obtain ⟨e, he, rfl⟩ := List.mem_map.1 hq
    have hp : isPrefix pfx e.key = true := (List.mem_filter.1 (List.mem_filter.1 he).1).2
    exact (isPrefix_iff_prefix _ _).2 (((isPrefix_iff_prefix _ _).1 hp).trans (List.prefix_append _ _))

def s (x : String) : Bytes := x.toList.map Char.toNat
def bucket (keys : List String) : List (List Bytes) := keys.map fun k => splitSlash (s k)

/-- the generator's name set (DESIGN §5) without the key `a` and `.uploads/x`: a directory `a` next to `a.b` and `ab`;
    `Flat` is satisfiable on it -/
def ksClean : List (List Bytes) := bucket ["a.b", "a/b", "a/c", "ab/c", "b"]

example : Flat ksClean (s "a") :=
  { split := by decide +kernel, sorted := by decide +kernel, good := by unfold Good; decide +kernel,
    noslash := by decide +kernel, nonempty := by decide +kernel }

example : (walk (s "a") 1 true true 7 ksClean []).1.map (fun p => (p.keys, p.pfxs)) =
    [([], [s "a/"]), ([s "a.b"], []), ([], [s "ab/"])] := by decide +kernel

def ksUploads : List (List Bytes) := bucket [".uploads/x", "a", "b"]

/-- `.uploads` in the request window: one page, not truncated, key `b` never listed -/
theorem not_complete_with_uploads_dir :
    (walk [] 1 false true 5 ksUploads []).1 = [⟨false, [], [s "a"], []⟩] := by decide +kernel

def ksDir : List (List Bytes) := bucket ["a/b", "a/c"]

/-- prefix "a/", max-keys 1, continuing from the last key: the same page for ever -/
theorem last_key_marker_under_dir_prefix_loops :
    (walk (s "a/") 1 false false 4 ksDir []).1 = List.replicate 4 ⟨true, s "b", [s "a/b"], []⟩ := by decide +kernel

theorem leading_slash_prefix_lists_everything :
    (walk (s "/") 1000 false true 3 ksClean []).1.flatMap (·.keys) = [s "a/b", s "a/c", s "a.b", s "ab/c", s "b"] := by decide +kernel

theorem prefix_into_uploads_lists_internals :
    (walk (s ".uploads/") 1000 false true 3 ksUploads []).1.flatMap (·.keys) = [s ".uploads/x"] := by decide +kernel

theorem marker_subdir_ignores_prefix :
    (walk (s "b") 1 false true 1 ksClean (s "a/")).1.flatMap (·.keys) = [s "a/b"] := by decide +kernel

def ksDeep : List (List Bytes) := bucket ["d/e/f", "d/e/g", "d/e/h", "d/f", "z"]

/-- marker "d/e/f", max-keys 2: three keys on the page, `d/f` skipped, next marker `z` -/
theorem nested_marker_overfills_and_loses :
    (walk [] 2 false true 1 ksDeep (s "d/e/f")).1 = [⟨true, s "z", [s "d/e/g", s "d/e/h", s "z"], []⟩] := by decide +kernel

/-- GET ?delimiter=/&marker=/ : the listing deletes the non-empty directories `a` and `ab` -/
theorem listing_deletes_directories :
    (walk [] 1000 true true 1 ksClean (s "/")).2 = bucket ["a.b", "b"] := by decide +kernel

/-! ## T1 bridges: facts regenerated from the source by `extract` (props/C27/extract.json → `SwV.Gen.C27`)

Each theorem states the text of the decisive Go conditions / call arguments as they stand in the working tree
together with the model equation that mirrors them (`bridge_handlers` and `bridge_pins`: the text only); an edit to the Go code changes the generated string and
breaks the theorem of that name. -/

/-- the V1 / V2 handlers: admitted delimiters and the marker handed to `listFilerEntries`
    (V2: the continuation token, or `start-after` when there is no token) -/
theorem bridge_handlers :
    SwV.Gen.C27.v2_bad_maxkeys = "maxKeys < 0" ∧
    SwV.Gen.C27.v2_bad_delimiter = "delimiter != \"\" && delimiter != \"/\"" ∧
    SwV.Gen.C27.v2_marker_token = "marker := continuationToken" ∧
    SwV.Gen.C27.v2_no_token = "continuationToken == \"\"" ∧
    SwV.Gen.C27.v2_marker_start_after = "marker = startAfter" ∧
    SwV.Gen.C27.v2_list_marker = "marker" ∧
    SwV.Gen.C27.v1_bad_maxkeys = "maxKeys < 0" ∧
    SwV.Gen.C27.v1_bad_delimiter = "delimiter != \"\" && delimiter != \"/\"" ∧
    SwV.Gen.C27.v1_list_marker = "marker" :=
  ⟨rfl, rfl, rfl, rfl, rfl, rfl, rfl, rfl, rfl⟩

/-- `listFilerEntries`: split of the prefix, the directory string, the call, key / prefix formatting and the
    clearing of NextMarker on the last page -/
theorem bridge_list_filer :
    SwV.Gen.C27.lf_split = "reqDir, prefix := filepath.Split(originalPrefix)" ∧
    SwV.Gen.C27.lf_lead_slash = "strings.HasPrefix(reqDir, \"/\")" ∧ SwV.Gen.C27.lf_drop_lead = "reqDir = reqDir[1:]" ∧
    SwV.Gen.C27.lf_bucket_prefix_fmt = "\"%s/%s/\"" ∧ SwV.Gen.C27.lf_reqdir_fmt = "\"%s%s\"" ∧
    SwV.Gen.C27.lf_trail_slash = "strings.HasSuffix(reqDir, \"/\")" ∧
    SwV.Gen.C27.lf_drop_trail = "reqDir = reqDir[:len(reqDir)-1]" ∧
    SwV.Gen.C27.lf_call_dir = "reqDir" ∧ SwV.Gen.C27.lf_call_prefix = "prefix" ∧
    SwV.Gen.C27.lf_call_maxkeys = "maxKeys" ∧ SwV.Gen.C27.lf_call_marker = "marker" ∧
    SwV.Gen.C27.lf_call_delimiter = "delimiter" ∧
    SwV.Gen.C27.lf_is_dir = "entry.IsDirectory" ∧ SwV.Gen.C27.lf_dir_as_prefix = "delimiter == \"/\"" ∧
    SwV.Gen.C27.lf_prefix_fmt = "\"%s/%s/\"" ∧ SwV.Gen.C27.lf_key_fmt = "\"%s/%s\"" ∧
    SwV.Gen.C27.lf_not_truncated = "!isTruncated" ∧ SwV.Gen.C27.lf_clear_next = "nextMarker = \"\"" ∧
    (∀ r name : Bytes, keyOf r name = (r ++ [slash] ++ name).drop 1) ∧
    (∀ (ks : List (List Bytes)) (op : Bytes) (mk : Nat) (marker : Bytes) (d : Bool),
      (listFiler ks op mk marker d).trunc = false → (listFiler ks op mk marker d).next = []) := by
  refine ⟨rfl, rfl, rfl, rfl, rfl, rfl, rfl, rfl, rfl, rfl, rfl, rfl, rfl, rfl, rfl, rfl, rfl, rfl, fun _ _ => rfl, ?_⟩
  intro ks op mk marker d
  have key : ∀ res : Res, (if res.trunc then res else { res with next := [] }).trunc = false →
      (if res.trunc then res else { res with next := [] }).next = [] := by
    intro res; cases h : res.trunc <;> simp [h]
  exact key _

/-- `doListFilerEntries`, entry guards and the marker split -/
theorem bridge_do_list_guards :
    SwV.Gen.C27.dl_slash_prefix = "prefix == \"/\" && delimiter == \"/\"" ∧
    SwV.Gen.C27.dl_no_budget = "maxKeys <= 0" ∧
    SwV.Gen.C27.dl_marker_has_slash = "strings.Contains(marker, \"/\")" ∧
    SwV.Gen.C27.dl_sep = "sepIndex := strings.Index(marker, \"/\")" ∧
    SwV.Gen.C27.dl_marker_split = "subDir, subMarker := marker[0:sepIndex], marker[sepIndex+1:]" ∧
    SwV.Gen.C27.dl_sub1_dir = "dir + \"/\" + subDir" ∧ SwV.Gen.C27.dl_sub1_prefix = "\"\"" ∧
    SwV.Gen.C27.dl_sub1_maxkeys = "maxKeys" ∧ SwV.Gen.C27.dl_sub1_marker = "subMarker" ∧
    SwV.Gen.C27.dl_sub1_trunc = "isTruncated = isTruncated || subIsTruncated" ∧
    SwV.Gen.C27.dl_sub1_budget = "maxKeys -= subCounter" ∧
    SwV.Gen.C27.dl_sub1_next = "nextMarker = subDir + \"/\" + subNextMarker" ∧
    SwV.Gen.C27.dl_sub1_marker_after = "marker = subDir" ∧
    SwV.Gen.C27.dl_limit = "maxKeys + 1" ∧
    (∀ (ks : List (List Bytes)) (fuel : Nat) (r : Bytes) (mk : Nat) (marker : Bytes),
      doList ks true (fuel + 1) r [slash] mk marker = {}) ∧
    (∀ (ks : List (List Bytes)) (d : Bool) (fuel : Nat) (r pfx marker : Bytes),
      doList ks d (fuel + 1) r pfx 0 marker = {}) ∧
    -- a marker without "/" : one store listing of maxKeys+1 entries after the marker
    (∀ (ks : List (List Bytes)) (d : Bool) (fuel : Nat) (r pfx : Bytes) (mk : Nat) (marker : Bytes),
      ¬ (pfx = [slash] ∧ d = true) → mk ≠ 0 → cutFirstSlash marker = none →
      doList ks d (fuel + 1) r pfx mk marker =
        recvLoop ks (fun r' budget => doList ks d fuel r' [] budget []) d r mk
          (listPrim (dirEntries ks r) pfx marker (mk + 1)) {}) ∧
    -- a marker "sub/rest": first the sub-directory with the rest as marker and the WHOLE budget, then this
    -- level after `sub` with the budget that is left
    (∀ (ks : List (List Bytes)) (d : Bool) (fuel : Nat) (r pfx : Bytes) (mk : Nat) (marker subDir subMarker : Bytes),
      ¬ (pfx = [slash] ∧ d = true) → mk ≠ 0 → cutFirstSlash marker = some (subDir, subMarker) →
      doList ks d (fuel + 1) r pfx mk marker =
        (let s := doList ks d fuel (r ++ [slash] ++ subDir) [] mk subMarker
         let ks2 := removeDirs ks s.deleted
         recvLoop ks2 (fun r' budget => doList ks d fuel r' [] budget []) d r (mk - s.counter)
           (listPrim (dirEntries ks2 r) pfx subDir (mk - s.counter + 1))
           { counter := 0, trunc := s.trunc, next := subDir ++ [slash] ++ s.next, keys := s.keys, pfxs := s.pfxs,
             deleted := s.deleted })) := by
  refine ⟨rfl, rfl, rfl, rfl, rfl, rfl, rfl, rfl, rfl, rfl, rfl, rfl, rfl, rfl, ?_, ?_, doList_plain, doList_marker⟩
  · intro ks fuel r mk marker; rw [doList, if_pos ⟨rfl, rfl⟩]
  · intro ks d fuel r pfx marker; simp only [doList, if_true, ite_self]

/-- the bytes the model skips are the name in the source condition -/
theorem bridge_uploads_name :
    SwV.Gen.C27.dl_skip_uploads = "entry.Name != \".uploads\"" ∧
    String.ofList (uploadsName.map Char.ofNat) = ".uploads" := ⟨rfl, by decide +kernel⟩

/-- the receive loop of `doListFilerEntries` (`recvLoop`) -/
theorem bridge_do_list_loop :
    SwV.Gen.C27.dl_budget_used = "counter >= maxKeys" ∧ SwV.Gen.C27.dl_set_truncated = "isTruncated = true" ∧
    SwV.Gen.C27.dl_next_is_name = "nextMarker = entry.Name" ∧ SwV.Gen.C27.dl_is_dir = "entry.IsDirectory" ∧
    SwV.Gen.C27.dl_recursive = "delimiter != \"/\"" ∧
    SwV.Gen.C27.dl_sub2_dir = "dir + \"/\" + entry.Name" ∧ SwV.Gen.C27.dl_sub2_prefix = "\"\"" ∧
    SwV.Gen.C27.dl_sub2_maxkeys = "maxKeys - counter" ∧ SwV.Gen.C27.dl_sub2_marker = "\"\"" ∧
    SwV.Gen.C27.dl_sub2_count = "counter += subCounter" ∧
    SwV.Gen.C27.dl_sub2_next = "nextMarker = entry.Name + \"/\" + subNextMarker" ∧
    SwV.Gen.C27.dl_sub2_trunc = "subIsTruncated" ∧
    SwV.Gen.C27.dl_check_empty = "!s3a.option.AllowEmptyFolder" ∧
    SwV.Gen.C27.dl_empty_dir = "dir" ∧ SwV.Gen.C27.dl_empty_name = "entry.Name" ∧
    SwV.Gen.C27.dl_not_empty = "!isEmpty" ∧
    SwV.Gen.C27.empty_dir_string = "currentDir := parentDir + \"/\" + name" ∧
    -- budget used up and one more entry arrives: truncated, nothing else changes
    (∀ ks sub d r mk (e : Ent) rest (st : Res), st.counter ≥ mk →
      recvLoop ks sub d r mk (e :: rest) st = { st with trunc := true }) ∧
    -- a file: emitted, counted, remembered as next marker
    (∀ ks sub d r mk (e : Ent) rest (st : Res), st.counter < mk → e.expired = false →
      recvLoop ks sub d r mk (e :: rest) st =
        recvLoop ks sub d r mk rest { st with next := e.key, counter := st.counter + 1, keys := st.keys ++ [keyOf r e.key] }) ∧
    -- the `.uploads` directory: skipped, not counted, but it becomes the next marker
    (∀ ks sub d r mk (e : Ent) rest (st : Res), st.counter < mk → e.expired = true → e.key = uploadsName →
      recvLoop ks sub d r mk (e :: rest) st = recvLoop ks sub d r mk rest { st with next := e.key }) :=
  ⟨rfl, rfl, rfl, rfl, rfl, rfl, rfl, rfl, rfl, rfl, rfl, rfl, rfl, rfl, rfl, rfl, rfl,
    @recvLoop_full, @recvLoop_file, @recvLoop_uploads⟩

/-- the filer's gRPC `ListEntries` behind every `client.ListEntries` of the gateway: pages of
    `filer.PaginationSize` (of the request limit when that is smaller), each continuing (exclusively) after the last name of the one before, until the
    request limit is used up or a page comes back empty.  The model's `listPrim` is the page-size independent
    reading of that loop: the first `limit` matching entries after the start name — asking for more only
    appends. -/
theorem bridge_filer_list_entries :
    SwV.Gen.C27.PaginationSize = 1024 ∧
    SwV.Gen.C27.le_limit = "limit := int(req.Limit)" ∧ SwV.Gen.C27.le_default_limit = "limit == 0" ∧
    SwV.Gen.C27.le_page = "paginationLimit := filer.PaginationSize" ∧
    SwV.Gen.C27.le_small_page = "limit < paginationLimit" ∧
    SwV.Gen.C27.le_start = "lastFileName := req.StartFromFileName" ∧
    SwV.Gen.C27.le_inclusive = "includeLastFile := req.InclusiveStartFrom" ∧
    SwV.Gen.C27.le_loop = "limit > 0" ∧
    SwV.Gen.C27.le_page_dir = "util.FullPath(req.Directory)" ∧ SwV.Gen.C27.le_page_start = "lastFileName" ∧
    SwV.Gen.C27.le_page_inclusive = "includeLastFile" ∧ SwV.Gen.C27.le_page_limit = "int64(paginationLimit)" ∧
    SwV.Gen.C27.le_page_prefix = "req.Prefix" ∧
    SwV.Gen.C27.le_budget_used = "limit == 0" ∧ SwV.Gen.C27.le_no_more = "!hasEntries" ∧
    SwV.Gen.C27.le_next_exclusive = "includeLastFile = false" ∧
    SwV.Gen.C27.src_ListEntries = "a529ac5cf6e00a23" ∧
    (∀ (es : List Ent) (pfx start : Bytes) (limit : Nat), (listPrim es pfx start limit).length ≤ limit) ∧
    (∀ (es : List Ent) (pfx start : Bytes) (limit k : Nat),
      (listPrim es pfx start (limit + k)).take limit = listPrim es pfx start limit) := by
  refine ⟨rfl, rfl, rfl, rfl, rfl, rfl, rfl, rfl, rfl, rfl, rfl, rfl, rfl, rfl, rfl, rfl, rfl, ?_, ?_⟩
  · intro es pfx start limit
    exact List.length_take_le _ _
  · intro es pfx start limit k
    rw [listPrim, listPrim, List.take_take, Nat.min_eq_left (Nat.le_add_right _ _)]

/-- weakest supplement: hashes of the whole mirrored functions -/
theorem bridge_pins :
    SwV.Gen.C27.src_doListFilerEntries = "4147ac9cc9bf10fd" ∧ SwV.Gen.C27.src_listFilerEntries = "5dbe6000e5cbfaa1" ∧
    SwV.Gen.C27.src_ListObjectsV2Handler = "2efe800a81b9f715" ∧ SwV.Gen.C27.src_ListObjectsV1Handler = "4e193cccafe68007" ∧
    SwV.Gen.C27.src_isDirectoryAllEmpty = "fda41e94bab77240" := ⟨rfl, rfl, rfl, rfl, rfl⟩

/-! ## the recursive listing (delimiter "", prefix "") on trees of depth ≤ 2

`doList` descends into every directory of the listed directory with the budget that is left, skips `.uploads`,
counts what the sub-listing emitted and builds the next marker `dir/name`; a continuation from `dir/name` first
lists the rest of `dir` and then the top directory after `dir` with the budget reduced by the sub-count.

FULL STATEMENT for arbitrary trees is FALSE: `nested_marker_overfills_and_loses` (three segments: the marker branch
drops the sub-count, page too large, key lost) and `not_complete_with_uploads_dir` above.  The hypothesis `Tree2 ks`
(decidable) excludes these two classes; its remaining clauses speak of the model's directory view (`children` sorted,
names non-empty and free of "/", directories non-empty) and are assumed, not derived. "Names non-empty" also excludes
keys with an empty segment (`bucket ["/a"]` and `bucket ["a/"]` are not `Tree2`). -/

/-- MAIN THEOREM (partial), delimiter "" and prefix "": on every bucket whose tree has depth ≤ 2, whose keys have no
    empty segment and whose top directory holds no `.uploads` directory (`Tree2`), for every max-keys ≥ 1, following NextMarker / NextContinuationToken from the start
    yields pages of ≤ max-keys keys whose concatenation is the depth-first key stream of the tree (`allKeys`: every
    top-level file, and below every directory its files, in name order) — each key once, in order —, no CommonPrefixes,
    the last page untruncated, nothing deleted. -/
theorem pages_partition_matches_recursive_partial (ks : List (List Bytes)) (h : Tree2 ks)
    (maxKeys : Nat) (hmk : 0 < maxKeys) (fuel : Nat) (hfuel : (allKeys ks).length < fuel) :
    ∃ pages, walk [] maxKeys false true fuel ks [] = (pages, ks) ∧ RecExact maxKeys (allKeys ks) pages :=
  walk_rec ks h maxKeys hmk fuel [] (allKeys ks) Cursor.start hfuel

/-- the same from any continuation point: a marker that is the name of a top-level file or `dir/name` of a listed
    key resumes exactly after that key -/
theorem resume_after_marker_recursive_partial (ks : List (List Bytes)) (h : Tree2 ks) (maxKeys : Nat) (hmk : 0 < maxKeys)
    (m : Bytes) (Z : List Bytes) (hc : Cursor ks m Z) (fuel : Nat) (hfuel : Z.length < fuel) :
    ∃ pages, walk [] maxKeys false true fuel ks m = (pages, ks) ∧ RecExact maxKeys Z pages :=
  walk_rec ks h maxKeys hmk fuel m Z hc hfuel

/-- one page from a marker `dir/name` (closed form): the rest of `dir` after `name`, then the top directory after `dir` -/
theorem page_from_dir_marker_partial (ks : List (List Bytes)) (h : Tree2 ks) (maxKeys : Nat) (hmk : 0 < maxKeys) (d : Ent)
    (hd : d ∈ children ks []) (hexp : d.expired = true) (x : Bytes) (hx : cutFirstSlash x = none) :
    pageOf (listFiler ks [] maxKeys (d.key ++ [slash] ++ x) false) =
      pageOfStream maxKeys ((((children ks [d.key]).filter fun c => ltB x c.key).map fun c => d.key ++ [slash] ++ c.key) ++
        streamOf ks ((children ks []).filter fun e => ltB d.key e.key)) :=
  (page_dir ks h maxKeys hmk d hd hexp x hx).1

/-- the key stream `allKeys` covers the bucket: in a `Tree2` bucket that never holds a key and a key below it (the filer cannot
    represent that), every one- or two-segment key is returned on some page of the walk -/
theorem every_key_listed_recursive_partial (ks : List (List Bytes)) (h : Tree2 ks)
    (hvalid0 : ∀ k ∈ ks, ∀ k' ∈ ks, k.length = 1 → k.head? = k'.head? → k'.length = 1)
    (maxKeys : Nat) (hmk : 0 < maxKeys) (fuel : Nat) (hfuel : (allKeys ks).length < fuel) :
    ∀ k ∈ ks, (∃ s, k = [s]) ∨ (∃ d n, k = [d, n]) →
      joinSlash k ∈ (walk [] maxKeys false true fuel ks []).1.flatMap (·.keys) := by
  have hvalid : ∀ s : Bytes, [s] ∈ ks → ∀ rest, (s :: rest) ∈ ks → rest = [] := by
    intro s hs rest hr
    have := hvalid0 [s] hs (s :: rest) hr rfl rfl
    simpa using this
  obtain ⟨pages, hw, hex⟩ := pages_partition_matches_recursive_partial ks h maxKeys hmk fuel hfuel
  intro k hk hshape
  rw [hw]
  simp only [hex.keys]
  rcases hshape with ⟨s, rfl⟩ | ⟨d, n, rfl⟩
  · exact (allKeys_complete ks hvalid).1 s hk
  · exact (allKeys_complete ks hvalid).2 d n hk

/-- the hypotheses (`hvalid0`, `Tree2`) are satisfiable -/
example : ∀ k ∈ ksClean, ∀ k' ∈ ksClean, k.length = 1 → k.head? = k'.head? → k'.length = 1 := by decide +kernel

example : Tree2 ksClean := by decide +kernel

example : allKeys ksClean = [s "a/b", s "a/c", s "a.b", s "ab/c", s "b"] := by decide +kernel

/-- the model run on that bucket: max-keys 2, three pages, markers `a/c` (inside a directory) and `ab/c` -/
example : (walk [] 2 false true 7 ksClean []).1 =
    [⟨true, s "a/c", [s "a/b", s "a/c"], []⟩, ⟨true, s "ab/c", [s "a.b", s "ab/c"], []⟩, ⟨false, [], [s "b"], []⟩] := by
  decide +kernel

/-- the two refuting buckets are outside `Tree2` (`ksUploads` fails `noUploads`, `ksDeep` fails `sub`: `d/e` is a
    directory below `d`; each meets the other clauses) -/
example : ¬ Tree2 ksUploads ∧ ¬ Tree2 ksDeep := by decide +kernel

/-! ## a client that starts after a key (marker / start-after, also re-sent beside every continuation token)

`resumeJudge` (Spec) is the order-free part of "continuing from the returned token enumerates every key exactly once"
for a pagination that does not start at the beginning: no item is served twice and the last, untruncated page arrives
within `#keys + 2` requests. The V2 handler hands the continuation token to `listFilerEntries` whenever there is one
(`bridge_handlers`: `marker := continuationToken`, replaced by `start-after` only if `continuationToken == ""`), so a
start-after that is sent again with the token changes nothing and the client's walk is the model's `walk` from the
start-after key. The depth-first stream lists no key twice (`allKeys_nodup`), every continuation point stands for a
suffix of it (`cursor_suffix`); hence: -/

theorem stream_has_no_key_twice_partial (ks : List (List Bytes)) (h : Tree2 ks) : (allKeys ks).Nodup :=
  allKeys_nodup ks h

/-- THE MODEL PASSES THE START-AFTER JUDGE (partial: depth ≤ 2, no `.uploads` directory, prefix "", delimiter ""):
    from every start-after key that is a listed key — the name of a top-level file or `dir/name` — following the
    returned tokens serves no key twice and ends with an untruncated page, for every max-keys ≥ 1 -/
theorem resume_judge_passes_recursive_partial (ks : List (List Bytes)) (h : Tree2 ks) (maxKeys : Nat) (hmk : 0 < maxKeys)
    (m : Bytes) (Z : List Bytes) (hc : Cursor ks m Z) (fuel : Nat) (hfuel : Z.length < fuel) :
    resumeJudge ks [] false true maxKeys (walk [] maxKeys false true fuel ks m).1 = none := by
  obtain ⟨pages, hw, hex⟩ := resume_after_marker_recursive_partial ks h maxKeys hmk m Z hc fuel hfuel
  rw [hw]
  have hfin : finishedWalk pages = true := finishedWalk_of_ends pages hex.ends
  have hnr : noRepeat (pages.flatMap (·.keys) ++ pages.flatMap (·.pfxs)) = true := by
    rw [hex.keys, hex.pfxs, List.append_nil]
    exact noRepeat_of_nodup Z (cursor_nodup ks h m Z hc)
  have h0 : ¬ (maxKeys = 0 ∨ ((!true) = true ∧ false = true)) :=
    fun hh => hh.elim (Nat.ne_of_gt hmk) fun hf => Bool.false_ne_true hf.2
  unfold resumeJudge
  rw [if_neg h0]
  simp only [hfin, hnr, Bool.not_true, Bool.and_false, Bool.false_eq_true, Bool.not_false, and_self, if_true]

/-- … and the walk needs no more requests than keys are left, plus one (fuel `#left + 1` suffices, which is at most
    `#allKeys + 1`) -/
theorem resume_within_bound_recursive_partial (ks : List (List Bytes)) (h : Tree2 ks) (maxKeys : Nat) (hmk : 0 < maxKeys)
    (m : Bytes) (Z : List Bytes) (hc : Cursor ks m Z) :
    Z.length ≤ (allKeys ks).length ∧
    ∃ pages, walk [] maxKeys false true ((allKeys ks).length + 1) ks m = (pages, ks) ∧ RecExact maxKeys Z pages :=
  ⟨(cursor_suffix ks m Z hc).length_le,
   resume_after_marker_recursive_partial ks h maxKeys hmk m Z hc _ (Nat.lt_succ_of_le (cursor_suffix ks m Z hc).length_le)⟩

/-- non-vacuity: `a/b` is a continuation point of the DESIGN bucket, with `a/c a.b ab/c b` still to come -/
example : Cursor ksClean (s "a/b") [s "a/c", s "a.b", s "ab/c", s "b"] :=
  cursor_of_split ksClean _ _ [] (by decide +kernel)

/-- the bucket of the directed generator family: a directory `a/` next to `a-b` and `a.txt`, which sort below `a/` -/
def ksResent : List (List Bytes) := bucket ["a/1", "a/2", "a/3", "a-b", "a.txt", "b"]

example : Tree2 ksResent := by decide +kernel

/-- start-after `a/1`, max-keys 1: the tokens `a-b` and `a.txt` are string-smaller than the start-after, the model
    continues from the token all the same, five pages, every key after `a/1` once, judge silent -/
theorem resent_start_after_walk_witness :
    (walk [] 1 false true 8 ksResent (s "a/1")).1.map (fun p => (p.trunc, p.next, p.keys)) =
      [(true, s "a/2", [s "a/2"]), (true, s "a/3", [s "a/3"]), (true, s "a-b", [s "a-b"]), (true, s "a.txt", [s "a.txt"]),
       (false, [], [s "b"])] ∧
    ltB (s "a-b") (s "a/1") = true ∧ ltB (s "a.txt") (s "a/1") = true ∧
    resumeJudge ksResent [] false true 1 (walk [] 1 false true 8 ksResent (s "a/1")).1 = none := by decide +kernel

/-- the judge is not vacuous: a server that resumes from max(token, start-after) serves page 1 again after the page that
    ended on `a-b` — eight truncated pages on a six-key bucket — and is judged `pagination/does-not-terminate`;
    a finished walk that served a key twice is judged `pagination/key-repeated` -/
theorem resume_judge_rejects_witness :
    resumeJudge ksResent [] false true 1
      ((List.replicate 2 [⟨true, s "a/2", [s "a/2"], []⟩, ⟨true, s "a/3", [s "a/3"], []⟩, ⟨true, s "a-b", [s "a-b"], []⟩]).flatten
        ++ [⟨true, s "a/2", [s "a/2"], []⟩, ⟨true, s "a/3", [s "a/3"], []⟩]) = some "pagination/does-not-terminate" ∧
    resumeJudge ksResent [] false true 2
      [⟨true, s "a/3", [s "a/2", s "a/3"], []⟩, ⟨false, [], [s "a/3", s "b"], []⟩] = some "pagination/key-repeated" := by decide +kernel

end SwV.Props.C27
