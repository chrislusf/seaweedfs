/- Root of the library: every property module, so that a plain `lake build` checks the whole proof side. -/
import SwV.Props.C01
import SwV.Props.C02
import SwV.Props.C03
import SwV.Props.C04
import SwV.Props.C05
import SwV.Props.C06
import SwV.Props.C07
import SwV.Props.C08
import SwV.Props.C09
import SwV.Props.C10
import SwV.Props.C11
import SwV.Props.C12
import SwV.Props.C13
import SwV.Props.C14
import SwV.Props.C15
import SwV.Props.C16
import SwV.Props.C17
import SwV.Props.C18
import SwV.Props.C19
import SwV.Props.C20
import SwV.Props.C21
import SwV.Props.C22
import SwV.Props.C23
import SwV.Props.C24
import SwV.Props.C25
import SwV.Props.C26
import SwV.Props.C27
import SwV.Props.C28
import SwV.Props.C29
import SwV.Props.C30
import SwV.Props.C31
import SwV.Props.C32
import SwV.Props.C33
import SwV.Props.C34
import SwV.Props.C35
import SwV.Props.C36
import SwV.Props.C37
import SwV.Props.C38
import SwV.Props.C39
import SwV.Props.C40
